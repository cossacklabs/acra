import AcraModel.Token.Invariant
/-!
Preservation of `Inv` by every atomic step, hence along every schedule (C10).
-/
namespace AcraModel.Token
open AcraModel Generated.Token

theorem get_found_dataAt {s : Store} {k : Key} {d : Bytes} (h : s.get k = .found d) : dataAt s k = some d := by
  unfold Store.get at h
  unfold dataAt
  cases hs : s k with
  | none => simp [hs] at h
  | some r =>
    simp only [hs] at h
    split at h
    · cases h
    · cases h; rfl

theorem loopLimit_pos : 0 < loopLimit := by decide

/-- **Every atomic step of every thread preserves the invariant and never changes a payload.** -/
theorem stepThread_inv (c : CryptoOps) (hi : HashInj c) (enc : Bool) (s : Store) (t : Thread)
    (hl : Link c s) (ht : TInv c s t) (hw : WF t) :
    Mono s (stepThread c enc s t).1 ∧ Link c (stepThread c enc s t).1 ∧
      TInv c (stepThread c enc s t).1 (stepThread c enc s t).2.1 ∧ WF (stepThread c enc s t).2.1 := by
  rcases t with ⟨⟨kind, x, ty, v⟩, pc, rnd, drawn⟩
  cases pc with
  | done r => exact ⟨Mono.refl s, hl, ht, hw⟩
  | look =>
    have hk : kind = .deanon := hw
    subst hk
    simp only [stepThread]
    cases hg : s.get (tKey c x ty v) with
    | found d =>
      refine ⟨Mono.refl s, hl, ?_, trivial⟩
      simp only [TInv]
      cases decTV ty d <;> trivial
    | notFound | disabled => exact ⟨Mono.refl s, hl, trivial, trivial⟩
  | getH tried =>
    have hk : kind = .anon true := hw
    subst hk
    simp only [stepThread]
    cases hg : s.get (hKey c x ty v) with
    | found d =>
      have hd := get_found_dataAt hg
      have := hl x ty v d hd
      refine ⟨Mono.refl s, hl, ?_, trivial⟩
      simp only [TInv, this.1]
      exact ⟨this.2, fun _ => ⟨d, hd, this.1⟩⟩
    | notFound =>
      simp only [loopLimit_pos, if_true]
      exact ⟨Mono.refl s, hl, trivial, ⟨true, rfl⟩⟩
    | disabled =>
      simp only [loopLimit_pos, if_true]
      exact ⟨Mono.refl s, hl, trivial, ⟨true, rfl⟩⟩
  | gen i tried =>
    obtain ⟨b, hk⟩ : ∃ b, kind = .anon b := hw
    subst hk
    simp only [stepThread]
    cases hgen : genToken ty v.length (rnd drawn) with
    | panic | err => exact ⟨Mono.refl s, hl, trivial, trivial⟩
    | ok tok =>
      simp only []
      cases hs : s.save (tKey c x ty tok) (encTV ty v) with
      | none =>
        refine ⟨Mono.refl s, hl, ?_, ?_⟩
        · simp only [nextGen]; split <;> trivial
        · simp only [nextGen]; split
          · exact ⟨b, rfl⟩
          · trivial
      | some s' =>
        have hm := save_mono hs
        have hlink : Link c s' := by
          intro x' ty' v' d hd
          rw [save_dataAt_other hs (Ne.symm (tKey_ne_hKey c x x' ty ty' tok v'))] at hd
          have := hl x' ty' v' d hd
          exact ⟨this.1, hm _ _ this.2⟩
        cases b with
        | true => exact ⟨hm, hlink, ⟨save_dataAt_same hs, decodeAs_gen hgen⟩, rfl⟩
        | false => exact ⟨hm, hlink, ⟨save_dataAt_same hs, fun h => by cases h⟩, trivial⟩
  | saveH tok tried =>
    have hk : kind = .anon true := hw
    subst hk
    obtain ⟨htrec, hdec⟩ := ht
    simp only [stepThread]
    split
    · exact ⟨Mono.refl s, hl, trivial, trivial⟩
    · cases hs : s.save (hKey c x ty v) tok with
      | none =>
        cases tried with
        | true => exact ⟨Mono.refl s, hl, trivial, trivial⟩
        | false => exact ⟨Mono.refl s, hl, trivial, rfl⟩
      | some s' =>
        have hm := save_mono hs
        refine ⟨hm, ?_, ⟨hm _ _ htrec, fun _ => ⟨tok, save_dataAt_same hs, hdec⟩⟩, trivial⟩
        intro x' ty' v' d hd
        by_cases hk : hKey c x' ty' v' = hKey c x ty v
        · rw [hk, save_dataAt_same hs] at hd
          cases hd
          obtain ⟨hx, hty, hv⟩ := hKey_inj c hi hk
          subst hty; subst hv
          refine ⟨hdec, ?_⟩
          rw [(keys_of_bytes_eq c hx ty' tok).1]
          exact hm _ _ htrec
        · rw [save_dataAt_other hs hk] at hd
          have := hl x' ty' v' d hd
          exact ⟨this.1, hm _ _ this.2⟩

/-- a step never changes the request a thread serves -/
theorem stepThread_req (c : CryptoOps) (enc : Bool) (s : Store) (t : Thread) :
    (stepThread c enc s t).2.1.req = t.req := by
  rcases t with ⟨q, pc, rnd, drawn⟩
  cases pc <;> simp only [stepThread] <;> (repeat' split) <;> rfl

/-- a step writes only into the bucket of the context its request names -/
theorem stepThread_frame (c : CryptoOps) (enc : Bool) (s : Store) (t : Thread) (k : Key)
    (hk : k.1 ≠ aggCtx c t.req.ctx) : (stepThread c enc s t).1 k = s k := by
  rcases t with ⟨⟨kind, x, ty, v⟩, pc, rnd, drawn⟩
  have hsave : ∀ {s' : Store} {k' : Key} {d : Bytes}, k'.1 = aggCtx c x → s.save k' d = some s' → s' k = s k :=
    fun h1 h => Store.save_other h fun e => hk (e ▸ h1)
  cases pc <;> simp only [stepThread] <;> (repeat' split) <;> try rfl
  all_goals exact hsave rfl ‹_›

/-- a schedule event that removes no record (tokenize/detokenize steps, new requests, and
maintenance passes that only enable/disable) -/
def NoRemove : SEv → Prop
  | .visit act => ∀ k r, act k r ≠ .remove
  | _ => True

theorem start_TInv_WF (c : CryptoOps) (s : Store) (req : Req) (rnd : Nat → Draws) :
    TInv c s (Thread.start req rnd) ∧ WF (Thread.start req rnd) := by
  rcases req with ⟨kind, x, ty, v⟩
  cases kind with
  | anon b => cases b <;> exact ⟨trivial, by simp [WF, Thread.start]⟩
  | deanon => exact ⟨trivial, rfl⟩

theorem Sys.step_inv (c : CryptoOps) (hi : HashInj c) (enc : Bool) (σ : Sys) (ev : SEv)
    (h : Inv c σ) (hnr : NoRemove ev) : Inv c (σ.step c enc ev) ∧ Mono σ.store (σ.step c enc ev).store := by
  cases ev with
  | run i =>
    simp only [Sys.step]
    cases hti : σ.threads[i]? with
    | none => exact ⟨h, Mono.refl _⟩
    | some t =>
      have hmem : t ∈ σ.threads := List.mem_of_getElem? hti
      have := stepThread_inv c hi enc σ.store t h.link (h.thr t hmem).1 (h.thr t hmem).2
      refine ⟨⟨this.2.1, ?_⟩, this.1⟩
      intro u hu
      rcases List.mem_or_eq_of_mem_set hu with hu | hu
      · exact ⟨(h.thr u hu).1.mono this.1, (h.thr u hu).2⟩
      · subst hu; exact this.2.2
  | visit act =>
    have hd : ∀ k, dataAt (σ.store.visit act) k = dataAt σ.store k := visit_dataAt σ.store act hnr
    have hm : Mono σ.store (σ.store.visit act) := fun k x hx => by rw [hd]; exact hx
    refine ⟨⟨?_, fun t ht => ⟨(h.thr t ht).1.mono hm, (h.thr t ht).2⟩⟩, hm⟩
    intro x ty v d hdd
    simp only [Sys.step] at hdd
    rw [hd] at hdd
    have := h.link x ty v d hdd
    exact ⟨this.1, hm _ _ this.2⟩
  | spawn req rnd =>
    refine ⟨⟨h.link, ?_⟩, Mono.refl _⟩
    intro t ht
    simp only [Sys.step] at ht
    rcases List.mem_append.mp ht with ht | ht
    · exact h.thr t ht
    · simp only [List.mem_singleton] at ht
      subst ht
      exact start_TInv_WF c σ.store req rnd

/-- **The invariant holds after EVERY schedule** of atomic store steps, new requests and non-removing
maintenance passes (induction over the schedule). -/
theorem Sys.runSched_inv (c : CryptoOps) (hi : HashInj c) (enc : Bool) (sched : List SEv) :
    ∀ σ : Sys, Inv c σ → (∀ ev ∈ sched, NoRemove ev) → Inv c (σ.runSched c enc sched) := by
  induction sched with
  | nil => intro σ h _; exact h
  | cons ev r ih =>
    intro σ h hnr
    exact ih _ (Sys.step_inv c hi enc σ ev h (hnr ev List.mem_cons_self)).1 (fun e he => hnr e (List.mem_cons_of_mem _ he))

end AcraModel.Token
