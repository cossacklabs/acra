import AcraModel.Token.Tokenizer
/-!
# Decoding of stored token records never panics (C10, C14)

`bytesToGolangValue` (`decodeAs`) and the `t.`-record path of `Deanonymize` (`decTV`) applied to ARBITRARY
stored bytes – a damaged store, or a record of another type/length found under the looked-up id.
The two length constants come from the regenerated table `decodeIntLengthChecks`; on a tree whose
`decodeInt32` / `decodeInt64` lack the check (the pinned tree) `intLenCheck_*` do not check and
`legacy_short_record_panics` shows the panic.
-/
namespace AcraModel.Token
open AcraModel Generated.Token

/-- the source checks `len(data) != 4` in `decodeInt32` and `len(data) != 8` in `decodeInt64` -/
theorem intLenCheck_32 : intLenCheck "decodeInt32" = 4 := by decide +kernel
theorem intLenCheck_64 : intLenCheck "decodeInt64" = 8 := by decide +kernel

/-- with a length check `k`, `decodeInt` of width `k` accepts exactly the values of `k` bytes -/
theorem decodeInt_checked (name : String) (k : Nat) (hk : intLenCheck name = k) (hpos : k ≠ 0) (d : Bytes) :
    decodeInt name k d = if d.length = k then .ok d else .err := by
  unfold decodeInt
  rw [hk]
  by_cases h : d.length = k
  · simp [h, hpos, List.take_of_length_le]
  · simp [h, hpos]

theorem decodeAs_int32 (d : Bytes) : decodeAs .int32 d = if d.length = 4 then .ok d else .err :=
  decodeInt_checked "decodeInt32" 4 intLenCheck_32 (by decide) d

theorem decodeAs_int64 (d : Bytes) : decodeAs .int64 d = if d.length = 8 then .ok d else .err :=
  decodeInt_checked "decodeInt64" 8 intLenCheck_64 (by decide) d

/-- **No stored payload makes `bytesToGolangValue` panic**, whatever its length and the requested type. -/
theorem decodeAs_no_panic (ty : TokenType) (d : Bytes) : decodeAs ty d ≠ .panic := by
  cases ty with
  | int32 => rw [decodeAs_int32]; split <;> simp
  | int64 => rw [decodeAs_int64]; split <;> simp
  | str | bytes | email => simp [decodeAs]

/-- … and neither does the decoding of a `t.` record (`TokenValueFromData`, type comparison, value decoding). -/
theorem decTV_no_panic (ty : TokenType) (data : Bytes) : decTV ty data ≠ .panic := by
  unfold decTV
  cases data with
  | nil => simp
  | cons c v =>
    simp only
    split
    · exact decodeAs_no_panic ty v
    · simp

/-- what is handed out is the stored payload itself, and an integer only from a payload of exactly 4 / 8 bytes -/
theorem decodeAs_ok (ty : TokenType) (d v : Bytes) (h : decodeAs ty d = .ok v) :
    v = d ∧ (ty = .int32 → d.length = 4) ∧ (ty = .int64 → d.length = 8) := by
  cases ty with
  | int32 =>
    rw [decodeAs_int32] at h
    split at h
    · rename_i hl; cases h; exact ⟨rfl, fun _ => hl, nofun⟩
    · cases h
  | int64 =>
    rw [decodeAs_int64] at h
    split at h
    · rename_i hl; cases h; exact ⟨rfl, nofun, fun _ => hl⟩
    · cases h
  | str | bytes | email =>
    simp only [decodeAs, Res.ok.injEq] at h
    exact ⟨h.symm, nofun, nofun⟩

/-- for well-formed values `bytesToGolangValue` is the identity -/
theorem decodeAs_exact (ty : TokenType) (v : Bytes)
    (h : (ty = .int32 → v.length = 4) ∧ (ty = .int64 → v.length = 8)) : decodeAs ty v = .ok v := by
  cases ty with
  | int32 => rw [decodeAs_int32]; simp [h.1 rfl]
  | int64 => rw [decodeAs_int64]; simp [h.2 rfl]
  | str | bytes | email => rfl

/-- The pinned tree (no length check): a stored int32 value of fewer than 4 bytes – e.g. the empty
record – makes `binary.LittleEndian.Uint32` panic; a 5-byte record is silently cut to 4 bytes. -/
theorem legacy_short_record_panics (name : String) (h0 : intLenCheck name = 0) (d : Bytes) (hd : d.length < 4) :
    decodeInt name 4 d = .panic := by
  unfold decodeInt
  simp [h0, hd]

theorem legacy_long_record_truncated (name : String) (h0 : intLenCheck name = 0) (d : Bytes) (hd : 4 ≤ d.length) :
    decodeInt name 4 d = .ok (d.take 4) := by
  unfold decodeInt
  simp [h0, Nat.not_lt.mpr hd]

end AcraModel.Token
