import AcraModel.Token.Gen
/-!
Shape of generated tokens, for every random stream (C10).
-/
namespace AcraModel.Token
open AcraModel Generated.Token

theorem getD_mem {α} (l : List α) (i : Nat) (d : α) (h : i < l.length) : l.getD i d ∈ l := by
  rw [List.getD_eq_getElem?_getD, List.getElem?_eq_getElem h]
  simp

theorem charsetB_length : charsetB.length = 62 := by decide +kernel

theorem charset_pick (k : Nat) : inCharset (charsetB.getD (k % charsetB.length) 0) = true := by
  have h : k % charsetB.length < charsetB.length := Nat.mod_lt _ (by rw [charsetB_length]; omega)
  simpa [inCharset] using getD_mem charsetB _ 0 h

theorem randomString_length (n : Nat) (d : Draws) (off : Nat) : (randomString n d off).length = n := by
  simp [randomString]

theorem randomString_charset (n : Nat) (d : Draws) (off : Nat) : (randomString n d off).all inCharset = true := by
  refine List.all_eq_true.mpr fun b hb => ?_
  obtain ⟨i, _, rfl⟩ := List.mem_map.mp hb
  exact charset_pick _

theorem tlds_nonempty : ∀ s ∈ allTLDs, 0 < (strBytes s).length := by decide +kernel

theorem tldsFor_sub (n : Nat) : ∀ s ∈ tldsFor n, s ∈ allTLDs := by
  intro s hs
  unfold tldsFor at hs
  split at hs
  · exact List.mem_append_right _ hs
  · exact hs

theorem tldsFor_pos (n : Nat) : 0 < (tldsFor n).length := by
  unfold tldsFor; split <;> decide

/-- the TLD `randomEmail` picks is one of the table for that length -/
theorem picked_tld_mem (n k : Nat) : (tldsFor n).getD (k % (tldsFor n).length) "" ∈ tldsFor n :=
  getD_mem _ _ _ (Nat.mod_lt _ (tldsFor_pos n))

/-- the TLD drawn for a buffer of `n` bytes -/
def pickedTld (n : Nat) (d : Draws) : Bytes := strBytes ((tldsFor n).getD (d 0 % (tldsFor n).length) "")

/-- the local part and domain drawn, with `@` at the middle position -/
def emailBody (m : Nat) (d : Draws) : Bytes :=
  (List.range m).map fun i => if i = m / 2 then atSign else charsetB.getD (d (1 + i) % charsetB.length) 0

theorem randomEmail_eq (n : Nat) (d : Draws) :
    randomEmail n d =
      if n < (pickedTld n d).length then (if emailNegativeGuard then .ok (randomString n d 1) else .panic)
      else if (n - (pickedTld n d).length) / 2 < n then .ok (emailBody (n - (pickedTld n d).length) d ++ pickedTld n d)
      else .panic := rfl

theorem pickedTld_pos (n : Nat) (d : Draws) : 0 < (pickedTld n d).length :=
  tlds_nonempty _ (tldsFor_sub n _ (picked_tld_mem n (d 0)))

theorem emailBody_length (m : Nat) (d : Draws) : (emailBody m d).length = m := by simp [emailBody]

/-- **`randomEmail` never panics** once the negative-length guard is in the source. -/
theorem randomEmail_no_panic (hg : emailNegativeGuard = true) (n : Nat) (d : Draws) : randomEmail n d ≠ .panic := by
  rw [randomEmail_eq]
  have hpos := pickedTld_pos n d
  by_cases hlt : n < (pickedTld n d).length
  · rw [if_pos hlt, hg]; intro h; cases h
  · have : (n - (pickedTld n d).length) / 2 < n := by
      have := Nat.div_le_self (n - (pickedTld n d).length) 2
      omega
    rw [if_neg hlt, if_pos this]; intro h; cases h

/-- what `randomEmail` returns: a plain random string when the buffer is shorter than the TLD drawn, else body ++ TLD -/
theorem randomEmail_ok (n : Nat) (d : Draws) (t : Bytes) (h : randomEmail n d = .ok t) :
    (n < (pickedTld n d).length ∧ t = randomString n d 1) ∨
    ((pickedTld n d).length ≤ n ∧ t = emailBody (n - (pickedTld n d).length) d ++ pickedTld n d) := by
  rw [randomEmail_eq] at h
  split at h
  · next hlt =>
    split at h
    · exact .inl ⟨hlt, (Out.ok.inj h).symm⟩
    · cases h
  · next hge =>
    split at h
    · exact .inr ⟨Nat.le_of_not_lt hge, (Out.ok.inj h).symm⟩
    · cases h

/-- **Shape of e-mail tokens**, every stream. -/
theorem randomEmail_shape (n : Nat) (d : Draws) (t : Bytes) (h : randomEmail n d = .ok t) : shapeOK .email n t = true := by
  simp only [shapeOK, List.any_eq_true]
  refine ⟨_, picked_tld_mem n (d 0), ?_⟩
  show (if n < (pickedTld n d).length then t.length == n && t.all inCharset else emailShapeWith n (pickedTld n d) t) = true
  -- rewriting with the equations: `rfl` patterns would bring `pickedTld` to weak head normal form, through the `String`s of the TLD table
  rcases randomEmail_ok n d t h with ⟨hlt, ht⟩ | ⟨hge, ht⟩
  · rw [if_pos hlt, ht, randomString_length, randomString_charset, beq_self_eq_true]; rfl
  · rw [if_neg (Nat.not_lt.mpr hge), ht]
    have hlen := emailBody_length (n - (pickedTld n d).length) d
    simp only [emailShapeWith, Bool.and_eq_true, beq_iff_eq, List.all_eq_true, List.mem_range]
    refine ⟨⟨?_, ?_⟩, ?_⟩
    · rw [List.length_append, hlen]; omega
    · rw [List.drop_left' hlen]
    · intro i hi
      rw [List.getD_eq_getElem?_getD, List.getElem?_append_left (by rw [hlen]; exact hi)]
      simp only [emailBody, List.getElem?_map, List.getElem?_range hi, Option.map_some, Option.getD_some]
      split
      · simp
      · simpa using charset_pick _

/-- Behind `Props.C10.token_shape`: for every token type, value length and random stream, whatever the generator
returns has the shape of the value it replaces. -/
theorem genToken_shape (ty : TokenType) (n : Nat) (d : Draws) (t : Bytes) (h : genToken ty n d = .ok t) :
    shapeOK ty n t = true := by
  cases ty with
  | int32 | int64 | bytes => simp only [genToken, Out.ok.injEq] at h; subst h; simp [shapeOK, randomBytes]
  | str =>
    simp only [genToken, Out.ok.injEq] at h; subst h
    simp [shapeOK, randomString_length, randomString_charset]
  | email => exact randomEmail_shape n d t h

end AcraModel.Token
