import AcraModel.Basic.Bytes
import AcraModel.Crypto.Ops
import AcraModel.Generated.Token
/-!
# Token store (C10)

Model of `pseudonymization/storage/{memory,boltdb}.go` and of the identifiers computed in
`pseudonymization/tokenizer.go` / `pseudonymization/common/common.go`.

* The store is a *context-scoped* map `(aggregated context, id) ↦ (data, disabled)`. Both back ends
  (nested Go maps keyed by hex strings; nested bbolt buckets) are this map; creation/access times are
  not modelled (they only steer maintenance, which is modelled as an arbitrary per-record action).
* `Save` is insert-if-absent (`ErrTokenExists` otherwise), `Get` distinguishes found / not found /
  disabled, `VisitMetadata` applies one action (continue/enable/disable/remove) to every record inside
  one critical section.
* Every store call is ONE atomic step (memory: the mutex; bbolt: one transaction) – that atomicity is
  a modelling assumption monitored by the harness, not a theorem.
-/
namespace AcraModel.Token
open AcraModel

/-- ASCII string literal as bytes. -/
def strBytes (s : String) : Bytes := s.toList.map fun ch => UInt8.ofNat ch.toNat

/-- `common.TokenContext`. -/
structure Ctx where
  clientId : Bytes
  additional : Bytes
deriving DecidableEq, Repr

/-- What both `generateDataID` and `AggregateTokenContextToBytes` feed to the hash for a context:
`zone ‖ AdditionalContext` when that is non-empty (legacy zones), else `client ‖ ClientID`. -/
def Ctx.bytes (x : Ctx) : Bytes :=
  if x.additional.length ≠ 0 then strBytes "zone" ++ x.additional else strBytes "client" ++ x.clientId

/-- `common.AggregateTokenContextToBytes` – the name of the per-context bucket. -/
def aggCtx (c : CryptoOps) (x : Ctx) : Bytes := c.sha256 x.bytes

/-- The five supported token types. -/
inductive TokenType where
  | int32 | int64 | str | bytes | email
deriving DecidableEq, Repr

def TokenType.goName : TokenType → String
  | .int32 => "TokenType_Int32" | .int64 => "TokenType_Int64" | .str => "TokenType_String"
  | .bytes => "TokenType_Bytes" | .email => "TokenType_Email"

/-- numeric protobuf enum value, read from the regenerated table -/
def TokenType.code (t : TokenType) : Nat :=
  ((Generated.Token.tokenTypeCodes.find? fun p => p.1 == t.goName).map (·.2)).getD 0

/-- `strconv.Itoa` for naturals. -/
def itoa (n : Nat) : Bytes := strBytes (Nat.repr n)

def delim : Bytes := strBytes Generated.Token.dataIDDelim

/-- The byte string hashed by `generateDataID`. -/
def dataIDPre (data : Bytes) (x : Ctx) (ty : TokenType) : Bytes :=
  delim ++ data ++ x.bytes ++ delim ++ itoa ty.code

/-- `pseudoanonymizer.generateDataID`. -/
def dataID (c : CryptoOps) (data : Bytes) (x : Ctx) (ty : TokenType) : Bytes :=
  c.sha256 (dataIDPre data x ty)

abbrev Key := Bytes × Bytes

/-- key of the `t.` record (token ↦ original value) -/
def tKey (c : CryptoOps) (x : Ctx) (ty : TokenType) (tok : Bytes) : Key :=
  (aggCtx c x, strBytes Generated.Token.tokenPrefix ++ dataID c tok x ty)

/-- key of the `h.` record (value ↦ consistent token) -/
def hKey (c : CryptoOps) (x : Ctx) (ty : TokenType) (v : Bytes) : Key :=
  (aggCtx c x, strBytes Generated.Token.hashPrefix ++ dataID c v x ty)

structure Rec where
  data : Bytes
  disabled : Bool
deriving DecidableEq, Repr

/-- The store: a finite map in reality; a total function here (lookup = application). -/
def Store := Key → Option Rec

def Store.empty : Store := fun _ => none

inductive GetRes where
  | found (d : Bytes) | notFound | disabled
deriving DecidableEq, Repr

/-- `TokenStorage.Get` -/
def Store.get (s : Store) (k : Key) : GetRes :=
  match s k with
  | none => .notFound
  | some r => if r.disabled then .disabled else .found r.data

/-- `TokenStorage.Save`: `none` is `ErrTokenExists`. -/
def Store.save (s : Store) (k : Key) (d : Bytes) : Option Store :=
  match s k with
  | some _ => none
  | none => some fun k' => if k' = k then some ⟨d, false⟩ else s k'

inductive Action where
  | continue | enable | disable | remove
deriving DecidableEq, Repr

/-- `TokenStorage.VisitMetadata` with a callback; the model lets the action depend on the whole
record and its key (the code's callback sees only the data length and the metadata – a special case). -/
def Store.visit (s : Store) (act : Key → Rec → Action) : Store := fun k =>
  match s k with
  | none => none
  | some r =>
    match act k r with
    | .continue => some r
    | .enable => some { r with disabled := false }
    | .disable => some { r with disabled := true }
    | .remove => none

theorem Store.save_none_iff (s : Store) (k : Key) (d : Bytes) : s.save k d = none ↔ (s k).isSome := by
  unfold Store.save; cases h : s k <;> simp

/-- a successful save: the key was free, and the new store differs from the old one at that key only -/
theorem Store.save_some {s s' : Store} {k : Key} {d : Bytes} (h : s.save k d = some s') :
    s k = none ∧ ∀ k', s' k' = if k' = k then some ⟨d, false⟩ else s k' := by
  unfold Store.save at h
  cases hk : s k with
  | some r => simp [hk] at h
  | none => simp only [hk] at h; cases h; exact ⟨rfl, fun _ => rfl⟩

theorem Store.save_same {s s' : Store} {k : Key} {d : Bytes} (h : s.save k d = some s') :
    s' k = some ⟨d, false⟩ := by
  rw [(Store.save_some h).2, if_pos rfl]

theorem Store.save_other {s s' : Store} {k k' : Key} {d : Bytes} (h : s.save k d = some s') (hne : k' ≠ k) :
    s' k' = s k' := by
  rw [(Store.save_some h).2, if_neg hne]

theorem Store.save_absent {s s' : Store} {k : Key} {d : Bytes} (h : s.save k d = some s') : s k = none :=
  (Store.save_some h).1

/-- a successful save never changes or removes an existing record -/
theorem Store.save_mono {s s' : Store} {k k' : Key} {d : Bytes} {r : Rec} (h : s.save k d = some s')
    (hr : s k' = some r) : s' k' = some r := by
  by_cases e : k' = k
  · subst e; rw [Store.save_absent h] at hr; cases hr
  · rw [Store.save_other h e]; exact hr

end AcraModel.Token
