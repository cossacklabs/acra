import AcraModel.Token.Data
import AcraModel.Typed.IntCodecLemmas
/-!
Range lemmas for the text ↔ integer conversion of `DataTokenizer` (C10).
-/
namespace AcraModel.Token
open AcraModel Generated.Token

/-- `strconv.ParseInt(s, 10, bits)` never returns a value outside the `bits`-bit signed range -/
theorem parseInt_range (bits : Nat) (s : Bytes) (i : Int) (h : parseInt bits s = some i) :
    -((2 ^ (bits - 1) : Nat) : Int) ≤ i ∧ i < ((2 ^ (bits - 1) : Nat) : Int) := by
  unfold parseInt at h
  have hP : 0 < 2 ^ (bits - 1) := Nat.pow_pos (by decide)
  generalize 2 ^ (bits - 1) = P at *
  split at h
  next neg ds _ =>
  split at h
  · cases h
  · cases neg with
    | true =>
      simp only [if_true] at h
      split at h
      · next hle => cases h; constructor <;> omega
      · cases h
    | false =>
      simp only [Bool.false_eq_true, if_false] at h
      split at h
      · next hlt => cases h; constructor <;> omega
      · cases h

/-- a 32-bit value survives `int32(i)` + little-endian encoding + decoding unchanged (no wrap): `encodeIntLE` / `decodeIntLE`
are the little-endian codec of `Typed/IntCodec.lean` -/
theorem decode_encode_int32 (i : Int) (hlo : -2147483648 ≤ i) (hhi : i < 2147483648) :
    decodeIntLE (encodeIntLE 4 i) = i :=
  Typed.leToInt_intToLE 4 i (by decide) ⟨hlo, hhi⟩

end AcraModel.Token
