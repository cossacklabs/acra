import AcraModel.Token.Concurrent
import AcraModel.Token.DecodeLemmas
/-!
# The store invariant and its preservation by every atomic step (C10)

`dataAt s k` is the payload stored under `k` regardless of the disabled flag. The invariant `Inv`:

* **link** – every `h.` record `v ↦ d` has a `t.` record `d ↦ v` (and `d` is a fixed point of
  `decodeAs`, i.e. a well-formed token encoding);
* **thr** – per thread: between the successful `Save(t.tok, v)` and `Save(h.v, tok)` the `t.` record is
  there; a finished tokenization that returned `tok` has its `t.` record `tok ↦ v`, and in consistent mode
  the `h.` record of `v` decodes to `tok`.

Every clause is a *positive* statement about payloads, and no step except a removing maintenance
pass ever changes or deletes a payload (`Mono`), so preservation is by monotonicity plus a local
argument for the step's own thread. Record ids must not collide for *different* (context, type,
value) triples: hypothesis `HashInj c` (SHA-256 idealised as injective) – used in exactly one place
(a new `h.` record must not be the `h.` record of another triple).
-/
namespace AcraModel.Token
open AcraModel Generated.Token

def dataAt (s : Store) (k : Key) : Option Bytes := (s k).map (·.data)

/-- payloads only grow -/
def Mono (s s' : Store) : Prop := ∀ k x, dataAt s k = some x → dataAt s' k = some x

theorem Mono.refl (s : Store) : Mono s s := fun _ _ h => h

theorem save_mono {s s' : Store} {k : Key} {d : Bytes} (h : s.save k d = some s') : Mono s s' := by
  intro k' x hx
  unfold dataAt at hx ⊢
  cases hr : s k' with
  | none => rw [hr] at hx; cases hx
  | some r => rw [Store.save_mono h hr]; rw [hr] at hx; exact hx

theorem save_dataAt_same {s s' : Store} {k : Key} {d : Bytes} (h : s.save k d = some s') : dataAt s' k = some d := by
  simp [dataAt, Store.save_same h]

theorem save_dataAt_other {s s' : Store} {k k' : Key} {d : Bytes} (h : s.save k d = some s') (hne : k' ≠ k) :
    dataAt s' k' = dataAt s k' := by
  simp [dataAt, Store.save_other h hne]

/-- a maintenance pass that removes nothing leaves every payload as it is -/
theorem visit_dataAt (s : Store) (act : Key → Rec → Action) (hnr : ∀ k r, act k r ≠ .remove) (k : Key) :
    dataAt (s.visit act) k = dataAt s k := by
  unfold dataAt Store.visit
  cases hs : s k with
  | none => rfl
  | some r =>
    have := hnr k r
    cases ha : act k r <;> simp_all

theorem prefixes_differ : strBytes tokenPrefix ≠ strBytes hashPrefix ∧
    (strBytes tokenPrefix).length = 2 ∧ (strBytes hashPrefix).length = 2 := by decide

theorem tKey_ne_hKey (c : CryptoOps) (x x' : Ctx) (ty ty' : TokenType) (a b : Bytes) :
    tKey c x ty a ≠ hKey c x' ty' b := by
  intro h
  have h2 := congrArg Prod.snd h
  simp only [tKey, hKey] at h2
  have ht : strBytes tokenPrefix = [116, 46] := by decide
  have hh : strBytes hashPrefix = [104, 46] := by decide
  rw [ht, hh] at h2
  simp at h2

/-- the keys depend on the context only through `Ctx.bytes` -/
theorem keys_of_bytes_eq (c : CryptoOps) {x x' : Ctx} (h : x.bytes = x'.bytes) (ty : TokenType) (a : Bytes) :
    tKey c x ty a = tKey c x' ty a ∧ hKey c x ty a = hKey c x' ty a := by
  simp [tKey, hKey, aggCtx, dataID, dataIDPre, h]

/-- the type numbers of the regenerated table -/
theorem code_eq (ty : TokenType) :
    ty.code = match ty with | .int32 => 1 | .int64 => 2 | .str => 3 | .bytes => 4 | .email => 5 := by
  cases ty <;> simp [TokenType.code, tokenTypeCodes, TokenType.goName]

/-- `strconv.Itoa` of a type number is its one digit -/
theorem itoa_code (ty : TokenType) : itoa ty.code = [UInt8.ofNat (48 + ty.code)] := by
  rw [code_eq]; cases ty <;> decide +kernel

theorem code_digits (ty : TokenType) : (itoa ty.code).length = 1 := by rw [itoa_code]; rfl

theorem code_inj (a b : TokenType) (h : itoa a.code = itoa b.code) : a = b := by
  rw [itoa_code, itoa_code, code_eq, code_eq] at h
  cases a <;> cases b <;> first | rfl | exact absurd h (by decide)

/-- **Within one context the hashed byte string determines (value, type).** -/
theorem dataIDPre_inj {v v' : Bytes} {x x' : Ctx} {ty ty' : TokenType} (hx : x.bytes = x'.bytes)
    (h : dataIDPre v x ty = dataIDPre v' x' ty') : v = v' ∧ ty = ty' := by
  unfold dataIDPre at h
  rw [hx] at h
  simp only [List.append_assoc] at h
  have h1 := List.append_cancel_left h
  have hlen : (x'.bytes ++ (delim ++ itoa ty.code)).length = (x'.bytes ++ (delim ++ itoa ty'.code)).length := by
    simp [code_digits]
  have h2 := List.append_inj' h1 hlen
  refine ⟨h2.1, ?_⟩
  have h3 := List.append_cancel_left (List.append_cancel_left h2.2)
  exact code_inj _ _ h3

/-- equal `h.` keys ⇒ same effective context, type and value (SHA-256 idealised as injective) -/
theorem hKey_inj (c : CryptoOps) (hi : HashInj c) {x x' : Ctx} {ty ty' : TokenType} {v v' : Bytes}
    (h : hKey c x ty v = hKey c x' ty' v') : x.bytes = x'.bytes ∧ ty = ty' ∧ v = v' := by
  have h1 := congrArg Prod.fst h
  have h2 := congrArg Prod.snd h
  simp only [hKey, aggCtx] at h1 h2
  have hx := hi.sha_inj _ _ h1
  have h3 := hi.sha_inj _ _ (List.append_cancel_left h2)
  have := dataIDPre_inj hx h3
  exact ⟨hx, this.2, this.1⟩

theorem randomBytes_length (n : Nat) (d : Draws) : (randomBytes n d).length = n := by simp [randomBytes]

theorem decodeAs_gen {ty : TokenType} {n : Nat} {d : Draws} {tok : Bytes} (h : genToken ty n d = .ok tok) :
    decodeAs ty tok = .ok tok := by
  cases ty with
  | int32 =>
    simp only [genToken, Out.ok.injEq] at h
    subst h
    exact decodeAs_exact .int32 _ ⟨fun _ => randomBytes_length 4 d, (by intro e; cases e)⟩
  | int64 =>
    simp only [genToken, Out.ok.injEq] at h
    subst h
    exact decodeAs_exact .int64 _ ⟨(by intro e; cases e), fun _ => randomBytes_length 8 d⟩
  | str | bytes | email => rfl

/-- program counter and request kind fit together (true of `Thread.start`, kept by every step) -/
def WF (t : Thread) : Prop :=
  match t.pc with
  | .getH _ => t.req.kind = .anon true
  | .saveH _ _ => t.req.kind = .anon true
  | .gen _ _ => ∃ b, t.req.kind = .anon b
  | .look => t.req.kind = .deanon
  | .done _ => True

/-- what a thread's position guarantees about the store -/
def TInv (c : CryptoOps) (s : Store) (t : Thread) : Prop :=
  match t.pc with
  | .saveH tok _ =>
    dataAt s (tKey c t.req.ctx t.req.ty tok) = some (encTV t.req.ty t.req.v) ∧ decodeAs t.req.ty tok = .ok tok
  | .done (.ok tok) =>
    match t.req.kind with
    | .anon cons =>
      dataAt s (tKey c t.req.ctx t.req.ty tok) = some (encTV t.req.ty t.req.v) ∧
        (cons = true → ∃ d, dataAt s (hKey c t.req.ctx t.req.ty t.req.v) = some d ∧ decodeAs t.req.ty d = .ok tok)
    | .deanon => True
  | _ => True

theorem TInv.mono {c : CryptoOps} {s s' : Store} {t : Thread} (h : TInv c s t) (hm : Mono s s') : TInv c s' t := by
  rcases t with ⟨⟨kind, x, ty, v⟩, pc, rnd, drawn⟩
  cases pc with
  | saveH tok tr => exact ⟨hm _ _ h.1, h.2⟩
  | done r =>
    cases r with
    | ok tok =>
      cases kind with
      | anon cons =>
        exact ⟨hm _ _ h.1, fun hc => let ⟨d, hd, he⟩ := h.2 hc; ⟨d, hm _ _ hd, he⟩⟩
      | deanon => trivial
    | err | panic => trivial
  | getH _ | gen _ _ | look => trivial

/-- every `h.` record points to a `t.` record for the same value -/
def Link (c : CryptoOps) (s : Store) : Prop :=
  ∀ x ty v d, dataAt s (hKey c x ty v) = some d →
    decodeAs ty d = .ok d ∧ dataAt s (tKey c x ty d) = some (encTV ty v)

structure Inv (c : CryptoOps) (σ : Sys) : Prop where
  link : Link c σ.store
  thr : ∀ t ∈ σ.threads, TInv c σ.store t ∧ WF t

/-- what the invariant says of a finished tokenization that returned `tok` -/
theorem Inv.done {c : CryptoOps} {σ : Sys} (h : Inv c σ) {t : Thread} (ht : t ∈ σ.threads) {m : Bool}
    (hk : t.req.kind = .anon m) {tok : Bytes} (r : t.pc = .done (.ok tok)) :
    dataAt σ.store (tKey c t.req.ctx t.req.ty tok) = some (encTV t.req.ty t.req.v) ∧
      (m = true → ∃ d, dataAt σ.store (hKey c t.req.ctx t.req.ty t.req.v) = some d ∧ decodeAs t.req.ty d = .ok tok) := by
  have i := (h.thr t ht).1
  unfold TInv at i
  rw [r] at i
  simpa only [hk] using i

theorem inv_empty (c : CryptoOps) : Inv c ⟨Store.empty, []⟩ :=
  ⟨by intro x ty v d h; simp [dataAt, Store.empty] at h, by intro t h; cases h⟩

end AcraModel.Token
