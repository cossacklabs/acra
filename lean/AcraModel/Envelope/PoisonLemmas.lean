import AcraModel.Envelope.Poison
import AcraModel.Envelope.ScanLemmas
import AcraModel.Envelope.SafeCompatSame
import AcraModel.Envelope.MaskLemmas
/-!
Lemmas about the traced column scan of `Poison.lean` (C15).

* `…_fst`: the output component of every traced function is the untraced function of `Detector.lean`
  run on the callbacks with their alarm bit dropped (`outCbs`) – so every C01/C03 theorem transfers.
* `…_alarm`: where an alarm can come from – if the alarm count of a traced function is positive, some
  callback raised its alarm bit on a container the function handed to it.
* lower bounds: an alarm raised at a position the scan reaches is never lost.
-/
namespace AcraModel.Envelope
open AcraModel Generated

def outCb (f : CallbackT) : Callback := fun x => (f x).1
def outCbs (cbs : List CallbackT) : List Callback := cbs.map outCb

theorem outCb_plainT (cb : Callback) : outCb (plainT cb) = cb := rfl

theorem outCbs_plainT (cbs : List Callback) : outCbs (cbs.map plainT) = cbs := by
  unfold outCbs
  rw [List.map_map]
  exact List.map_id _

theorem outCbs_cons (f : CallbackT) (cbs : List CallbackT) : outCbs (f :: cbs) = outCb f :: outCbs cbs := rfl

theorem outCbs_isEmpty (cbs : List CallbackT) : (outCbs cbs).isEmpty = cbs.isEmpty := by
  cases cbs <;> rfl

theorem runCallbacksT_fst (cont : Bytes) (cbs : List CallbackT) :
    (runCallbacksT cont cbs).1 = runCallbacks cont (outCbs cbs) := by
  induction cbs with
  | nil => rfl
  | cons cb rest ih =>
    unfold outCbs at ih ⊢
    simp only [List.map_cons, runCallbacksT, runCallbacks, outCb]
    rcases h : cb cont with ⟨r, a⟩
    cases r <;> simp [ih]

/-- an alarm counted by the callback loop was raised by one of the callbacks on this container -/
theorem runCallbacksT_alarm (cont : Bytes) (cbs : List CallbackT) (h : 1 ≤ (runCallbacksT cont cbs).2) :
    ∃ f ∈ cbs, (f cont).2 = true := by
  induction cbs with
  | nil => simp [runCallbacksT] at h
  | cons cb rest ih =>
    by_cases ha : (cb cont).2 = true
    · exact ⟨cb, List.mem_cons_self, ha⟩
    · have ha' : (cb cont).2 = false := by simpa using ha
      have : 1 ≤ (runCallbacksT cont rest).2 := by
        simp only [runCallbacksT] at h
        rcases hc : cb cont with ⟨r, a⟩
        rw [hc] at h ha'
        simp only at ha'
        subst ha'
        cases r <;> simp at h <;> first | exact h | omega
      obtain ⟨f, hf, hfa⟩ := ih this
      exact ⟨f, List.mem_cons_of_mem _ hf, hfa⟩

def Quiet (cbs : List CallbackT) : Prop := ∀ f ∈ cbs, ∀ x, (f x).2 = false

theorem quiet_plainT (cb : Callback) : ∀ x, (plainT cb x).2 = false := fun _ => rfl

theorem Quiet.cons {f : CallbackT} {cbs : List CallbackT} (hf : ∀ x, (f x).2 = false) (h : Quiet cbs) :
    Quiet (f :: cbs) := by
  intro g hg x
  rcases List.mem_cons.1 hg with rfl | hg
  · exact hf x
  · exact h g hg x

theorem Quiet.no_alarm {cbs : List CallbackT} (h : Quiet cbs) {x : Bytes} : ¬ ∃ f ∈ cbs, (f x).2 = true := by
  rintro ⟨f, hf, ha⟩
  rw [h f hf x] at ha
  cases ha

/-- the first callback that raises its alarm bit is reached when every callback before it answers
"unchanged" / "decryption error": the alarm is counted -/
theorem runCallbacksT_alarm_ge (cont : Bytes) (front : List CallbackT) (f : CallbackT) (rest : List CallbackT)
    (hfront : ∀ g ∈ front, (g cont).1 = .same ∨ (g cont).1 = .decErr) (hf : (f cont).2 = true) :
    1 ≤ (runCallbacksT cont (front ++ f :: rest)).2 := by
  induction front with
  | nil =>
    simp only [List.nil_append, runCallbacksT]
    rcases hc : f cont with ⟨r, a⟩
    rw [hc] at hf
    simp only at hf
    subst hf
    cases r <;> simp
  | cons g gs ih =>
    have ih' := ih (fun g' hg' => hfront g' (List.mem_cons_of_mem _ hg'))
    have hg := hfront g List.mem_cons_self
    simp only [List.cons_append, runCallbacksT]
    rcases hc : g cont with ⟨r, a⟩
    rw [hc] at hg
    simp only at hg
    rcases hg with rfl | rfl <;> simp <;> omega

/-- alarms raised by the callbacks at the head position of `rest` -/
def headAlarms (cbs : List CallbackT) (rest : Bytes) : Nat :=
  if !startsWith containerTag rest then 0 else
  match extractContainer rest with
  | .ok (_, container) => (runCallbacksT container cbs).2
  | _ => 0

theorem headStep_replace_pos {cbs : List Callback} {rest p : Bytes} {k : Nat}
    (h : headStep cbs rest = .replace p k) : 0 < k ∧ k ≤ rest.length := by
  unfold headStep at h
  split at h
  · cases h
  · split at h
    · cases h
    · cases h
    · next n container _ =>
      split at h
      · cases h
      · cases h
      · split at h
        · next hn =>
          cases h
          omega
        · cases h

theorem scanT_nil (cbs : List CallbackT) : scanT cbs [] = (.ok [] false, 0) := by rw [scanT]

/-- one unfolding of the traced loop: the decision is that of the untraced loop (`headStep`), the alarm
count adds what the callbacks raised at this position -/
theorem scanT_cons (cbs : List CallbackT) (b : UInt8) (r : Bytes) :
    scanT cbs (b :: r) =
      match headStep (outCbs cbs) (b :: r) with
      | .skip h => ((scanT cbs r).1.prepend [b] h, (scanT cbs r).2 + headAlarms cbs (b :: r))
      | .replace p n => ((scanT cbs ((b :: r).drop n)).1.prepend p true,
          (scanT cbs ((b :: r).drop n)).2 + headAlarms cbs (b :: r))
      | .fatal => (.fatal, headAlarms cbs (b :: r))
      | .panic => (.panic, headAlarms cbs (b :: r)) := by
  rw [scanT.eq_2]
  unfold headStep headAlarms
  by_cases ht : startsWith containerTag (b :: r) = true
  · simp only [ht, Bool.not_true, Bool.false_eq_true, if_false]
    cases hx : extractContainer (b :: r) with
    | panic => rfl
    | err => rfl
    | ok v =>
      obtain ⟨n, container⟩ := v
      simp only
      rw [← runCallbacksT_fst]
      rcases hc : runCallbacksT container cbs with ⟨o, a⟩
      cases o with
      | fatal => rfl
      | skip => rfl
      | replace p =>
        simp only
        by_cases hn : 0 < n ∧ n ≤ ((b :: r).length : Int)
        · rw [dif_pos hn, if_pos hn]
        · rw [dif_neg hn, if_neg hn]
  · have ht' : startsWith containerTag (b :: r) = false := by simpa using ht
    simp only [ht', Bool.not_false, if_true]
    rfl

/-- **the traced scan computes the same bytes as the plain one** -/
theorem scanT_fst (cbs : List CallbackT) (rest : Bytes) : (scanT cbs rest).1 = scan (outCbs cbs) rest := by
  generalize hn : rest.length = n
  induction n using Nat.strongRecOn generalizing rest with
  | _ n ih =>
    cases rest with
    | nil => rw [scanT_nil, c01_scan_nil]
    | cons b r =>
      rw [scanT_cons, c01_scan_cons]
      cases hh : headStep (outCbs cbs) (b :: r) with
      | skip h =>
        simp only
        rw [ih r.length (by simp at hn; omega) r rfl]
      | replace p k =>
        simp only
        have hk := (headStep_replace_pos hh).1
        rw [ih ((b :: r).drop k).length (by rw [List.length_drop]; simp at hn ⊢; omega) _ rfl]
      | fatal => rfl
      | panic => rfl

/-- alarms at one position were raised by the callbacks on the container `ExtractSerializedContainer` returned there -/
theorem headAlarms_pos {cbs : List CallbackT} {rest : Bytes} (h : 1 ≤ headAlarms cbs rest) :
    startsWith containerTag rest = true ∧
      ∃ n cont, extractContainer rest = .ok (n, cont) ∧ ∃ f ∈ cbs, (f cont).2 = true := by
  unfold headAlarms at h
  split at h
  · simp at h
  · next ht =>
    refine ⟨by simpa using ht, ?_⟩
    split at h
    · next k cont hx => exact ⟨k, cont, hx, runCallbacksT_alarm cont cbs h⟩
    · simp at h

/-- an alarm counted by the scan was raised at some position of the buffer where the container tag
starts, by one of the callbacks, on the container `ExtractSerializedContainer` returned there -/
theorem scanT_alarm (cbs : List CallbackT) (rest : Bytes) (h : 1 ≤ (scanT cbs rest).2) :
    ∃ i, i < rest.length ∧ startsWith containerTag (rest.drop i) = true ∧
      ∃ n cont, extractContainer (rest.drop i) = .ok (n, cont) ∧ ∃ f ∈ cbs, (f cont).2 = true := by
  generalize hn : rest.length = n at h ⊢
  induction n using Nat.strongRecOn generalizing rest with
  | _ n ih =>
    cases rest with
    | nil => rw [scanT_nil] at h; simp at h
    | cons b r =>
      by_cases h0 : 1 ≤ headAlarms cbs (b :: r)
      · exact ⟨0, by simp at hn; omega, headAlarms_pos h0⟩
      · have h0' : headAlarms cbs (b :: r) = 0 := by omega
        rw [scanT_cons, h0'] at h
        -- the alarm was raised where the loop goes on, `k ≥ 1` bytes further
        obtain ⟨k, hk, hk2, hrest⟩ : ∃ k, 0 < k ∧ k ≤ (b :: r).length ∧ 1 ≤ (scanT cbs ((b :: r).drop k)).2 := by
          cases hh : headStep (outCbs cbs) (b :: r) with
          | skip hb => rw [hh] at h; exact ⟨1, Nat.one_pos, by simp, h⟩
          | replace p k => rw [hh] at h; exact ⟨k, (headStep_replace_pos hh).1, (headStep_replace_pos hh).2, h⟩
          | fatal => rw [hh] at h; simp at h
          | panic => rw [hh] at h; simp at h
        obtain ⟨i, hi, hr⟩ := ih ((b :: r).drop k).length (by rw [List.length_drop]; omega) _ hrest rfl
        rw [List.length_drop] at hi
        rw [List.drop_drop] at hr
        exact ⟨k + i, by omega, hr⟩

/-- with the head position skipped by the untraced loop, the alarm count is that of the rest plus
what was raised here: alarms are never lost -/
theorem scanT_snd_skip {cbs : List CallbackT} {b : UInt8} {r : Bytes} {hit : Bool}
    (hs : headStep (outCbs cbs) (b :: r) = .skip hit) :
    (scanT cbs (b :: r)).2 = (scanT cbs r).2 + headAlarms cbs (b :: r) := by
  rw [scanT_cons, hs]

/-- the alarms raised at the head of `rest` are counted when every position of `pre` is skipped -/
theorem scanT_alarm_ge (cbs : List CallbackT) (pre rest : Bytes)
    (hpre : ∀ i, i < pre.length → ∃ h, headStep (outCbs cbs) ((pre ++ rest).drop i) = .skip h)
    (hne : rest ≠ []) :
    headAlarms cbs rest ≤ (scanT cbs (pre ++ rest)).2 := by
  induction pre with
  | nil =>
    cases rest with
    | nil => exact absurd rfl hne
    | cons b r =>
      rw [List.nil_append, scanT_cons]
      cases headStep (outCbs cbs) (b :: r) <;> simp
  | cons b p ih =>
    obtain ⟨h, h0⟩ := hpre 0 (Nat.succ_pos _)
    rw [List.drop_zero, List.cons_append] at h0
    rw [List.cons_append, scanT_snd_skip h0]
    exact Nat.le_trans (ih (fun i hi => by simpa using hpre (i + 1) (Nat.succ_lt_succ hi))) (Nat.le_add_right _ _)

/-- a fatal answer at the head of `rest` makes the whole scan fatal when every position before it is skipped -/
theorem scan_fatal_of_prefix_skip (cbs : List Callback) (pre rest : Bytes)
    (hpre : ∀ i, i < pre.length → ∃ h, headStep cbs ((pre ++ rest).drop i) = .skip h)
    (hf : headStep cbs rest = .fatal) : scan cbs (pre ++ rest) = .fatal := by
  obtain ⟨hit, h⟩ := c01_scan_skip_prefix cbs pre rest hpre
  cases rest with
  | nil => simp [headStep, startsWith, containerTag, toBytes, Layout.containerTag] at hf
  | cons b r => rw [h, c01_scan_cons, hf]; rfl

theorem onColumnT_fst (cbs : List CallbackT) (d : Bytes) : (onColumnT cbs d).1 = onColumn (outCbs cbs) d := by
  unfold onColumnT onColumn
  rw [outCbs_isEmpty]
  split
  · rfl
  · exact scanT_fst cbs d

theorem onColumnT_alarm (cbs : List CallbackT) (d : Bytes) (h : 1 ≤ (onColumnT cbs d).2) :
    ∃ i, i < d.length ∧ startsWith containerTag (d.drop i) = true ∧
      ∃ n cont, extractContainer (d.drop i) = .ok (n, cont) ∧ ∃ f ∈ cbs, (f cont).2 = true := by
  unfold onColumnT at h
  split at h
  · simp at h
  · exact scanT_alarm cbs d h

theorem onColumnT_snd_of_long (cbs : List CallbackT) (d : Bytes) (hc : cbs ≠ []) (hl : containerMin ≤ d.length) :
    onColumnT cbs d = scanT cbs d := by
  unfold onColumnT
  have : cbs.isEmpty = false := by cases cbs <;> simp_all
  rw [if_neg (by simp [this]; omega)]

theorem onCryptoEnvelopeT_fst (cont : Bytes) (cbs : List CallbackT) :
    (onCryptoEnvelopeT cont cbs).1 = onCryptoEnvelope cont (outCbs cbs) := by
  induction cbs with
  | nil => rfl
  | cons cb rest ih =>
    unfold outCbs at ih ⊢
    simp only [List.map_cons, onCryptoEnvelopeT, onCryptoEnvelope, outCb]
    rcases h : cb cont with ⟨r, a⟩
    cases r <;> simp [ih]

/-- `OnCryptoEnvelope` runs the same callback loop: same alarms -/
theorem onCryptoEnvelopeT_snd (cont : Bytes) (cbs : List CallbackT) :
    (onCryptoEnvelopeT cont cbs).2 = (runCallbacksT cont cbs).2 := by
  induction cbs with
  | nil => rfl
  | cons cb rest ih =>
    simp only [onCryptoEnvelopeT, runCallbacksT]
    rcases cb cont with ⟨r, a⟩
    cases r <;> simp [ih]

theorem onCryptoEnvelopeT_alarm (cont : Bytes) (cbs : List CallbackT) (h : 1 ≤ (onCryptoEnvelopeT cont cbs).2) :
    ∃ f ∈ cbs, (f cont).2 = true :=
  runCallbacksT_alarm cont cbs (onCryptoEnvelopeT_snd cont cbs ▸ h)

theorem onBareT_fst (cbs : List CallbackT) (id : UInt8) (bare : Bytes) :
    (onBareT cbs id bare).1 = onBare (outCbs cbs) id bare := by
  unfold onBareT onBare
  cases hs : serialize bare id with
  | err => rfl
  | panic => rfl
  | ok s =>
    simp only [Out.bind_ok]
    rw [← onCryptoEnvelopeT_fst]
    rcases hc : onCryptoEnvelopeT s cbs with ⟨o, a⟩
    cases o with
    | err => rfl
    | panic => rfl
    | ok p =>
      simp only [Out.bind_ok]
      split <;> rfl

/-- an alarm counted while handling a bare envelope was raised by one of the callbacks on the
serialized container built around it -/
theorem onBareT_alarm (cbs : List CallbackT) (id : UInt8) (bare : Bytes) (h : 1 ≤ (onBareT cbs id bare).2) :
    bare ≠ [] ∧ ∃ f ∈ cbs, (f (serBytes bare id)).2 = true := by
  unfold onBareT at h
  cases hs : serialize bare id with
  | err => rw [hs] at h; simp at h
  | panic => rw [hs] at h; simp at h
  | ok s =>
    obtain ⟨hne, rfl⟩ := c01_serialize_ok hs
    rw [hs] at h
    simp only at h
    refine ⟨hne, onCryptoEnvelopeT_alarm (serBytes bare id) cbs ?_⟩
    rcases hc : onCryptoEnvelopeT (serBytes bare id) cbs with ⟨o, a⟩
    rw [hc] at h
    cases o <;> exact h

theorem bindT_snd (x : Out Bytes × Nat) (f : Bytes → Bytes) (a : Nat) : (bindT x f a).2 = x.2 + a := rfl

/-- The runs of a traced legacy scan with per-envelope handler `proc`, next to the result `o` of the plain
scan whose handler is `proc` without its alarm count (`ChunkRun`): every iteration copies one byte, or hands a
non-empty prefix of the remaining buffer to `proc` and goes on behind it, or stops with the handler's error. -/
inductive ChunkRunT (proc : Bytes → Out Bytes × Nat) : Bytes → Out Bytes × Nat → Out Bytes → Prop
  | nil : ChunkRunT proc [] (.ok [], 0) (.ok [])
  | skip {b : UInt8} {r : Bytes} {t : Out Bytes × Nat} {o : Out Bytes} : ChunkRunT proc r t o →
      ChunkRunT proc (b :: r) (bindT t (b :: ·) 0) (o.bind fun x => .ok (b :: x))
  | ok {b : UInt8} {r p : Bytes} {n a : Nat} {t : Out Bytes × Nat} {o : Out Bytes} : 0 < n →
      proc ((b :: r).take n) = (.ok p, a) → ChunkRunT proc ((b :: r).drop n) t o →
      ChunkRunT proc (b :: r) (bindT t (p ++ ·) a) (o.bind fun x => .ok (p ++ x))
  | stop {b : UInt8} {r : Bytes} {n a : Nat} {x : Out Bytes} : 0 < n → proc ((b :: r).take n) = (x, a) →
      ChunkRunT proc (b :: r) (x, a) x

theorem processStructsT_run (proc : Bytes → Out Bytes × Nat) (rest : Bytes) :
    ChunkRunT proc rest (processStructsT proc rest) (processStructs (fun x => (proc x).1) rest) := by
  induction rest using processStructsT.induct proc with
  | case1 => rw [processStructsT.eq_1, processStructs.eq_1]; exact .nil
  | case2 b r h ih => rw [processStructsT.eq_2, processStructs.eq_2, if_pos h, if_pos h]; exact .skip ih
  | case3 b r h hl hg => exact absurd hg (by rw [getDataLength_eq _ (by rw [c01_structMin] at hl; omega)]; exact fun h => nomatch h)
  | case4 b r h hl hg => exact absurd hg (by rw [getDataLength_eq _ (by rw [c01_structMin] at hl; omega)]; exact fun h => nomatch h)
  | case5 b r h hl dl hg l hb p a hq ih =>
    rw [processStructsT.eq_2, processStructs.eq_2, if_neg h, if_neg h, if_pos hl, if_pos hl, hg]
    dsimp only
    rw [dif_pos hb, dif_pos hb, show proc _ = _ from hq]
    exact .ok (by have := hb.1; omega) hq ih
  | case6 b r h hl dl hg l hb a hq =>
    rw [processStructsT.eq_2, processStructs.eq_2, if_neg h, if_neg h, if_pos hl, if_pos hl, hg]
    dsimp only
    rw [dif_pos hb, dif_pos hb, show proc _ = _ from hq]
    exact .stop (by have := hb.1; omega) hq
  | case7 b r h hl dl hg l hb a hq =>
    rw [processStructsT.eq_2, processStructs.eq_2, if_neg h, if_neg h, if_pos hl, if_pos hl, hg]
    dsimp only
    rw [dif_pos hb, dif_pos hb, show proc _ = _ from hq]
    exact .stop (by have := hb.1; omega) hq
  | case8 b r h hl dl hg l hb ih =>
    rw [processStructsT.eq_2, processStructs.eq_2, if_neg h, if_neg h, if_pos hl, if_pos hl, hg]
    dsimp only
    rw [dif_neg hb, dif_neg hb]
    exact .skip ih
  | case9 b r h hl ih =>
    rw [processStructsT.eq_2, processStructs.eq_2, if_neg h, if_neg h, if_neg hl, if_neg hl]; exact .skip ih

theorem processBlocksT_run (proc : Bytes → Out Bytes × Nat) (rest : Bytes) :
    ChunkRunT proc rest (processBlocksT proc rest) (processBlocks (fun x => (proc x).1) rest) := by
  induction rest using processBlocksT.induct proc with
  | case1 => rw [processBlocksT.eq_1, processBlocks.eq_1]; exact .nil
  | case2 b r h ih => rw [processBlocksT.eq_2, processBlocks.eq_2, if_pos h, if_pos h]; exact .skip ih
  | case3 b r h hl he => exact absurd he (extractBlock_ne_panic _)
  | case4 b r h hl he ih =>
    rw [processBlocksT.eq_2, processBlocks.eq_2, if_neg h, if_neg h, if_pos hl, if_pos hl, he]; exact .skip ih
  | case5 b r h hl n blk he hn p a hq ih =>
    rw [processBlocksT.eq_2, processBlocks.eq_2, if_neg h, if_neg h, if_pos hl, if_pos hl, he]
    dsimp only
    rw [dif_pos hn, dif_pos hn, hq]
    exact .ok hn.1 ((extractBlock_bounds' he).2.2 ▸ hq) ih
  | case6 b r h hl n blk he hn a hq =>
    rw [processBlocksT.eq_2, processBlocks.eq_2, if_neg h, if_neg h, if_pos hl, if_pos hl, he]
    dsimp only
    rw [dif_pos hn, dif_pos hn, hq]
    exact .stop hn.1 ((extractBlock_bounds' he).2.2 ▸ hq)
  | case7 b r h hl n blk he hn a hq =>
    rw [processBlocksT.eq_2, processBlocks.eq_2, if_neg h, if_neg h, if_pos hl, if_pos hl, he]
    dsimp only
    rw [dif_pos hn, dif_pos hn, hq]
    exact .stop hn.1 ((extractBlock_bounds' he).2.2 ▸ hq)
  | case8 b r h hl n blk he hn => exact absurd (extractBlock_pos he) hn
  | case9 b r h hl ih =>
    rw [processBlocksT.eq_2, processBlocks.eq_2, if_neg h, if_neg h, if_neg hl, if_neg hl]; exact .skip ih

namespace ChunkRunT
variable {proc : Bytes → Out Bytes × Nat} {d : Bytes} {t : Out Bytes × Nat} {o : Out Bytes}

theorem fst (h : ChunkRunT proc d t o) : t.1 = o := by
  induction h with
  | nil => rfl
  | skip _ ih => rw [← ih]; rfl
  | ok _ _ _ ih => rw [← ih]; rfl
  | stop => rfl

/-- an alarm counted by a legacy scan was raised by the per-envelope handler on a non-empty contiguous part
of the buffer -/
theorem alarm (h : ChunkRunT proc d t o) (ha : 1 ≤ t.2) : ∃ x, x <:+: d ∧ x ≠ [] ∧ 1 ≤ (proc x).2 := by
  induction h with
  | nil => exact absurd ha (by decide)
  | @skip b r _ _ _ ih =>
    obtain ⟨x, hx, hr⟩ := ih ha
    exact ⟨x, hx.trans (List.suffix_cons b r).isInfix, hr⟩
  | @ok _ _ _ _ a _ _ h0 hq _ ih =>
    by_cases ha' : 1 ≤ a
    · exact ⟨_, (List.take_prefix _ _).isInfix, take_ne_nil h0, by rw [hq]; exact ha'⟩
    · obtain ⟨x, hx, hr⟩ := ih (by rw [bindT_snd] at ha; omega)
      exact ⟨x, hx.trans (List.drop_suffix _ _).isInfix, hr⟩
  | stop h0 hq => exact ⟨_, (List.take_prefix _ _).isInfix, take_ne_nil h0, by rw [hq]; exact ha⟩

end ChunkRunT

theorem onBareT_fst_fun (cbs : List CallbackT) (id : UInt8) :
    (fun x => (onBareT cbs id x).1) = onBare (outCbs cbs) id := funext (onBareT_fst cbs id)

theorem mem_of_alarm_cons_plainT {cb : Callback} {cbs : List CallbackT} {x : Bytes}
    (h : ∃ f ∈ plainT cb :: cbs, (f x).2 = true) : ∃ f ∈ cbs, (f x).2 = true := by
  obtain ⟨f, hf, ha⟩ := h
  rcases List.mem_cons.1 hf with rfl | hf
  · cases ha
  · exact ⟨f, hf, ha⟩

/-- a legacy stage of the traced wrapper: skipped for buffers shorter than `min`, else the scan `scanT` with the
wrapper's handler for envelope id `id` -/
def legacyStageT (scanT : (Bytes → Out Bytes × Nat) → Bytes → Out Bytes × Nat) (min : Nat) (all : List CallbackT)
    (id : UInt8) (buf : Bytes) : Out Bytes × Nat :=
  if buf.length < min then (.ok buf, 0) else scanT (onBareT all id) buf

/-- it returns what the plain stage returns … -/
theorem legacyStageT_fst {scanT : (Bytes → Out Bytes × Nat) → Bytes → Out Bytes × Nat}
    {scan : (Bytes → Out Bytes) → Bytes → Out Bytes}
    (hrun : ∀ proc rest, ChunkRunT proc rest (scanT proc rest) (scan (fun x => (proc x).1) rest))
    (min : Nat) (all : List CallbackT) (id : UInt8) (buf : Bytes) :
    (legacyStageT scanT min all id buf).1 =
      if buf.length < min then Out.ok buf else scan (onBare (outCbs all) id) buf := by
  unfold legacyStageT
  split
  · rfl
  · rw [(hrun _ _).fst, onBareT_fst_fun]

/-- … and its alarms were raised on the serialized container around a non-empty contiguous part of the buffer -/
theorem legacyStageT_alarm {scanT : (Bytes → Out Bytes × Nat) → Bytes → Out Bytes × Nat}
    {scan : (Bytes → Out Bytes) → Bytes → Out Bytes}
    (hrun : ∀ proc rest, ChunkRunT proc rest (scanT proc rest) (scan (fun x => (proc x).1) rest))
    (min : Nat) (cb : Callback) (cbs : List CallbackT) (id : UInt8) (buf : Bytes)
    (h : 1 ≤ (legacyStageT scanT min (plainT cb :: cbs) id buf).2) :
    ∃ x, x <:+: buf ∧ x ≠ [] ∧ ∃ f ∈ cbs, (f (serBytes x id)).2 = true := by
  unfold legacyStageT at h
  split at h
  · simp at h
  · obtain ⟨x, hx, hne, hax⟩ := (hrun _ _).alarm h
    exact ⟨x, hx, hne, mem_of_alarm_cons_plainT (onBareT_alarm _ _ x hax).2⟩

/-- the alarm count of the compatibility wrapper: that of the container scan, plus that of the legacy AcraStruct
stage when the wrapper gets there, plus that of the legacy AcraBlock stage on the output `o1` of the AcraStruct stage -/
theorem onColumnCompatT_snd (cbs : List CallbackT) (d : Bytes) :
    (onColumnCompatT cbs d).2 = (onColumnT (plainT (fun _ => Cb.same) :: cbs) d).2 ∨
    (onColumnCompatT cbs d).2 = (onColumnT (plainT (fun _ => Cb.same) :: cbs) d).2 +
      (legacyStageT processStructsT structMin (plainT (fun _ => Cb.same) :: cbs) idStruct d).2 ∨
    ∃ o1, (legacyStageT processStructsT structMin (plainT (fun _ => Cb.same) :: cbs) idStruct d).1 = .ok o1 ∧
      (onColumnCompatT cbs d).2 = (onColumnT (plainT (fun _ => Cb.same) :: cbs) d).2 +
        (legacyStageT processStructsT structMin (plainT (fun _ => Cb.same) :: cbs) idStruct d).2 +
        (legacyStageT processBlocksT blockMin (plainT (fun _ => Cb.same) :: cbs) idBlock o1).2 := by
  unfold onColumnCompatT legacyStageT
  simp only []
  rcases onColumnT (plainT (fun _ => Cb.same) :: cbs) d with ⟨o, a⟩
  cases o with
  | fatal => exact Or.inl rfl
  | panic => exact Or.inl rfl
  | ok out hit =>
    simp only
    split
    · exact Or.inl rfl
    · rcases (if d.length < structMin then ((Out.ok d : Out Bytes), 0)
          else processStructsT (onBareT (plainT (fun _ => Cb.same) :: cbs) idStruct) d) with ⟨s1, a1⟩
      cases s1 with
      | panic => exact Or.inr (Or.inl rfl)
      | err => exact Or.inr (Or.inl rfl)
      | ok o1 =>
        refine Or.inr (Or.inr ⟨o1, rfl, ?_⟩)
        simp only
        rcases (if o1.length < blockMin then ((Out.ok o1 : Out Bytes), 0)
            else processBlocksT (onBareT (plainT (fun _ => Cb.same) :: cbs) idBlock) o1) with ⟨s2, a2⟩
        cases s2 <;> rfl

/-- **the traced compatibility wrapper computes the same result as the plain one** -/
theorem onColumnCompatT_fst (cbs : List CallbackT) (d : Bytes) :
    (onColumnCompatT cbs d).1 = onColumnCompat (outCbs cbs) d := by
  have ho := onColumnT_fst (plainT (fun _ => Cb.same) :: cbs) d
  rw [outCbs_cons, outCb_plainT] at ho
  unfold onColumnCompatT onColumnCompat
  simp only []
  rw [← ho]
  rcases h : onColumnT (plainT (fun _ => Cb.same) :: cbs) d with ⟨o, a⟩
  cases o with
  | fatal => rfl
  | panic => rfl
  | ok out hit =>
    simp only
    by_cases hc : (hit || out != d) = true
    · rw [if_pos hc, if_pos hc]
    · rw [if_neg hc, if_neg hc]
      rw [← show _ = (if d.length < structMin then Out.ok d
          else processStructs (onBare ((fun _ => Cb.same) :: outCbs cbs) idStruct) d) from
        legacyStageT_fst processStructsT_run structMin (plainT (fun _ => Cb.same) :: cbs) idStruct d]
      unfold legacyStageT
      rcases h1 : (if d.length < structMin then ((Out.ok d : Out Bytes), 0)
          else processStructsT (onBareT (plainT (fun _ => Cb.same) :: cbs) idStruct) d) with ⟨s1, a1⟩
      cases s1 with
      | panic => rfl
      | err => rfl
      | ok o1 =>
        simp only
        rw [← show _ = (if o1.length < blockMin then Out.ok o1
            else processBlocks (onBare ((fun _ => Cb.same) :: outCbs cbs) idBlock) o1) from
          legacyStageT_fst processBlocksT_run blockMin (plainT (fun _ => Cb.same) :: cbs) idBlock o1]
        unfold legacyStageT
        rcases h2 : (if o1.length < blockMin then ((Out.ok o1 : Out Bytes), 0)
            else processBlocksT (onBareT (plainT (fun _ => Cb.same) :: cbs) idBlock) o1) with ⟨s2, a2⟩
        cases s2 <;> rfl

/-- the alarms of the container scan are never lost by the compatibility wrapper -/
theorem onColumnCompatT_snd_ge (cbs : List CallbackT) (d : Bytes) :
    (onColumnT (plainT (fun _ => Cb.same) :: cbs) d).2 ≤ (onColumnCompatT cbs d).2 := by
  rcases onColumnCompatT_snd cbs d with h | h | ⟨_, _, h⟩ <;> omega

/-- **where an alarm of the compatibility wrapper can come from**: a callback raised it (1) on the rest
of the buffer at a position where the container tag starts, or (2) on the serialized container
around a non-empty contiguous part of the buffer that the legacy AcraStruct scan cut out, or (3) on
the serialized container around a non-empty contiguous part of the OUTPUT `o1` of the legacy
AcraStruct scan that the legacy AcraBlock scan cut out. -/
theorem onColumnCompatT_alarm (cbs : List CallbackT) (d : Bytes) (h : 1 ≤ (onColumnCompatT cbs d).2) :
    (∃ i, i < d.length ∧ startsWith containerTag (d.drop i) = true ∧ ∃ f ∈ cbs, (f (d.drop i)).2 = true) ∨
    (∃ x, x <:+: d ∧ x ≠ [] ∧ ∃ f ∈ cbs, (f (serBytes x idStruct)).2 = true) ∨
    (∃ o1, (if d.length < structMin then Out.ok d
        else processStructs (onBare ((fun _ => Cb.same) :: outCbs cbs) idStruct) d) = .ok o1 ∧
      ∃ x, x <:+: o1 ∧ x ≠ [] ∧ ∃ f ∈ cbs, (f (serBytes x idBlock)).2 = true) := by
  have scanCase : 1 ≤ (onColumnT (plainT (fun _ => Cb.same) :: cbs) d).2 →
      ∃ i, i < d.length ∧ startsWith containerTag (d.drop i) = true ∧ ∃ f ∈ cbs, (f (d.drop i)).2 = true := by
    intro h0
    obtain ⟨i, hi, hst, n, cont, hx, hf⟩ := onColumnT_alarm _ d h0
    have := extractContainer_of_containerTag (startsWith_containerTag hst) hx
    subst this
    exact ⟨i, hi, hst, mem_of_alarm_cons_plainT hf⟩
  have structCase := legacyStageT_alarm processStructsT_run structMin (fun _ => Cb.same) cbs idStruct d
  rcases onColumnCompatT_snd cbs d with e | e | ⟨o1, ho1, e⟩
  · exact Or.inl (scanCase (e ▸ h))
  · rw [e] at h
    rcases Nat.add_pos_iff_pos_or_pos.1 h with h0 | h1
    · exact Or.inl (scanCase h0)
    · exact Or.inr (Or.inl (structCase h1))
  · rw [e] at h
    rcases Nat.add_pos_iff_pos_or_pos.1 h with h01 | h2
    · rcases Nat.add_pos_iff_pos_or_pos.1 h01 with h0 | h1
      · exact Or.inl (scanCase h0)
      · exact Or.inr (Or.inl (structCase h1))
    · rw [legacyStageT_fst processStructsT_run] at ho1
      exact Or.inr (Or.inr ⟨o1, ho1, legacyStageT_alarm processBlocksT_run blockMin (fun _ => Cb.same) cbs idBlock o1 h2⟩)

theorem onColumnCompatT_quiet (cbs : List CallbackT) (hq : Quiet cbs) (d : Bytes) : (onColumnCompatT cbs d).2 = 0 :=
  Nat.eq_zero_of_not_pos fun h0 => by
    rcases onColumnCompatT_alarm cbs d h0 with ⟨_, _, _, h⟩ | ⟨_, _, _, h⟩ | ⟨_, _, _, _, _, h⟩ <;>
      exact hq.no_alarm h

theorem onColumnT_quiet (cbs : List CallbackT) (hq : Quiet cbs) (d : Bytes) : (onColumnT cbs d).2 = 0 :=
  Nat.eq_zero_of_not_pos fun h0 => by
    obtain ⟨_, _, _, _, _, _, h⟩ := onColumnT_alarm cbs d h0
    exact hq.no_alarm h

theorem isPoison_eq_true {c : CryptoOps} {pk : KeyView} {x : Bytes} :
    isPoison c pk x = true ↔ ∃ m, process c pk x = .ok m := by
  unfold isPoison
  cases process c pk x <;> simp [Out.isOk]

theorem isPoison_no_keys (c : CryptoOps) (pk : KeyView) (hp : pk.privs = none) (hs : pk.syms = none) (x : Bytes) :
    isPoison c pk x = false := by
  cases h : isPoison c pk x with
  | false => rfl
  | true =>
    obtain ⟨m, hm⟩ := isPoison_eq_true.1 h
    exact absurd hm (process_no_keys c pk hp hs x m)

/-- the poison callback raises the alarm exactly when callbacks are configured and the container
decrypts under the poison keys -/
theorem poisonCallback_alarm (c : CryptoOps) (cfg : PoisonCfg) (x : Bytes) :
    (poisonCallback c cfg x).2 = (cfg.hasCallbacks && isPoison c cfg.pk x) := by
  unfold poisonCallback
  cases cfg.hasCallbacks <;> cases isPoison c cfg.pk x <;> simp

/-- the poison callback never replaces a container: it answers "unchanged" or a fatal error -/
theorem poisonCallback_out (c : CryptoOps) (cfg : PoisonCfg) (x : Bytes) :
    (poisonCallback c cfg x).1 = (if cfg.hasCallbacks && isPoison c cfg.pk x && cfg.callbackErr then .fatal else .same) := by
  unfold poisonCallback
  cases cfg.hasCallbacks <;> cases isPoison c cfg.pk x <;> cases cfg.callbackErr <;> simp

theorem proxyCallbacks_alarm {c : CryptoOps} {cfg : PoisonCfg} {kv : KeyView} {x : Bytes}
    (h : ∃ f ∈ proxyCallbacks c cfg kv, (f x).2 = true) : cfg.hasCallbacks = true ∧ isPoison c cfg.pk x = true := by
  obtain ⟨f, hf, ha⟩ := h
  unfold proxyCallbacks at hf
  rcases List.mem_append.1 hf with hf | hf
  · split at hf
    · next hc =>
      rw [List.mem_singleton.1 hf, poisonCallback_alarm] at ha
      simpa using ha
    · cases hf
  · rw [List.mem_singleton.1 hf] at ha
    cases ha

/-- a poison detector that never raises the alarm: no alarm in the SQL proxies, none in AcraTranslator -/
theorem quiet_poison_no_alarm (c : CryptoOps) (cfg : PoisonCfg) (kv : KeyView) (k : Kind) (d : Bytes)
    (hq : ∀ x, (poisonCallback c cfg x).2 = false) :
    (proxyOnColumn c cfg kv d).2 = 0 ∧ (translatorDecrypt c cfg kv k d).2 = 0 := by
  have hq' : Quiet (if cfg.hasCallbacks then [poisonCallback c cfg] else []) := by
    split
    · exact Quiet.cons hq (fun f hf => nomatch hf)
    · exact fun f hf => nomatch hf
  constructor
  · apply onColumnCompatT_quiet
    intro f hf x
    rcases List.mem_append.1 hf with hf | hf
    · exact hq' f hf x
    · rw [List.mem_singleton.1 hf]; rfl
  · unfold translatorDecrypt
    cases decryptWithHandler c kv k d with
    | ok m => rfl
    | panic => rfl
    | err => exact onColumnT_quiet _ hq' d

/-- what a successful `CreatePoisonRecord` / `CreateSymmetricPoisonRecord` has computed -/
theorem createPoison_ok {c : CryptoOps} {pk : KeyView} {k : Kind} {n : Nat} {rnd P : Bytes}
    (h : createPoison c pk k n rnd = .ok P) :
    ∃ e, e ≠ [] ∧ P = serBytes e k.id ∧
      match k with
      | .struct => ∃ p, pk.pub = some p ∧ createStruct c p [] (rnd.take n) (rnd.drop n) = .ok e
      | .block => ∃ key, pk.sym = some key ∧ createBlock c key [] (rnd.take n) (rnd.drop n) = .ok e := by
  unfold createPoison at h
  cases k with
  | struct =>
    obtain ⟨e, he, hs⟩ := Out.bind_eq_ok h
    obtain ⟨hne, hpe⟩ := c01_serialize_ok hs
    cases hp : pk.pub with
    | none => rw [hp] at he; cases he
    | some p => rw [hp] at he; exact ⟨e, hne, hpe, p, rfl, he⟩
  | block =>
    obtain ⟨e, he, hs⟩ := Out.bind_eq_ok h
    obtain ⟨hne, hpe⟩ := c01_serialize_ok hs
    cases hp : pk.sym with
    | none => rw [hp] at he; cases he
    | some key => rw [hp] at he; exact ⟨e, hne, hpe, key, rfl, he⟩

/-- under the round-trip hypotheses of C01 (writer = the poison key the record was made with, reader
= the poison key history of the detector) a poison record is a serialized container that the
registry handler opens with the poison keys, whatever bytes follow it -/
theorem createPoison_facts (c : CryptoOps) (k : Kind) (pkW pkR : KeyView) (n : Nat) (rnd P : Bytes)
    (h : RoundTripHyps c k pkW pkR (rnd.take n) (rnd.drop n) P)
    (hc : createPoison c pkW k n rnd = .ok P) :
    ∃ e, P = serBytes e k.id ∧ e ≠ [] ∧ e.length + 12 < 2^63 ∧ ∀ suf, process c pkR (P ++ suf) = .ok (rnd.take n) := by
  obtain ⟨e, he, rfl, hk⟩ := createPoison_ok hc
  cases k with
  | block =>
    obtain ⟨key', hk', hcb⟩ := hk
    obtain ⟨hs, key, pre, post, hkid, hW, hR, hpre, hek, hpl⟩ := h
    have hkk : key = key' := Option.some.inj (hW.symm.trans hk')
    subst hkk
    rw [c01_serBytes_length] at hpl
    obtain ⟨encData, encKey, h1, h2, rfl⟩ := c01_createBlock_ok hcb
    have hx := c01_extractBlock_build (keyId c key []) encKey encData [] hkid (by omega)
    rw [List.append_nil] at hx
    have hd := c01_decryptBlock_build c hs key [] _ (rnd.take n) encKey encData _ _ pre post hkid (hek _ h2) h1 h2
      (fun k' hk' hid => Or.inl (hpre k' hk' encKey h2 hid))
    refine ⟨_, rfl, he, by omega, fun suf => ?_⟩
    rw [c01_process_ser c pkR .block _ suf he (by omega) (by simp [matchKind, hx, Out.isOk])]
    exact c01_decryptKind_block c pkR _ _ _ hx hR hd
  | struct =>
    obtain ⟨pub, hpub, hcs⟩ := hk
    obtain ⟨hs, hsl, hm, hml, hkg, priv, pre, post, hpriv, hW, hR, hpre⟩ := h
    have hpp : c.pubOf priv = pub := Option.some.inj (hW.symm.trans hpub)
    subst hpp
    obtain ⟨hval, _, hd, hlen, hmlen⟩ := c01_struct_roundtrip c hs hsl hm hml hkg priv [] (rnd.take n) (rnd.drop n) e hpriv hcs
    refine ⟨e, rfl, he, by omega, fun suf => ?_⟩
    rw [c01_process_ser c pkR .struct e suf he (by omega) (by simp [matchKind, hval])]
    exact c01_decryptKind_struct c pkR e _ _ hval hR
      (c01_decryptStructRotated_found c [] e priv _ pre post (fun k' hk' => hpre k' hk' e hcs) hd)

/-- the alarm is raised at the head of a container the poison keys open, whatever callbacks come after
the poison detector and whatever bytes follow the container, provided the callbacks before it leave
the container alone -/
theorem headAlarms_poison (c : CryptoOps) (cfg : PoisonCfg) (front rest : List CallbackT) (k : Kind) (e suf : Bytes)
    (hcb : cfg.hasCallbacks = true) (he : e ≠ []) (hlen : e.length + 12 < 2^63)
    (hfront : ∀ g ∈ front, (g (serBytes e k.id ++ suf)).1 = .same ∨ (g (serBytes e k.id ++ suf)).1 = .decErr)
    (hpo : isPoison c cfg.pk (serBytes e k.id ++ suf) = true) :
    1 ≤ headAlarms (front ++ poisonCallback c cfg :: rest) (serBytes e k.id ++ suf) := by
  unfold headAlarms
  rw [c01_startsWith_ser, c01_extractContainer_ser suf he (c01_kindOfId_id k) hlen]
  simp only [Bool.not_true, Bool.false_eq_true, if_false]
  apply runCallbacksT_alarm_ge _ front _ rest hfront
  rw [poisonCallback_alarm, hcb, hpo]
  rfl

/-- … and when running the configured callbacks fails, the loop stops there with a fatal error -/
theorem headStep_poison_fatal (c : CryptoOps) (cfg : PoisonCfg) (front rest : List Callback) (k : Kind) (e suf : Bytes)
    (hcb : cfg.hasCallbacks = true) (herr : cfg.callbackErr = true) (he : e ≠ []) (hlen : e.length + 12 < 2^63)
    (hfront : ∀ g ∈ front, g (serBytes e k.id ++ suf) = .same ∨ g (serBytes e k.id ++ suf) = .decErr)
    (hpo : isPoison c cfg.pk (serBytes e k.id ++ suf) = true) :
    headStep (front ++ outCb (poisonCallback c cfg) :: rest) (serBytes e k.id ++ suf) = .fatal := by
  unfold headStep
  rw [c01_startsWith_ser, c01_extractContainer_ser suf he (c01_kindOfId_id k) hlen]
  simp only [Bool.not_true, Bool.false_eq_true, if_false]
  rw [c01_runCallbacks_append_same front _ hfront]
  simp only [runCallbacks, outCb, poisonCallback_out, hcb, herr, hpo, Bool.and_self, if_true]

/-- **a container the poison keys open raises the alarm in the SQL proxies' column processor** when every
position before it is skipped; with failing callbacks the result is fatal -/
theorem proxyOnColumn_poison (c : CryptoOps) (cfg : PoisonCfg) (kv : KeyView) (k : Kind) (e pre suf : Bytes)
    (hcb : cfg.hasCallbacks = true) (he : e ≠ []) (hlen : e.length + 12 < 2^63)
    (hpo : isPoison c cfg.pk (serBytes e k.id ++ suf) = true)
    (hpre : ∀ i, i < pre.length → ∃ hit,
      headStep [fun _ => Cb.same, fun x => (poisonCallback c cfg x).1, decryptCallback c kv]
        ((pre ++ serBytes e k.id ++ suf).drop i) = .skip hit) :
    1 ≤ (proxyOnColumn c cfg kv (pre ++ serBytes e k.id ++ suf)).2 ∧
    (cfg.callbackErr = true → (proxyOnColumn c cfg kv (pre ++ serBytes e k.id ++ suf)).1 = .fatal) := by
  have hcbs : proxyCallbacks c cfg kv = [poisonCallback c cfg, plainT (decryptCallback c kv)] := by
    unfold proxyCallbacks; rw [hcb]; rfl
  have hout : outCbs (plainT (fun _ => Cb.same) :: proxyCallbacks c cfg kv) =
      [fun _ => Cb.same, fun x => (poisonCallback c cfg x).1, decryptCallback c kv] := by rw [hcbs]; rfl
  have hl := c01_containerMin_le_ser pre e suf k.id
  have hfrontT : ∀ g ∈ [plainT (fun _ => Cb.same)],
      (g (serBytes e k.id ++ suf)).1 = .same ∨ (g (serBytes e k.id ++ suf)).1 = .decErr := by
    intro g hg; rw [List.mem_singleton.1 hg]; exact Or.inl rfl
  unfold proxyOnColumn
  constructor
  · refine Nat.le_trans ?_ (onColumnCompatT_snd_ge _ _)
    rw [onColumnT_snd_of_long _ _ (by simp) hl, List.append_assoc]
    refine Nat.le_trans ?_ (scanT_alarm_ge _ pre (serBytes e k.id ++ suf) ?_ (by simp [serBytes_ne_nil]))
    · rw [hcbs]
      exact headAlarms_poison c cfg [plainT (fun _ => Cb.same)] _ k e suf hcb he hlen hfrontT hpo
    · rw [hout, ← List.append_assoc]; exact hpre
  · intro herr
    have hout' : outCbs (proxyCallbacks c cfg kv) = [fun x => (poisonCallback c cfg x).1, decryptCallback c kv] := by
      rw [hcbs]; rfl
    rw [onColumnCompatT_fst, onColumnCompat_eq, hout', c01_onColumn_scan _ _ (by simp) hl, List.append_assoc,
      scan_fatal_of_prefix_skip _ pre (serBytes e k.id ++ suf) (by rw [← List.append_assoc]; exact hpre)]
    exact headStep_poison_fatal c cfg [fun _ => Cb.same] [decryptCallback c kv] k e suf hcb herr he hlen
      (by intro g hg; rw [List.mem_singleton.1 hg]; exact Or.inl rfl) hpo

/-- the same for AcraTranslator's poison scan (poison detector only) -/
theorem translator_poison (c : CryptoOps) (cfg : PoisonCfg) (k : Kind) (e pre suf : Bytes)
    (hcb : cfg.hasCallbacks = true) (he : e ≠ []) (hlen : e.length + 12 < 2^63)
    (hpo : isPoison c cfg.pk (serBytes e k.id ++ suf) = true)
    (hpre : ∀ i, i < pre.length → ∃ hit,
      headStep [fun x => (poisonCallback c cfg x).1] ((pre ++ serBytes e k.id ++ suf).drop i) = .skip hit) :
    1 ≤ (onColumnT [poisonCallback c cfg] (pre ++ serBytes e k.id ++ suf)).2 := by
  have hl := c01_containerMin_le_ser pre e suf k.id
  rw [onColumnT_snd_of_long _ _ (by simp) hl, List.append_assoc]
  refine Nat.le_trans ?_ (scanT_alarm_ge _ pre (serBytes e k.id ++ suf) ?_ (by simp [serBytes_ne_nil]))
  · exact headAlarms_poison c cfg [] [] k e suf hcb he hlen (by intro g hg; cases hg) hpo
  · rw [← List.append_assoc]; exact hpre

/-- the callback list the legacy scans of the compatibility wrapper run with when poison callbacks
are configured: wrapper, poison detector (output only), decrypt handler -/
def proxyStack (c : CryptoOps) (cfg : PoisonCfg) (kv : KeyView) : List Callback :=
  [fun _ => Cb.same, fun x => (poisonCallback c cfg x).1, decryptCallback c kv]

/-- `s` is one of the byte strings the SQL proxies' column processor can hand to the poison detector
while processing the column value `d`:
1. the rest of the value from a position where the container tag `%%%` starts;
2. the serialized container the compatibility wrapper builds around a non-empty contiguous part of `d`
   that the legacy AcraStruct scan cut out;
3. the serialized container it builds around a non-empty contiguous part of `o1` – the OUTPUT of the
   legacy AcraStruct scan, in which bare AcraStructs the client could decrypt have been replaced by
   their plaintext – that the legacy AcraBlock scan cut out. -/
def SeenByDetector (c : CryptoOps) (cfg : PoisonCfg) (kv : KeyView) (d s : Bytes) : Prop :=
  (∃ i, i < d.length ∧ startsWith containerTag (d.drop i) = true ∧ s = d.drop i) ∨
  (∃ x, x <:+: d ∧ x ≠ [] ∧ s = serBytes x idStruct) ∨
  (∃ o1 x, (if d.length < structMin then Out.ok d
      else processStructs (onBare (proxyStack c cfg kv) idStruct) d) = .ok o1 ∧
    x <:+: o1 ∧ x ≠ [] ∧ s = serBytes x idBlock)

theorem proxyOnColumn_alarm (c : CryptoOps) (cfg : PoisonCfg) (kv : KeyView) (d : Bytes)
    (h : 1 ≤ (proxyOnColumn c cfg kv d).2) :
    cfg.hasCallbacks = true ∧ ∃ s, SeenByDetector c cfg kv d s ∧ isPoison c cfg.pk s = true := by
  unfold proxyOnColumn at h
  have hcb : cfg.hasCallbacks = true := by
    rcases onColumnCompatT_alarm _ d h with ⟨_, _, _, hf⟩ | ⟨_, _, _, hf⟩ | ⟨_, _, _, _, _, hf⟩ <;>
      exact (proxyCallbacks_alarm hf).1
  have hout : (fun _ => Cb.same) :: outCbs (proxyCallbacks c cfg kv) = proxyStack c cfg kv := by
    unfold proxyCallbacks proxyStack; rw [hcb]; rfl
  refine ⟨hcb, ?_⟩
  rcases onColumnCompatT_alarm _ d h with ⟨i, hi, hst, hf⟩ | ⟨x, hx, hne, hf⟩ | ⟨o1, ho1, x, hx, hne, hf⟩
  · exact ⟨_, Or.inl ⟨i, hi, hst, rfl⟩, (proxyCallbacks_alarm hf).2⟩
  · exact ⟨_, Or.inr (Or.inl ⟨x, hx, hne, rfl⟩), (proxyCallbacks_alarm hf).2⟩
  · rw [hout] at ho1
    exact ⟨_, Or.inr (Or.inr ⟨o1, x, ho1, hx, hne, rfl⟩), (proxyCallbacks_alarm hf).2⟩

theorem translator_alarm (c : CryptoOps) (cfg : PoisonCfg) (kv : KeyView) (k : Kind) (d : Bytes)
    (h : 1 ≤ (translatorDecrypt c cfg kv k d).2) :
    cfg.hasCallbacks = true ∧ (translatorDecrypt c cfg kv k d).1 = .err ∧
    ∃ i, i < d.length ∧ startsWith containerTag (d.drop i) = true ∧ isPoison c cfg.pk (d.drop i) = true := by
  unfold translatorDecrypt at h ⊢
  cases hd : decryptWithHandler c kv k d with
  | ok m => rw [hd] at h; simp at h
  | panic => rw [hd] at h; simp at h
  | err =>
    rw [hd] at h
    simp only at h ⊢
    obtain ⟨i, hi, hst, n, cont, hx, f, hf, hfa⟩ := onColumnT_alarm _ d h
    have := extractContainer_of_containerTag (startsWith_containerTag hst) hx
    subst this
    split at hf
    · next hcb =>
      rw [List.mem_singleton.1 hf, poisonCallback_alarm] at hfa
      simp only [Bool.and_eq_true] at hfa
      exact ⟨hcb, trivial, i, hi, hst, hfa.2⟩
    · cases hf

/-- **accepted by the poison keys ⇒ genuine** (ideal authenticity of the seal): the internal envelope of
a container the poison detector reports is sealed under one of the poison keys -/
theorem isPoison_genuine (c : CryptoOps) (hs : SealLaws c) (pk : KeyView) (s : Bytes) (h : isPoison c pk s = true) :
    ∃ internal id m, deserialize s = .ok (internal, id) ∧ reveal c pk s = .ok m ∧
      ((id = idBlock ∧ ∃ ks, pk.syms = some ks ∧ ∃ key ∈ ks, ∃ dek n1 n2,
          n1.length = nonceLen ∧ n2.length = nonceLen ∧
          c.enc key [] dek n2 = some (blockEncKey internal) ∧ c.enc dek [] m n1 = some (blockEncData internal)) ∨
       (id = idStruct ∧ ∃ ps, pk.privs = some ps ∧ ∃ priv ∈ ps, ∃ symKey n2, n2.length = nonceLen ∧ symKey ≠ [] ∧
          c.unwrap priv ((internal.drop 8).take 45) ((internal.drop 53).take 84) = some symKey ∧
          c.enc symKey [] m n2 = some (internal.drop 145))) := by
  obtain ⟨m, hm⟩ := isPoison_eq_true.1 h
  obtain ⟨k, i, hd, hk⟩ := process_ok hm
  refine ⟨i, k.id, m, hd, hm, ?_⟩
  cases k with
  | block =>
    left
    obtain ⟨_, _, _, ks, hks, hdec⟩ := decryptKind_block_ok hk
    obtain ⟨_, _, _, key, hmem, dek, _, hkd, hdd⟩ := decryptBlock_ok_parts hdec
    obtain ⟨n2, hn2, e2⟩ := hs.enc_of_dec _ _ _ _ hkd
    obtain ⟨n1, hn1, e1⟩ := hs.enc_of_dec _ _ _ _ hdd
    exact ⟨rfl, ks, hks, key, hmem, dek, n1, n2, hn1, hn2, e2, e1⟩
  | struct =>
    right
    obtain ⟨ps, hps, priv, hpm, hdec⟩ := decryptKind_struct_ok hk
    obtain ⟨_, symKey, hne, hu, hdd⟩ := decryptStruct_ok_parts hdec
    obtain ⟨n2, hn2, e2⟩ := hs.enc_of_dec _ _ _ _ hdd
    exact ⟨rfl, ps, hps, priv, hpm, symKey, n2, hn2, hne, hu, e2⟩

theorem headAlarms_of_head_ne (cbs : List CallbackT) (x : UInt8) (r : Bytes) (hx : x ≠ 37) :
    headAlarms cbs (x :: r) = 0 := by
  unfold headAlarms
  simp [c01_startsWith_of_head_ne r hx]

/-- a prefix without `%` byte: no position of it is looked at, it adds no alarm -/
theorem scanT_snd_noPct (cbs : List CallbackT) (pre rest : Bytes) (h : ∀ x ∈ pre, x ≠ 37) :
    (scanT cbs (pre ++ rest)).2 = (scanT cbs rest).2 := by
  induction pre with
  | nil => rfl
  | cons b p ih =>
    have hb : b ≠ 37 := h b List.mem_cons_self
    rw [List.cons_append, scanT_snd_skip (c01_headStep_of_head_ne (outCbs cbs) b _ hb), headAlarms_of_head_ne cbs b _ hb,
      ih (fun x hx => h x (List.mem_cons_of_mem _ hx)), Nat.add_zero]

theorem scanT_snd_plain (cbs : List CallbackT) (buf : Bytes) (h : ∀ x ∈ buf, x ≠ 37) : (scanT cbs buf).2 = 0 := by
  have := scanT_snd_noPct cbs buf [] h
  rwa [List.append_nil, scanT_nil] at this

/-- exact alarm count for one container between bytes without `%`: what was raised at the container -/
theorem scanT_snd_embedded (cbs : List CallbackT) (pre C suf m : Bytes)
    (hpre : ∀ x ∈ pre, x ≠ 37) (hsuf : ∀ x ∈ suf, x ≠ 37)
    (hC : C ≠ []) (hhit : headStep (outCbs cbs) (C ++ suf) = .replace m C.length) :
    (scanT cbs (pre ++ C ++ suf)).2 = headAlarms cbs (C ++ suf) := by
  rw [List.append_assoc, scanT_snd_noPct cbs pre _ hpre]
  cases hcs : C ++ suf with
  | nil => simp [hC] at hcs
  | cons b r =>
    rw [hcs] at hhit
    rw [scanT_cons, hhit]
    simp only
    rw [← hcs, List.drop_left, scanT_snd_plain cbs suf hsuf, Nat.zero_add]

theorem startsWith_tag_mem {d : Bytes} {i : Nat} (hi : i < d.length)
    (h : startsWith containerTag (d.drop i) = true) : (37 : UInt8) ∈ d := by
  have h3 := startsWith_containerTag h
  rw [List.drop_eq_getElem_cons hi] at h3
  have ht : containerTag = [37, 37, 37] := by decide
  rw [ht] at h3
  simp only [List.take_succ_cons, List.cons.injEq] at h3
  rw [← h3.1]
  exact List.getElem_mem hi

/-- the legacy AcraStruct scan leaves a buffer without `"` alone and never calls the handler -/
theorem processStructs_noTag (proc : Bytes → Out Bytes) (d : Bytes) (h : ∀ x ∈ d, x ≠ 34) :
    processStructs proc d = .ok d := by
  induction d with
  | nil => exact processStructs.eq_1 proc
  | cons b r ih =>
    have hb : b ≠ 34 := h b List.mem_cons_self
    have ht : structTag = [34,34,34,34,34,34,34,34] := by decide
    have hs : (!startsWith structTag (b :: r)) = true := by
      unfold startsWith
      rw [ht]
      simp [hb]
    rw [processStructs.eq_2, if_pos hs, ih (fun x hx => h x (List.mem_cons_of_mem _ hx))]
    rfl

/-- a serialized container around `x` that some key view opens: `x` begins with the four `"` of the
AcraBlock tag (an AcraStruct begins with eight) -/
theorem serBytes_opened_tag (c : CryptoOps) (pk : KeyView) (x : Bytes) (k : Kind) (m : Bytes)
    (hx : x ≠ []) (hlen : x.length + 12 < 2^64) (h : process c pk (serBytes x k.id) = .ok m) :
    x.take 4 = blockTag := by
  obtain ⟨k', i, hd, hk⟩ := process_ok h
  have hds := c01_deserialize_ser (id := k.id) (k := k) [] hx (c01_kindOfId_id k) hlen
  rw [List.append_nil] at hds
  rw [hds] at hd
  simp only [Out.ok.injEq, Prod.mk.injEq] at hd
  obtain ⟨rfl, _⟩ := hd
  cases k' with
  | block =>
    obtain ⟨hh, _⟩ := decryptKind_block_ok hk
    exact ((blockHeaderOk_iff x).1 hh).1
  | struct =>
    obtain ⟨ps, _, priv, _, hdec⟩ := decryptKind_struct_ok hk
    have h8 := (validateStruct_ok (decryptStruct_ok_parts hdec).1).2.1
    have : x.take 4 = (x.take 8).take 4 := by rw [List.take_take]; rfl
    rw [this, h8]
    decide

theorem mem_of_take4_blockTag {x : Bytes} (h : x.take 4 = blockTag) : (34 : UInt8) ∈ x := by
  have ht : blockTag = [34, 34, 34, 34] := by decide
  rw [ht] at h
  cases x with
  | nil => simp at h
  | cons a r =>
    simp only [List.take_succ_cons, List.cons.injEq] at h
    rw [h.1]
    exact List.mem_cons_self

/-- **ordinary data never raises the alarm**: a column value without `%` and without `"` bytes is
seen by no callback at all (no crypto assumption, any keys, any configuration) -/
theorem proxyOnColumn_plain (c : CryptoOps) (cfg : PoisonCfg) (kv : KeyView) (d : Bytes) (hl : d.length + 12 < 2^64)
    (h37 : ∀ x ∈ d, x ≠ 37) (h34 : ∀ x ∈ d, x ≠ 34) : (proxyOnColumn c cfg kv d).2 = 0 :=
  Nat.eq_zero_of_not_pos fun h0 => by
    obtain ⟨_, s, hseen, hpo⟩ := proxyOnColumn_alarm c cfg kv d h0
    obtain ⟨m, hm⟩ := isPoison_eq_true.1 hpo
    rcases hseen with ⟨i, hi, hst, _⟩ | ⟨x, hx, hne, rfl⟩ | ⟨o1, x, ho1, hx, hne, rfl⟩
    · exact h37 37 (startsWith_tag_mem hi hst) rfl
    · have hxl := hx.length_le
      have := hx.subset (mem_of_take4_blockTag (serBytes_opened_tag c cfg.pk x .struct m hne (by omega) hm))
      exact h34 34 this rfl
    · have ho : o1 = d := by
        split at ho1
        · cases ho1; rfl
        · rw [processStructs_noTag _ d h34] at ho1; cases ho1; rfl
      subst ho
      have hxl := hx.length_le
      have := hx.subset (mem_of_take4_blockTag (serBytes_opened_tag c cfg.pk x .block m hne (by omega) hm))
      exact h34 34 this rfl

/-- **an ordinary protected value of a client never raises the alarm**: a serialized container that the
reader's keys open to `m` and the poison keys do not open, between bytes without `%`: the client
receives `before ++ m ++ after`, alarm count 0 – with or without configured callbacks -/
theorem proxyOnColumn_client_value (c : CryptoOps) (cfg : PoisonCfg) (kv : KeyView) (k : Kind) (e pre suf m : Bytes)
    (he : e ≠ []) (hlen : e.length + 12 < 2^63)
    (hproc : process c kv (serBytes e k.id ++ suf) = .ok m) (hne : m ≠ serBytes e k.id ++ suf)
    (hnp : isPoison c cfg.pk (serBytes e k.id ++ suf) = false)
    (hpre : ∀ x ∈ pre, x ≠ 37) (hsuf : ∀ x ∈ suf, x ≠ 37) :
    proxyOnColumn c cfg kv (pre ++ serBytes e k.id ++ suf) = (.ok (pre ++ m ++ suf) true, 0) := by
  have hdec : decryptCallback c kv (serBytes e k.id ++ suf) = .replaced m := by
    unfold decryptCallback; rw [hproc]; simp [hne]
  have hpc : poisonCallback c cfg (serBytes e k.id ++ suf) = (.same, false) := by
    unfold poisonCallback; rw [hnp]; simp
  have hrunT : runCallbacksT (serBytes e k.id ++ suf) (plainT (fun _ => Cb.same) :: proxyCallbacks c cfg kv) =
      (.replace m, 0) := by
    unfold proxyCallbacks
    cases cfg.hasCallbacks <;> simp [runCallbacksT, plainT, hdec, hpc]
  have hrun : runCallbacks (serBytes e k.id ++ suf) ((fun _ => Cb.same) :: outCbs (proxyCallbacks c cfg kv)) = .replace m := by
    have := runCallbacksT_fst (serBytes e k.id ++ suf) (plainT (fun _ => Cb.same) :: proxyCallbacks c cfg kv)
    rw [hrunT] at this
    exact this.symm
  have hl := c01_containerMin_le_ser pre e suf k.id
  have hstep := c01_headStep_of_procAt (c01_procAt_ser _ k e suf m he hlen hrun)
  have hT : onColumnT (plainT (fun _ => Cb.same) :: proxyCallbacks c cfg kv) (pre ++ serBytes e k.id ++ suf) =
      (.ok (pre ++ m ++ suf) true, 0) := by
    have hfst := onColumnT_fst (plainT (fun _ => Cb.same) :: proxyCallbacks c cfg kv) (pre ++ serBytes e k.id ++ suf)
    rw [outCbs_cons, outCb_plainT] at hfst
    have hcol : onColumn ((fun _ => Cb.same) :: outCbs (proxyCallbacks c cfg kv)) (pre ++ serBytes e k.id ++ suf) =
        .ok (pre ++ m ++ suf) true := by
      have hskip := c01_skip_of_no_tag_byte ((fun _ => Cb.same) :: outCbs (proxyCallbacks c cfg kv)) pre
        (serBytes e k.id ++ suf) hpre
      rw [← List.append_assoc] at hskip
      have hs' := c01_skip_of_no_tag_byte ((fun _ => Cb.same) :: outCbs (proxyCallbacks c cfg kv)) suf [] hsuf
      simp only [List.append_nil] at hs'
      obtain ⟨hit', hsc'⟩ := c01_scan_plain _ suf hs'
      rw [c01_onColumn_scan _ _ (by simp) hl, c01_scan_embedded _ pre (serBytes e k.id) suf m hskip (serBytes_ne_nil e k.id) hstep,
        hsc']
      simp [ScanOut.prepend]
    have hsnd : (onColumnT (plainT (fun _ => Cb.same) :: proxyCallbacks c cfg kv) (pre ++ serBytes e k.id ++ suf)).2 = 0 := by
      rw [onColumnT_snd_of_long _ _ (by simp) hl,
        scanT_snd_embedded _ pre (serBytes e k.id) suf m hpre hsuf (serBytes_ne_nil e k.id)
          (by rw [outCbs_cons, outCb_plainT]; exact hstep)]
      unfold headAlarms
      rw [c01_startsWith_ser, c01_extractContainer_ser suf he (c01_kindOfId_id k) hlen]
      simp only [Bool.not_true, Bool.false_eq_true, if_false]
      rw [hrunT]
    rw [hcol] at hfst
    exact Prod.ext hfst hsnd
  unfold proxyOnColumn onColumnCompatT
  simp only [hT]
  simp

/-- the wrapper's `OnAcraStruct`/`OnAcraBlock` with the proxy's callback stack returns a bare envelope
unchanged when neither the poison keys nor the client's keys open its serialized form -/
theorem onBare_stack_same (c : CryptoOps) (cfg : PoisonCfg) (kv : KeyView) (id : UInt8) (bare : Bytes) (hb : bare ≠ [])
    (hnp : isPoison c cfg.pk (serBytes bare id) = false) (hnd : ∀ m, process c kv (serBytes bare id) ≠ .ok m) :
    onBare (proxyStack c cfg kv) id bare = .ok bare := by
  have hd : decryptCallback c kv (serBytes bare id) = .same := by
    unfold decryptCallback
    split
    · next d hd => exact absurd hd (hnd d)
    · rfl
  have hp : (poisonCallback c cfg (serBytes bare id)).1 = .same := by
    rw [poisonCallback_out, hnp]; simp
  unfold onBare proxyStack
  rw [c01_serialize_eq id hb]
  simp only [Out.bind_ok, onCryptoEnvelope, hd, hp]
  simp

/-- **data that neither the poison keys nor the client's keys open never raises the alarm** -/
theorem proxyOnColumn_unreadable (c : CryptoOps) (cfg : PoisonCfg) (kv : KeyView) (d : Bytes)
    (h1 : ∀ i, i < d.length → startsWith containerTag (d.drop i) = true → isPoison c cfg.pk (d.drop i) = false)
    (h2 : ∀ x id, x <:+: d → x ≠ [] → isPoison c cfg.pk (serBytes x id) = false)
    (h3 : ∀ x, x <:+: d → x ≠ [] → ∀ m, process c kv (serBytes x idStruct) ≠ .ok m) :
    (proxyOnColumn c cfg kv d).2 = 0 :=
  Nat.eq_zero_of_not_pos fun h0 => by
    obtain ⟨_, s, hseen, hpo⟩ := proxyOnColumn_alarm c cfg kv d h0
    rcases hseen with ⟨i, hi, hst, rfl⟩ | ⟨x, hx, hne, rfl⟩ | ⟨o1, x, ho1, hx, hne, rfl⟩
    · rw [h1 i hi hst] at hpo; cases hpo
    · rw [h2 x _ hx hne] at hpo; cases hpo
    · have ho : o1 = d := by
        split at ho1
        · cases ho1; rfl
        · rw [processStructs_same _ d (fun x hx hne =>
            onBare_stack_same c cfg kv idStruct x hne (h2 x _ hx hne) (h3 x hx hne))] at ho1
          cases ho1; rfl
      subst ho
      rw [h2 x _ hx hne] at hpo; cases hpo

theorem createPoison_block_eq (c : CryptoOps) (pk : KeyView) (key : Bytes) (n : Nat) (rnd b : Bytes)
    (hk : pk.sym = some key) (hb : createBlock c key [] (rnd.take n) (rnd.drop n) = .ok b) :
    createPoison c pk .block n rnd = serialize b idBlock := by
  unfold createPoison
  simp only [hk, hb]
  rfl

theorem createPoison_struct_eq (c : CryptoOps) (pk : KeyView) (pub : Bytes) (n : Nat) (rnd b : Bytes)
    (hk : pk.pub = some pub) (hb : createStruct c pub [] (rnd.take n) (rnd.drop n) = .ok b) :
    createPoison c pk .struct n rnd = serialize b idStruct := by
  unfold createPoison
  simp only [hk, hb]
  rfl

/-- a client without keys decrypts nothing through `DecryptWithHandler` -/
theorem decryptWithHandler_no_keys (c : CryptoOps) (kv : KeyView) (hp : kv.privs = none) (hs : kv.syms = none)
    (k : Kind) (d m : Bytes) : decryptWithHandler c kv k d ≠ .ok m := by
  intro h
  unfold decryptWithHandler at h
  obtain ⟨⟨i, id⟩, _, h⟩ := Out.bind_eq_ok h
  simp only at h
  split at h
  · cases h
  · cases k with
    | block =>
      obtain ⟨_, _, _, ks, hks, _⟩ := decryptKind_block_ok h
      rw [hs] at hks; cases hks
    | struct =>
      obtain ⟨ps, hps, _⟩ := decryptKind_struct_ok h
      rw [hp] at hps; cases hps

end AcraModel.Envelope
