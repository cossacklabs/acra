import AcraModel.Envelope.MaskWindowLemmas
/-!
Lemmas about masking (C11): no panic / no fatal error of the masked read and write, a container
between bytes without `%`, the round trip of what `protect` produced, and who is a non-owner.
-/
namespace AcraModel.Envelope
open AcraModel Generated

theorem maskWrite_ne_panic (c : CryptoOps) (kv : KeyView) (cfg : MaskCfg) (v rnd : Bytes) :
    maskWrite c kv cfg v rnd ≠ .panic := by
  by_cases hp : cfg.pattern = []
  · unfold maskWrite; rw [if_pos hp]; exact fun h => nomatch h
  · rw [maskWrite_eq c kv cfg v rnd hp]
    exact Out.bind_ne_panic (protect_ne_panic c kv cfg.kind (hiddenPart cfg v) rnd) fun _ _ => nofun

theorem maskRead_ne_panic (c : CryptoOps) (kv : KeyView) (cfg : MaskCfg) (d : Bytes) (hl : d.length < 2^63) :
    maskRead c kv cfg d ≠ .panic := by
  unfold maskRead
  split <;> exact onColumnCompat_ne_panic _ d hl

theorem ite_cb_ne_fatal (b : Bool) (s : Bytes) : (if b = true then Cb.same else Cb.replaced s) ≠ .fatal := by
  cases b <;> exact fun h => nomatch h

/-- the masking callback never answers with a fatal error -/
theorem maskCallback_ne_fatal (c : CryptoOps) (kv : KeyView) (pat x : Bytes) : maskCallback c kv pat x ≠ .fatal := by
  unfold maskCallback
  exact ite_cb_ne_fatal _ _

theorem maskRead_ne_fatal (c : CryptoOps) (kv : KeyView) (cfg : MaskCfg) (d : Bytes) :
    maskRead c kv cfg d ≠ .fatal := by
  unfold maskRead
  split
  · exact onColumnCompat_ne_fatal _ (List.forall_mem_singleton.2 (decryptCallback_ne_fatal c kv)) d
  · exact onColumnCompat_ne_fatal _ (List.forall_mem_singleton.2 (maskCallback_ne_fatal c kv _)) d

/-- a serialized container between bytes that contain no `%` (`onColumnCompat_container_win`: such bytes
are passed over) -/
theorem onColumnCompat_container' (cbs : List Callback) (k : Kind) (e pre suf m : Bytes)
    (he : e ≠ []) (hlen : e.length + 12 < 2^63)
    (hrun : runCallbacks (serBytes e k.id ++ suf) ((fun _ => Cb.same) :: cbs) = .replace m)
    (hpre : ∀ x ∈ pre, x ≠ 37) (hsuf : ∀ x ∈ suf, x ≠ 37) :
    onColumnCompat cbs (pre ++ serBytes e k.id ++ suf) = .ok (pre ++ m ++ suf) true :=
  onColumnCompat_container_win cbs k e pre suf m he hlen hrun (windowOk_of_noPct _ _ hpre) (windowOk_of_noPct _ _ hsuf)

/-- under the round-trip hypotheses of C01 the value `protect` produced for an unprotected `m` is a
serialized container that the reader's registry handler opens to `m`, whatever bytes follow it -/
theorem protect_roundtrip_facts (c : CryptoOps) (k : Kind) (kvW kvR : KeyView) (m rnd p : Bytes)
    (h : RoundTripHyps c k kvW kvR m rnd p)
    (hnm : matchKind k m = false) (hnr : registryMatch m = false)
    (hp : protect c kvW k m rnd = .ok p) :
    ∃ e, p = serBytes e k.id ∧ e ≠ [] ∧ e.length + 12 < 2^63 ∧ ∀ suf, process c kvR (p ++ suf) = .ok m := by
  obtain ⟨e, rfl, he, hlen, hmatch, hdec⟩ := protect_facts c k kvW kvR m rnd p h hnm hnr hp
  exact ⟨e, rfl, he, hlen, fun suf => by rw [c01_process_ser c kvR k e suf he (by omega) hmatch, hdec]⟩

/-- the wrapped data key of a freshly built AcraBlock sits where `AcraBlock.Decrypt` looks for it -/
theorem blockEncKey_build (kid ek ed : Bytes) (hkid : kid.length = 2) (hek : ek.length < 65536) :
    blockEncKey (buildBlock kid ek ed) = ek := by
  obtain ⟨_, _, _, _, _, f6, f7, _, _, _⟩ := c01_block_fields blockTag
    (leBytes 8 (blockMin - Layout.blockTagBeginSize + ek.length + ed.length)) kid (leBytes 2 ek.length) ek ed []
    (UInt8.ofNat Layout.blockKeyEncryptionBackendTypeSecureCell) (UInt8.ofNat Layout.blockDataEncryptionBackendTypeSecureCell)
    c01_blockTag_length (by simp) hkid (by simp)
  simp only [List.append_nil] at f6 f7
  have h6 := (goSlice_eq_ok f6).2.2
  have h7 := (goSlice_eq_ok f7).2.2
  have hkl : blockKeyLen (buildBlock kid ek ed) = ek.length := by
    unfold blockKeyLen buildBlock
    rw [← h6]
    exact c01_leVal_leBytes2 hek
  unfold blockEncKey
  rw [hkl]
  unfold buildBlock
  exact h7.symm

/-- **Key commitment keeps strangers out** (`SealLaws` + `SealCommit`; no length law): a serialized
container around an AcraBlock created under `key` is not opened by any key view whose list of
symmetric keys does not contain `key`, whatever bytes follow the container. -/
theorem createBlock_not_opened (c : CryptoOps) (hs : SealLaws c) (hcm : SealCommit c) (pk : KeyView)
    (key m rnd e suf : Bytes)
    (hkid : (keyId c key []).length = 2)
    (hEncKey : ∀ encKey, c.enc key [] (rnd.take 32) ((rnd.drop 44).take 12) = some encKey → encKey.length < 65536)
    (hlen : e.length + 12 < 2^64)
    (hc : createBlock c key [] m rnd = .ok e)
    (hdisj : ∀ ks, pk.syms = some ks → key ∉ ks) :
    ∀ m', process c pk (serBytes e idBlock ++ suf) ≠ .ok m' := by
  intro m' h
  obtain ⟨encData, encKey, _, h2, rfl⟩ := c01_createBlock_ok hc
  have hne : buildBlock (keyId c key []) encKey encData ≠ [] := by
    intro h0
    have := congrArg List.length h0
    rw [c01_buildBlock_length _ _ _ hkid] at this
    simp at this
  obtain ⟨k, i, hd, hk⟩ := process_ok h
  have hds := c01_deserialize_ser (id := idBlock) (k := .block) suf hne (by decide) hlen
  rw [hds] at hd
  simp only [Out.ok.injEq, Prod.mk.injEq] at hd
  obtain ⟨rfl, hid⟩ := hd
  cases k with
  | struct => exact absurd hid (by decide)
  | block =>
    obtain ⟨_, _, _, ks, hks, hdec⟩ := decryptKind_block_ok hk
    obtain ⟨_, _, _, key', hmem, dek, _, hkd, _⟩ := decryptBlock_ok_parts hdec
    rw [blockEncKey_build _ _ _ hkid (hEncKey _ h2)] at hkd
    obtain ⟨n, _, hn⟩ := hs.enc_of_dec _ _ _ _ hkd
    obtain ⟨hkk, _, _⟩ := hcm.enc_inj _ _ _ _ _ _ _ _ _ hn h2
    subst hkk
    exact hdisj ks hks hmem

/-- the same for what `protect` produced with the AcraBlock handler -/
theorem protect_block_not_opened (c : CryptoOps) (hs : SealLaws c) (hcm : SealCommit c) (kvW pk : KeyView)
    (key m rnd p suf : Bytes)
    (hW : kvW.sym = some key) (hkid : (keyId c key []).length = 2)
    (hEncKey : ∀ encKey, c.enc key [] (rnd.take 32) ((rnd.drop 44).take 12) = some encKey → encKey.length < 65536)
    (hplen : p.length < 2^64)
    (hnm : matchKind .block m = false) (hnr : registryMatch m = false)
    (hp : protect c kvW .block m rnd = .ok p)
    (hdisj : ∀ ks, pk.syms = some ks → key ∉ ks) :
    ∀ m', process c pk (p ++ suf) ≠ .ok m' := by
  obtain ⟨e, he, _, rfl⟩ := c01_protect_ok hp hnm hnr
  obtain ⟨key', hk', hcb⟩ := c01_encryptKind_block he hnm
  have hkk : key = key' := Option.some.inj (hW.symm.trans hk')
  subst hkk
  rw [c01_serBytes_length] at hplen
  exact createBlock_not_opened c hs hcm pk key m rnd e suf hkid hEncKey (by omega) hcb hdisj

/-- a key view without private and without symmetric keys decrypts nothing -/
theorem process_no_keys (c : CryptoOps) (kv : KeyView) (hp : kv.privs = none) (hs : kv.syms = none)
    (d m : Bytes) : process c kv d ≠ .ok m := by
  intro h
  obtain ⟨k, i, _, hk⟩ := process_ok h
  cases k with
  | block =>
    obtain ⟨_, _, _, ks, hks, _⟩ := decryptKind_block_ok hk
    rw [hs] at hks; cases hks
  | struct =>
    obtain ⟨ps, hps, _⟩ := decryptKind_struct_ok hk
    rw [hp] at hps; cases hps

/-- a reader whose key store has no keys at all is a non-owner – no assumption about the crypto -/
theorem nonOwner_of_no_keys (c : CryptoOps) (kvW kvR : KeyView) (cfg : MaskCfg) (v rnd p : Bytes)
    (hnm : matchKind cfg.kind (hiddenPart cfg v) = false) (hnr : registryMatch (hiddenPart cfg v) = false)
    (hp : protect c kvW cfg.kind (hiddenPart cfg v) rnd = .ok p) (hplen : p.length < 2^63)
    (hpc : cfg.pattern.length ≤ 12 ∨ cfg.pattern ≠ p ++ afterContainer cfg (windowPart cfg v))
    (hR : kvR.privs = none ∧ kvR.syms = none) : NonOwnerHyps c kvW kvR cfg v rnd p :=
  ⟨hnm, hnr, hp, hplen, fun m => process_no_keys c kvR hR.1 hR.2 _ m, hpc⟩

/-- under key commitment (`SealLaws` + `SealCommit`) a reader whose symmetric keys do not include the
writer's key is a non-owner of an AcraBlock-masked value -/
theorem nonOwner_of_commit (c : CryptoOps) (hs : SealLaws c) (hcm : SealCommit c) (kvW kvR : KeyView) (cfg : MaskCfg)
    (v rnd p key : Bytes) (hkind : cfg.kind = .block)
    (hW : kvW.sym = some key) (hkid : (keyId c key []).length = 2)
    (hEncKey : ∀ encKey, c.enc key [] (rnd.take 32) ((rnd.drop 44).take 12) = some encKey → encKey.length < 65536)
    (hnm : matchKind cfg.kind (hiddenPart cfg v) = false) (hnr : registryMatch (hiddenPart cfg v) = false)
    (hp : protect c kvW cfg.kind (hiddenPart cfg v) rnd = .ok p) (hplen : p.length < 2^63)
    (hpc : cfg.pattern.length ≤ 12 ∨ cfg.pattern ≠ p ++ afterContainer cfg (windowPart cfg v))
    (hdisj : ∀ ks, kvR.syms = some ks → key ∉ ks) : NonOwnerHyps c kvW kvR cfg v rnd p := by
  refine ⟨hnm, hnr, hp, hplen, ?_, hpc⟩
  rw [hkind] at hnm hp
  exact protect_block_not_opened c hs hcm kvW kvR key _ rnd p _ hW hkid hEncKey (by omega) hnm hnr hp hdisj

end AcraModel.Envelope
