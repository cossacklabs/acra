import AcraModel.Envelope.Detector
import AcraModel.Envelope.ProtectLemmas
/-!
Lemmas about the transparent column processor `scan` / `onColumn` (C01): one step of the loop as a
function of the bytes at the current position (`headStep`), and the induction over a prefix in which
no position is processed.
-/
namespace AcraModel.Envelope
open AcraModel Generated

/-- what one iteration of the `OnColumn` loop does with the bytes `rest = inBuffer[inIndex:]` -/
inductive HeadOut where
  /-- copy one byte, advance by one; `hit` = a serialized container was recognised here but no
  callback changed it -/
  | skip (hit : Bool)
  /-- emit `p`, advance by `n` bytes -/
  | replace (p : Bytes) (n : Nat)
  /-- a callback returned a non-decryption error -/
  | fatal
  | panic
deriving DecidableEq, Repr

/-- the decision `scan` takes at the head of a non-empty `rest` -/
def headStep (cbs : List Callback) (rest : Bytes) : HeadOut :=
  if !startsWith containerTag rest then .skip false else
  match extractContainer rest with
  | .panic => .panic
  | .err => .skip false
  | .ok (n, container) =>
    match runCallbacks container cbs with
    | .fatal => .fatal
    | .skip => .skip true
    | .replace p => if 0 < n ∧ n ≤ rest.length then .replace p n.toNat else .panic

/-- "the loop processes (replaces) the container at the head of `rest`": the condition named in the
C01 statement – `rest` starts with the container tag, `ExtractSerializedContainer` succeeds with a
sane length and the callbacks replace the container by `p` -/
def procAt (cbs : List Callback) (rest : Bytes) (p : Bytes) (n : Nat) : Prop :=
  startsWith containerTag rest = true ∧
  ∃ (len : Int) (container : Bytes), extractContainer rest = .ok (len, container) ∧
    runCallbacks container cbs = .replace p ∧ 0 < len ∧ len ≤ rest.length ∧ len.toNat = n

theorem c01_headStep_of_procAt {cbs : List Callback} {rest p : Bytes} {n : Nat} (h : procAt cbs rest p n) :
    headStep cbs rest = .replace p n := by
  obtain ⟨h1, len, container, h2, h3, h4, h5, h6⟩ := h
  unfold headStep
  simp only [h1, Bool.not_true, Bool.false_eq_true, if_false, h2, h3]
  rw [if_pos ⟨h4, h5⟩, h6]

/-- positions that do not start with `%%%` are skipped -/
theorem c01_headStep_of_not_tag {cbs : List Callback} {rest : Bytes} (h : startsWith containerTag rest = false) :
    headStep cbs rest = .skip false := by
  unfold headStep
  simp [h]

theorem c01_scan_nil (cbs : List Callback) : scan cbs [] = .ok [] false := by
  rw [scan]

theorem c01_scan_cons (cbs : List Callback) (b : UInt8) (r : Bytes) :
    scan cbs (b :: r) =
      match headStep cbs (b :: r) with
      | .skip h => (scan cbs r).prepend [b] h
      | .replace p n => (scan cbs ((b :: r).drop n)).prepend p true
      | .fatal => .fatal
      | .panic => .panic := by
  rw [scan]
  unfold headStep
  by_cases ht : startsWith containerTag (b :: r) = true
  · simp only [ht, Bool.not_true, Bool.false_eq_true, if_false]
    cases hx : extractContainer (b :: r) with
    | panic => rfl
    | err => rfl
    | ok v =>
      obtain ⟨n, container⟩ := v
      simp only
      cases hc : runCallbacks container cbs with
      | fatal => rfl
      | skip => rfl
      | replace p =>
        simp only
        by_cases hn : 0 < n ∧ n ≤ ((b :: r).length : Int)
        · rw [dif_pos hn, if_pos hn]
        · rw [dif_neg hn, if_neg hn]
  · have ht' : startsWith containerTag (b :: r) = false := by simpa using ht
    simp only [ht', Bool.not_false, if_true]

theorem c01_scan_skip {cbs : List Callback} {b : UInt8} {r : Bytes} {h : Bool}
    (hs : headStep cbs (b :: r) = .skip h) : scan cbs (b :: r) = (scan cbs r).prepend [b] h := by
  rw [c01_scan_cons, hs]

theorem c01_scan_replace {cbs : List Callback} {rest p : Bytes} {n : Nat} (hne : rest ≠ [])
    (hs : headStep cbs rest = .replace p n) : scan cbs rest = (scan cbs (rest.drop n)).prepend p true := by
  cases rest with
  | nil => exact absurd rfl hne
  | cons b r => rw [c01_scan_cons, hs]

theorem c01_prepend_prepend (x : ScanOut) (a b : Bytes) (h1 h2 : Bool) :
    (x.prepend a h1).prepend b h2 = x.prepend (b ++ a) (h1 || h2) := by
  cases x <;> simp [ScanOut.prepend, Bool.or_assoc]

/-- the output bytes of a scan result (`none` for fatal / panic) -/
def ScanOut.bytes? : ScanOut → Option Bytes
  | .ok b _ => some b
  | _ => none

/-- A prefix in which every position is skipped (not processed, not fatal, no panic) is copied, and the
scan goes on behind it; the hit flag is raised only where a container was recognised. -/
theorem scan_skip_prefix (cbs : List Callback) (pre rest : Bytes)
    (hpre : ∀ i, i < pre.length → ∃ h, headStep cbs ((pre ++ rest).drop i) = .skip h) :
    ∃ hit, scan cbs (pre ++ rest) = (scan cbs rest).prepend pre hit ∧
      ((∀ i, i < pre.length → headStep cbs ((pre ++ rest).drop i) = .skip false) → hit = false) := by
  induction pre with
  | nil => exact ⟨false, by rw [List.nil_append]; cases scan cbs rest <;> simp [ScanOut.prepend], fun _ => rfl⟩
  | cons b p ih =>
    obtain ⟨h, h0⟩ := hpre 0 (Nat.succ_pos _)
    obtain ⟨hit, ih, hf⟩ := ih fun i hi => hpre (i + 1) (Nat.succ_lt_succ hi)
    refine ⟨hit || h, ?_, fun hall => ?_⟩
    · rw [List.drop_zero, List.cons_append] at h0
      rw [List.cons_append, c01_scan_skip h0, ih, c01_prepend_prepend]; rfl
    · have hh : h = false := HeadOut.skip.inj (h0.symm.trans (hall 0 (Nat.succ_pos _)))
      rw [hh, hf fun i hi => hall (i + 1) (Nat.succ_lt_succ hi)]; rfl

theorem c01_scan_skip_prefix (cbs : List Callback) (pre rest : Bytes)
    (hpre : ∀ i, i < pre.length → ∃ h, headStep cbs ((pre ++ rest).drop i) = .skip h) :
    ∃ hit, scan cbs (pre ++ rest) = (scan cbs rest).prepend pre hit :=
  (scan_skip_prefix cbs pre rest hpre).imp fun _ => And.left

/-- Embedded envelope: if every position inside `pre` is skipped and the loop replaces `C` at the head of
`C ++ suf` by `m`, consuming exactly `C`, then scanning `pre ++ C ++ suf` yields `pre ++ m` followed by
whatever scanning `suf` yields; the hit flag is set. -/
theorem c01_scan_embedded (cbs : List Callback) (pre C suf m : Bytes)
    (hpre : ∀ i, i < pre.length → ∃ h, headStep cbs ((pre ++ C ++ suf).drop i) = .skip h)
    (hC : C ≠ []) (hhit : headStep cbs (C ++ suf) = .replace m C.length) :
    scan cbs (pre ++ C ++ suf) = (scan cbs suf).prepend (pre ++ m) true := by
  rw [List.append_assoc] at hpre ⊢
  obtain ⟨hit, h⟩ := c01_scan_skip_prefix cbs pre (C ++ suf) hpre
  rw [h, c01_scan_replace (by simp [hC]) hhit, List.drop_left, c01_prepend_prepend, Bool.true_or]

/-- Plain data: if every position of the buffer is skipped, the buffer comes back unchanged. -/
theorem c01_scan_plain (cbs : List Callback) (buf : Bytes)
    (h : ∀ i, i < buf.length → ∃ hit, headStep cbs (buf.drop i) = .skip hit) :
    ∃ hit, scan cbs buf = .ok buf hit := by
  have hs := c01_scan_skip_prefix cbs buf []
  rw [List.append_nil, c01_scan_nil] at hs
  obtain ⟨hit, hs⟩ := hs h
  exact ⟨false || hit, by rw [hs, ScanOut.prepend, List.append_nil]⟩

theorem c01_startsWith_ser (e suf : Bytes) (id : UInt8) : startsWith containerTag (serBytes e id ++ suf) = true := by
  unfold startsWith serBytes
  simp [List.append_assoc]

theorem c01_runCallbacks_cons_same {cb : Callback} {container : Bytes} (rest : List Callback)
    (h : cb container = .same ∨ cb container = .decErr) :
    runCallbacks container (cb :: rest) = runCallbacks container rest := by
  rcases h with h | h <;> simp [runCallbacks, h]

/-- the decrypt callback replaces a container it can process (unless the result equals its input) -/
theorem c01_runCallbacks_decrypt {c : CryptoOps} {kv : KeyView} {container m : Bytes} (rest : List Callback)
    (hproc : process c kv container = .ok m) (hne : m ≠ container) :
    runCallbacks container (decryptCallback c kv :: rest) = .replace m := by
  have : decryptCallback c kv container = .replaced m := by
    unfold decryptCallback
    rw [hproc]
    simp [hne]
  simp [runCallbacks, this]

/-- callbacks that leave the container alone are passed over -/
theorem c01_runCallbacks_append_same {container : Bytes} (front rest : List Callback)
    (hfront : ∀ cb ∈ front, cb container = .same ∨ cb container = .decErr) :
    runCallbacks container (front ++ rest) = runCallbacks container rest := by
  induction front with
  | nil => rfl
  | cons cb f ih =>
    rw [List.cons_append, c01_runCallbacks_cons_same _ (hfront cb List.mem_cons_self)]
    exact ih (fun cb' h' => hfront cb' (List.mem_cons_of_mem _ h'))

theorem c01_runCallbacks_front {c : CryptoOps} {kv : KeyView} {container m : Bytes} (front rest : List Callback)
    (hfront : ∀ cb ∈ front, cb container = .same ∨ cb container = .decErr)
    (hproc : process c kv container = .ok m) (hne : m ≠ container) :
    runCallbacks container (front ++ decryptCallback c kv :: rest) = .replace m := by
  rw [c01_runCallbacks_append_same front _ hfront]
  exact c01_runCallbacks_decrypt rest hproc hne

/-- a serialized container whose envelope the registry can open is processed at the head of
`container ++ suf`, consuming exactly the container -/
theorem c01_procAt_ser (cbs : List Callback) (k : Kind) (e suf m : Bytes) (he : e ≠ [])
    (hlen : e.length + 12 < 2^63)
    (hrun : runCallbacks (serBytes e k.id ++ suf) cbs = .replace m) :
    procAt cbs (serBytes e k.id ++ suf) m (serBytes e k.id).length := by
  refine ⟨c01_startsWith_ser e suf k.id, _, _, c01_extractContainer_ser suf he (c01_kindOfId_id k) hlen, hrun, ?_, ?_, ?_⟩
  · rw [c01_serBytes_length]; omega
  · rw [List.length_append]; omega
  · simp

theorem c01_startsWith_of_head_ne {x : UInt8} (r : Bytes) (hx : x ≠ 37) : startsWith containerTag (x :: r) = false := by
  have ht : containerTag = [37, 37, 37] := by decide
  unfold startsWith
  rw [ht]
  simp [hx]

/-- a position whose first byte is not `%` is skipped -/
theorem c01_headStep_of_head_ne (cbs : List Callback) (x : UInt8) (r : Bytes) (hx : x ≠ 37) :
    headStep cbs (x :: r) = .skip false :=
  c01_headStep_of_not_tag (c01_startsWith_of_head_ne r hx)

/-- the buffer at a position inside `pre` starts with the byte of `pre` at that position -/
theorem drop_append_cons (pre rest : Bytes) {i : Nat} (hi : i < pre.length) : ∃ r, (pre ++ rest).drop i = pre[i] :: r := by
  have hi' : i < (pre ++ rest).length := by rw [List.length_append]; omega
  exact ⟨_, by rw [List.drop_eq_getElem_cons hi', List.getElem_append_left hi]⟩

/-- inside a prefix without `%` bytes every position is skipped -/
theorem c01_skip_of_no_tag_byte (cbs : List Callback) (pre rest : Bytes) (h : ∀ x ∈ pre, x ≠ 37) :
    ∀ i, i < pre.length → ∃ hit, headStep cbs ((pre ++ rest).drop i) = .skip hit := by
  intro i hi
  obtain ⟨r, hr⟩ := drop_append_cons pre rest hi
  rw [hr]
  exact ⟨false, c01_headStep_of_head_ne cbs _ r (h _ (List.getElem_mem hi))⟩

theorem c01_onColumn_scan (cbs : List Callback) (buf : Bytes) (hc : cbs ≠ []) (hl : containerMin ≤ buf.length) :
    onColumn cbs buf = scan cbs buf := by
  unfold onColumn
  have : cbs.isEmpty = false := by cases cbs <;> simp_all
  rw [if_neg (by simp [this]; omega)]

end AcraModel.Envelope
