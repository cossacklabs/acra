import AcraModel.Envelope.SearchWriteLemmas
import AcraModel.Envelope.SafeCompatSame
import AcraModel.Envelope.WindowOk
/-!
Bare (old-style) envelopes on the searchable write path (C01): an AcraStruct as AcraWriter produces it
and a raw AcraBlock are recognised by the registry handler through `matchOldContainer`, are opened by
`RegistryHandler.Process` without a container around them, and are recognised by the column matcher
`EnvelopeMatcher.Match`.
-/
namespace AcraModel.Searchable
open AcraModel AcraModel.Envelope Generated

theorem validateContainer_err_of_tag {d : Bytes} (h : d.take 3 ≠ containerTag) : validateContainer d = .err := by
  rw [validateContainer_eq]
  by_cases hl : d.length ≤ 12
  · rw [if_pos hl]
  · rw [if_neg hl, if_pos h]

theorem take3_of_take8 {d : Bytes} (h : d.take 8 = structTag) : d.take 3 ≠ containerTag := by
  have : d.take 3 = (d.take 8).take 3 := by rw [List.take_take]; rfl
  rw [this, h]
  decide

theorem take3_of_take4 {d : Bytes} (h : d.take 4 = blockTag) : d.take 3 ≠ containerTag := by
  have : d.take 3 = (d.take 4).take 3 := by rw [List.take_take]; rfl
  rw [this, h]
  decide

/-- `getEnvelopeIDFromData` / `DeserializeEncryptedData` on a bare AcraStruct: the old form matches, the
whole value is the envelope -/
theorem deserialize_bare_struct {e : Bytes} (hv : validateStruct e = .ok ()) :
    getEnvelopeID e = .ok (idStruct, true) ∧ deserialize e = .ok (e, idStruct) := by
  obtain ⟨h145, h8, _⟩ := validateStruct_ok hv
  have hvc := validateContainer_err_of_tag (take3_of_take8 h8)
  have hmo : ∃ n, matchOld e = .ok (idStruct, n) := by
    unfold matchOld
    rw [hv]
    simp only
    rw [getDataLength_eq e h145]
    exact ⟨_, rfl⟩
  obtain ⟨n, hn⟩ := hmo
  have hg : getEnvelopeID e = .ok (idStruct, true) := by
    unfold getEnvelopeID
    rw [hvc, hn]
  refine ⟨hg, ?_⟩
  unfold deserialize
  rw [hg]
  rfl

/-- a value the old form of which is recognised as an envelope of kind `k` is recognised by the registry handler
and opened like the handler of that kind does -/
theorem registry_of_bare (c : CryptoOps) (kv : KeyView) {e : Bytes} {k : Kind}
    (hg : getEnvelopeID e = .ok (k.id, true)) (hd : deserialize e = .ok (e, k.id)) (hmk : matchKind k e = true) :
    registryMatch e = true ∧ process c kv e = decryptKind c kv k e := by
  refine ⟨?_, ?_⟩
  · unfold registryMatch
    rw [hd]
    simp only [c01_kindOfId_id, hmk]
  · unfold process
    rw [hg]
    simp only [Out.bind_ok, c01_kindOfId_id]
    unfold decryptWithHandler
    rw [hd]
    simp only [Out.bind_ok, hmk, Bool.not_true, Bool.false_eq_true, if_false]

/-- the registry handler recognises a bare AcraStruct and opens it like the struct handler does -/
theorem bare_struct_registry (c : CryptoOps) (kv : KeyView) (e : Bytes) (hv : validateStruct e = .ok ()) :
    registryMatch e = true ∧ process c kv e = decryptKind c kv .struct e := by
  obtain ⟨hg, hd⟩ := deserialize_bare_struct hv
  exact registry_of_bare c kv (k := .struct) hg hd (by unfold matchKind; rw [hv]; rfl)

/-- the same for a raw AcraBlock (that is not at the same time a well-formed AcraStruct – an AcraBlock
whose length field spells the second half of the AcraStruct tag would have to be longer than 572 MB) -/
theorem deserialize_bare_block {e b : Bytes} {n : Nat} (hns : validateStruct e = .err)
    (hx : extractBlock e = .ok (n, b)) :
    getEnvelopeID e = .ok (idBlock, true) ∧ deserialize e = .ok (e, idBlock) := by
  obtain ⟨_, hh, _, _⟩ := extractBlock_ok hx
  have h4 := ((blockHeaderOk_iff e).1 hh).1
  have hvc := validateContainer_err_of_tag (take3_of_take4 h4)
  have hmo : matchOld e = .ok (idBlock, (n : Int)) := by
    unfold matchOld
    rw [hns, hx]
  have hg : getEnvelopeID e = .ok (idBlock, true) := by
    unfold getEnvelopeID
    rw [hvc, hmo]
  refine ⟨hg, ?_⟩
  unfold deserialize
  rw [hg]
  rfl

theorem bare_block_registry (c : CryptoOps) (kv : KeyView) (e b : Bytes) (n : Nat) (hns : validateStruct e = .err)
    (hx : extractBlock e = .ok (n, b)) :
    registryMatch e = true ∧ process c kv e = decryptKind c kv .block e := by
  obtain ⟨hg, hd⟩ := deserialize_bare_block hns hx
  exact registry_of_bare c kv (k := .block) hg hd (by unfold matchKind; rw [hx]; rfl)

theorem wrapInt64_nat {n : Nat} (h : n < 2^63) : wrapInt64 (n : Int) = (n : Int) := by
  unfold wrapInt64
  have h1 : ((n : Int) % (2:Int)^64).toNat = n := by
    have : (n : Int) % (2:Int)^64 = (n : Int) := Int.emod_eq_of_lt (by omega) (by omega)
    rw [this]; simp
  rw [h1, toInt64_of_lt h]

theorem startsWith_of_take {p d : Bytes} (h : d.take p.length = p) : startsWith p d = true := by
  unfold startsWith
  simp [h]

/-- `ProcessAcraStructs` on a buffer that is exactly one well-formed AcraStruct (with a non-empty
payload): the processor is called once, with the whole buffer -/
theorem processStructs_head (proc : Bytes → Out Bytes) (e p : Bytes) (hv : validateStruct e = .ok ())
    (hgt : structMin < e.length) (hl : e.length < 2^63) (hp : proc e = .ok p) :
    processStructs proc e = .ok p := by
  obtain ⟨h145, h8, hdl⟩ := validateStruct_ok hv
  cases e with
  | nil => simp at h145
  | cons b r =>
    have hst : startsWith structTag (b :: r) = true := startsWith_of_take (by rw [c01_structTag_length]; exact h8)
    have hlen : wrapInt64 (toInt64 (structDL (b :: r)) + (structMin : Int)) = ((b :: r).length : Int) := by
      rw [hdl, toInt64_of_lt (by omega)]
      have : (((b :: r).length - 145 : Nat) : Int) + (structMin : Int) = (((b :: r).length : Nat) : Int) := by
        rw [c01_structMin]; omega
      rw [this]
      exact wrapInt64_nat hl
    rw [processStructs.eq_2]
    simp only [hst, Bool.not_true, Bool.false_eq_true, if_false]
    rw [if_pos hgt, getDataLength_eq _ h145]
    simp only [hlen]
    rw [dif_pos ⟨by omega, by omega⟩]
    simp only [Int.toNat_natCast, List.take_length, hp, List.drop_length]
    rw [processStructs.eq_1]
    simp [Out.bind]

/-- `ProcessAcraBlocks` on a buffer that is exactly one AcraBlock -/
theorem processBlocks_head (proc : Bytes → Out Bytes) (e p : Bytes) (hx : extractBlock e = .ok (e.length, e))
    (hgt : blockMin < e.length) (hp : proc e = .ok p) : processBlocks proc e = .ok p := by
  obtain ⟨h18, hh, hn, _⟩ := extractBlock_ok hx
  have h4 := ((blockHeaderOk_iff e).1 hh).1
  have hr := ((blockHeaderOk_iff e).1 hh).2.1
  cases e with
  | nil => simp at h18
  | cons b r =>
    have hst : startsWith blockTag (b :: r) = true := startsWith_of_take (by rw [c01_blockTag_length]; exact h4)
    rw [processBlocks.eq_2]
    simp only [hst, Bool.not_true, Bool.false_eq_true, if_false]
    rw [if_pos hgt, hx]
    simp only
    rw [dif_pos ⟨by omega, by omega⟩]
    simp only [hp, List.drop_length]
    rw [processBlocks.eq_1]
    simp [Out.bind]

theorem bump_ok (x : Bytes) : ∃ y, bump x = .ok y := ⟨0 :: x, rfl⟩

theorem scan_allSame (buf : Bytes) : ∃ hit, scan [fun _ => Cb.same, fun _ => Cb.same] buf = .ok buf hit := by
  apply scan_same
  intro i _ _ n cont _
  apply runCallbacks_all_same
  intro cb hcb
  simp only [List.mem_cons, List.not_mem_nil, or_false] at hcb
  rcases hcb with rfl | rfl <;> rfl

theorem onColumn_allSame (buf : Bytes) : ∃ hit, onColumn [fun _ => Cb.same, fun _ => Cb.same] buf = .ok buf hit := by
  unfold onColumn
  split
  · exact ⟨false, rfl⟩
  · exact scan_allSame buf

/-- `EnvelopeMatcher.Match` recognises a buffer that is one bare AcraStruct -/
theorem matchEnvelope_bare_struct (e : Bytes) (hv : validateStruct e = .ok ()) (hgt : structMin < e.length)
    (hl : e.length < 2^63) : matchEnvelope e = .ok true := by
  obtain ⟨hit, hon⟩ := onColumn_allSame e
  unfold matchEnvelope
  rw [hon]
  cases hit with
  | true => rfl
  | false =>
    simp only
    rw [if_neg (by omega), processStructs_head bump e (0 :: e) hv hgt hl rfl]
    simp

/-- … and one that is one bare AcraBlock -/
theorem matchEnvelope_bare_block (e : Bytes) (hx : extractBlock e = .ok (e.length, e)) (hgt : blockMin < e.length) :
    matchEnvelope e = .ok true := by
  obtain ⟨hit, hon⟩ := onColumn_allSame e
  obtain ⟨h18, _, _, _⟩ := extractBlock_ok hx
  unfold matchEnvelope
  rw [hon]
  cases hit with
  | true => rfl
  | false =>
    simp only
    have hs : ∃ o1, (if e.length < structMin then Out.ok e else processStructs bump e) = .ok o1 := by
      split
      · exact ⟨e, rfl⟩
      · exact processStructs_ok bump (fun x _ => bump_ok x) e
    obtain ⟨o1, ho1⟩ := hs
    rw [ho1]
    simp only
    by_cases hne : o1.length ≠ e.length
    · rw [if_pos hne]
    · rw [if_neg hne, if_neg (by show ¬ e.length < 18; omega), processBlocks_head bump e (0 :: e) hx hgt rfl]
      simp

theorem onBare_decrypt_open (c : CryptoOps) (kv : KeyView) (k : Kind) (e m : Bytes) (he : e ≠ [])
    (hlen : e.length + 12 < 2^64) (hmk : matchKind k e = true) (hd : decryptKind c kv k e = .ok m)
    (hne : m ≠ serBytes e k.id) :
    onBare [fun _ => Cb.same, decryptCallback c kv] k.id e = .ok m := by
  have hproc : process c kv (serBytes e k.id) = .ok m := by
    have := c01_process_ser c kv k e [] he hlen hmk
    rw [List.append_nil] at this
    rw [this, hd]
  have hcb : decryptCallback c kv (serBytes e k.id) = .replaced m := by
    unfold decryptCallback
    rw [hproc]
    simp [hne]
  unfold onBare
  rw [c01_serialize_eq k.id he]
  simp only [Out.bind_ok, onCryptoEnvelope, hcb]
  have : (m == serBytes e k.id) = false := by simpa using hne
  simp [this]

theorem onColumn_windowOk (cbs : List Callback) (e : Bytes) (hw : windowOk e [] = true) : onColumn cbs e = .ok e false := by
  unfold onColumn
  split
  · rfl
  · exact scan_windowOk cbs e hw

/-- the owner's chain (`OldContainerDetectorWrapper` + decrypt handler) on a column that is one bare
AcraStruct. `hw`: the container scan passes over the struct's bytes (no position of its ciphertext
decodes as a container start – in-band signalling, see C11); `hm`: the PLAINTEXT contains no bare
AcraBlock the reader can open (the legacy block scan runs over the output of the struct scan). -/
theorem clientDetector_bare_struct (c : CryptoOps) (kv : KeyView) (e m : Bytes)
    (hv : validateStruct e = .ok ()) (hgt : structMin < e.length) (hl : e.length + 12 < 2^63)
    (hd : decryptKind c kv .struct e = .ok m) (hne : m ≠ serBytes e idStruct)
    (hw : windowOk e [] = true)
    (hm : ∀ x id s, x <:+: m → serialize x id = .ok s → ∀ m', process c kv s ≠ .ok m') :
    clientDetector c kv e = .ok m false := by
  have he : e ≠ [] := by intro h; rw [h] at hgt; simp at hgt
  have hmk : matchKind .struct e = true := by unfold matchKind; rw [hv]; rfl
  unfold clientDetector
  rw [onColumnCompat_eq, onColumn_windowOk _ e hw]
  simp only [Bool.false_or, bne_self_eq_false, Bool.false_eq_true, if_false]
  unfold compatTail
  have hob : onBare [fun _ => Cb.same, decryptCallback c kv] idStruct e = .ok m :=
    onBare_decrypt_open c kv .struct e m he (by omega) hmk hd hne
  rw [if_neg (by omega), processStructs_head _ e m hv hgt (by omega) hob]
  simp only
  have e2 : (if m.length < blockMin then Out.ok m
      else processBlocks (onBare [fun _ => Cb.same, decryptCallback c kv] idBlock) m) = .ok m := by
    split
    · rfl
    · exact processBlocks_same _ m fun x hx hne' => onBare_decrypt_same c kv _ x hne' (fun s hs => hm x _ s hx hs)
  rw [e2]

/-- the owner's chain on a column that is one raw AcraBlock. `hw` as above; `hs`: no part of the block,
wrapped as an AcraStruct container, is something the reader can open (the legacy struct scan runs over
the block first). -/
theorem clientDetector_bare_block (c : CryptoOps) (kv : KeyView) (e m : Bytes)
    (hx : extractBlock e = .ok (e.length, e)) (hgt : blockMin < e.length) (hl : e.length + 12 < 2^63)
    (hd : decryptKind c kv .block e = .ok m) (hne : m ≠ serBytes e idBlock)
    (hw : windowOk e [] = true)
    (hs : ∀ x s, x <:+: e → serialize x idStruct = .ok s → ∀ m', process c kv s ≠ .ok m') :
    clientDetector c kv e = .ok m false := by
  obtain ⟨h18, _, _, _⟩ := extractBlock_ok hx
  have he : e ≠ [] := by intro h; rw [h] at h18; simp at h18
  have hmk : matchKind .block e = true := by unfold matchKind; rw [hx]; rfl
  unfold clientDetector
  rw [onColumnCompat_eq, onColumn_windowOk _ e hw]
  simp only [Bool.false_or, bne_self_eq_false, Bool.false_eq_true, if_false]
  unfold compatTail
  have e1 : (if e.length < structMin then Out.ok e
      else processStructs (onBare [fun _ => Cb.same, decryptCallback c kv] idStruct) e) = .ok e := by
    split
    · rfl
    · exact processStructs_same _ e fun x hx' hne' => onBare_decrypt_same c kv _ x hne' (fun s hs' => hs x s hx' hs')
  rw [e1]
  simp only
  have hob : onBare [fun _ => Cb.same, decryptCallback c kv] idBlock e = .ok m :=
    onBare_decrypt_open c kv .block e m he (by omega) hmk hd hne
  rw [if_neg (by show ¬ e.length < 18; omega), processBlocks_head _ e m hx hgt hob]

/-- a reader without private keys opens nothing that is wrapped as an AcraStruct container (discharges
`hs` of `clientDetector_bare_block` for clients that only use the symmetric envelope) -/
theorem process_struct_container_no_privs (c : CryptoOps) (kv : KeyView) (hp : kv.privs = none) (x s : Bytes)
    (hlen : x.length + 12 < 2^64) (hser : serialize x idStruct = .ok s) : ∀ m, process c kv s ≠ .ok m := by
  intro m hpm
  obtain ⟨hxne, rfl⟩ := c01_serialize_ok hser
  obtain ⟨k, i, hd, hk⟩ := process_ok hpm
  have hds := c01_deserialize_ser (id := idStruct) (k := .struct) [] hxne (by decide) hlen
  rw [List.append_nil] at hds
  rw [hds] at hd
  simp only [Out.ok.injEq, Prod.mk.injEq] at hd
  obtain ⟨rfl, hid⟩ := hd
  cases k with
  | block => exact absurd hid (by decide)
  | struct =>
    obtain ⟨ps, hps, _⟩ := decryptKind_struct_ok hk
    rw [hp] at hps
    cases hps

/-- a plaintext shorter than an AcraBlock contains nothing the legacy scans could open (discharges `hm`
of `clientDetector_bare_struct` for short plaintexts) -/
theorem short_plain_not_opened (c : CryptoOps) (kv : KeyView) (m : Bytes) (h : m.length < 18) :
    ∀ x id s, x <:+: m → serialize x id = .ok s → ∀ m', process c kv s ≠ .ok m' := by
  intro x id s hx hs
  exact process_serialized_short c kv x s id (by have := hx.length_le; omega) hs

end AcraModel.Searchable
