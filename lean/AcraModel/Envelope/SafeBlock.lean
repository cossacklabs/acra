import AcraModel.Envelope.SafeBasic
/-!
AcraBlock: closed forms of `extractBlock` / `decryptBlock` and what follows from them – no panic,
bounds of an extracted block, shape of a found data key (helpers for C03 / C14).
-/
namespace AcraModel.Envelope
open AcraModel Generated

/-- the declared rest length of an AcraBlock header -/
def blockRest (d : Bytes) : Nat := leVal ((d.take 12).drop 4)

/-- the four header checks of `ExtractAcraBlockFromData` -/
def blockHeaderOk (d : Bytes) : Bool :=
  (d.take 4 == blockTag) && decide (14 ≤ blockRest d ∧ blockRest d ≤ d.length - 4) &&
    Layout.blockKeyBackends.contains (d.getD 12 0).toNat && Layout.blockDataBackends.contains (d.getD 15 0).toNat

theorem getD_eq_getElem (d : Bytes) (i : Nat) (h : i < d.length) : d.getD i 0 = d[i] := by
  simp [List.getD, List.getElem?_eq_getElem h]

theorem extractBlock_eq (d : Bytes) :
    extractBlock d = if d.length < 18 then .err else
      if blockHeaderOk d then .ok (4 + blockRest d, d.take (4 + blockRest d)) else .err := by
  unfold extractBlock
  rw [show blockMin = 18 from rfl, show Layout.blockTagBeginSize = 4 from rfl,
    show Layout.blockRestAcraBlockLengthPosition = 4 from rfl, show Layout.blockRestAcraBlockLengthSize = 8 from rfl,
    show Layout.blockKeyEncryptionKeyTypePosition = 12 from rfl, show Layout.blockDataEncryptionTypePosition = 15 from rfl]
  by_cases h : d.length < 18
  · rw [if_pos h, if_pos h]
  · rw [if_neg h, if_neg h]
    have h : 18 ≤ d.length := by omega
    rw [goSlice_zero_ok d 4 (by omega), goSlice_ok d 4 (4+8) (by omega) (by omega),
      goIndex_ok d 12 (by omega), goIndex_ok d 15 (by omega)]
    simp only [Out.bind_ok]
    unfold blockHeaderOk blockRest
    rw [getD_eq_getElem d 12 (by omega), getD_eq_getElem d 15 (by omega)]
    simp only [Nat.reduceSub, Nat.reduceAdd]
    split
    · next hc =>
      simp only [Bool.and_eq_true, decide_eq_true_eq] at hc
      rw [goSlice_zero_ok d _ (by omega)]
      rfl
    · rfl

def blockKeyLen (b : Bytes) : Nat := leVal ((b.take 18).drop 16)
def blockEncKey (b : Bytes) : Bytes := (b.take (18 + blockKeyLen b)).drop 18
def blockEncData (b : Bytes) : Bytes := b.drop (18 + blockKeyLen b)
def blockKid (b : Bytes) : Bytes := (b.take 15).drop 13

/-- what `AcraBlock.Decrypt` does once the key has been found -/
def decryptBlockTail (c : CryptoOps) (ctx b : Bytes) : Option Bytes → Out Bytes
  | none => .err
  | some dek =>
    if !Layout.blockDataBackends.contains (b.getD 15 0).toNat then .panic else
    match c.dec dek ctx (blockEncData b) with
    | none => .err
    | some m => .ok m

theorem decryptBlock_eq (c : CryptoOps) (keys : List Bytes) (ctx b : Bytes) :
    decryptBlock c keys ctx b = if b.length < 18 then .err else
      if b.length < 18 + blockKeyLen b then .err else
        findDek c (Layout.blockKeyBackends.contains (b.getD 12 0).toNat) ctx (blockEncKey b) (blockKid b) keys
          >>= decryptBlockTail c ctx b := by
  unfold decryptBlock
  rw [show blockMin = 18 from rfl, show blockKeyPos = 18 from rfl,
    show Layout.blockDataEncryptionKeyLengthPosition = 16 from rfl, show Layout.blockDataEncryptionKeyLengthSize = 2 from rfl,
    show Layout.blockKeyEncryptionKeyTypePosition = 12 from rfl, show Layout.blockDataEncryptionTypePosition = 15 from rfl,
    show Layout.blockKeyEncryptionKeyIDPosition = 13 from rfl, show Layout.blockKeyEncryptionKeyIDSize = 2 from rfl]
  by_cases h : b.length < 18
  · rw [if_pos h, if_pos h]
  · rw [if_neg h, if_neg h]
    have h : 18 ≤ b.length := by omega
    rw [goSlice_ok b 16 (16+2) (by omega) (by omega)]
    simp only [Out.bind_ok, Nat.reduceAdd]
    unfold blockEncKey blockKid blockKeyLen
    by_cases h2 : b.length < 18 + leVal (List.drop 16 (List.take 18 b))
    · rw [if_pos h2, if_pos h2]
    · rw [if_neg h2, if_neg h2]
      rw [goSlice_ok b 18 _ (by omega) (by omega), goSliceFrom_ok b _ (by omega),
        goIndex_ok b 12 (by omega), goIndex_ok b 15 (by omega), goSlice_ok b 13 15 (by omega) (by omega)]
      simp only [Out.bind_ok]
      rw [getD_eq_getElem b 12 (by omega)]
      congr 1
      funext r
      cases r with
      | none => rfl
      | some dek =>
        simp only [decryptBlockTail, blockEncData, blockKeyLen]
        rw [getD_eq_getElem b 15 (by omega)]
        rfl

theorem extractBlock_ne_panic (d : Bytes) : extractBlock d ≠ .panic := by
  rw [extractBlock_eq]; repeat' split
  all_goals simp

theorem extractBlock_ok {d : Bytes} {n : Nat} {b : Bytes} (h : extractBlock d = .ok (n, b)) :
    18 ≤ d.length ∧ blockHeaderOk d = true ∧ n = 4 + blockRest d ∧ b = d.take n := by
  rw [extractBlock_eq] at h
  split at h
  · cases h
  · split at h
    · next h1 h2 => cases h; exact ⟨by omega, h2, rfl, rfl⟩
    · cases h

theorem blockHeaderOk_iff (d : Bytes) : blockHeaderOk d = true ↔
    d.take 4 = blockTag ∧ 14 ≤ blockRest d ∧ blockRest d ≤ d.length - 4 ∧
      Layout.blockKeyBackends.contains (d.getD 12 0).toNat = true ∧
      Layout.blockDataBackends.contains (d.getD 15 0).toNat = true := by
  simp [blockHeaderOk, and_assoc]

theorem extractBlock_bounds' {d : Bytes} {n : Nat} {b : Bytes} (h : extractBlock d = .ok (n, b)) :
    18 ≤ n ∧ n ≤ d.length ∧ b = d.take n := by
  obtain ⟨h1, h2, h3, h4⟩ := extractBlock_ok h
  rw [blockHeaderOk_iff] at h2
  exact ⟨by omega, by omega, h4⟩

theorem findDek_known_ne_panic (c : CryptoOps) (ctx encKey kid : Bytes) (keys : List Bytes) :
    findDek c true ctx encKey kid keys ≠ .panic := by
  induction keys with
  | nil => simp [findDek]
  | cons k ks ih =>
    simp only [findDek]
    split
    · simp only [Bool.not_true, Bool.false_eq_true, if_false]
      split
      · simp
      · exact ih
    · exact ih

theorem findDek_ne_err (c : CryptoOps) (kb : Bool) (ctx encKey kid : Bytes) (keys : List Bytes) :
    findDek c kb ctx encKey kid keys ≠ .err := by
  induction keys with
  | nil => simp [findDek]
  | cons k ks ih =>
    simp only [findDek]
    repeat' split
    all_goals first | exact ih | simp

/-- a found data key was unsealed from the key part by one of the reader's keys whose id is the block's -/
theorem findDek_some {c : CryptoOps} {kb : Bool} {ctx encKey kid : Bytes} {keys : List Bytes} {dek : Bytes}
    (h : findDek c kb ctx encKey kid keys = .ok (some dek)) :
    kb = true ∧ ∃ key ∈ keys, keyId c key ctx = kid ∧ c.dec key ctx encKey = some dek := by
  induction keys with
  | nil => simp [findDek] at h
  | cons k ks ih =>
    simp only [findDek] at h
    split at h
    · next hk =>
      split at h
      · cases h
      · next hb =>
        split at h
        · next hd =>
          cases h
          refine ⟨by simpa using hb, k, List.mem_cons_self, by simpa using hk, hd⟩
        · obtain ⟨h1, key, hm, h2⟩ := ih h
          exact ⟨h1, key, List.mem_cons_of_mem _ hm, h2⟩
    · obtain ⟨h1, key, hm, h2⟩ := ih h
      exact ⟨h1, key, List.mem_cons_of_mem _ hm, h2⟩

/-- a block that `extractBlock` accepted has registered backends, so decrypting it cannot panic -/
theorem decryptBlock_of_header_ne_panic (c : CryptoOps) (keys : List Bytes) (ctx b : Bytes)
    (h12 : Layout.blockKeyBackends.contains (b.getD 12 0).toNat = true)
    (h15 : Layout.blockDataBackends.contains (b.getD 15 0).toNat = true) :
    decryptBlock c keys ctx b ≠ .panic := by
  rw [decryptBlock_eq]
  split
  · simp
  · split
    · simp
    · rw [h12]
      apply Out.bind_ne_panic (findDek_known_ne_panic _ _ _ _ _)
      intro r _
      cases r with
      | none => simp [decryptBlockTail]
      | some dek =>
        simp only [decryptBlockTail, h15, Bool.not_true, Bool.false_eq_true, if_false]
        split <;> simp

theorem getD_take (d : Bytes) (n i : Nat) (h : i < n) : (d.take n).getD i 0 = d.getD i 0 := by
  simp [List.getD, h]

theorem decryptBlock_extracted_ne_panic (c : CryptoOps) (keys : List Bytes) (ctx d : Bytes) (n : Nat) (b : Bytes)
    (h : extractBlock d = .ok (n, b)) : decryptBlock c keys ctx b ≠ .panic := by
  obtain ⟨h1, h2, h3, h4⟩ := extractBlock_ok h
  rw [blockHeaderOk_iff] at h2
  have hn : 18 ≤ n := by omega
  subst h4
  apply decryptBlock_of_header_ne_panic
  · rw [getD_take _ _ _ (by omega)]; exact h2.2.2.2.1
  · rw [getD_take _ _ _ (by omega)]; exact h2.2.2.2.2

end AcraModel.Envelope
