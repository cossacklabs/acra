import AcraModel.Envelope.Detector
/-!
Small facts used by the "no panic" proofs (C03 / C14): a conditional does not panic when its branches do not;
splitting a suffix of a buffer; a predicate on all suffixes of a buffer in one walk (`allSuffixes`, for the
evaluated examples).
-/
namespace AcraModel.Envelope
open AcraModel Generated

theorem goSlice_ne_err (b : Bytes) (lo hi : Nat) : goSlice b lo hi ≠ .err := by
  unfold goSlice; split <;> simp

theorem ite_ne_panic {α} {p : Prop} [Decidable p] {a b : Out α} (ha : a ≠ .panic) (hb : b ≠ .panic) :
    (if p then a else b) ≠ .panic := by split <;> assumption

theorem ite_err_pure_ok {α} {p : Prop} [Decidable p] {x n : α}
    (h : (if p then (Out.err : Out α) else pure x) = .ok n) : ¬ p ∧ x = n := by
  split at h
  · cases h
  · next hp => cases h; exact ⟨hp, rfl⟩

theorem drop_split (l : Bytes) (i k : Nat) : l.drop i = (l.drop i).take k ++ l.drop (i + k) := by
  rw [← List.drop_drop]; exact (List.take_append_drop k _).symm

theorem take_drop_eq (l : Bytes) (i k : Nat) : (l.drop i).take k = (l.take (i + k)).drop i := by
  rw [List.drop_take]; congr 1; omega

/-- `p` on every non-empty suffix, walking the list once (evaluating `l.drop i` for each `i` walks it
`|l|` times) -/
def allSuffixes (p : Bytes → Bool) : Bytes → Bool
  | [] => true
  | b :: r => p (b :: r) && allSuffixes p r

theorem allSuffixes_drop {p : Bytes → Bool} :
    ∀ {l : Bytes}, allSuffixes p l = true → ∀ i, i < l.length → p (l.drop i) = true
  | [], _, i, hi => absurd hi (Nat.not_lt_zero i)
  | _ :: _, h, 0, _ => (Bool.and_eq_true _ _ ▸ h).1
  | _ :: _, h, i + 1, hi => allSuffixes_drop (Bool.and_eq_true _ _ ▸ h).2 i (Nat.lt_of_succ_lt_succ hi)

end AcraModel.Envelope
