import AcraModel.Envelope.SafeDetector
/-!
`OnColumn`, the legacy scans `ProcessAcraStructs` / `ProcessAcraBlocks` (their runs: `ChunkRun`) and the
compatibility wrapper `OldContainerDetectorWrapper.OnColumn`: no panic; with the decrypt callback no
fatal error; a handler that changes nothing leaves the value unchanged (helpers for C03 / C14).
-/
namespace AcraModel.Envelope
open AcraModel Generated

theorem onColumn_ne_panic (cbs : List Callback) (d : Bytes) (hl : d.length < 2^63) : onColumn cbs d ≠ .panic := by
  unfold onColumn
  split
  · exact fun h => nomatch h
  · exact scan_ne_panic cbs d hl

theorem onColumn_ne_fatal (cbs : List Callback) (hc : ∀ cb ∈ cbs, ∀ x, cb x ≠ .fatal) (d : Bytes) :
    onColumn cbs d ≠ .fatal := by
  unfold onColumn
  split
  · exact fun h => nomatch h
  · exact scan_ne_fatal cbs hc d

theorem take_ne_nil {b : UInt8} {r : Bytes} {k : Nat} (hk : 0 < k) : (b :: r).take k ≠ [] := by
  cases k with
  | zero => omega
  | succ k => simp

theorem extractBlock_pos {d : Bytes} {n : Nat} {blk : Bytes} (h : extractBlock d = .ok (n, blk)) :
    0 < n ∧ n ≤ d.length := by
  have := extractBlock_bounds' h; omega

theorem extractBlock_blk_ne_nil {d : Bytes} {n : Nat} {blk : Bytes} (h : extractBlock d = .ok (n, blk)) : blk ≠ [] := by
  obtain ⟨h1, h2, rfl⟩ := extractBlock_bounds' h
  intro e
  have := congrArg List.length e
  rw [List.length_take] at this
  simp only [List.length_nil] at this
  omega

/-- The runs of a legacy scan with per-envelope handler `proc`: every iteration either copies one byte
or hands a non-empty prefix of the remaining buffer to `proc` and goes on behind it. Both scans run
like this (`processStructs_run`, `processBlocks_run`); what is proved about them is proved about the runs. -/
inductive ChunkRun (proc : Bytes → Out Bytes) : Bytes → Out Bytes → Prop
  | nil : ChunkRun proc [] (.ok [])
  | skip {b : UInt8} {r : Bytes} {o : Out Bytes} : ChunkRun proc r o → ChunkRun proc (b :: r) (o.bind fun x => .ok (b :: x))
  | ok {b : UInt8} {r p : Bytes} {n : Nat} {o : Out Bytes} : 0 < n → proc ((b :: r).take n) = .ok p →
      ChunkRun proc ((b :: r).drop n) o → ChunkRun proc (b :: r) (o.bind fun x => .ok (p ++ x))
  | err {b : UInt8} {r : Bytes} {n : Nat} : 0 < n → proc ((b :: r).take n) = .err → ChunkRun proc (b :: r) .err
  | panic {b : UInt8} {r : Bytes} {n : Nat} : 0 < n → proc ((b :: r).take n) = .panic → ChunkRun proc (b :: r) .panic

theorem processStructs_run (proc : Bytes → Out Bytes) (rest : Bytes) : ChunkRun proc rest (processStructs proc rest) := by
  induction rest using processStructs.induct proc with
  | case1 => rw [processStructs.eq_1]; exact .nil
  | case2 b r h ih => rw [processStructs.eq_2, if_pos h]; exact .skip ih
  | case3 b r h hl hg => exact absurd hg (by rw [getDataLength_eq _ (by rw [c01_structMin] at hl; omega)]; exact fun h => nomatch h)
  | case4 b r h hl hg => exact absurd hg (by rw [getDataLength_eq _ (by rw [c01_structMin] at hl; omega)]; exact fun h => nomatch h)
  | case5 b r h hl dl hg l hb p hq ih =>
    rw [processStructs.eq_2, if_neg h, if_pos hl, hg]; dsimp only; rw [dif_pos hb, show proc _ = _ from hq]
    exact .ok (by have := hb.1; omega) hq ih
  | case6 b r h hl dl hg l hb hq =>
    rw [processStructs.eq_2, if_neg h, if_pos hl, hg]; dsimp only; rw [dif_pos hb, show proc _ = _ from hq]
    exact .err (by have := hb.1; omega) hq
  | case7 b r h hl dl hg l hb hq =>
    rw [processStructs.eq_2, if_neg h, if_pos hl, hg]; dsimp only; rw [dif_pos hb, show proc _ = _ from hq]
    exact .panic (by have := hb.1; omega) hq
  | case8 b r h hl dl hg l hb ih =>
    rw [processStructs.eq_2, if_neg h, if_pos hl, hg]; dsimp only; rw [dif_neg hb]; exact .skip ih
  | case9 b r h hl ih => rw [processStructs.eq_2, if_neg h, if_neg hl]; exact .skip ih

theorem processBlocks_run (proc : Bytes → Out Bytes) (rest : Bytes) : ChunkRun proc rest (processBlocks proc rest) := by
  induction rest using processBlocks.induct proc with
  | case1 => rw [processBlocks.eq_1]; exact .nil
  | case2 b r h ih => rw [processBlocks.eq_2, if_pos h]; exact .skip ih
  | case3 b r h hl he => exact absurd he (extractBlock_ne_panic _)
  | case4 b r h hl he ih => rw [processBlocks.eq_2, if_neg h, if_pos hl, he]; exact .skip ih
  | case5 b r h hl n blk he hn p hq ih =>
    rw [processBlocks.eq_2, if_neg h, if_pos hl, he]; dsimp only; rw [dif_pos hn, hq]
    exact .ok hn.1 ((extractBlock_bounds' he).2.2 ▸ hq) ih
  | case6 b r h hl n blk he hn hq =>
    rw [processBlocks.eq_2, if_neg h, if_pos hl, he]; dsimp only; rw [dif_pos hn, hq]
    exact .err hn.1 ((extractBlock_bounds' he).2.2 ▸ hq)
  | case7 b r h hl n blk he hn hq =>
    rw [processBlocks.eq_2, if_neg h, if_pos hl, he]; dsimp only; rw [dif_pos hn, hq]
    exact .panic hn.1 ((extractBlock_bounds' he).2.2 ▸ hq)
  | case8 b r h hl n blk he hn => exact absurd (extractBlock_pos he) hn
  | case9 b r h hl ih => rw [processBlocks.eq_2, if_neg h, if_neg hl]; exact .skip ih

namespace ChunkRun
variable {proc : Bytes → Out Bytes} {d : Bytes} {o : Out Bytes}

theorem ne_panic (hp : ∀ x, proc x ≠ .panic) (h : ChunkRun proc d o) : o ≠ .panic := by
  induction h with
  | nil => exact fun h => nomatch h
  | skip _ ih => exact Out.bind_ne_panic ih fun _ _ => nofun
  | ok _ _ _ ih => exact Out.bind_ne_panic ih fun _ _ => nofun
  | err => exact fun h => nomatch h
  | panic _ hq => exact absurd hq (hp _)

/-- with a handler that succeeds on every non-empty input the scan succeeds -/
theorem succeeds (hp : ∀ x, x ≠ [] → ∃ y, proc x = .ok y) (h : ChunkRun proc d o) : ∃ y, o = .ok y := by
  induction h with
  | nil => exact ⟨[], rfl⟩
  | skip _ ih => obtain ⟨y, rfl⟩ := ih; exact ⟨_, rfl⟩
  | ok _ _ _ ih => obtain ⟨y, rfl⟩ := ih; exact ⟨_, rfl⟩
  | err h0 hq => obtain ⟨y, hy⟩ := hp _ (take_ne_nil h0); rw [hy] at hq; cases hq
  | panic h0 hq => obtain ⟨y, hy⟩ := hp _ (take_ne_nil h0); rw [hy] at hq; cases hq

/-- a handler that returns every non-empty part of the value unchanged leaves the value unchanged -/
theorem same (h : ChunkRun proc d o) (hp : ∀ x, x <:+: d → x ≠ [] → proc x = .ok x) : o = .ok d := by
  induction h with
  | nil => rfl
  | @skip b r _ _ ih => rw [ih fun x hx => hp x (hx.trans (List.suffix_cons b r).isInfix)]; rfl
  | ok h0 hq _ ih =>
    rw [hp _ (List.take_prefix _ _).isInfix (take_ne_nil h0)] at hq
    cases hq
    rw [ih fun x hx => hp x (hx.trans (List.drop_suffix _ _).isInfix)]
    exact congrArg Out.ok (List.take_append_drop _ _)
  | err h0 hq => rw [hp _ (List.take_prefix _ _).isInfix (take_ne_nil h0)] at hq; cases hq
  | panic h0 hq => rw [hp _ (List.take_prefix _ _).isInfix (take_ne_nil h0)] at hq; cases hq

end ChunkRun

theorem processStructs_ne_panic (proc : Bytes → Out Bytes) (hp : ∀ x, proc x ≠ .panic) (rest : Bytes) :
    processStructs proc rest ≠ .panic := (processStructs_run proc rest).ne_panic hp

theorem processStructs_ok (proc : Bytes → Out Bytes) (hp : ∀ x, x ≠ [] → ∃ y, proc x = .ok y) (rest : Bytes) :
    ∃ o, processStructs proc rest = .ok o := (processStructs_run proc rest).succeeds hp

theorem processStructs_same (proc : Bytes → Out Bytes) (rest : Bytes)
    (hp : ∀ x, x <:+: rest → x ≠ [] → proc x = .ok x) : processStructs proc rest = .ok rest :=
  (processStructs_run proc rest).same hp

theorem processBlocks_ne_panic (proc : Bytes → Out Bytes) (hp : ∀ x, proc x ≠ .panic) (rest : Bytes) :
    processBlocks proc rest ≠ .panic := (processBlocks_run proc rest).ne_panic hp

theorem processBlocks_ok (proc : Bytes → Out Bytes) (hp : ∀ x, x ≠ [] → ∃ y, proc x = .ok y) (rest : Bytes) :
    ∃ o, processBlocks proc rest = .ok o := (processBlocks_run proc rest).succeeds hp

theorem processBlocks_same (proc : Bytes → Out Bytes) (rest : Bytes)
    (hp : ∀ x, x <:+: rest → x ≠ [] → proc x = .ok x) : processBlocks proc rest = .ok rest :=
  (processBlocks_run proc rest).same hp

theorem onCryptoEnvelope_ne_panic (cont : Bytes) (cbs : List Callback) : onCryptoEnvelope cont cbs ≠ .panic := by
  induction cbs with
  | nil => simp [onCryptoEnvelope]
  | cons cb rest ih =>
    simp only [onCryptoEnvelope]
    split
    · simp
    · simp
    · exact ih
    · exact ih

theorem onCryptoEnvelope_ok (cont : Bytes) (cbs : List Callback) (hc : ∀ cb ∈ cbs, ∀ x, cb x ≠ .fatal) :
    ∃ y, onCryptoEnvelope cont cbs = .ok y := by
  induction cbs with
  | nil => exact ⟨cont, rfl⟩
  | cons cb rest ih =>
    have ih' := ih (fun cb' hm => hc cb' (List.mem_cons_of_mem _ hm))
    simp only [onCryptoEnvelope]
    split
    · next h => exact absurd h (hc cb List.mem_cons_self cont)
    · exact ⟨_, rfl⟩
    · exact ih'
    · exact ih'

theorem onBare_ne_panic (cbs : List Callback) (id : UInt8) (bare : Bytes) : onBare cbs id bare ≠ .panic := by
  unfold onBare
  apply Out.bind_ne_panic (serialize_ne_panic bare id)
  intro s _
  apply Out.bind_ne_panic (onCryptoEnvelope_ne_panic s cbs)
  intro p _
  split <;> simp

theorem onBare_ok (cbs : List Callback) (hc : ∀ cb ∈ cbs, ∀ x, cb x ≠ .fatal) (id : UInt8) (bare : Bytes)
    (hb : bare ≠ []) : ∃ y, onBare cbs id bare = .ok y := by
  unfold onBare serialize
  rw [if_neg hb]
  simp only [Out.bind_ok]
  obtain ⟨y, hy⟩ := onCryptoEnvelope_ok (containerTag ++ leBytes 8 (containerMin + bare.length) ++ [id] ++ bare) cbs hc
  rw [hy]
  simp only [Out.bind_ok]
  split
  · exact ⟨_, rfl⟩
  · exact ⟨_, rfl⟩

/-- the legacy part of `OldContainerDetectorWrapper.OnColumn` (bare AcraStructs, then bare AcraBlocks) -/
def compatTail (cbs : List Callback) (inBuffer : Bytes) : ScanOut :=
  match (if inBuffer.length < structMin then .ok inBuffer
         else processStructs (onBare ((fun _ => Cb.same) :: cbs) idStruct) inBuffer) with
  | .panic => .panic
  | .err => .fatal
  | .ok o1 =>
    match (if o1.length < blockMin then .ok o1 else processBlocks (onBare ((fun _ => Cb.same) :: cbs) idBlock) o1) with
    | .panic => .panic
    | .err => .fatal
    | .ok o2 => .ok o2 false

theorem onColumnCompat_eq (cbs : List Callback) (d : Bytes) :
    onColumnCompat cbs d =
      match onColumn ((fun _ => Cb.same) :: cbs) d with
      | .fatal => .fatal
      | .panic => .panic
      | .ok out hit => if hit || out != d then .ok out hit else compatTail cbs d := rfl

theorem compatTail_ne_panic (cbs : List Callback) (d : Bytes) : compatTail cbs d ≠ .panic := by
  unfold compatTail
  split
  · next h => exact absurd h (ite_ne_panic (fun h => nomatch h) (processStructs_ne_panic _ (onBare_ne_panic _ _) d))
  · exact fun h => nomatch h
  · next o1 _ =>
    split
    · next h => exact absurd h (ite_ne_panic (fun h => nomatch h) (processBlocks_ne_panic _ (onBare_ne_panic _ _) o1))
    · exact fun h => nomatch h
    · exact fun h => nomatch h

theorem ite_ok {p : Prop} [Decidable p] {a : Bytes} {b : Out Bytes} (hb : ∃ y, b = .ok y) :
    ∃ y, (if p then Out.ok a else b) = .ok y := by
  split
  · exact ⟨a, rfl⟩
  · exact hb

/-- the wrapper's own callback (first in the list) never reports an error -/
theorem same_cons_ne_fatal {cbs : List Callback} (hc : ∀ cb ∈ cbs, ∀ x, cb x ≠ .fatal) :
    ∀ cb ∈ ((fun _ => Cb.same) :: cbs), ∀ x, cb x ≠ .fatal :=
  List.forall_mem_cons.2 ⟨fun _ h => (nomatch h), hc⟩

theorem compatTail_ne_fatal (cbs : List Callback) (hc : ∀ cb ∈ cbs, ∀ x, cb x ≠ .fatal) (d : Bytes) :
    compatTail cbs d ≠ .fatal := by
  have hc' := same_cons_ne_fatal hc
  unfold compatTail
  obtain ⟨o1, h1⟩ := ite_ok (p := d.length < structMin) (a := d)
    (processStructs_ok _ (fun x hx => onBare_ok _ hc' idStruct x hx) d)
  rw [h1]
  dsimp only
  obtain ⟨o2, h2⟩ := ite_ok (p := o1.length < blockMin) (a := o1)
    (processBlocks_ok _ (fun x hx => onBare_ok _ hc' idBlock x hx) o1)
  rw [h2]
  exact fun h => nomatch h

theorem onColumnCompat_ne_panic (cbs : List Callback) (d : Bytes) (hl : d.length < 2^63) :
    onColumnCompat cbs d ≠ .panic := by
  rw [onColumnCompat_eq]
  split
  · exact fun h => nomatch h
  · next h => exact absurd h (onColumn_ne_panic _ d hl)
  · split
    · exact fun h => nomatch h
    · exact compatTail_ne_panic cbs d

theorem onColumnCompat_ne_fatal (cbs : List Callback) (hc : ∀ cb ∈ cbs, ∀ x, cb x ≠ .fatal) (d : Bytes) :
    onColumnCompat cbs d ≠ .fatal := by
  rw [onColumnCompat_eq]
  split
  · next h => exact absurd h (onColumn_ne_fatal _ (same_cons_ne_fatal hc) d)
  · exact fun h => nomatch h
  · split
    · exact fun h => nomatch h
    · exact compatTail_ne_fatal cbs hc d

end AcraModel.Envelope
