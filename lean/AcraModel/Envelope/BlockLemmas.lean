import AcraModel.Envelope.AcraBlock
import AcraModel.Envelope.SliceLemmas
/-!
Layout lemmas for the AcraBlock (C01): what `extractBlock` / `decryptBlock` read back from the bytes
`buildBlock` writes, and the behaviour of the key loop `findDek`.
-/
namespace AcraModel.Envelope
open AcraModel Generated

theorem c01_blockTag_length : blockTag.length = 4 := by decide

/-- the fields of `tag | rest(8) | kt | kid(2) | dt | klen(2) | encKey | encData | suffix` -/
theorem c01_block_fields (t L8 kid L2 ek ed suf : Bytes) (kt dt : UInt8)
    (ht : t.length = 4) (hL8 : L8.length = 8) (hkid : kid.length = 2) (hL2 : L2.length = 2) :
    goSlice (t ++ L8 ++ [kt] ++ kid ++ [dt] ++ L2 ++ ek ++ ed ++ suf) 0 4 = .ok t ∧
    goSlice (t ++ L8 ++ [kt] ++ kid ++ [dt] ++ L2 ++ ek ++ ed ++ suf) 4 12 = .ok L8 ∧
    goIndex (t ++ L8 ++ [kt] ++ kid ++ [dt] ++ L2 ++ ek ++ ed ++ suf) 12 = .ok kt ∧
    goSlice (t ++ L8 ++ [kt] ++ kid ++ [dt] ++ L2 ++ ek ++ ed ++ suf) 13 15 = .ok kid ∧
    goIndex (t ++ L8 ++ [kt] ++ kid ++ [dt] ++ L2 ++ ek ++ ed ++ suf) 15 = .ok dt ∧
    goSlice (t ++ L8 ++ [kt] ++ kid ++ [dt] ++ L2 ++ ek ++ ed ++ suf) 16 18 = .ok L2 ∧
    goSlice (t ++ L8 ++ [kt] ++ kid ++ [dt] ++ L2 ++ ek ++ ed ++ suf) 18 (18 + ek.length) = .ok ek ∧
    goSliceFrom (t ++ L8 ++ [kt] ++ kid ++ [dt] ++ L2 ++ ek ++ ed ++ suf) (18 + ek.length) = .ok (ed ++ suf) ∧
    goSlice (t ++ L8 ++ [kt] ++ kid ++ [dt] ++ L2 ++ ek ++ ed ++ suf) 0 (18 + ek.length + ed.length) =
      .ok (t ++ L8 ++ [kt] ++ kid ++ [dt] ++ L2 ++ ek ++ ed) ∧
    (t ++ L8 ++ [kt] ++ kid ++ [dt] ++ L2 ++ ek ++ ed ++ suf).length = 18 + ek.length + ed.length + suf.length := by
  have l1 : (t ++ L8).length = 12 := by rw [List.length_append, ht, hL8]
  have l2 : (t ++ L8 ++ [kt]).length = 13 := by rw [List.length_append, l1]; rfl
  have l3 : (t ++ L8 ++ [kt] ++ kid).length = 15 := by rw [List.length_append, l2, hkid]
  have l4 : (t ++ L8 ++ [kt] ++ kid ++ [dt]).length = 16 := by rw [List.length_append, l3]; rfl
  have l5 : (t ++ L8 ++ [kt] ++ kid ++ [dt] ++ L2).length = 18 := by rw [List.length_append, l4, hL2]
  have l6 : (t ++ L8 ++ [kt] ++ kid ++ [dt] ++ L2 ++ ek).length = 18 + ek.length := by rw [List.length_append, l5]
  have l7 : (t ++ L8 ++ [kt] ++ kid ++ [dt] ++ L2 ++ ek ++ ed).length = 18 + ek.length + ed.length := by
    rw [List.length_append, l6]
  -- each field is read back where it was appended; what is appended behind it does not disturb it
  refine ⟨?_, ?_, ?_, ?_, ?_, ?_, ?_, ?_, ?_, ?_⟩
  · have h : goSlice (t ++ L8) 0 4 = .ok t := by rw [← ht]; exact goSlice_prefix t L8
    exact goSlice_append_right _ <| goSlice_append_right _ <| goSlice_append_right _ <| goSlice_append_right _ <|
      goSlice_append_right _ <| goSlice_append_right _ <| goSlice_append_right _ h
  · exact goSlice_append_right _ <| goSlice_append_right _ <| goSlice_append_right _ <| goSlice_append_right _ <|
      goSlice_append_right _ <| goSlice_append_right _ <| goSlice_append_right _ <| goSlice_last t L8 ht (by rw [hL8])
  · exact goIndex_append_right _ <| goIndex_append_right _ <| goIndex_append_right _ <| goIndex_append_right _ <|
      goIndex_append_right _ <| goIndex_append_right _ <| goIndex_last _ kt l1
  · exact goSlice_append_right _ <| goSlice_append_right _ <| goSlice_append_right _ <| goSlice_append_right _ <|
      goSlice_append_right _ <| goSlice_last _ kid l2 (by rw [hkid])
  · exact goIndex_append_right _ <| goIndex_append_right _ <| goIndex_append_right _ <| goIndex_append_right _ <|
      goIndex_last _ dt l3
  · exact goSlice_append_right _ <| goSlice_append_right _ <| goSlice_append_right _ <| goSlice_last _ L2 l4 (by rw [hL2])
  · exact goSlice_append_right _ <| goSlice_append_right _ <| goSlice_last _ ek l5 rfl
  · rw [List.append_assoc, ← l6]; exact goSliceFrom_append _ _
  · rw [← l7]; exact goSlice_prefix _ suf
  · rw [List.length_append, l7]

theorem c01_buildBlock_length (kid ek ed : Bytes) (hkid : kid.length = 2) :
    (buildBlock kid ek ed).length = 18 + ek.length + ed.length := by
  unfold buildBlock
  simp [c01_blockTag_length, hkid]; omega

/-- `ExtractAcraBlockFromData` in terms of what it reads from `data` -/
theorem c01_extractBlock_of_fields {data rl b : Bytes} {kt dt : UInt8} (hlen : blockMin ≤ data.length)
    (f1 : goSlice data 0 4 = .ok blockTag) (f2 : goSlice data 4 12 = .ok rl)
    (f3 : goIndex data 12 = .ok kt) (f5 : goIndex data 15 = .ok dt)
    (hrl : 14 ≤ leVal rl ∧ leVal rl ≤ data.length - 4)
    (hkt : Layout.blockKeyBackends.contains kt.toNat = true)
    (hdt : Layout.blockDataBackends.contains dt.toNat = true)
    (f9 : goSlice data 0 (4 + leVal rl) = .ok b) :
    extractBlock data = .ok (4 + leVal rl, b) := by
  unfold extractBlock
  rw [if_neg (Nat.not_lt.2 hlen)]
  simp only [Layout.blockTagBeginSize, Layout.blockRestAcraBlockLengthPosition, Layout.blockRestAcraBlockLengthSize,
    Layout.blockKeyEncryptionKeyTypePosition, Layout.blockDataEncryptionTypePosition]
  rw [f1, f2, f3, f5]
  have hmin : blockMin - 4 = 14 := rfl
  simp only [Out.bind_ok, hmin, beq_self_eq_true, decide_eq_true hrl, hkt, hdt, Bool.and_self, if_true, f9, Out.pure_eq]

/-- `ExtractAcraBlockFromData` on a well-formed header followed by arbitrary bytes -/
theorem c01_extractBlock_fields (L8 kid L2 ek ed suf : Bytes) (kt dt : UInt8)
    (hL8 : L8.length = 8) (hkid : kid.length = 2) (hL2 : L2.length = 2)
    (hv : leVal L8 = 14 + ek.length + ed.length)
    (hkt : Layout.blockKeyBackends.contains kt.toNat = true)
    (hdt : Layout.blockDataBackends.contains dt.toNat = true) :
    extractBlock (blockTag ++ L8 ++ [kt] ++ kid ++ [dt] ++ L2 ++ ek ++ ed ++ suf) =
      .ok (18 + ek.length + ed.length, blockTag ++ L8 ++ [kt] ++ kid ++ [dt] ++ L2 ++ ek ++ ed) := by
  have h4 : 18 + ek.length + ed.length = 4 + leVal L8 := by omega
  have hmin : blockMin ≤ 18 + ek.length + ed.length + suf.length := by show 18 ≤ _; omega
  have hrl : 14 ≤ leVal L8 ∧ leVal L8 ≤ 18 + ek.length + ed.length + suf.length - 4 := by omega
  obtain ⟨f1, f2, f3, _, f5, _, _, _, f9, f10⟩ := c01_block_fields blockTag L8 kid L2 ek ed suf kt dt
    c01_blockTag_length hL8 hkid hL2
  rw [← f10] at hmin hrl
  rw [h4] at f9 ⊢
  exact c01_extractBlock_of_fields hmin f1 f2 f3 f5 hrl hkt hdt f9

/-- `ExtractAcraBlockFromData` finds exactly the block at the start of `block ++ suffix` -/
theorem c01_extractBlock_build (kid ek ed suf : Bytes) (hkid : kid.length = 2)
    (hlen : (buildBlock kid ek ed).length < 2^64) :
    extractBlock (buildBlock kid ek ed ++ suf) = .ok ((buildBlock kid ek ed).length, buildBlock kid ek ed) := by
  have hbl := c01_buildBlock_length kid ek ed hkid
  rw [hbl] at hlen
  have hv : leVal (leBytes 8 (blockMin - Layout.blockTagBeginSize + ek.length + ed.length)) = 14 + ek.length + ed.length :=
    c01_leVal_leBytes8 (by show 18 - 4 + ek.length + ed.length < 2^64; omega)
  rw [hbl]
  exact c01_extractBlock_fields _ kid (leBytes 2 ek.length) ek ed suf _ _ (by simp) hkid (by simp) hv
    (by decide) (by decide)

/-- `AcraBlock.Decrypt` in terms of what it reads from `b`: everything is decided by the key loop -/
theorem c01_decryptBlock_of_fields (c : CryptoOps) (keys : List Bytes) {ctx b kl ek ed kid dek m : Bytes} {kt dt : UInt8}
    (f6 : goSlice b 16 18 = .ok kl) (hlen : 18 + leVal kl ≤ b.length)
    (f7 : goSlice b 18 (18 + leVal kl) = .ok ek) (f8 : goSliceFrom b (18 + leVal kl) = .ok ed)
    (f3 : goIndex b 12 = .ok kt) (f5 : goIndex b 15 = .ok dt) (f4 : goSlice b 13 15 = .ok kid)
    (hkt : Layout.blockKeyBackends.contains kt.toNat = true)
    (hdt : Layout.blockDataBackends.contains dt.toNat = true)
    (hfind : findDek c true ctx ek kid keys = .ok (some dek)) (hdec : c.dec dek ctx ed = some m) :
    decryptBlock c keys ctx b = .ok m := by
  have hmin : blockMin = 18 := rfl
  have hkp : blockKeyPos = 18 := rfl
  unfold decryptBlock
  rw [hmin, hkp, if_neg (by omega)]
  simp only [Layout.blockDataEncryptionKeyLengthPosition, Layout.blockDataEncryptionKeyLengthSize,
    Layout.blockKeyEncryptionKeyTypePosition, Layout.blockDataEncryptionTypePosition,
    Layout.blockKeyEncryptionKeyIDPosition, Layout.blockKeyEncryptionKeyIDSize]
  rw [f6, Out.bind_ok, if_neg (by omega), f7, f8, f3, f5, f4]
  simp only [Out.bind_ok, hkt, hdt, Bool.not_true, Bool.false_eq_true, if_false, hfind, hdec]

theorem c01_decryptBlock_fields (c : CryptoOps) (keys : List Bytes) (ctx L8 kid L2 ek ed : Bytes) (kt dt : UInt8)
    (hL8 : L8.length = 8) (hkid : kid.length = 2) (hL2 : L2.length = 2)
    (hv : leVal L2 = ek.length)
    (hkt : Layout.blockKeyBackends.contains kt.toNat = true)
    (hdt : Layout.blockDataBackends.contains dt.toNat = true)
    (dek m : Bytes) (hfind : findDek c true ctx ek kid keys = .ok (some dek)) (hdec : c.dec dek ctx ed = some m) :
    decryptBlock c keys ctx (blockTag ++ L8 ++ [kt] ++ kid ++ [dt] ++ L2 ++ ek ++ ed) = .ok m := by
  obtain ⟨_, _, f3, f4, f5, f6, f7, f8, _, f10⟩ := c01_block_fields blockTag L8 kid L2 ek ed [] kt dt
    c01_blockTag_length hL8 hkid hL2
  simp only [List.append_nil] at f3 f4 f5 f6 f7 f8 f10
  rw [← hv] at f7 f8
  exact c01_decryptBlock_of_fields c keys f6 (by rw [f10, hv]; omega) f7 f8 f3 f5 f4 hkt hdt hfind hdec

/-- the key loop: keys whose 2-byte id differs, or which do not unseal the data key, are passed over -/
theorem c01_findDek_found (c : CryptoOps) (ctx ek kid key dek : Bytes) (pre post : List Bytes)
    (hpre : ∀ k' ∈ pre, keyId c k' ctx = kid → c.dec k' ctx ek = none ∨ c.dec k' ctx ek = some dek)
    (hid : keyId c key ctx = kid) (hdec : c.dec key ctx ek = some dek) :
    findDek c true ctx ek kid (pre ++ key :: post) = .ok (some dek) := by
  induction pre with
  | nil => simp [findDek, hid, hdec]
  | cons k ks ih =>
    have ih' := ih (fun k' hk' => hpre k' (List.mem_cons_of_mem _ hk'))
    simp only [List.cons_append, findDek]
    by_cases hk : keyId c k ctx = kid
    · rcases hpre k (List.mem_cons_self) hk with h | h
      · simp [hk, h, ih']
      · simp [hk, h]
    · have : (keyId c k ctx == kid) = false := by simpa using hk
      simp [this, ih']

/-- what a successful `CreateAcraBlock` has computed -/
theorem c01_createBlock_ok {c : CryptoOps} {key ctx m rnd b : Bytes} (h : createBlock c key ctx m rnd = .ok b) :
    ∃ encData encKey, c.enc (rnd.take 32) ctx m ((rnd.drop 32).take 12) = some encData ∧
      c.enc key ctx (rnd.take 32) ((rnd.drop 44).take 12) = some encKey ∧
      b = buildBlock (keyId c key ctx) encKey encData := by
  unfold createBlock at h
  simp only at h
  split at h
  · cases h
  · next encData h1 =>
    split at h
    · cases h
    · next encKey h2 =>
      cases h
      exact ⟨encData, encKey, h1, h2, rfl⟩

/-- under key commitment a wrapped data key opens under no other key to anything but the data key -/
theorem c01_dec_of_commit {c : CryptoOps} (hs : SealLaws c) (hcm : SealCommit c) {key ctx dek n encKey : Bytes}
    (h : c.enc key ctx dek n = some encKey) (k' : Bytes) :
    c.dec k' ctx encKey = none ∨ c.dec k' ctx encKey = some dek := by
  cases hd : c.dec k' ctx encKey with
  | none => exact Or.inl rfl
  | some d =>
    obtain ⟨n', _, hn⟩ := hs.enc_of_dec _ _ _ _ hd
    obtain ⟨_, _, hdd⟩ := hcm.enc_inj _ _ _ _ _ _ _ _ _ hn h
    exact Or.inr (by rw [hdd])

/-- `AcraBlock.Decrypt` of a freshly built block with a key list that contains the writer's key -/
theorem c01_decryptBlock_build (c : CryptoOps) (hs : SealLaws c) (key ctx dek m encKey encData n1 n2 : Bytes)
    (pre post : List Bytes)
    (hkid : (keyId c key ctx).length = 2) (hek : encKey.length < 65536)
    (h1 : c.enc dek ctx m n1 = some encData) (h2 : c.enc key ctx dek n2 = some encKey)
    (hpre : ∀ k' ∈ pre, keyId c k' ctx = keyId c key ctx →
      c.dec k' ctx encKey = none ∨ c.dec k' ctx encKey = some dek) :
    decryptBlock c (pre ++ key :: post) ctx (buildBlock (keyId c key ctx) encKey encData) = .ok m := by
  unfold buildBlock
  exact c01_decryptBlock_fields c _ ctx _ _ (leBytes 2 encKey.length) encKey encData _ _ (by simp) hkid (by simp)
    (c01_leVal_leBytes2 hek) (by decide) (by decide) dek m
    (c01_findDek_found c ctx encKey _ key dek pre post hpre rfl (hs.dec_enc _ _ _ _ _ h2))
    (hs.dec_enc _ _ _ _ _ h1)

/-- with 32-byte hashes the key id stored in an AcraBlock really is 2 bytes -/
theorem c01_keyId_length {c : CryptoOps} (hh : HashLen c) (key ctx : Bytes) : (keyId c key ctx).length = 2 := by
  unfold keyId
  rw [List.length_take, hh.sha_len]
  decide

/-- sizes of a freshly created AcraBlock under the length law of the AEAD: 18 header + 76 wrapped data key +
44 seal overhead -/
theorem c01_block_sizes {c : CryptoOps} (hs : SealLaws c) (hsl : SealLen c) {key ctx m rnd b : Bytes}
    (hkid : (keyId c key ctx).length = 2) (hc : createBlock c key ctx m rnd = .ok b) :
    b.length = m.length + 138 ∧ m.length < 2^32 ∧
    ∀ encKey, c.enc key ctx (rnd.take 32) ((rnd.drop 44).take 12) = some encKey → encKey.length = 76 := by
  obtain ⟨encData, encKey, h1, h2, rfl⟩ := c01_createBlock_ok hc
  have hn : ¬ (rnd.take 32 = [] ∨ key = [] ∨ ((rnd.drop 44).take 12).length ≠ nonceLen ∨ maxMsgLen ≤ (rnd.take 32).length) := by
    intro hcon
    have := (hs.enc_none key ctx (rnd.take 32) ((rnd.drop 44).take 12)).mpr hcon
    rw [h2] at this; cases this
  have hm : ¬ (m = [] ∨ rnd.take 32 = [] ∨ ((rnd.drop 32).take 12).length ≠ nonceLen ∨ maxMsgLen ≤ m.length) := by
    intro hcon
    have := (hs.enc_none (rnd.take 32) ctx m ((rnd.drop 32).take 12)).mpr hcon
    rw [h1] at this; cases this
  simp only [not_or, Decidable.not_not, Nat.not_le] at hn hm
  have hr : 56 ≤ rnd.length := by
    have h := hn.2.2.1
    rw [List.length_take, List.length_drop] at h
    have : nonceLen = 12 := rfl
    omega
  have hso : sealOverhead = 44 := rfl
  have hdek : (rnd.take 32).length = 32 := by rw [List.length_take]; omega
  have hek : ∀ ek, c.enc key ctx (rnd.take 32) ((rnd.drop 44).take 12) = some ek → ek.length = 76 := by
    intro ek h
    rw [hsl.enc_len _ _ _ _ _ h, hdek, hso]
  refine ⟨?_, hm.2.2.2, hek⟩
  rw [c01_buildBlock_length _ _ _ hkid, hek _ h2, hsl.enc_len _ _ _ _ _ h1, hso]
  omega

end AcraModel.Envelope
