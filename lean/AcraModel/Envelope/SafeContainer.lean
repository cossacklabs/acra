import AcraModel.Envelope.SafeStruct
/-!
Serialized container and registry handler: closed form of `validateContainer`, no panic of every
function up to `process` / `protect`, bounds of `extractContainer` and `deserialize`
(helpers for C03 / C14).
-/
namespace AcraModel.Envelope
open AcraModel Generated

theorem validateContainer_eq (d : Bytes) :
    validateContainer d = if d.length ≤ 12 then .err else
      if d.take 3 ≠ containerTag then .err else
        match kindOfId (d.getD 11 0) with
        | some _ => .ok (d.getD 11 0)
        | none => .err := by
  unfold validateContainer
  rw [show containerMin = 12 from rfl, show containerTag.length = 3 from rfl,
    show Layout.containerTagBeginSize = 3 from rfl, show Layout.containerLengthSize = 8 from rfl]
  by_cases h : d.length ≤ 12
  · rw [if_pos h, if_pos h]
  · rw [if_neg h, if_neg h, goSlice_zero_ok d 3 (by omega), goIndex_ok d (3 + 8) (by omega)]
    simp only [Out.bind_ok]
    rw [getD_eq_getElem d 11 (by omega)]
    rfl

theorem validateContainer_ne_panic (d : Bytes) : validateContainer d ≠ .panic := by
  rw [validateContainer_eq]; repeat' split
  all_goals simp

theorem validateContainer_ok {d : Bytes} {id : UInt8} (h : validateContainer d = .ok id) :
    12 < d.length ∧ d.take 3 = containerTag ∧ id = d.getD 11 0 ∧ ∃ k, kindOfId id = some k := by
  rw [validateContainer_eq] at h
  split at h
  · cases h
  · split at h
    · cases h
    · next h1 h2 =>
      split at h
      · next k hk => cases h; exact ⟨by omega, by simpa using h2, rfl, k, hk⟩
      · cases h

theorem matchOld_ne_panic (d : Bytes) : matchOld d ≠ .panic := by
  unfold matchOld
  split
  · next h => exact absurd h (validateStruct_ne_panic d)
  · next h => rw [getDataLength_eq d (validateStruct_ok h).1]; simp
  · split
    · simp
    · next h => exact absurd h (extractBlock_ne_panic d)
    · simp

/-- what `matchOldContainer` answers: a whole-buffer AcraStruct or an AcraBlock at the start -/
theorem matchOld_ok {d : Bytes} {id : UInt8} {n : Int} (h : matchOld d = .ok (id, n)) :
    (validateStruct d = .ok () ∧ id = idStruct ∧ (d.length < 2^63 → n = (d.length : Int))) ∨
    (validateStruct d = .err ∧ id = idBlock ∧ ∃ k b, extractBlock d = .ok (k, b) ∧ n = (k : Int)) := by
  unfold matchOld at h
  split at h
  · cases h
  · next hv =>
    obtain ⟨h1, _, h3⟩ := validateStruct_ok hv
    rw [getDataLength_eq d h1, h3] at h
    simp only [Out.bind_ok, Out.pure_eq, Out.ok.injEq, Prod.mk.injEq] at h
    left
    refine ⟨hv, h.1.symm, ?_⟩
    intro hd
    rw [← h.2, toInt64_of_lt (show d.length - 145 < 2^63 by omega), c01_structMin]
    have e : (((d.length - 145 : Nat) : Int) + ((145 : Nat) : Int)).toNat = d.length := by omega
    rw [e, toInt64_of_lt hd]
  · next hv =>
    split at h
    · next k b hb => cases h; right; exact ⟨hv, rfl, k, b, hb, rfl⟩
    · cases h
    · cases h

theorem getEnvelopeID_ne_panic (d : Bytes) : getEnvelopeID d ≠ .panic := by
  unfold getEnvelopeID
  split
  · simp
  · next h => exact absurd h (validateContainer_ne_panic d)
  · split
    · simp
    · next h => exact absurd h (matchOld_ne_panic d)
    · simp

theorem getEnvelopeID_ok {d : Bytes} {id : UInt8} {old : Bool} (h : getEnvelopeID d = .ok (id, old)) :
    (old = false ∧ validateContainer d = .ok id) ∨
    (old = true ∧ validateContainer d = .err ∧ ∃ n, matchOld d = .ok (id, n)) := by
  unfold getEnvelopeID at h
  split at h
  · next hv => cases h; exact .inl ⟨rfl, hv⟩
  · cases h
  · next hv =>
    split at h
    · next id' n hm => cases h; exact .inr ⟨rfl, hv, n, hm⟩
    · cases h
    · cases h

/-- the length field `data[3:11]` of a container header -/
theorem goSlice_lengthField (d : Bytes) (h : 11 ≤ d.length) :
    goSlice d containerTag.length (containerTag.length + Layout.containerLengthSize) = .ok ((d.take 11).drop 3) :=
  goSlice_ok d 3 11 (by omega) h

-- NB: no `simp` on goals that mention `leVal lb + 2^64 - containerMin` (it does not come back)
theorem containerInternalLength_ne_panic (d : Bytes) (h : 11 ≤ d.length) : containerInternalLength d ≠ .panic := by
  unfold containerInternalLength
  rw [goSlice_lengthField d h, Out.bind_ok]
  exact ite_ne_panic (fun h => nomatch h) (fun h => nomatch h)

theorem containerInternalLength_short (d : Bytes) (h : d.length < 11) : containerInternalLength d = .panic := by
  unfold containerInternalLength goSlice
  rw [show containerTag.length = 3 from rfl, show Layout.containerLengthSize = 8 from rfl, if_neg (by omega)]
  rfl

theorem containerInternalLength_ok {d : Bytes} {n : Nat} (h : containerInternalLength d = .ok n) :
    n ≤ d.length - 12 := by
  unfold containerInternalLength at h
  obtain ⟨lb, _, h⟩ := Out.bind_eq_ok h
  obtain ⟨hc, rfl⟩ := ite_err_pure_ok h
  exact Nat.le_of_not_gt hc

theorem deserialize_ne_panic (d : Bytes) : deserialize d ≠ .panic := by
  unfold deserialize
  apply Out.bind_ne_panic (getEnvelopeID_ne_panic d)
  rintro ⟨id, old⟩ hid
  cases old with
  | true => simp
  | false =>
    simp only [Bool.false_eq_true, if_false]
    rcases getEnvelopeID_ok hid with ⟨_, hv⟩ | ⟨ho, _⟩
    · have hl := (validateContainer_ok hv).1
      apply Out.bind_ne_panic (containerInternalLength_ne_panic d (by omega))
      intro n _
      rw [show containerMin = 12 from rfl, goSliceFrom_ok d 12 (by omega)]
      simp
    · cases ho

/-- the internal envelope `DeserializeEncryptedData` hands out is a part of the input -/
theorem deserialize_ok {d i : Bytes} {id : UInt8} (h : deserialize d = .ok (i, id)) :
    (i = d ∧ validateContainer d = .err ∧ ∃ n, matchOld d = .ok (id, n)) ∨
    (validateContainer d = .ok id ∧ ∃ n, containerInternalLength d = .ok n ∧ i = (d.drop 12).take n) := by
  unfold deserialize at h
  obtain ⟨⟨id', old⟩, hid, h⟩ := Out.bind_eq_ok h
  rcases getEnvelopeID_ok hid with ⟨rfl, hv⟩ | ⟨rfl, hv, n, hm⟩
  · simp only [Bool.false_eq_true, if_false] at h
    obtain ⟨n, hc, h⟩ := Out.bind_eq_ok h
    rw [show containerMin = 12 from rfl, goSliceFrom_ok d 12 (by have := (validateContainer_ok hv).1; omega)] at h
    obtain ⟨rfl, rfl⟩ := Prod.mk.inj (Out.ok.inj h)
    exact .inr ⟨hv, n, hc, rfl⟩
  · obtain ⟨rfl, rfl⟩ := Prod.mk.inj (Out.ok.inj h)
    exact .inl ⟨rfl, hv, n, hm⟩

theorem deserialize_length {d i : Bytes} {id : UInt8} (h : deserialize d = .ok (i, id)) : i.length ≤ d.length := by
  rcases deserialize_ok h with ⟨rfl, _⟩ | ⟨_, n, hn, rfl⟩
  · exact Nat.le_refl _
  · have := containerInternalLength_ok hn
    rw [List.length_take, List.length_drop]; omega

theorem serialize_ne_panic (e : Bytes) (id : UInt8) : serialize e id ≠ .panic := by
  unfold serialize; split <;> simp

theorem extractContainer_ne_panic (d : Bytes) : extractContainer d ≠ .panic := by
  unfold extractContainer
  split
  · next h => exact absurd h (validateContainer_ne_panic d)
  · next id h =>
    rw [goSlice_lengthField d (by have := (validateContainer_ok h).1; omega), Out.bind_ok]
    exact ite_ne_panic (fun h => nomatch h) (fun h => nomatch h)
  · split
    · exact Out.bind_ne_panic (serialize_ne_panic _ _) (by intro a _; simp)
    · next h => exact absurd h (matchOld_ne_panic d)
    · simp

/-- the three ways `ExtractSerializedContainer` succeeds -/
theorem extractContainer_ok {d : Bytes} {n : Int} {cont : Bytes} (h : extractContainer d = .ok (n, cont)) :
    (∃ id, validateContainer d = .ok id ∧ cont = d ∧
      12 ≤ leVal ((d.take 11).drop 3) ∧ leVal ((d.take 11).drop 3) ≤ d.length ∧ n = toInt64 (leVal ((d.take 11).drop 3))) ∨
    (validateContainer d = .err ∧ ∃ id, matchOld d = .ok (id, n) ∧ serialize d id = .ok cont) := by
  unfold extractContainer at h
  split at h
  · cases h
  · next id hv =>
    have hl := (validateContainer_ok hv).1
    rw [goSlice_lengthField d (by omega), show containerMin = 12 from rfl, Out.bind_ok] at h
    obtain ⟨hc, h⟩ := ite_err_pure_ok h
    obtain ⟨rfl, rfl⟩ := Prod.mk.inj h
    exact .inl ⟨id, hv, rfl, by omega, by omega, rfl⟩
  · next hv =>
    split at h
    · next id n' hm =>
      obtain ⟨s, hs, h⟩ := Out.bind_eq_ok h
      obtain ⟨rfl, rfl⟩ := Prod.mk.inj (Out.ok.inj h)
      exact .inr ⟨hv, id, hm, hs⟩
    · cases h
    · cases h

/-- `ExtractSerializedContainer` tells its caller to advance by at least one byte and never past the
end of the data (for data shorter than 2^63 bytes – every Go slice is). -/
theorem extractContainer_bounds' {d : Bytes} {n : Int} {cont : Bytes} (hd : d.length < 2^63)
    (h : extractContainer d = .ok (n, cont)) : 0 < n ∧ n ≤ d.length := by
  rcases extractContainer_ok h with ⟨id, _, _, h1, h2, rfl⟩ | ⟨_, id, hm, _⟩
  · rw [toInt64_of_lt (by omega)]; omega
  · rcases matchOld_ok hm with ⟨hv, _, hn⟩ | ⟨_, _, k, b, hb, rfl⟩
    · have := (validateStruct_ok hv).1
      rw [hn hd]; omega
    · have := extractBlock_bounds' hb
      omega

theorem createBlock_ne_panic (c : CryptoOps) (key ctx m rnd : Bytes) : createBlock c key ctx m rnd ≠ .panic := by
  unfold createBlock
  intro h
  dsimp only at h
  split at h
  · cases h
  · split at h <;> cases h

theorem createStruct_ne_panic (c : CryptoOps) (pub ctx m rnd : Bytes) : createStruct c pub ctx m rnd ≠ .panic := by
  unfold createStruct
  intro h
  dsimp only at h
  split at h
  · cases h
  · split at h <;> cases h

theorem decryptKind_ne_panic (c : CryptoOps) (kv : KeyView) (k : Kind) (i : Bytes) : decryptKind c kv k i ≠ .panic := by
  unfold decryptKind
  cases k with
  | struct =>
    simp only
    split
    · next h => exact absurd h (validateStruct_ne_panic i)
    · simp
    · split
      · simp
      · exact decryptStructRotated_ne_panic c [] i _
  | block =>
    simp only
    split
    · next h => exact absurd h (extractBlock_ne_panic i)
    · simp
    · next n b hb =>
      split
      · simp
      · split
        · simp
        · exact decryptBlock_extracted_ne_panic c _ [] i n b hb

theorem decryptWithHandler_ne_panic (c : CryptoOps) (kv : KeyView) (k : Kind) (d : Bytes) :
    decryptWithHandler c kv k d ≠ .panic := by
  unfold decryptWithHandler
  apply Out.bind_ne_panic (deserialize_ne_panic d)
  rintro ⟨i, id⟩ _
  simp only
  split
  · simp
  · exact decryptKind_ne_panic c kv k i

theorem process_ne_panic (c : CryptoOps) (kv : KeyView) (d : Bytes) : process c kv d ≠ .panic := by
  unfold process
  apply Out.bind_ne_panic (getEnvelopeID_ne_panic d)
  rintro ⟨id, old⟩ _
  simp only
  split
  · simp
  · exact decryptWithHandler_ne_panic c kv _ d

theorem encryptKind_ne_panic (c : CryptoOps) (kv : KeyView) (k : Kind) (d rnd : Bytes) :
    encryptKind c kv k d rnd ≠ .panic := by
  unfold encryptKind
  split
  · simp
  · cases k with
    | struct =>
      simp only
      split
      · simp
      · exact createStruct_ne_panic _ _ _ _ _
    | block =>
      simp only
      split
      · simp
      · exact createBlock_ne_panic _ _ _ _ _

theorem protect_ne_panic (c : CryptoOps) (kv : KeyView) (k : Kind) (d rnd : Bytes) :
    protect c kv k d rnd ≠ .panic := by
  unfold protect
  split
  · simp
  · exact Out.bind_ne_panic (encryptKind_ne_panic c kv k d rnd) (fun e _ => serialize_ne_panic e _)

end AcraModel.Envelope
