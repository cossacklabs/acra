import AcraModel.Envelope.MaskLemmas
import AcraModel.Props.C01
/-!
What the non-vacuity examples of C11 share: a masked write with the AcraBlock handler succeeds, and a
reader without keys is a non-owner of what it stored.
-/
namespace AcraModel.Envelope
open AcraModel AcraModel.Props.C01

theorem maskWrite_block_noKeys (c : CryptoOps) (hs : SealLaws c) (hsl : SealLen c) (kvW kvN : KeyView) (cfg : MaskCfg)
    (v rnd key : Bytes) (hW : kvW.sym = some key) (hkey : key ≠ []) (hkid : (keyId c key []).length = 2)
    (hN : kvN.privs = none ∧ kvN.syms = none) (hkind : cfg.kind = .block)
    (hpat : cfg.pattern ≠ []) (hpl : cfg.pattern.length ≤ 12)
    (hnm : matchKind .block (hiddenPart cfg v) = false) (hnr : registryMatch (hiddenPart cfg v) = false)
    (hne : hiddenPart cfg v ≠ []) (hlen : (hiddenPart cfg v).length < maxMsgLen) (hr : 56 ≤ rnd.length) :
    ∃ p, p.length = (hiddenPart cfg v).length + 150 ∧ NonOwnerHyps c kvW kvN cfg v rnd p ∧
      maskWrite c kvW cfg v rnd = .ok (joinSides cfg (windowPart cfg v) p) := by
  obtain ⟨p, hp⟩ := protect_block_total c hs kvW key (hiddenPart cfg v) rnd hW hkey hne hlen hr
  obtain ⟨hpl', _⟩ := protect_block_length c hs hsl kvW key _ _ p hW hkid hnm hnr hp
  rw [← hkind] at hp hnm
  have : maxMsgLen = 2^32 := rfl
  refine ⟨p, hpl', nonOwner_of_no_keys c kvW kvN cfg v rnd p hnm hnr hp (by omega) (Or.inl hpl) hN, ?_⟩
  rw [maskWrite_eq c kvW cfg v _ hpat, hp]; rfl

end AcraModel.Envelope
