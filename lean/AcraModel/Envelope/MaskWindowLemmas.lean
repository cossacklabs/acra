import AcraModel.Envelope.MaskParts
import AcraModel.Envelope.SafeCompatSame
import AcraModel.Envelope.WindowOk
/-!
The clear window of a masked value may contain `%` (C11): what the read theorems need is not "no `%`
in the window" but only that the column scan passes over every position of the window – i.e. that no
position inside the window is the start of something `ExtractSerializedContainer` accepts when read
together with the bytes that follow it in the stored value (the container's own header included).
`windowOk` is that condition, stated with the model's own decode attempt; it is executable (the
harness asks the model for it) and it is implied by C11's `cleanWindow` (neither `%` nor `"` in the window).
-/
namespace AcraModel.Envelope
open AcraModel Generated

theorem leBytes8_small (n : Nat) (h : n < 2^48) : ∃ a b c d e f : UInt8, leBytes 8 n = [a, b, c, d, e, f, 0, 0] := by
  have h6 : (leBytes 6 n).length = 6 := leBytes_length 6 n
  have := leBytes_add 6 2 n
  have h256 : (256:Nat)^6 = 2^48 := by decide
  have hz : n / 256 ^ 6 = 0 := Nat.div_eq_of_lt (by omega)
  rw [hz] at this
  match hq : leBytes 6 n, h6 with
  | [a, b, c, d, e, f], _ =>
    refine ⟨a, b, c, d, e, f, ?_⟩
    show leBytes (6 + 2) n = _
    rw [this, hq]
    rfl

/-- one or two `%` directly in front of a serialized container shorter than 2^48 bytes: the would-be
envelope id is the top resp. second-highest byte of the container's own length field, i.e. 0 -/
theorem skipHere_pct (k : Nat) (hk : k = 1 ∨ k = 2) (e suf : Bytes) (id : UInt8) (hlen : e.length + 12 < 2^48) :
    skipHere (List.replicate k 37 ++ (serBytes e id ++ suf)) = true := by
  obtain ⟨a, b, c, d, e', f, hL⟩ := leBytes8_small (containerMin + e.length) (by show 12 + e.length < _; omega)
  apply skipHere_of_bad_header
  right
  have ht : containerTag = [37, 37, 37] := by decide
  unfold serBytes
  rw [hL, ht]
  rcases hk with rfl | rfl <;> exact (by decide : kindOfId 0 = none)

/-- **A left window whose only `%` bytes are one or two at its very end** (`100%`, `50%%`): every position
is passed over in front of a serialized container shorter than 2^48 bytes -/
theorem windowOk_trailing_pct (w0 e suf : Bytes) (id : UInt8) (j : Nat) (hj : j ≤ 2)
    (hw0 : ∀ x ∈ w0, x ≠ 37) (hlen : e.length + 12 < 2^48) :
    windowOk (w0 ++ List.replicate j 37) (serBytes e id ++ suf) = true := by
  apply windowOk_of
  intro i hi
  rw [List.length_append, List.length_replicate] at hi
  rw [List.append_assoc]
  by_cases h0 : i < w0.length
  · have hi' : i < (w0 ++ (List.replicate j 37 ++ (serBytes e id ++ suf))).length := by rw [List.length_append]; omega
    rw [List.drop_eq_getElem_cons hi']
    apply skipHere_of_head_ne
    rw [List.getElem_append_left h0]
    exact hw0 _ (List.getElem_mem h0)
  · have hd : (w0 ++ (List.replicate j 37 ++ (serBytes e id ++ suf))).drop i =
        (List.replicate j 37 ++ (serBytes e id ++ suf)).drop (i - w0.length) := by
      have : w0.drop i = [] := List.drop_eq_nil_of_le (by omega)
      rw [List.drop_append, this]
      rfl
    rw [hd]
    rw [List.drop_append_of_le_length (by rw [List.length_replicate]; omega), List.drop_replicate]
    exact skipHere_pct _ (by omega) e suf id hlen

/-- A serialized container between bytes the scan passes over: when the callbacks (the wrapper's own
first) replace the container (handed to them together with the bytes after it) by `m`, the
compatibility wrapper returns `before ++ m ++ after`; the "envelope seen" flag is set, so the legacy
scans for bare envelopes do not run. -/
theorem onColumnCompat_container_win (cbs : List Callback) (k : Kind) (e pre suf m : Bytes)
    (he : e ≠ []) (hlen : e.length + 12 < 2^63)
    (hrun : runCallbacks (serBytes e k.id ++ suf) ((fun _ => Cb.same) :: cbs) = .replace m)
    (hpre : windowOk pre (serBytes e k.id ++ suf) = true) (hsuf : windowOk suf [] = true) :
    onColumnCompat cbs (pre ++ serBytes e k.id ++ suf) = .ok (pre ++ m ++ suf) true := by
  have hproc := c01_procAt_ser _ k e suf m he hlen hrun
  have hskip := windowOk_skip ((fun _ => Cb.same) :: cbs) hpre
  rw [← List.append_assoc] at hskip
  have hl : containerMin ≤ (pre ++ serBytes e k.id ++ suf).length := by
    rw [List.length_append, List.length_append, c01_serBytes_length]
    show 12 ≤ _
    omega
  have hscan := c01_onColumn_scan ((fun _ => Cb.same) :: cbs) _ (by simp) hl
  rw [c01_scan_embedded _ pre (serBytes e k.id) suf m hskip (serBytes_ne_nil e k.id) (c01_headStep_of_procAt hproc)] at hscan
  have hs' := windowOk_skip ((fun _ => Cb.same) :: cbs) hsuf
  simp only [List.append_nil] at hs'
  obtain ⟨hit, hsc⟩ := c01_scan_plain _ suf hs'
  rw [hsc] at hscan
  rw [onColumnCompat_eq, hscan]
  simp [ScanOut.prepend]

/-- the condition on the clear window of a masked value stored as `window | container` (left) resp.
`container | window` (right): every position of the window is passed over by the scan when read
together with what follows it in the stored value -/
def maskWindowOk (cfg : MaskCfg) (w p : Bytes) : Bool :=
  windowOk (if cfg.left then w else []) (p ++ afterContainer cfg w) && windowOk (afterContainer cfg w) []

theorem maskWindowOk_of_noPct (cfg : MaskCfg) (w p : Bytes) (h : ∀ x ∈ w, x ≠ 37) : maskWindowOk cfg w p = true := by
  unfold maskWindowOk
  rw [Bool.and_eq_true]
  exact ⟨windowOk_of_noPct _ _ (side_noPct h).1, windowOk_of_noPct _ _ (side_noPct h).2⟩

/-- reading `window | container` resp. `container | window` when the masking callback replaces the
container (handed to it with the bytes after it) by `m` -/
theorem maskRead_replaced (c : CryptoOps) (kvR : KeyView) (cfg : MaskCfg) (w e m : Bytes)
    (hpat : cfg.pattern ≠ []) (hw : maskWindowOk cfg w (serBytes e cfg.kind.id) = true)
    (he : e ≠ []) (hlen : e.length + 12 < 2^63)
    (hcb : maskCallback c kvR cfg.pattern (serBytes e cfg.kind.id ++ afterContainer cfg w) = .replaced m) :
    maskRead c kvR cfg (joinSides cfg w (serBytes e cfg.kind.id)) = .ok (joinSides cfg w m) true := by
  unfold maskWindowOk at hw
  rw [Bool.and_eq_true] at hw
  unfold maskRead
  rw [if_neg hpat, joinSides_eq, joinSides_eq]
  exact onColumnCompat_container_win _ cfg.kind e _ _ m he hlen (by simp [runCallbacks, hcb]) hw.1 hw.2

/-- the owner reads window and plaintext -/
theorem maskRead_owner_win (c : CryptoOps) (kvR : KeyView) (cfg : MaskCfg) (w e m : Bytes)
    (hpat : cfg.pattern ≠ []) (hw : maskWindowOk cfg w (serBytes e cfg.kind.id) = true)
    (he : e ≠ []) (hlen : e.length + 12 < 2^63)
    (hproc : process c kvR (serBytes e cfg.kind.id ++ afterContainer cfg w) = .ok m)
    (hne : m ≠ serBytes e cfg.kind.id ++ afterContainer cfg w) :
    maskRead c kvR cfg (joinSides cfg w (serBytes e cfg.kind.id)) = .ok (joinSides cfg w m) true :=
  maskRead_replaced c kvR cfg w e m hpat hw he hlen (maskCallback_owner hproc hne)

/-- a reader who cannot open the container reads window and pattern -/
theorem maskRead_other_win (c : CryptoOps) (kvR : KeyView) (cfg : MaskCfg) (w e : Bytes)
    (hpat : cfg.pattern ≠ []) (hw : maskWindowOk cfg w (serBytes e cfg.kind.id) = true)
    (he : e ≠ []) (hlen : e.length + 12 < 2^63)
    (hproc : ∀ m, process c kvR (serBytes e cfg.kind.id ++ afterContainer cfg w) ≠ .ok m)
    (hne : cfg.pattern.length ≤ 12 ∨ cfg.pattern ≠ serBytes e cfg.kind.id ++ afterContainer cfg w) :
    maskRead c kvR cfg (joinSides cfg w (serBytes e cfg.kind.id)) = .ok (joinSides cfg w cfg.pattern) true := by
  refine maskRead_replaced c kvR cfg w e _ hpat hw he hlen (maskCallback_other hproc (hne.elim (fun h heq => ?_) id))
  -- a pattern of at most 12 bytes is shorter than any container
  have := congrArg List.length heq
  rw [List.length_append, c01_serBytes_length] at this
  have : 0 < e.length := List.length_pos_iff.mpr he
  omega

theorem maskRead_nonOwner_win (c : CryptoOps) (kvW kvR : KeyView) (cfg : MaskCfg) (v rnd p stored : Bytes)
    (hpat : cfg.pattern ≠ []) (hw : maskWindowOk cfg (windowPart cfg v) p = true)
    (h : NonOwnerHyps c kvW kvR cfg v rnd p) (hwr : maskWrite c kvW cfg v rnd = .ok stored) :
    maskRead c kvR cfg stored = .ok (joinSides cfg (windowPart cfg v) cfg.pattern) true := by
  obtain ⟨hnm, hnr, hp, hplen, hfail, hpc⟩ := h
  obtain ⟨p', hp', rfl⟩ := maskWrite_ok hpat hwr
  rw [hp] at hp'; cases hp'
  obtain ⟨e, _, he, rfl⟩ := c01_protect_ok hp hnm hnr
  rw [c01_serBytes_length] at hplen
  exact maskRead_other_win c kvR cfg _ e hpat hw he (by omega) hfail hpc

/-- `windowOk w []` computed in one walk over `w` -/
theorem windowOk_of_allSuffixes {w : Bytes} (h : allSuffixes skipHere w = true) : windowOk w [] = true :=
  windowOk_of w [] fun i hi => by rw [List.append_nil]; exact allSuffixes_drop h i hi

/-- What the masked read does when a position in front of the real container DOES decode as a container
start (`C` = the bytes the false header declares, `suf` = everything after them, the real container's
remains included): nobody can open `C ++ suf`, so the masking callback answers with the pattern, the
scan advances by the DECLARED length `|C|` and goes on in `suf`. If the scan passes over `suf` (because
the real container's header has been stepped over), `suf` is handed to the reader as it is. -/
theorem maskRead_false_header (c : CryptoOps) (kv : KeyView) (cfg : MaskCfg) (pre C suf : Bytes)
    (hpat : cfg.pattern ≠ [])
    (hpre : windowOk pre (C ++ suf) = true)
    (hC : C ≠ []) (htag : startsWith containerTag (C ++ suf) = true)
    (hx : extractContainer (C ++ suf) = .ok ((C.length : Int), C ++ suf))
    (hproc : ∀ m, process c kv (C ++ suf) ≠ .ok m) (hne : cfg.pattern ≠ C ++ suf)
    (hsuf : windowOk suf [] = true) (hlen : 12 ≤ (pre ++ C ++ suf).length) :
    maskRead c kv cfg (pre ++ C ++ suf) = .ok (pre ++ cfg.pattern ++ suf) true := by
  have hrun : runCallbacks (C ++ suf) [fun _ => Cb.same, maskCallback c kv cfg.pattern] = .replace cfg.pattern := by
    simp [runCallbacks, maskCallback_other hproc hne]
  have hCpos : 0 < C.length := List.length_pos_iff.mpr hC
  have hproc' : procAt [fun _ => Cb.same, maskCallback c kv cfg.pattern] (C ++ suf) cfg.pattern C.length :=
    ⟨htag, _, _, hx, hrun, by omega, by rw [List.length_append]; omega, by simp⟩
  have hskip := windowOk_skip [fun _ => Cb.same, maskCallback c kv cfg.pattern] hpre
  rw [← List.append_assoc] at hskip
  have hscan := c01_onColumn_scan [fun _ => Cb.same, maskCallback c kv cfg.pattern] _ (by simp) (by show 12 ≤ _; exact hlen)
  rw [c01_scan_embedded _ pre C suf cfg.pattern hskip hC (c01_headStep_of_procAt hproc'), scan_windowOk _ suf hsuf] at hscan
  unfold maskRead
  rw [if_neg hpat, onColumnCompat_eq, hscan]
  simp [ScanOut.prepend]

end AcraModel.Envelope
