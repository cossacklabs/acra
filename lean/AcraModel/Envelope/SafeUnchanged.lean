import AcraModel.Envelope.SafeCompat
/-!
"Whatever cannot be decrypted is returned byte-identical": the scan with the decrypt callback
(helpers for C03).
-/
namespace AcraModel.Envelope
open AcraModel Generated

theorem startsWith_containerTag {d : Bytes} (h : startsWith containerTag d = true) : d.take 3 = containerTag := by
  unfold startsWith at h
  rw [show containerTag.length = 3 from rfl] at h
  simpa using h

/-- data that starts with the container tag `%%%` is neither a bare AcraStruct nor a bare AcraBlock -/
theorem matchOld_of_containerTag {d : Bytes} (h : d.take 3 = containerTag) : matchOld d = .err := by
  cases hm : matchOld d with
  | err => rfl
  | panic => exact absurd hm (matchOld_ne_panic d)
  | ok p =>
    obtain ⟨id, n⟩ := p
    exfalso
    rcases matchOld_ok hm with ⟨hv, _⟩ | ⟨_, _, k, b, hb, _⟩
    · have h8 := (validateStruct_ok hv).2.1
      have : d.take 3 = (d.take 8).take 3 := by rw [List.take_take]; rfl
      rw [h8, h] at this
      revert this; decide
    · have h4 := ((blockHeaderOk_iff d).1 (extractBlock_ok hb).2.1).1
      have : d.take 3 = (d.take 4).take 3 := by rw [List.take_take]; rfl
      rw [h4, h] at this
      revert this; decide

/-- inside `OnColumn` (which only looks at positions where `%%%` starts) the container handed to the
callbacks is the remaining buffer itself -/
theorem extractContainer_of_containerTag {d : Bytes} (h : d.take 3 = containerTag) {n : Int} {cont : Bytes}
    (he : extractContainer d = .ok (n, cont)) : cont = d := by
  rcases extractContainer_ok he with ⟨_, _, hc, _⟩ | ⟨_, id, hm, _⟩
  · exact hc
  · rw [matchOld_of_containerTag h] at hm; cases hm

theorem runCallbacks_decrypt_skip {c : CryptoOps} {kv : KeyView} {cont : Bytes}
    (h : ∀ m, process c kv cont = .ok m → m = cont) : runCallbacks cont [decryptCallback c kv] = .skip := by
  simp only [runCallbacks, decryptCallback]
  cases hp : process c kv cont with
  | ok m => simp [h m hp]
  | err => simp
  | panic => simp

/-- `OnColumn` returns the value unchanged when the callbacks skip every container found in it -/
theorem onColumn_skip (cbs : List Callback) (rest : Bytes)
    (hs : ∀ i, i < rest.length → startsWith containerTag (rest.drop i) = true →
      ∀ n cont, extractContainer (rest.drop i) = .ok (n, cont) → runCallbacks cont cbs = .skip) :
    ∃ hit, onColumn cbs rest = .ok rest hit := by
  unfold onColumn
  split
  · exact ⟨false, rfl⟩
  · exact scan_same cbs rest hs

theorem onColumn_same (cbs : List Callback) (rest : Bytes)
    (hs : ∀ i, i < rest.length → startsWith containerTag (rest.drop i) = true → runCallbacks (rest.drop i) cbs = .skip) :
    ∃ hit, onColumn cbs rest = .ok rest hit :=
  onColumn_skip cbs rest fun i hi hst _ _ he =>
    extractContainer_of_containerTag (startsWith_containerTag hst) he ▸ hs i hi hst

/-- **Damaged values pass through unchanged.** If at every position of the column value where a
container tag starts `Process` fails (or returns its input), `OnColumn` with the decrypt callback
returns the value byte for byte. -/
theorem onColumn_decrypt_same (c : CryptoOps) (kv : KeyView) (rest : Bytes)
    (hs : ∀ i, i < rest.length → startsWith containerTag (rest.drop i) = true →
      ∀ m, process c kv (rest.drop i) = .ok m → m = rest.drop i) :
    ∃ hit, onColumn [decryptCallback c kv] rest = .ok rest hit :=
  onColumn_same _ rest fun i hi hst => runCallbacks_decrypt_skip (hs i hi hst)

end AcraModel.Envelope
