import AcraModel.Envelope.AcraStruct
import AcraModel.Envelope.SliceLemmas
/-!
Layout lemmas for the AcraStruct (C01): what `validateStruct` / `extractStruct` / `decryptStruct` read
back from the bytes `createStruct` writes.
-/
namespace AcraModel.Envelope
open AcraModel Generated

theorem c01_structTag_length : structTag.length = 8 := by decide

/-- the fields of `tag(8) | pub(45) | wrapped key(84) | dataLength(8) | body | suffix` -/
theorem c01_struct_fields (t pub wk L8 body suf : Bytes)
    (ht : t.length = 8) (hpub : pub.length = 45) (hwk : wk.length = 84) (hL8 : L8.length = 8) :
    goSlice (t ++ pub ++ wk ++ L8 ++ body ++ suf) 0 8 = .ok t ∧
    goSlice (t ++ pub ++ wk ++ L8 ++ body ++ suf) 137 145 = .ok L8 ∧
    goSlice (t ++ pub ++ wk ++ L8 ++ body ++ suf) 0 (145 + body.length) = .ok (t ++ pub ++ wk ++ L8 ++ body) ∧
    goSliceFrom (t ++ pub ++ wk ++ L8 ++ body ++ suf) 8 = .ok (pub ++ wk ++ L8 ++ body ++ suf) ∧
    (t ++ pub ++ wk ++ L8 ++ body ++ suf).length = 145 + body.length + suf.length := by
  have l1 : (t ++ pub).length = 53 := by rw [List.length_append, ht, hpub]
  have l2 : (t ++ pub ++ wk).length = 137 := by rw [List.length_append, l1, hwk]
  have l3 : (t ++ pub ++ wk ++ L8).length = 145 := by rw [List.length_append, l2, hL8]
  have l4 : (t ++ pub ++ wk ++ L8 ++ body).length = 145 + body.length := by rw [List.length_append, l3]
  refine ⟨?_, ?_, ?_, ?_, ?_⟩
  · have h : goSlice (t ++ pub) 0 8 = .ok t := by rw [← ht]; exact goSlice_prefix t pub
    exact goSlice_append_right _ <| goSlice_append_right _ <| goSlice_append_right _ <| goSlice_append_right _ h
  · exact goSlice_append_right _ <| goSlice_append_right _ <| goSlice_last _ L8 l2 (by rw [hL8])
  · rw [← l4]; exact goSlice_prefix _ suf
  · simp only [List.append_assoc]; rw [← ht]; exact goSliceFrom_append t _
  · rw [List.length_append, l4]

/-- the fields of the part after the tag -/
theorem c01_struct_inner_fields (pub wk L8 body : Bytes)
    (hpub : pub.length = 45) (hwk : wk.length = 84) (hL8 : L8.length = 8) :
    goSlice (pub ++ wk ++ L8 ++ body) 0 45 = .ok pub ∧
    goSlice (pub ++ wk ++ L8 ++ body) 45 129 = .ok wk ∧
    goSlice (pub ++ wk ++ L8 ++ body) 129 137 = .ok L8 ∧
    goSliceFrom (pub ++ wk ++ L8 ++ body) 137 = .ok body := by
  have l1 : (pub ++ wk).length = 129 := by rw [List.length_append, hpub, hwk]
  have l2 : (pub ++ wk ++ L8).length = 137 := by rw [List.length_append, l1, hL8]
  refine ⟨?_, ?_, ?_, ?_⟩
  · have h : goSlice (pub ++ wk) 0 45 = .ok pub := by rw [← hpub]; exact goSlice_prefix pub wk
    exact goSlice_append_right _ <| goSlice_append_right _ h
  · exact goSlice_append_right _ <| goSlice_append_right _ <| goSlice_last pub wk hpub (by rw [hwk])
  · exact goSlice_append_right _ <| goSlice_last _ L8 l1 (by rw [hL8])
  · rw [← l2]; exact goSliceFrom_append _ body

theorem c01_structMin : structMin = 145 := rfl
theorem c01_structTagLen : structTagLen = 8 := rfl
theorem c01_structDataLenSize : structDataLenSize = 8 := rfl
theorem c01_structPubLen : structPubLen = 45 := rfl
theorem c01_structKeyBlockLen : structKeyBlockLen = 129 := rfl

/-- `ValidateAcraStructLength` accepts a well-formed AcraStruct -/
theorem c01_validateStruct_fields (pub wk L8 body : Bytes)
    (hpub : pub.length = 45) (hwk : wk.length = 84) (hL8 : L8.length = 8)
    (hv : leVal L8 = body.length) (hb : body.length < 2^63) :
    validateStruct (structTag ++ pub ++ wk ++ L8 ++ body) = .ok () := by
  obtain ⟨f1, f2, _, _, f5⟩ := c01_struct_fields structTag pub wk L8 body [] c01_structTag_length hpub hwk hL8
  simp only [List.append_nil, List.length_nil, Nat.add_zero] at f1 f2 f5
  unfold validateStruct getDataLength
  rw [f5, c01_structMin, c01_structTagLen, c01_structDataLenSize, if_neg (by omega), f1]
  rw [Out.bind_ok, if_neg (by simp)]
  have h137 : 145 - 8 = 137 := rfl
  rw [h137, f2, Out.bind_ok, Out.pure_eq, Out.bind_ok, hv, toInt64_of_lt hb]
  have h2 : 145 + body.length - 145 = body.length := by omega
  rw [h2, if_neg (by simp)]
  rfl

/-- `ExtractAcraStruct` finds exactly the AcraStruct at the start of `struct ++ suffix` -/
theorem c01_extractStruct_fields (pub wk L8 body suf : Bytes)
    (hpub : pub.length = 45) (hwk : wk.length = 84) (hL8 : L8.length = 8)
    (hv : leVal L8 = body.length) (hb : body.length + 145 < 2^63) :
    extractStruct (structTag ++ pub ++ wk ++ L8 ++ body ++ suf) =
      .ok (145 + body.length, structTag ++ pub ++ wk ++ L8 ++ body) := by
  obtain ⟨_, f2, f3, _, f5⟩ := c01_struct_fields structTag pub wk L8 body suf c01_structTag_length hpub hwk hL8
  have hval := c01_validateStruct_fields pub wk L8 body hpub hwk hL8 hv (by omega)
  unfold extractStruct
  rw [f5, c01_structMin, c01_structDataLenSize, if_neg (by omega)]
  have h137 : 145 - 8 = 137 := rfl
  rw [h137, f2, Out.bind_ok, hv, toInt64_of_lt hb]
  have hc : ¬ (((body.length + 145 : Nat) : Int) < 0 ∨ ((body.length + 145 : Nat) : Int) > ((145 + body.length + suf.length : Nat) : Int)) := by
    omega
  rw [if_neg hc, Int.toNat_natCast]
  have h2 : body.length + 145 = 145 + body.length := by omega
  rw [h2, f3, Out.bind_ok, hval]
  rfl

/-- `DecryptAcrastruct` on a well-formed AcraStruct: unwrap the symmetric key, unseal the body -/
theorem c01_decryptStruct_fields (c : CryptoOps) (priv ctx pub wk L8 body symKey m : Bytes)
    (hpub : pub.length = 45) (hwk : wk.length = 84) (hL8 : L8.length = 8)
    (hval : validateStruct (structTag ++ pub ++ wk ++ L8 ++ body) = .ok ())
    (hu : c.unwrap priv pub wk = some symKey) (hne : symKey ≠ []) (hd : c.dec symKey ctx body = some m) :
    decryptStruct c priv ctx (structTag ++ pub ++ wk ++ L8 ++ body) = .ok m := by
  obtain ⟨_, _, _, f4, _⟩ := c01_struct_fields structTag pub wk L8 body [] c01_structTag_length hpub hwk hL8
  simp only [List.append_nil] at f4
  obtain ⟨g1, g2, g3, g4⟩ := c01_struct_inner_fields pub wk L8 body hpub hwk hL8
  unfold decryptStruct
  rw [hval, c01_structTagLen, c01_structPubLen, c01_structKeyBlockLen, c01_structDataLenSize]
  have h137 : 129 + 8 = 137 := rfl
  rw [Out.bind_ok, f4, Out.bind_ok, g1, Out.bind_ok, g2, Out.bind_ok]
  simp only [hu, h137, g3, g4, Out.bind_ok, hne, if_false, hd]

/-- what a successful `CreateAcrastruct` has computed -/
theorem c01_createStruct_ok {c : CryptoOps} {pub ctx m rnd s : Bytes} (h : createStruct c pub ctx m rnd = .ok s) :
    ∃ encKey encData, c.wrap (c.privOfSeed (rnd.take 32)) pub ((rnd.drop 32).take 32) ((rnd.drop 64).take 12) = some encKey ∧
      c.enc ((rnd.drop 32).take 32) ctx m ((rnd.drop 76).take 12) = some encData ∧
      s = structTag ++ c.pubOf (c.privOfSeed (rnd.take 32)) ++ encKey ++ leBytes 8 encData.length ++ encData := by
  unfold createStruct at h
  simp only at h
  split at h
  · cases h
  · next encKey h1 =>
    split at h
    · cases h
    · next encData h2 =>
      cases h
      exact ⟨encKey, encData, h1, h2, rfl⟩

/-- sizes of the parts of a freshly created AcraStruct, from the length laws of the primitives -/
theorem c01_createStruct_sizes {c : CryptoOps} (hs : SealLaws c) (hsl : SealLen c) (hml : MsgLen c)
    (hk : KeygenLaws c) {pub ctx m rnd encKey encData : Bytes}
    (h1 : c.wrap (c.privOfSeed (rnd.take 32)) pub ((rnd.drop 32).take 32) ((rnd.drop 64).take 12) = some encKey)
    (h2 : c.enc ((rnd.drop 32).take 32) ctx m ((rnd.drop 76).take 12) = some encData) :
    88 ≤ rnd.length ∧ c.validPriv (c.privOfSeed (rnd.take 32)) = true ∧
    (c.pubOf (c.privOfSeed (rnd.take 32))).length = 45 ∧ encKey.length = 84 ∧
    encData.length = m.length + 44 ∧ m.length < 2^32 ∧ (rnd.drop 32).take 32 ≠ [] := by
  have hnone : ¬ (m = [] ∨ (rnd.drop 32).take 32 = [] ∨ ((rnd.drop 76).take 12).length ≠ nonceLen ∨ maxMsgLen ≤ m.length) := by
    intro hcon
    have := (hs.enc_none ((rnd.drop 32).take 32) ctx m ((rnd.drop 76).take 12)).mpr hcon
    rw [h2] at this
    cases this
  simp only [not_or, Decidable.not_not, Nat.not_le] at hnone
  obtain ⟨_, hsym, hn, hm⟩ := hnone
  have hr : 88 ≤ rnd.length := by
    rw [List.length_take, List.length_drop] at hn
    have : nonceLen = 12 := rfl
    omega
  have hvalid : c.validPriv (c.privOfSeed (rnd.take 32)) = true :=
    hk.valid_seed _ (by rw [List.length_take]; omega)
  refine ⟨hr, hvalid, hml.pub_len _ hvalid, ?_, hsl.enc_len _ _ _ _ _ h2, hm, hsym⟩
  rw [hml.wrap_len _ _ _ _ _ h1, List.length_take, List.length_drop]
  have : wrapOverhead = 52 := rfl
  omega

/-- the rotated-keys loop: keys that fail (or happen to give the same answer) are passed over -/
theorem c01_decryptStructRotated_found (c : CryptoOps) (ctx s priv m : Bytes) (pre post : List Bytes)
    (hpre : ∀ k' ∈ pre, decryptStruct c k' ctx s = .err ∨ decryptStruct c k' ctx s = .ok m)
    (hd : decryptStruct c priv ctx s = .ok m) :
    decryptStructRotated c ctx s (pre ++ priv :: post) = .ok m := by
  induction pre with
  | nil => simp [decryptStructRotated, hd]
  | cons k ks ih =>
    have ih' := ih (fun k' hk' => hpre k' (List.mem_cons_of_mem _ hk'))
    simp only [List.cons_append, decryptStructRotated]
    rcases hpre k List.mem_cons_self with h | h
    · rw [h]; exact ih'
    · rw [h]

/-- all layout and decryption facts about a freshly created AcraStruct -/
theorem c01_struct_roundtrip (c : CryptoOps) (hs : SealLaws c) (hsl : SealLen c) (hm : MsgLaws c) (hml : MsgLen c)
    (hk : KeygenLaws c) (priv ctx m rnd s : Bytes) (hpriv : c.validPriv priv = true)
    (hc : createStruct c (c.pubOf priv) ctx m rnd = .ok s) :
    validateStruct s = .ok () ∧ (∀ suffix, extractStruct (s ++ suffix) = .ok (s.length, s)) ∧
    decryptStruct c priv ctx s = .ok m ∧ s.length = m.length + 189 ∧ m.length < 2^32 := by
  obtain ⟨encKey, encData, h1, h2, rfl⟩ := c01_createStruct_ok hc
  obtain ⟨_, hvalid, hpub, hek, hed, hmlen, hsym⟩ := c01_createStruct_sizes hs hsl hml hk h1 h2
  have hv : leVal (leBytes 8 encData.length) = encData.length := c01_leVal_leBytes8 (by omega)
  have hval := c01_validateStruct_fields _ encKey (leBytes 8 encData.length) encData hpub hek (by simp) hv (by omega)
  have hlen : (structTag ++ c.pubOf (c.privOfSeed (rnd.take 32)) ++ encKey ++ leBytes 8 encData.length ++ encData).length
      = 145 + encData.length := by
    simp [c01_structTag_length, hpub, hek]; omega
  refine ⟨hval, ?_, ?_, by omega, hmlen⟩
  · intro suffix
    rw [hlen]
    exact c01_extractStruct_fields _ encKey _ encData suffix hpub hek (by simp) hv (by omega)
  · exact c01_decryptStruct_fields c priv ctx _ encKey _ encData _ m hpub hek (by simp) hval
      (hm.unwrap_wrap _ _ _ _ _ hvalid hpriv h1) hsym (hs.dec_enc _ _ _ _ _ h2)

end AcraModel.Envelope
