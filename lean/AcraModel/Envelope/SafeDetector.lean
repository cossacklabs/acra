import AcraModel.Envelope.SafeContainer
import AcraModel.Envelope.ScanLemmas
/-!
The `OnColumn` loop `scan`: its runs as an inductive relation (`ScanRun`, `scan_run`) and, by induction
over the runs, no panic, no fatal error with callbacks that report none, output bound; "nothing
replaced ⇒ unchanged" from the skipped-prefix lemma (helpers for C03 / C14).
-/
namespace AcraModel.Envelope
open AcraModel Generated

theorem prepend_ne_panic {p : Bytes} {h : Bool} {o : ScanOut} (ho : o ≠ .panic) : o.prepend p h ≠ .panic := by
  cases o <;> simp_all [ScanOut.prepend]

theorem prepend_ne_fatal {p : Bytes} {h : Bool} {o : ScanOut} (ho : o ≠ .fatal) : o.prepend p h ≠ .fatal := by
  cases o <;> simp_all [ScanOut.prepend]

theorem prepend_eq_ok {p : Bytes} {h : Bool} {o : ScanOut} {out : Bytes} {hit : Bool}
    (e : o.prepend p h = .ok out hit) : ∃ o' h', o = .ok o' h' ∧ out = p ++ o' ∧ hit = (h' || h) := by
  cases o with
  | ok o' h' => simp only [ScanOut.prepend, ScanOut.ok.injEq] at e; exact ⟨o', h', rfl, e.1.symm, e.2.symm⟩
  | fatal => simp [ScanOut.prepend] at e
  | panic => simp [ScanOut.prepend] at e

theorem length_cons_lt {b : UInt8} {r : Bytes} {N : Nat} (h : (b :: r).length < N) : r.length < N := by
  rw [List.length_cons] at h; omega

/-- The runs of the `OnColumn` loop: `ScanRun cbs rest o` holds when the loop, started on the remaining
buffer `rest`, ends with `o`; one constructor for each way an iteration can go. -/
inductive ScanRun (cbs : List Callback) : Bytes → ScanOut → Prop
  | nil : ScanRun cbs [] (.ok [] false)
  /-- one byte copied; `hit`: a container was recognised here and no callback changed it -/
  | skip {b : UInt8} {r : Bytes} {o : ScanOut} (hit : Bool) : ScanRun cbs r o → ScanRun cbs (b :: r) (o.prepend [b] hit)
  | replace {b : UInt8} {r cont p : Bytes} {n : Int} {o : ScanOut} : startsWith containerTag (b :: r) = true →
      extractContainer (b :: r) = .ok (n, cont) → runCallbacks cont cbs = .replace p → 0 < n → n ≤ (b :: r).length →
      ScanRun cbs ((b :: r).drop n.toNat) o → ScanRun cbs (b :: r) (o.prepend p true)
  | fatal {b : UInt8} {r cont : Bytes} {n : Int} : startsWith containerTag (b :: r) = true →
      extractContainer (b :: r) = .ok (n, cont) → runCallbacks cont cbs = .fatal → ScanRun cbs (b :: r) .fatal
  /-- the slice `inBuffer[inIndex+n:]` would be out of range -/
  | panic {b : UInt8} {r cont p : Bytes} {n : Int} : startsWith containerTag (b :: r) = true →
      extractContainer (b :: r) = .ok (n, cont) → runCallbacks cont cbs = .replace p →
      ¬(0 < n ∧ n ≤ (b :: r).length) → ScanRun cbs (b :: r) .panic

theorem scan_run (cbs : List Callback) (rest : Bytes) : ScanRun cbs rest (scan cbs rest) := by
  induction rest using scan.induct cbs with
  | case1 => rw [scan.eq_1]; exact .nil
  | case2 b r h ih => rw [scan.eq_2, if_pos h]; exact .skip false ih
  | case3 b r h he => exact absurd he (extractContainer_ne_panic _)
  | case4 b r h he ih => rw [scan.eq_2, if_neg h, he]; exact .skip false ih
  | case5 b r h n cont he hr => rw [scan.eq_2, if_neg h, he]; simp only [hr]; exact .fatal (by simpa using h) he hr
  | case6 b r h n cont he hr ih => rw [scan.eq_2, if_neg h, he]; simp only [hr]; exact .skip true ih
  | case7 b r h n cont he p hr hn ih =>
    rw [scan.eq_2, if_neg h, he]; simp only [hr]; rw [dif_pos hn]
    exact .replace (by simpa using h) he hr hn.1 hn.2 ih
  | case8 b r h n cont he p hr hn =>
    rw [scan.eq_2, if_neg h, he]; simp only [hr]; rw [dif_neg hn]; exact .panic (by simpa using h) he hr hn

/-- The `OnColumn` loop never panics: `ExtractSerializedContainer` does not, and the number of bytes it
tells the loop to skip is always inside the buffer (`extractContainer_bounds'`), so the `else .panic`
branch (slice out of range) is unreachable. -/
theorem scan_ne_panic (cbs : List Callback) (rest : Bytes) (hl : rest.length < 2^63) : scan cbs rest ≠ .panic := by
  have run := scan_run cbs rest
  generalize scan cbs rest = o at run
  induction run with
  | nil => exact fun h => nomatch h
  | skip _ _ ih => exact prepend_ne_panic (ih (length_cons_lt hl))
  | replace _ _ _ _ _ _ ih => exact prepend_ne_panic (ih (by rw [List.length_drop]; omega))
  | fatal => exact fun h => nomatch h
  | panic _ he _ hn => exact absurd (extractContainer_bounds' hl he) hn

theorem runCallbacks_ne_fatal {cbs : List Callback} (hc : ∀ cb ∈ cbs, ∀ x, cb x ≠ .fatal) (cont : Bytes) :
    runCallbacks cont cbs ≠ .fatal := by
  induction cbs with
  | nil => simp [runCallbacks]
  | cons cb rest ih =>
    have h1 := hc cb List.mem_cons_self cont
    have ih' := ih (fun cb' hm => hc cb' (List.mem_cons_of_mem _ hm))
    simp only [runCallbacks]
    split
    · next h => exact absurd h h1
    · simp
    · exact ih'
    · exact ih'

/-- callbacks that never report a non-decryption error never make the scan fail -/
theorem scan_ne_fatal (cbs : List Callback) (hc : ∀ cb ∈ cbs, ∀ x, cb x ≠ .fatal) (rest : Bytes) :
    scan cbs rest ≠ .fatal := by
  have run := scan_run cbs rest
  generalize scan cbs rest = o at run
  induction run with
  | nil => exact fun h => nomatch h
  | skip _ _ ih => exact prepend_ne_fatal ih
  | replace _ _ _ _ _ _ ih => exact prepend_ne_fatal ih
  | fatal _ _ hr => exact absurd hr (runCallbacks_ne_fatal hc _)
  | panic => exact fun h => nomatch h

theorem decryptCallback_ne_fatal (c : CryptoOps) (kv : KeyView) (x : Bytes) : decryptCallback c kv x ≠ .fatal := by
  unfold decryptCallback
  repeat' split
  all_goals exact fun h => nomatch h

theorem runCallbacks_replace_bound {cbs : List Callback} {B : Nat}
    (hc : ∀ cb ∈ cbs, ∀ x b, cb x = .replaced b → b.length ≤ B) {cont p : Bytes}
    (h : runCallbacks cont cbs = .replace p) : p.length ≤ B := by
  induction cbs with
  | nil => simp [runCallbacks] at h
  | cons cb rest ih =>
    have ih' := ih (fun cb' hm => hc cb' (List.mem_cons_of_mem _ hm))
    simp only [runCallbacks] at h
    split at h
    · cases h
    · next b hb => cases h; exact hc cb List.mem_cons_self cont _ hb
    · exact ih' h
    · exact ih' h

/-- If every replacement is at most `K ≥ 1` times as long as the container it replaces, the output is at
most `K` times as long as the input: every step consumes `n ≥ 1` input bytes and emits either one byte
or the replacement. -/
theorem scan_output_le_mul (cbs : List Callback) (K : Nat) (hK : 1 ≤ K)
    (hrep : ∀ d n cont p, startsWith containerTag d = true → extractContainer d = .ok (n, cont) →
      runCallbacks cont cbs = .replace p → 0 < n → p.length ≤ n.toNat * K) (rest : Bytes) :
    ∀ out hit, scan cbs rest = .ok out hit → out.length ≤ rest.length * K := by
  have run := scan_run cbs rest
  generalize scan cbs rest = o at run
  induction run with
  | nil => intro out hit e; cases e; exact Nat.zero_le _
  | @skip b r _ _ _ ih =>
    intro out hit e
    obtain ⟨o', h', rfl, rfl, _⟩ := prepend_eq_ok e
    have := ih o' h' rfl
    rw [List.length_append, List.length_cons, List.length_cons, List.length_nil, Nat.succ_mul]
    omega
  | @replace b r cont p n _ hs he hr h0 hn _ ih =>
    intro out hit e
    obtain ⟨o', h', rfl, rfl, _⟩ := prepend_eq_ok e
    have h1 := ih o' h' rfl
    have hp := hrep _ n cont p hs he hr h0
    rw [List.length_drop, Nat.sub_mul] at h1
    have : n.toNat * K ≤ (b :: r).length * K := Nat.mul_le_mul_right K (by omega)
    rw [List.length_append]
    omega
  | fatal => intro out hit e; cases e
  | panic => intro out hit e; cases e

/-- **Output bound.** If no callback ever returns more than `B` bytes, the output of the scan is at most
`|input| · max 1 B` bytes. -/
theorem scan_output_le (cbs : List Callback) (B : Nat)
    (hc : ∀ cb ∈ cbs, ∀ x b, cb x = .replaced b → b.length ≤ B) (rest : Bytes) :
    ∀ out hit, scan cbs rest = .ok out hit → out.length ≤ rest.length * max 1 B :=
  scan_output_le_mul cbs _ (Nat.le_max_left _ _) (fun _ n _ _ _ _ hr h0 =>
    Nat.le_trans (Nat.le_trans (runCallbacks_replace_bound hc hr) (Nat.le_max_right 1 B))
      (Nat.le_mul_of_pos_left _ (by omega))) rest

/-- callbacks that always answer "unchanged" never replace anything -/
theorem runCallbacks_all_same (s : Bytes) : ∀ (cbs : List Callback), (∀ cb, cb ∈ cbs → cb s = .same) →
    runCallbacks s cbs = .skip
  | [], _ => rfl
  | cb :: rest, h => by
    unfold runCallbacks
    rw [h cb List.mem_cons_self]
    exact runCallbacks_all_same s rest (fun c hc => h c (List.mem_cons_of_mem _ hc))

/-- a position at which the callbacks skip whatever container is recognised is passed over -/
theorem headStep_skip_of {cbs : List Callback} {d : Bytes}
    (hs : startsWith containerTag d = true → ∀ n cont, extractContainer d = .ok (n, cont) → runCallbacks cont cbs = .skip) :
    ∃ h, headStep cbs d = .skip h := by
  unfold headStep
  by_cases ht : startsWith containerTag d = true
  · rw [if_neg (by simp [ht])]
    cases he : extractContainer d with
    | panic => exact absurd he (extractContainer_ne_panic _)
    | err => exact ⟨false, rfl⟩
    | ok v => simp only [hs ht v.1 v.2 he]; exact ⟨true, rfl⟩
  · exact ⟨false, if_pos (by simp [ht])⟩

/-- **Nothing replaced ⇒ byte-identical.** If at no position of the value the callbacks produce a
replacement (nor a fatal error), the scan returns the value unchanged. -/
theorem scan_same (cbs : List Callback) (rest : Bytes)
    (hs : ∀ i, i < rest.length → startsWith containerTag (rest.drop i) = true →
      ∀ n cont, extractContainer (rest.drop i) = .ok (n, cont) → runCallbacks cont cbs = .skip) :
    ∃ hit, scan cbs rest = .ok rest hit :=
  c01_scan_plain cbs rest fun i hi => headStep_skip_of (hs i hi)

end AcraModel.Envelope
