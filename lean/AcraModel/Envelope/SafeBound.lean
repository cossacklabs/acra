import AcraModel.Envelope.SafeGenuine
/-!
Output size under the length law of the seal (`SealLen`, satisfied by the real back end's algorithm):
a revealed plaintext is at least 44 bytes shorter than its envelope, so `OnColumn` with the decrypt
callback never grows a value (helpers for C03 / C14).
-/
namespace AcraModel.Envelope
open AcraModel Generated

theorem wrap_sub (L : Nat) (h1 : 12 ≤ L) (h2 : L < 2^64) : (L + 2^64 - 12) % 2^64 = L - 12 := by
  have e : L + 2^64 - 12 = (L - 12) + 2^64 := by omega
  rw [e, Nat.add_mod_right, Nat.mod_eq_of_lt (by omega)]

theorem containerInternalLength_val {d : Bytes} {n : Nat} (h : containerInternalLength d = .ok n)
    (h1 : 12 ≤ leVal ((d.take 11).drop 3)) : n = leVal ((d.take 11).drop 3) - 12 := by
  unfold containerInternalLength at h
  obtain ⟨lb, hg, h⟩ := Out.bind_eq_ok h
  obtain ⟨_, rfl⟩ := ite_err_pure_ok h
  have hlt : leVal lb < 2^64 := leVal_lt_of_length (n := 8) (goSlice_length hg)
  obtain ⟨_, _, rfl⟩ := goSlice_eq_ok hg
  exact wrap_sub _ h1 hlt

/-- for a serialized container the internal envelope is at most `declared length - 12` bytes long -/
theorem deserialize_container_length {d i : Bytes} {id id' : UInt8} (hv : validateContainer d = .ok id)
    (hd : deserialize d = .ok (i, id')) (h1 : 12 ≤ leVal ((d.take 11).drop 3)) :
    i.length ≤ leVal ((d.take 11).drop 3) - 12 := by
  rcases deserialize_ok hd with ⟨_, he, _⟩ | ⟨_, n, hc, rfl⟩
  · rw [hv] at he; cases he
  · rw [List.length_take, ← containerInternalLength_val hc h1]
    exact Nat.min_le_left _ _

/-- under `SealLaws` + `SealLen` whatever a handler decrypts is 44 bytes shorter than the envelope -/
theorem decryptKind_length {c : CryptoOps} (hs : SealLaws c) (hl : SealLen c) {kv : KeyView} {k : Kind} {i m : Bytes}
    (h : decryptKind c kv k i = .ok m) : m.length + sealOverhead ≤ i.length := by
  cases k with
  | block =>
    obtain ⟨_, _, _, ks, _, hdec⟩ := decryptKind_block_ok h
    obtain ⟨_, _, _, key, _, dek, _, _, hd⟩ := decryptBlock_ok_parts hdec
    obtain ⟨n, _, e⟩ := hs.enc_of_dec _ _ _ _ hd
    have := hl.enc_len _ _ _ _ _ e
    unfold blockEncData at this
    rw [List.length_drop] at this
    omega
  | struct =>
    obtain ⟨ps, _, priv, _, hdec⟩ := decryptKind_struct_ok h
    obtain ⟨_, symKey, _, _, hd⟩ := decryptStruct_ok_parts hdec
    obtain ⟨n, _, e⟩ := hs.enc_of_dec _ _ _ _ hd
    have := hl.enc_len _ _ _ _ _ e
    rw [List.length_drop] at this
    omega

/-- **Reveal never grows a value**: the plaintext is at least 44 bytes shorter than the input. -/
theorem process_length {c : CryptoOps} (hs : SealLaws c) (hl : SealLen c) {kv : KeyView} {d m : Bytes}
    (h : process c kv d = .ok m) : m.length + sealOverhead ≤ d.length := by
  obtain ⟨k, i, hd, hk⟩ := process_ok h
  have := decryptKind_length hs hl hk
  have := deserialize_length hd
  omega

theorem runCallbacks_decrypt_replace {c : CryptoOps} {kv : KeyView} {cont p : Bytes}
    (h : runCallbacks cont [decryptCallback c kv] = .replace p) : process c kv cont = .ok p := by
  simp only [runCallbacks, decryptCallback] at h
  cases hp : process c kv cont with
  | ok m =>
    rw [hp] at h
    by_cases e : (m == cont) = true
    · simp [e] at h
    · simp [e] at h; rw [h]
  | err => rw [hp] at h; simp at h
  | panic => rw [hp] at h; simp at h

/-- with the decrypt callback every replacement is shorter than the declared container length -/
theorem decrypt_replace_le {c : CryptoOps} (hs : SealLaws c) (hl : SealLen c) (kv : KeyView)
    (d : Bytes) (n : Int) (cont p : Bytes) (hst : startsWith containerTag d = true)
    (he : extractContainer d = .ok (n, cont)) (hr : runCallbacks cont [decryptCallback c kv] = .replace p)
    (hn : 0 < n) : p.length ≤ n.toNat := by
  have h3 := startsWith_containerTag hst
  have hp := runCallbacks_decrypt_replace hr
  rcases extractContainer_ok he with ⟨id, hv, hc, h1, h2, hnn⟩ | ⟨_, id, hm, _⟩
  · subst hc
    obtain ⟨k, i, hd, hk⟩ := process_ok hp
    have hi := deserialize_container_length hv hd h1
    have hm := decryptKind_length hs hl hk
    have hl8 : ((cont.take 11).drop 3).length = 8 := by
      have := (validateContainer_ok hv).1
      rw [List.length_drop, List.length_take]; omega
    have hL := lt_of_toInt64_pos (leVal_lt_of_length (n := 8) hl8) (hnn ▸ hn)
    rw [hnn, toInt64_of_lt hL]
    have : sealOverhead = 44 := rfl
    omega
  · rw [matchOld_of_containerTag h3] at hm; cases hm

theorem scan_decrypt_le {c : CryptoOps} (hs : SealLaws c) (hl : SealLen c) (kv : KeyView) (rest out : Bytes)
    (hit : Bool) (h : scan [decryptCallback c kv] rest = .ok out hit) : out.length ≤ rest.length := by
  have := scan_output_le_mul _ 1 (Nat.le_refl 1) (fun d n cont p ht he hr h0 => by
    rw [Nat.mul_one]; exact decrypt_replace_le hs hl kv d n cont p ht he hr h0) rest out hit h
  rwa [Nat.mul_one] at this

end AcraModel.Envelope
