import AcraModel.Envelope.Container
import AcraModel.Envelope.SliceLemmas
/-!
Layout lemmas for the serialized container (C01): what the registry functions read back from
`%%% | length(8) | id | envelope | suffix`.
-/
namespace AcraModel.Envelope
open AcraModel Generated

/-- the bytes `serialize` produces -/
def serBytes (e : Bytes) (id : UInt8) : Bytes :=
  containerTag ++ leBytes 8 (containerMin + e.length) ++ [id] ++ e

theorem c01_serialize_eq {e : Bytes} (id : UInt8) (he : e ≠ []) : serialize e id = .ok (serBytes e id) := by
  unfold serialize serBytes
  rw [if_neg he]

theorem c01_serialize_ok {e p : Bytes} {id : UInt8} (h : serialize e id = .ok p) : e ≠ [] ∧ p = serBytes e id := by
  unfold serialize at h
  split at h
  · cases h
  · next he => cases h; exact ⟨he, rfl⟩

theorem c01_containerTag_length : containerTag.length = 3 := by decide

theorem c01_serBytes_length (e : Bytes) (id : UInt8) : (serBytes e id).length = 12 + e.length := by
  simp [serBytes, c01_containerTag_length]; omega

theorem serBytes_ne_nil (e : Bytes) (id : UInt8) : serBytes e id ≠ [] := by
  intro h
  have := congrArg List.length h
  rw [c01_serBytes_length] at this
  simp at this

/-- a buffer that holds a serialized container is long enough for the column scan to look at it -/
theorem c01_containerMin_le_ser (pre e suf : Bytes) (id : UInt8) : containerMin ≤ (pre ++ serBytes e id ++ suf).length := by
  rw [List.length_append, List.length_append, c01_serBytes_length]
  show 12 ≤ _
  omega

theorem c01_kindOfId_id (k : Kind) : kindOfId k.id = some k := by
  cases k <;> decide

theorem c01_kindOfId_some {id : UInt8} (h : id = idBlock ∨ id = idStruct) : ∃ k, kindOfId id = some k := by
  rcases h with h | h <;> subst h
  · exact ⟨.block, by decide⟩
  · exact ⟨.struct, by decide⟩

/-- the four fields of a container followed by arbitrary bytes -/
theorem c01_container_fields (L e suf : Bytes) (id : UInt8) (hL : L.length = 8) :
    goSlice (containerTag ++ L ++ [id] ++ e ++ suf) 0 3 = .ok containerTag ∧
    goSlice (containerTag ++ L ++ [id] ++ e ++ suf) 3 11 = .ok L ∧
    goIndex (containerTag ++ L ++ [id] ++ e ++ suf) 11 = .ok id ∧
    goSliceFrom (containerTag ++ L ++ [id] ++ e ++ suf) 12 = .ok (e ++ suf) := by
  have l1 : (containerTag ++ L).length = 11 := by rw [List.length_append, c01_containerTag_length, hL]
  have l2 : (containerTag ++ L ++ [id]).length = 12 := by rw [List.length_append, l1]; rfl
  refine ⟨?_, ?_, ?_, ?_⟩
  · have h : goSlice (containerTag ++ L) 0 3 = .ok containerTag := goSlice_prefix containerTag L
    exact goSlice_append_right _ <| goSlice_append_right _ <| goSlice_append_right _ h
  · exact goSlice_append_right _ <| goSlice_append_right _ <| goSlice_append_right _ <|
      goSlice_last containerTag L c01_containerTag_length (by rw [hL])
  · exact goIndex_append_right _ <| goIndex_append_right _ <| goIndex_last _ id l1
  · rw [List.append_assoc, ← l2]; exact goSliceFrom_append _ _

theorem c01_validateContainer_ser {e : Bytes} {id : UInt8} {k : Kind} (suf : Bytes) (he : e ≠ [])
    (hk : kindOfId id = some k) : validateContainer (serBytes e id ++ suf) = .ok id := by
  obtain ⟨h1, _, h3, _⟩ := c01_container_fields (leBytes 8 (containerMin + e.length)) e suf id (by simp)
  have hlen : ¬ (serBytes e id ++ suf).length ≤ containerMin := by
    have : 0 < e.length := List.length_pos_iff.mpr he
    rw [List.length_append, c01_serBytes_length]
    show ¬ _ ≤ 12
    omega
  unfold validateContainer
  rw [if_neg hlen]
  unfold serBytes
  simp only [c01_containerTag_length, Layout.containerTagBeginSize, Layout.containerLengthSize]
  rw [h1, h3]
  simp [hk]

theorem c01_getEnvelopeID_ser {e : Bytes} {id : UInt8} {k : Kind} (suf : Bytes) (he : e ≠ [])
    (hk : kindOfId id = some k) : getEnvelopeID (serBytes e id ++ suf) = .ok (id, false) := by
  unfold getEnvelopeID
  rw [c01_validateContainer_ser suf he hk]

theorem c01_containerInternalLength_ser (e suf : Bytes) (id : UInt8) (hlen : e.length + 12 < 2^64) :
    containerInternalLength (serBytes e id ++ suf) = .ok e.length := by
  obtain ⟨_, h2, _, _⟩ := c01_container_fields (leBytes 8 (containerMin + e.length)) e suf id (by simp)
  unfold containerInternalLength
  have hl : (serBytes e id ++ suf).length = 12 + e.length + suf.length := by
    rw [List.length_append, c01_serBytes_length]
  rw [hl]
  unfold serBytes
  simp only [c01_containerTag_length, Layout.containerLengthSize]
  rw [h2]
  have hv : leVal (leBytes 8 (containerMin + e.length)) = 12 + e.length :=
    c01_leVal_leBytes8 (by show 12 + e.length < 2^64; omega)
  have hc : containerMin = 12 := rfl
  rw [Out.bind_ok, hv, hc]
  have hm : (12 + e.length + 2^64 - 12) % 2^64 = e.length := by
    rw [Nat.add_assoc, Nat.add_sub_cancel_left, Nat.add_mod_right]
    exact Nat.mod_eq_of_lt (Nat.lt_of_le_of_lt (Nat.le_add_right _ _) hlen)
  rw [hm, if_neg (Nat.not_lt.2 (by rw [Nat.add_assoc, Nat.add_sub_cancel_left]; exact Nat.le_add_right _ _))]
  rfl

/-- `deserialize` takes exactly the declared length: trailing bytes are ignored -/
theorem c01_deserialize_ser {e : Bytes} {id : UInt8} {k : Kind} (suf : Bytes) (he : e ≠ [])
    (hk : kindOfId id = some k) (hlen : e.length + 12 < 2^64) :
    deserialize (serBytes e id ++ suf) = .ok (e, id) := by
  obtain ⟨_, _, _, h4⟩ := c01_container_fields (leBytes 8 (containerMin + e.length)) e suf id (by simp)
  unfold deserialize
  rw [c01_getEnvelopeID_ser suf he hk, c01_containerInternalLength_ser e suf id hlen]
  have hc : containerMin = 12 := rfl
  simp only [Out.bind_ok, hc]
  have h4' : goSliceFrom (serBytes e id ++ suf) 12 = .ok (e ++ suf) := h4
  rw [h4']
  simp

theorem c01_extractContainer_ser {e : Bytes} {id : UInt8} {k : Kind} (suf : Bytes) (he : e ≠ [])
    (hk : kindOfId id = some k) (hlen : e.length + 12 < 2^63) :
    extractContainer (serBytes e id ++ suf) = .ok (((serBytes e id).length : Int), serBytes e id ++ suf) := by
  obtain ⟨_, h2, _, _⟩ := c01_container_fields (leBytes 8 (containerMin + e.length)) e suf id (by simp)
  unfold extractContainer
  rw [c01_validateContainer_ser suf he hk]
  have hl : (serBytes e id ++ suf).length = 12 + e.length + suf.length := by
    rw [List.length_append, c01_serBytes_length]
  have h2' : goSlice (serBytes e id ++ suf) 3 11 = .ok (leBytes 8 (containerMin + e.length)) := h2
  simp only [c01_containerTag_length, Layout.containerLengthSize, hl]
  rw [h2']
  have hv : leVal (leBytes 8 (containerMin + e.length)) = 12 + e.length :=
    c01_leVal_leBytes8 (by show 12 + e.length < 2^64; omega)
  have hc : containerMin = 12 := rfl
  rw [Out.bind_ok, hv, hc, if_neg (by omega), toInt64_of_lt (by omega), c01_serBytes_length]
  rfl

end AcraModel.Envelope
