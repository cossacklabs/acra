import AcraModel.Envelope.ScanLemmas
import AcraModel.Envelope.SafeContainer
import AcraModel.Envelope.SafeUnchanged
/-!
`windowOk w rest`: the column scan (`EnvelopeDetector.OnColumn`) passes over every position inside `w`
when `w` is followed by `rest` – at no such position does `ExtractSerializedContainer` succeed. Stated
with the model's own decode attempt, executable, independent of the callbacks. Used by C11 (clear
windows that contain `%`) and C01 (bare envelopes whose ciphertext the scan runs over).
-/
namespace AcraModel.Envelope
open AcraModel Generated

/-- the column scan passes over the position whose remaining buffer is `d`, whatever the callbacks are:
`d` does not start with the container tag, or `ExtractSerializedContainer(d)` fails -/
def skipHere (d : Bytes) : Bool :=
  !startsWith containerTag d ||
    (match extractContainer d with
     | .err => true
     | _ => false)

/-- every position inside `w`, read in front of `rest`, is passed over -/
def windowOk (w rest : Bytes) : Bool := (List.range w.length).all (fun i => skipHere ((w ++ rest).drop i))

theorem headStep_of_skipHere (cbs : List Callback) {d : Bytes} (h : skipHere d = true) :
    headStep cbs d = .skip false := by
  unfold skipHere at h
  unfold headStep
  by_cases ht : (!startsWith containerTag d) = true
  · rw [if_pos ht]
  · rw [if_neg ht]
    simp only [ht, Bool.false_or] at h
    cases hx : extractContainer d with
    | err => rfl
    | panic => rw [hx] at h; cases h
    | ok v => rw [hx] at h; cases h

theorem skipHere_of_windowOk {w rest : Bytes} (h : windowOk w rest = true) {i : Nat} (hi : i < w.length) :
    skipHere ((w ++ rest).drop i) = true := by
  unfold windowOk at h
  rw [List.all_eq_true] at h
  exact h i (List.mem_range.2 hi)

theorem windowOk_skip (cbs : List Callback) {w rest : Bytes} (h : windowOk w rest = true) :
    ∀ i, i < w.length → ∃ hit, headStep cbs ((w ++ rest).drop i) = .skip hit :=
  fun _ hi => ⟨false, headStep_of_skipHere cbs (skipHere_of_windowOk h hi)⟩

theorem windowOk_nil (rest : Bytes) : windowOk [] rest = true := rfl

theorem windowOk_of (w rest : Bytes) (h : ∀ i, i < w.length → skipHere ((w ++ rest).drop i) = true) :
    windowOk w rest = true := by
  unfold windowOk
  rw [List.all_eq_true]
  intro i hi
  exact h i (List.mem_range.1 hi)

theorem skipHere_of_head_ne (x : UInt8) (r : Bytes) (hx : x ≠ 37) : skipHere (x :: r) = true := by
  unfold skipHere
  simp [c01_startsWith_of_head_ne r hx]

/-- a window without `%` is passed over, whatever follows it -/
theorem windowOk_of_noPct (w rest : Bytes) (h : ∀ x ∈ w, x ≠ 37) : windowOk w rest = true := by
  apply windowOk_of
  intro i hi
  obtain ⟨r, hr⟩ := drop_append_cons w rest hi
  rw [hr]
  exact skipHere_of_head_ne _ r (h _ (List.getElem_mem hi))

/-- a position that starts with the container tag but is too short for a container, or whose would-be
envelope id (byte 11) is not registered, is passed over -/
theorem skipHere_of_bad_header {d : Bytes} (h : d.length ≤ 12 ∨ kindOfId (d.getD 11 0) = none) : skipHere d = true := by
  unfold skipHere
  by_cases ht : startsWith containerTag d = true
  · have ht3 := startsWith_containerTag ht
    have hv : validateContainer d = .err := by
      rw [validateContainer_eq]
      rcases h with h | h
      · rw [if_pos h]
      · by_cases hl : d.length ≤ 12
        · rw [if_pos hl]
        · rw [if_neg hl, if_neg (by simpa using ht3), h]
    have hx : extractContainer d = .err := by
      unfold extractContainer
      rw [hv, matchOld_of_containerTag ht3]
    simp [hx]
  · simp [ht]

/-- a position that starts with `%` but whose would-be envelope id (byte 11) is not a registered id is
skipped: neither a serialized container nor a bare envelope is recognised there -/
theorem c01_headStep_pct_bad_id (cbs : List Callback) (r : Bytes)
    (hid : ∀ x, (37 :: r)[11]? = some x → kindOfId x = none) : headStep cbs (37 :: r) = .skip false := by
  apply headStep_of_skipHere
  apply skipHere_of_bad_header
  by_cases hl : (37 :: r).length ≤ 12
  · exact Or.inl hl
  · have h11 : 11 < (37 :: r).length := by omega
    right
    rw [List.getD_eq_getElem?_getD, List.getElem?_eq_getElem h11]
    exact hid _ (List.getElem?_eq_getElem h11)

/-- bytes after the container (right window): fewer than 13 of them can never form a container -/
theorem windowOk_short (w : Bytes) (h : w.length ≤ 12) : windowOk w [] = true := by
  apply windowOk_of
  intro i _
  apply skipHere_of_bad_header
  left
  rw [List.append_nil, List.length_drop]
  omega

/-- a buffer the scan passes over completely comes back unchanged and no envelope was seen -/
theorem scan_windowOk (cbs : List Callback) (buf : Bytes) (h : windowOk buf [] = true) : scan cbs buf = .ok buf false := by
  have hsk : ∀ i, i < buf.length → headStep cbs ((buf ++ []).drop i) = .skip false :=
    fun _ hi => headStep_of_skipHere cbs (skipHere_of_windowOk h hi)
  obtain ⟨hit, hs, hf⟩ := scan_skip_prefix cbs buf [] fun i hi => ⟨false, hsk i hi⟩
  rw [List.append_nil, c01_scan_nil, hf hsk] at hs
  rw [hs, ScanOut.prepend, List.append_nil]; rfl

/-- a buffer that starts with `%` is not an AcraStruct -/
theorem c01_validateStruct_pct (r : Bytes) : validateStruct (37 :: r) = .err := by
  have ht : (37 :: r).take 8 ≠ structTag := by
    rw [show structTag = [34,34,34,34,34,34,34,34] by decide]; simp
  rw [validateStruct_eq, if_pos ht]
  split <;> rfl

/-- … and does not start with an AcraBlock -/
theorem c01_extractBlock_pct (r : Bytes) : extractBlock (37 :: r) = .err := by
  have ht : (37 :: r).take 4 ≠ blockTag := by
    rw [show blockTag = [34,34,34,34] by decide]; simp
  rw [extractBlock_eq, if_neg fun h => ht ((blockHeaderOk_iff _).1 h).1]
  split <;> rfl

end AcraModel.Envelope
