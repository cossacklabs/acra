import AcraModel.Envelope.SafeContainer
import AcraModel.Searchable.ProcessorLemmas
/-!
The hash check of the searchable reveal entry points (C03): AcraTranslator's searchable decrypt is the
library's hash processor around the registry handler, and on data that carries a well-formed hash in
front of something the decrypt step opens, the outcome is decided by one comparison.
-/
namespace AcraModel.Searchable
open AcraModel AcraModel.Envelope

/-- `DecryptSearchable` / `DecryptSymSearchable` refuse data without a hash; otherwise they are
`NewHashProcessor` around `DecryptWithHandler` -/
theorem translatorDecrypt_eq (c : CryptoOps) (hkey : Option Bytes) (kv : KeyView) (kd : Kind) (d : Bytes) :
    translatorDecrypt c hkey kv kd d =
      match extractHash d with
      | none => .err
      | some _ => hashProcessor c hkey (decryptWithHandler c kv kd) d := by
  unfold translatorDecrypt extractHashAndData hashProcessor
  cases extractHash d <;> rfl

/-- the hash handling itself (cutting off, comparing) has no failing slice or index -/
theorem hashProcessor_ne_panic (c : CryptoOps) (hkey : Option Bytes) {proc : Bytes → Out Bytes}
    (hp : ∀ x, proc x ≠ .panic) (d : Bytes) : hashProcessor c hkey proc d ≠ .panic := by
  unfold hashProcessor
  cases extractHash d with
  | none => exact hp d
  | some h =>
    simp only
    cases hd : proc (d.drop h.length) with
    | ok plain => simp only; split <;> simp
    | err => simp
    | panic => exact absurd hd (hp _)

/-- a well-formed hash `h'` in front of `e`, which the decrypt step opens to `m`: accepted exactly when
`h'` is the genuine index of `m` -/
theorem hashProcessor_hashed (c : CryptoOps) (hl : HashLen c) (k : Bytes) {proc : Bytes → Out Bytes} {h' e m : Bytes}
    (hwf : extractHash (h' ++ e) = some h') (hdec : proc e = .ok m) :
    hashProcessor c (some k) proc (h' ++ e) = if h' = generateHMAC c k m then .ok m else .err := by
  unfold hashProcessor
  simp only [hwf, List.drop_left, hdec, isEqual_iff c hl k m hwf]

end AcraModel.Searchable
