import AcraModel.Envelope.Translator
import AcraModel.Envelope.ProtectLemmas
import AcraModel.Envelope.ScanLemmas
import AcraModel.Searchable.ProcessorLemmas
/-!
Helper lemmas about the AcraTranslator operations (`Envelope/Translator.lean`) for `Props/C01.lean`
(`translator_roundtrip`, `translator_searchable_roundtrip`, `entry_points_agree`) and `Props/C03.lean`
(`searchable_hash_swap`).
-/
namespace AcraModel.Envelope.Translator
open AcraModel AcraModel.Envelope AcraModel.Searchable

theorem checkRequest_ok (byLen : Bool) (id : Bytes) (h : byLen = false ∨ id ≠ []) :
    checkRequest byLen (some id) none = .ok id := by
  unfold checkRequest
  rcases h with h | h
  · simp [h]
  · cases id with
    | nil => exact absurd rfl h
    | cons a t => simp

/-- no client id ⇒ error (all eight operations) -/
theorem checkRequest_nil_id (byLen : Bool) (addCtx : Option Bytes) : checkRequest byLen none addCtx = .err := rfl

/-- additional context ⇒ error (all eight operations) -/
theorem checkRequest_addCtx (byLen : Bool) (clientID : Option Bytes) (x : Bytes) :
    checkRequest byLen clientID (some x) = .err := by
  unfold checkRequest
  cases clientID with
  | none => rfl
  | some id => by_cases h : (byLen && id.isEmpty) = true <;> simp [h]

/-- `Encrypt` / `Decrypt`: an empty client id ⇒ error -/
theorem checkRequest_empty_id (addCtx : Option Bytes) : checkRequest true (some []) addCtx = .err := rfl

theorem checkRequest_bad (byLen : Bool) (clientID addCtx : Option Bytes)
    (h : clientID = none ∨ addCtx ≠ none ∨ (byLen = true ∧ clientID = some [])) :
    checkRequest byLen clientID addCtx = .err := by
  rcases h with h | h | ⟨h1, h2⟩
  · subst h; rfl
  · cases addCtx with
    | none => exact absurd rfl h
    | some x => exact checkRequest_addCtx byLen clientID x
  · subst h1; subst h2; rfl

theorem checkRequest_ne_panic (byLen : Bool) (clientID addCtx : Option Bytes) : checkRequest byLen clientID addCtx ≠ .panic := by
  unfold checkRequest
  cases clientID with
  | none => simp
  | some id =>
    by_cases h : (byLen && id.isEmpty) = true
    · simp [h]
    · cases addCtx <;> simp [h]

theorem encryptWith_ok (byLen : Bool) (k : Kind) (c : CryptoOps) (st : Store) (id data rnd : Bytes)
    (h : byLen = false ∨ id ≠ []) :
    encryptWith byLen k c st data (some id) none rnd = protect c (st.keys id) k data rnd := by
  unfold encryptWith
  rw [checkRequest_ok byLen id h]
  rfl

theorem decryptWith_ok (byLen : Bool) (k : Kind) (c : CryptoOps) (st : Store) (id data : Bytes)
    (h : byLen = false ∨ id ≠ []) :
    decryptWith byLen k c st data (some id) none = Envelope.translatorDecrypt c st.poison (st.keys id) k data := by
  unfold decryptWith
  rw [checkRequest_ok byLen id h]

theorem encryptOf_ok (k : Kind) (c : CryptoOps) (st : Store) (id data rnd : Bytes) (h : k = .struct → id ≠ []) :
    encryptOf k c st data (some id) none rnd = protect c (st.keys id) k data rnd := by
  cases k with
  | struct => exact encryptWith_ok true .struct c st id data rnd (Or.inr (h rfl))
  | block => exact encryptWith_ok false .block c st id data rnd (Or.inl rfl)

theorem decryptOf_ok (k : Kind) (c : CryptoOps) (st : Store) (id data : Bytes) (h : k = .struct → id ≠ []) :
    decryptOf k c st data (some id) none = Envelope.translatorDecrypt c st.poison (st.keys id) k data := by
  cases k with
  | struct => exact decryptWith_ok true .struct c st id data (Or.inr (h rfl))
  | block => exact decryptWith_ok false .block c st id data (Or.inl rfl)

theorem encryptSearchableWith_ok (k : Kind) (c : CryptoOps) (st : Store) (id data rnd : Bytes) :
    encryptSearchableWith k c st data (some id) none rnd =
      Searchable.translatorEncrypt c (st.hmac id) (st.keys id) k data rnd := by
  unfold encryptSearchableWith
  rw [checkRequest_ok false id (Or.inl rfl)]
  rfl

theorem encryptWith_bad (byLen : Bool) (k : Kind) (c : CryptoOps) (st : Store) (data rnd : Bytes)
    (clientID addCtx : Option Bytes) (h : checkRequest byLen clientID addCtx = .err) :
    encryptWith byLen k c st data clientID addCtx rnd = .err := by
  unfold encryptWith
  rw [h]
  rfl

theorem decryptWith_bad (byLen : Bool) (k : Kind) (c : CryptoOps) (st : Store) (data : Bytes)
    (clientID addCtx : Option Bytes) (h : checkRequest byLen clientID addCtx = .err) :
    decryptWith byLen k c st data clientID addCtx = (.err, 0) := by
  unfold decryptWith
  rw [h]

theorem encryptSearchableWith_bad (k : Kind) (c : CryptoOps) (st : Store) (data rnd : Bytes)
    (clientID addCtx : Option Bytes) (h : checkRequest false clientID addCtx = .err) :
    encryptSearchableWith k c st data clientID addCtx rnd = .err := by
  unfold encryptSearchableWith
  rw [h]
  rfl

theorem decryptSearchableWith_bad (k : Kind) (c : CryptoOps) (st : Store) (data : Bytes) (hash : Option Bytes)
    (clientID addCtx : Option Bytes) (h : checkRequest false clientID addCtx = .err) :
    decryptSearchableWith k c st data hash clientID addCtx = (.err, 0) := by
  unfold decryptSearchableWith
  rw [h]

/-- a successful reveal raises no alarm and is handed to the client -/
theorem translatorDecrypt_of_ok (c : CryptoOps) (cfg : PoisonCfg) (kv : KeyView) (k : Kind) (d m : Bytes)
    (h : decryptWithHandler c kv k d = .ok m) : Envelope.translatorDecrypt c cfg kv k d = (.ok m, 0) := by
  unfold Envelope.translatorDecrypt
  rw [h]

/-- what the client gets from the plain decrypt is what the handler says (errors stay errors) -/
theorem translatorDecrypt_fst (c : CryptoOps) (cfg : PoisonCfg) (kv : KeyView) (k : Kind) (d : Bytes) :
    (Envelope.translatorDecrypt c cfg kv k d).1 = decryptWithHandler c kv k d := by
  unfold Envelope.translatorDecrypt
  cases decryptWithHandler c kv k d <;> rfl

theorem translatorDecryptScan_of_ok (c : CryptoOps) (cfg : PoisonCfg) (kv : KeyView) (k : Kind) (d sc m : Bytes)
    (h : decryptWithHandler c kv k d = .ok m) : Envelope.translatorDecryptScan c cfg kv k d sc = (.ok m, 0) := by
  unfold Envelope.translatorDecryptScan
  rw [h]

theorem translatorDecryptScan_fst (c : CryptoOps) (cfg : PoisonCfg) (kv : KeyView) (k : Kind) (d sc : Bytes) :
    (Envelope.translatorDecryptScan c cfg kv k d sc).1 = decryptWithHandler c kv k d := by
  unfold Envelope.translatorDecryptScan
  cases decryptWithHandler c kv k d <;> rfl

/-- **the searchable decrypts are `Searchable.translatorDecrypt`** (the core C09 reasons about) as far as
the client's answer goes; the poison scan only adds alarms -/
theorem decryptSearchableWith_fst (k : Kind) (c : CryptoOps) (st : Store) (id data : Bytes) (hash : Option Bytes) :
    (decryptSearchableWith k c st data hash (some id) none).1 =
      Searchable.translatorDecrypt c (st.hmac id) (st.keys id) k (dataToDecrypt data hash) := by
  unfold decryptSearchableWith Searchable.translatorDecrypt
  rw [checkRequest_ok false id (Or.inl rfl)]
  simp only
  cases hx : extractHashAndData (dataToDecrypt data hash) with
  | none => rfl
  | some hc =>
    obtain ⟨h, container⟩ := hc
    simp only
    generalize siteBuffer (siteHolds (searchableOp k) "decrypt-failed") data (dataToDecrypt data hash) container = sc
    have hf := translatorDecryptScan_fst c st.poison (st.keys id) k container sc
    cases hd : decryptWithHandler c (st.keys id) k container with
    | ok plain =>
      rw [translatorDecryptScan_of_ok c st.poison (st.keys id) k container sc plain hd]
      simp only
      by_cases he : isEqual c (st.hmac id) h plain = true <;> simp [he]
    | err | panic =>
      rw [hd] at hf
      cases ht : Envelope.translatorDecryptScan c st.poison (st.keys id) k container sc with
      | mk o a =>
        rw [ht] at hf
        simp only at hf
        subst hf
        rfl

/-- a verified searchable decrypt raises no alarm -/
theorem decryptSearchableWith_ok (k : Kind) (c : CryptoOps) (st : Store) (id data h container m : Bytes) (hash : Option Bytes)
    (hx : extractHashAndData (dataToDecrypt data hash) = some (h, container))
    (hd : decryptWithHandler c (st.keys id) k container = .ok m)
    (he : isEqual c (st.hmac id) h m = true) :
    decryptSearchableWith k c st data hash (some id) none = (.ok m, 0) := by
  unfold decryptSearchableWith
  rw [checkRequest_ok false id (Or.inl rfl)]
  simp only [hx, translatorDecryptScan_of_ok c st.poison (st.keys id) k container _ m hd, he, if_true]

/-- `DecryptWithHandler` of kind `k` on a serialized container of the same kind followed by arbitrary
bytes hands exactly the inner envelope to the handler -/
theorem decryptWithHandler_ser (c : CryptoOps) (kv : KeyView) (k : Kind) (e suf : Bytes) (he : e ≠ [])
    (hlen : e.length + 12 < 2^64) (hm : matchKind k e = true) :
    decryptWithHandler c kv k (serBytes e k.id ++ suf) = decryptKind c kv k e := by
  unfold decryptWithHandler
  rw [c01_deserialize_ser suf he (c01_kindOfId_id k) hlen]
  simp only [Out.bind_ok, hm, Bool.not_true, Bool.false_eq_true, if_false]

/-- … so it returns what the handler makes of the envelope of a container sent alone -/
theorem decryptWithHandler_ser_ok {c : CryptoOps} {kv : KeyView} {k : Kind} {e m : Bytes} (he : e ≠ [])
    (hlen : e.length + 12 < 2^64) (hm : matchKind k e = true) (hdec : decryptKind c kv k e = .ok m) :
    decryptWithHandler c kv k (serBytes e k.id) = .ok m := by
  have := decryptWithHandler_ser c kv k e [] he hlen hm
  rwa [List.append_nil, hdec] at this

/-- … and the handler of the OTHER kind refuses it as soon as the inner envelope does not look like one
of its own -/
theorem decryptWithHandler_ser_other (c : CryptoOps) (kv : KeyView) (k k' : Kind) (e suf : Bytes) (he : e ≠ [])
    (hlen : e.length + 12 < 2^64) (hm : matchKind k' e = false) :
    decryptWithHandler c kv k' (serBytes e k.id ++ suf) = .err := by
  unfold decryptWithHandler
  rw [c01_deserialize_ser suf he (c01_kindOfId_id k) hlen]
  simp only [Out.bind_ok, hm, Bool.not_false, if_true]

/-- the library calls (create + serialize) compute exactly what the handlers compute on a value that
is not already protected -/
theorem libraryProtect_eq_protect (c : CryptoOps) (kv : KeyView) (k : Kind) (m rnd : Bytes)
    (hnm : matchKind k m = false) (hnr : registryMatch m = false) :
    libraryProtect c kv k m rnd = protect c kv k m rnd := by
  unfold libraryProtect protect encryptKind
  simp only [hnm, hnr, Bool.or_self, Bool.false_eq_true, if_false]
  cases k <;> rfl

/-- the library reveal on a serialized container: what the handler of its kind answers -/
theorem libraryReveal_ser (c : CryptoOps) (kv : KeyView) (k : Kind) (e suf m : Bytes) (he : e ≠ [])
    (hlen : e.length + 12 < 2^64) (hd : decryptKind c kv k e = .ok m) :
    libraryReveal c kv (serBytes e k.id ++ suf) = .ok m := by
  unfold libraryReveal
  rw [c01_deserialize_ser suf he (c01_kindOfId_id k) hlen]
  simp only [Out.bind_ok, c01_kindOfId_id]
  -- a successful `decryptKind` has passed the handler's own format check, which the library call omits
  -- (struct) or repeats inside `decryptWholeBlock` (block)
  cases k with
  | struct =>
    simp only [decryptKind] at hd
    split at hd
    · cases hd
    · cases hd
    · exact hd
  | block =>
    simp only [decryptKind] at hd
    unfold decryptWholeBlock
    split at hd
    · cases hd
    · cases hd
    · next n b hb =>
      split at hd
      · cases hd
      · next hn =>
        split at hd
        · cases hd
        · next ks hks => simp only [hks, hb, if_neg hn]; exact hd

theorem generateHMAC_length33 (c : CryptoOps) (hl : HashLen c) (k v : Bytes) : (generateHMAC c k v).length = 33 := by
  rw [generateHMAC_length c hl, hashSize_eq]

/-- `ExtractHashAndData(hash ++ value)` splits exactly at the end of the hash -/
theorem extractHashAndData_stored (c : CryptoOps) (hl : HashLen c) (k v e : Bytes) :
    extractHashAndData (generateHMAC c k v ++ e) = some (generateHMAC c k v, e) := by
  unfold extractHashAndData
  rw [extractHash_stored c hl k v e]
  simp

theorem isEqual_genuine (c : CryptoOps) (k v : Bytes) : isEqual c (some k) (generateHMAC c k v) v = true := by
  simp [isEqual, generateHMAC]

end AcraModel.Envelope.Translator
