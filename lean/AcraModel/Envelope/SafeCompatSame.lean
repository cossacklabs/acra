import AcraModel.Envelope.SafeGenuine
/-!
"Whatever cannot be decrypted is returned byte-identical" for the whole compatibility wrapper
(`OldContainerDetectorWrapper.OnColumn`: container scan, then bare AcraStructs, then bare AcraBlocks)
(helpers for C03).
-/
namespace AcraModel.Envelope
open AcraModel Generated

theorem onCryptoEnvelope_all_same (s : Bytes) : ∀ (cbs : List Callback), (∀ cb, cb ∈ cbs → cb s = .same) →
    onCryptoEnvelope s cbs = .ok s
  | [], _ => rfl
  | cb :: rest, h => by
    unfold onCryptoEnvelope
    rw [h cb List.mem_cons_self]
    exact onCryptoEnvelope_all_same s rest (fun c hc => h c (List.mem_cons_of_mem _ hc))

/-- the wrapper's `OnAcraStruct`/`OnAcraBlock` returns the bare envelope unchanged when every callback answers
"unchanged" on its serialized form -/
theorem onBare_same (cbs : List Callback) (id : UInt8) (bare : Bytes) (hne : bare ≠ [])
    (h : ∀ s, serialize bare id = .ok s → ∀ cb, cb ∈ cbs → cb s = .same) :
    onBare cbs id bare = .ok bare := by
  unfold onBare
  have hs : serialize bare id = .ok (containerTag ++ leBytes 8 (containerMin + bare.length) ++ [id] ++ bare) := by
    unfold serialize
    rw [if_neg hne]
  rw [hs]
  simp only [Out.bind_ok]
  rw [onCryptoEnvelope_all_same _ cbs (h _ hs)]
  simp

theorem onBare_decrypt_same (c : CryptoOps) (kv : KeyView) (id : UInt8) (bare : Bytes) (hb : bare ≠ [])
    (h : ∀ s, serialize bare id = .ok s → ∀ m, process c kv s ≠ .ok m) :
    onBare [fun _ => Cb.same, decryptCallback c kv] id bare = .ok bare :=
  onBare_same _ id bare hb fun s hs cb hcb => by
    rcases List.mem_cons.mp hcb with rfl | hcb
    · rfl
    · rw [List.mem_singleton.mp hcb]
      unfold decryptCallback
      split
      · next d hd => exact absurd hd (h s hs d)
      · rfl

theorem ite_ok_same {p : Prop} [Decidable p] {a : Bytes} {b : Out Bytes} (h : b = .ok a) :
    (if p then .ok a else b) = .ok a := by
  split
  · rfl
  · exact h

theorem compatTail_same (cbs : List Callback) (rest : Bytes)
    (hb : ∀ id x, x <:+: rest → x ≠ [] → onBare ((fun _ => Cb.same) :: cbs) id x = .ok x) :
    compatTail cbs rest = .ok rest false := by
  unfold compatTail
  rw [ite_ok_same (processStructs_same _ rest (hb idStruct))]
  dsimp only
  rw [ite_ok_same (processBlocks_same _ rest (hb idBlock))]

/-- the compatibility wrapper returns the value unchanged when the callbacks skip every container found in it
and its handler for bare envelopes hands each of them back -/
theorem onColumnCompat_skip (cbs : List Callback) (rest : Bytes)
    (h1 : ∀ i, i < rest.length → startsWith containerTag (rest.drop i) = true →
      ∀ n cont, extractContainer (rest.drop i) = .ok (n, cont) → runCallbacks cont cbs = .skip)
    (h2 : ∀ id x, x <:+: rest → x ≠ [] → onBare ((fun _ => Cb.same) :: cbs) id x = .ok x) :
    ∃ hit, onColumnCompat cbs rest = .ok rest hit := by
  rw [onColumnCompat_eq]
  -- the wrapper's own callback answers `same`, so it does not show in `runCallbacks`
  obtain ⟨hit, e⟩ := onColumn_skip ((fun _ => Cb.same) :: cbs) rest fun i hi hst n cont he =>
    show runCallbacks cont cbs = .skip from h1 i hi hst n cont he
  rw [e]
  dsimp only
  cases hit with
  | true => exact ⟨true, by simp⟩
  | false => exact ⟨false, by simp [compatTail_same cbs rest h2]⟩

/-- **The transparent column processor hands a value it cannot decrypt back byte for byte.** -/
theorem onColumnCompat_decrypt_same (c : CryptoOps) (kv : KeyView) (rest : Bytes)
    (h1 : ∀ i, i < rest.length → startsWith containerTag (rest.drop i) = true →
      ∀ m, process c kv (rest.drop i) ≠ .ok m)
    (h2 : ∀ x id s, x <:+: rest → serialize x id = .ok s → ∀ m, process c kv s ≠ .ok m) :
    ∃ hit, onColumnCompat [decryptCallback c kv] rest = .ok rest hit :=
  onColumnCompat_skip _ rest
    (fun i hi hst _ _ he => extractContainer_of_containerTag (startsWith_containerTag hst) he ▸
      runCallbacks_decrypt_skip fun m hm => absurd hm (h1 i hi hst m))
    fun id x hx hne => onBare_decrypt_same c kv id x hne fun s hs => h2 x id s hx hs

/-- a serialized container around fewer than 18 bytes is never revealed (no AcraBlock or AcraStruct is
that short) – used for the non-vacuity example of `onColumnCompat_decrypt_same` -/
theorem process_serialized_short (c : CryptoOps) (kv : KeyView) (x s : Bytes) (id : UInt8) (hx : x.length < 18)
    (hs : serialize x id = .ok s) : ∀ m, process c kv s ≠ .ok m := by
  intro m hm
  unfold serialize at hs
  split at hs
  · cases hs
  · cases hs
    obtain ⟨k, i, hd, hk⟩ := process_ok hm
    have h3 : (containerTag ++ leBytes 8 (containerMin + x.length) ++ [id] ++ x).take 3 = containerTag := by
      simp only [List.append_assoc]; exact List.take_left' rfl
    have hlen : (containerTag ++ leBytes 8 (containerMin + x.length) ++ [id] ++ x).length = 12 + x.length := by
      simp only [List.length_append, leBytes_length, List.length_cons, List.length_nil]
      rw [show containerTag.length = 3 from rfl]
    have hi : i.length < 18 := by
      rcases deserialize_ok hd with ⟨_, _, n, hmo⟩ | ⟨_, n, hn, rfl⟩
      · rw [matchOld_of_containerTag h3] at hmo; cases hmo
      · have := containerInternalLength_ok hn
        rw [hlen] at this
        rw [List.length_take, List.length_drop, hlen]; omega
    cases k with
    | block =>
      obtain ⟨_, _, h18, _⟩ := decryptKind_block_ok hk
      omega
    | struct =>
      obtain ⟨ps, _, priv, _, hdec⟩ := decryptKind_struct_ok hk
      have := (validateStruct_ok (decryptStruct_ok_parts hdec).1).1
      omega

end AcraModel.Envelope
