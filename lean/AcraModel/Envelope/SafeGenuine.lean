import AcraModel.Envelope.SafeUnchanged
/-!
"Accepted ⇒ genuine": what a successful `AcraBlock.Decrypt` / `DecryptAcrastruct` /
`RegistryHandler.Process` says about the bytes it was given (helpers for C03).
-/
namespace AcraModel.Envelope
open AcraModel Generated

theorem take_one_drop (l : Bytes) (i : Nat) (h : i < l.length) : (l.drop i).take 1 = [l.getD i 0] := by
  rw [getD_eq_getElem l i h, List.drop_eq_getElem_cons h]; rfl

theorem backend_zero {x : UInt8} (h : Layout.blockKeyBackends.contains x.toNat = true) : x = 0 := by
  have : x.toNat = 0 := by simpa [Layout.blockKeyBackends] using h
  exact UInt8.toNat_inj.1 this

theorem backend_zero' {x : UInt8} (h : Layout.blockDataBackends.contains x.toNat = true) : x = 0 := by
  have : x.toNat = 0 := by simpa [Layout.blockDataBackends] using h
  exact UInt8.toNat_inj.1 this

theorem buildBlock_drop12 (kid ek ed : Bytes) :
    (buildBlock kid ek ed).drop 12 = [0] ++ kid ++ [0] ++ leBytes 2 ek.length ++ ek ++ ed := by
  unfold buildBlock
  simp only [List.append_assoc]
  rw [← List.append_assoc blockTag]
  rw [List.drop_left' (by rw [List.length_append, leBytes_length]; rfl)]
  rfl

theorem blockEncKey_length (b : Bytes) (h : 18 + blockKeyLen b ≤ b.length) : (blockEncKey b).length = blockKeyLen b := by
  unfold blockEncKey
  rw [List.length_drop, List.length_take]; omega

theorem blockKid_length (b : Bytes) (h : 18 ≤ b.length) : (blockKid b).length = 2 := by
  unfold blockKid
  rw [List.length_drop, List.length_take]; omega

/-- from byte 12 on, a well-formed block is what `Build` produces from its own parts -/
theorem block_layout_from12 (b : Bytes) (h : 18 + blockKeyLen b ≤ b.length)
    (h12 : b.getD 12 0 = 0) (h15 : b.getD 15 0 = 0) :
    b.drop 12 = (buildBlock (blockKid b) (blockEncKey b) (blockEncData b)).drop 12 := by
  rw [buildBlock_drop12, blockEncKey_length b h]
  have e1 := drop_split b 12 1
  have e2 := drop_split b 13 2
  have e3 := drop_split b 15 1
  have e4 := drop_split b 16 2
  have e5 := drop_split b 18 (blockKeyLen b)
  rw [take_one_drop b 12 (by omega), h12] at e1
  rw [take_one_drop b 15 (by omega), h15] at e3
  rw [take_drop_eq] at e2 e4 e5
  have hk : List.drop 16 (List.take (16 + 2) b) = leBytes 2 (blockKeyLen b) :=
    (leBytes_leVal_of_length (by rw [List.length_drop, List.length_take]; omega)).symm
  rw [hk] at e4
  rw [e1, e2, e3, e4, e5]
  simp only [List.append_assoc]
  rfl

/-- a block that `ExtractAcraBlockFromData` accepts as a whole is exactly what `Build` produces from
its own key id, key part and data part -/
theorem block_layout_full (b : Bytes) (h : 18 + blockKeyLen b ≤ b.length)
    (h12 : b.getD 12 0 = 0) (h15 : b.getD 15 0 = 0) (ht : b.take 4 = blockTag) (hr : blockRest b = b.length - 4) :
    b = buildBlock (blockKid b) (blockEncKey b) (blockEncData b) := by
  have e := block_layout_from12 b h h12 h15
  have hsum : b.length = 18 + (blockEncKey b).length + (blockEncData b).length := by
    rw [blockEncKey_length b h]; unfold blockEncData; rw [List.length_drop]; omega
  have ht12 : b.take 12 = (buildBlock (blockKid b) (blockEncKey b) (blockEncData b)).take 12 := by
    unfold buildBlock
    simp only [List.append_assoc]
    rw [← List.append_assoc blockTag, List.take_left' (by rw [List.length_append, leBytes_length]; rfl),
      ← List.take_append_drop 4 (b.take 12), List.take_take, show min 4 12 = 4 from rfl, ht,
      ← leBytes_leVal_of_length (l := (b.take 12).drop 4) (n := 8) (by rw [List.length_drop, List.length_take]; omega)]
    refine congrArg (fun n => blockTag ++ leBytes 8 n) ?_
    show blockRest b = 18 - 4 + _ + _
    omega
  exact (List.take_append_drop 12 b).symm.trans (by rw [ht12, e, List.take_append_drop])

/-- everything a successful `AcraBlock.Decrypt` establishes -/
theorem decryptBlock_ok_parts {c : CryptoOps} {keys : List Bytes} {ctx b m : Bytes}
    (h : decryptBlock c keys ctx b = .ok m) :
    18 + blockKeyLen b ≤ b.length ∧ b.getD 12 0 = 0 ∧ b.getD 15 0 = 0 ∧
    ∃ key ∈ keys, ∃ dek, keyId c key ctx = blockKid b ∧ c.dec key ctx (blockEncKey b) = some dek ∧
      c.dec dek ctx (blockEncData b) = some m := by
  rw [decryptBlock_eq] at h
  split at h
  · cases h
  · split at h
    · cases h
    · obtain ⟨r, hf, h⟩ := Out.bind_eq_ok h
      cases r with
      | none => cases h
      | some dek =>
        obtain ⟨hkb, key, hm, hid, hdec⟩ := findDek_some hf
        simp only [decryptBlockTail] at h
        split at h
        · cases h
        · next hdb =>
          split at h
          · cases h
          · next m' hd =>
            cases h
            exact ⟨by omega, backend_zero hkb, backend_zero' (by simpa using hdb), key, hm, dek, hid, hdec, hd⟩

/-- everything a successful `DecryptAcrastruct` establishes -/
theorem decryptStruct_ok_parts {c : CryptoOps} {priv ctx d m : Bytes} (h : decryptStruct c priv ctx d = .ok m) :
    validateStruct d = .ok () ∧ ∃ symKey, symKey ≠ [] ∧
      c.unwrap priv ((d.drop 8).take 45) ((d.drop 53).take 84) = some symKey ∧
      c.dec symKey ctx (d.drop 145) = some m := by
  cases hv : validateStruct d with
  | panic => exact absurd hv (validateStruct_ne_panic d)
  | err => unfold decryptStruct at h; rw [hv] at h; cases h
  | ok u =>
    refine ⟨rfl, ?_⟩
    rw [decryptStruct_eq c priv ctx d hv] at h
    split at h
    · cases h
    · next symKey hu =>
      split at h
      · cases h
      · next hne =>
        split at h
        · cases h
        · next m' hd => cases h; exact ⟨symKey, hne, hu, hd⟩

theorem kindOfId_eq {id : UInt8} {k : Kind} (h : kindOfId id = some k) : id = k.id := by
  unfold kindOfId at h
  split at h
  · next e => cases h; exact e
  · split at h
    · next e => cases h; exact e
    · cases h

theorem getEnvelopeID_deserialize {d : Bytes} {id : UInt8} {old : Bool} {i : Bytes} {id' : UInt8}
    (h1 : getEnvelopeID d = .ok (id, old)) (h2 : deserialize d = .ok (i, id')) : id' = id := by
  unfold deserialize at h2
  rw [h1] at h2
  simp only [Out.bind_ok] at h2
  split at h2
  · exact (Prod.mk.inj (Out.ok.inj h2)).2.symm
  · obtain ⟨n, _, h2⟩ := Out.bind_eq_ok h2
    obtain ⟨r, _, h2⟩ := Out.bind_eq_ok h2
    exact (Prod.mk.inj (Out.ok.inj h2)).2.symm

/-- a successful `Process` is a successful handler decryption of the deserialised internal envelope -/
theorem process_ok {c : CryptoOps} {kv : KeyView} {d m : Bytes} (h : process c kv d = .ok m) :
    ∃ k i, deserialize d = .ok (i, k.id) ∧ decryptKind c kv k i = .ok m := by
  unfold process at h
  obtain ⟨⟨id, old⟩, hid, h⟩ := Out.bind_eq_ok h
  dsimp only at h
  split at h
  · cases h
  · next k hk =>
    unfold decryptWithHandler at h
    obtain ⟨⟨i, id'⟩, hd, h⟩ := Out.bind_eq_ok h
    dsimp only at h
    split at h
    · cases h
    · exact ⟨k, i, by rw [hd, getEnvelopeID_deserialize hid hd, kindOfId_eq hk], h⟩

theorem decryptKind_block_ok {c : CryptoOps} {kv : KeyView} {i m : Bytes} (h : decryptKind c kv .block i = .ok m) :
    blockHeaderOk i = true ∧ blockRest i = i.length - 4 ∧ 18 ≤ i.length ∧
      ∃ ks, kv.syms = some ks ∧ decryptBlock c ks [] i = .ok m := by
  simp only [decryptKind] at h
  split at h
  · cases h
  · cases h
  · next n b hb =>
    obtain ⟨h1, h2, h3, h4⟩ := extractBlock_ok hb
    split at h
    · cases h
    · next hn =>
      split at h
      · cases h
      · next ks hks =>
        have hn' : n = i.length := by simpa using hn
        have hbi : b = i := by rw [h4, hn']; exact List.take_length
        rw [hbi] at h
        exact ⟨h2, by omega, h1, ks, hks, h⟩

theorem decryptKind_struct_ok {c : CryptoOps} {kv : KeyView} {i m : Bytes} (h : decryptKind c kv .struct i = .ok m) :
    ∃ ps, kv.privs = some ps ∧ ∃ priv ∈ ps, decryptStruct c priv [] i = .ok m := by
  simp only [decryptKind] at h
  split at h
  · cases h
  · cases h
  · split at h
    · cases h
    · next ps hps => exact ⟨ps, hps, decryptStructRotated_ok h⟩

end AcraModel.Envelope
