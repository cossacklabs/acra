import AcraModel.Envelope.TranslatorLemmas
import AcraModel.Envelope.SafeDetector
/-!
Lemmas for the searchable write path with values that arrive ALREADY protected (C01, shared with C09):
`EnvelopeMatcher.Match` recognises a serialized container, and what `searchableEncrypt` computes in
its "value already is an envelope" branch.
-/
namespace AcraModel.Searchable
open AcraModel AcraModel.Envelope Generated

/-- `EnvelopeMatcher.Match` answers `true` for every serialized container (followed by anything): the
scan recognises the container at position 0 and sets the "envelope seen" flag. -/
theorem matchEnvelope_ser (e suf : Bytes) (id : UInt8) (k : Kind) (he : e ≠ []) (hk : kindOfId id = some k)
    (hlen : e.length + 12 < 2^63) : matchEnvelope (serBytes e id ++ suf) = .ok true := by
  have hall : ∀ cont, ∀ cb ∈ [fun (_ : Bytes) => Cb.same, fun _ => Cb.same], cb cont = .same := by
    intro cont cb hcb
    simp only [List.mem_cons, List.not_mem_nil, or_false] at hcb
    rcases hcb with rfl | rfl <;> rfl
  have hl : containerMin ≤ (serBytes e id ++ suf).length := by
    rw [List.length_append, c01_serBytes_length]
    show 12 ≤ _
    omega
  have hx := c01_extractContainer_ser (id := id) (k := k) suf he hk hlen
  obtain ⟨b, r, hbr⟩ : ∃ b r, serBytes e id ++ suf = b :: r := by
    cases hq : serBytes e id ++ suf with
    | nil => rw [hq] at hl; simp at hl; exact absurd hl (by decide)
    | cons b r => exact ⟨b, r, rfl⟩
  have htag : startsWith containerTag (serBytes e id ++ suf) = true := by
    unfold startsWith serBytes
    simp
  have hhead : headStep [fun _ => Cb.same, fun _ => Cb.same] (b :: r) = .skip true := by
    rw [← hbr]
    unfold headStep
    simp only [htag, Bool.not_true, Bool.false_eq_true, if_false, hx, runCallbacks_all_same _ _ (hall _)]
  obtain ⟨hit, hrest⟩ := scan_same [fun _ => Cb.same, fun _ => Cb.same] r
    (fun i _ _ n cont _ => runCallbacks_all_same cont _ (hall cont))
  have hscan : scan [fun _ => Cb.same, fun _ => Cb.same] (b :: r) = .ok (b :: r) true := by
    rw [c01_scan_skip hhead, hrest]
    simp [ScanOut.prepend]
  unfold matchEnvelope
  rw [c01_onColumn_scan _ _ (by simp) hl, hbr, hscan]

/-- the branch "value already is an envelope" of `SearchableDataEncryptor.EncryptWithClientID`: the hash
is the hash of what the value DECRYPTS to, the value itself is stored as it arrived -/
theorem searchableEncrypt_match (c : CryptoOps) (hk : Bytes) (kv : KeyView) (k : Kind) (e m rnd : Bytes)
    (hm : registryMatch e = true) (hd : process c kv e = .ok m) :
    searchableEncrypt c (some hk) kv k e rnd = .ok (generateHMAC c hk m ++ e) := by
  unfold searchableEncrypt
  simp only [hm, if_true, hd]

/-- … and it fails (nothing is stored) when the value cannot be decrypted for hashing -/
theorem searchableEncrypt_match_err (c : CryptoOps) (hk : Bytes) (kv : KeyView) (k : Kind) (e rnd : Bytes)
    (hm : registryMatch e = true) (hd : process c kv e = .err) :
    searchableEncrypt c (some hk) kv k e rnd = .err := by
  unfold searchableEncrypt
  simp only [hm, if_true, hd]

/-- an already protected value `e` written to a searchable column and read back by the owner: what is stored is the
search hash of the plaintext in front of `e` as it arrived; the read chain cuts the hash off, decrypts and verifies -/
theorem searchable_roundtrip_of_match (c : CryptoOps) (hl : HashLen c) (hk : Bytes) (kvS kvR : KeyView)
    (k : Kind) (e m rnd : Bytes) (st : PState) (hit : Bool)
    (hm : registryMatch e = true) (hd : process c kvS e = .ok m)
    (hme : matchEnvelope e = .ok true) (hdet : clientDetector c kvR e = .ok m hit) :
    searchableEncrypt c (some hk) kvS k e rnd = .ok (generateHMAC c hk m ++ e) ∧
    index (generateHMAC c hk m ++ e) = generateHMAC c hk m ∧
    column c (some hk) (clientDetector c kvR) st (generateHMAC c hk m ++ e) = .ok (PState.init, some m) := by
  refine ⟨searchableEncrypt_match c hk kvS k e m rnd hm hd, index_stored c hl hk m e, ?_⟩
  have hdrop : (generateHMAC c hk m ++ e).drop (generateHMAC c hk m).length = e := by simp
  rw [column_searchable c (some hk) (clientDetector c kvR) st _ (generateHMAC c hk m) m hit (extractHash_stored c hl hk m e)
    (by rw [hdrop]; exact hme) (by rw [hdrop]; exact hdet), Translator.isEqual_genuine]
  rfl

end AcraModel.Searchable
