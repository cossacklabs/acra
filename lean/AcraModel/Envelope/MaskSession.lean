import AcraModel.Envelope.Masking
import AcraModel.Generated.MaskFlow
/-
The masked read path as the OBJECTS of one client session (`decryptor/{postgresql,mysql}/proxy.go`):
one `masking.Processor`, one `crypto.DecryptHandler` around it, one `EnvelopeDetector` and one
`OldContainerDetectorWrapper` are created per session by `proxyFactory.New` and see EVERY column of
every row of that session, each with the setting of its own column in the call's context. The Go
objects' mutable fields become explicit state threaded through the columns (as for `hmac.Processor`
in `Searchable/Processor.lean`):

* `masking.Processor` – `type Processor struct{ decryptor base.ExtendedDataProcessor }`: the only
  field is assigned once by `NewProcessor`, no method assigns a receiver field (regenerated:
  `Generated.MaskFlow.processorFields`, `processorReceiverWrites`; expectation
  `Props.C11.fact_masking_processor_stateless`). `Process` takes the pattern from the setting found in
  the context of THIS call (`processSettingSource`, `processMaskedReturns`).
* `OldContainerDetectorWrapper.hasMatchedEnvelope` – reset at the start of every `OnColumn`.
-/
namespace AcraModel.Envelope
open AcraModel

/-- `masking.Processor.Process(data, context)`. `setting` = the masking pattern of the column setting
that `EncryptionSettingFromContext(context.Context)` finds (`none`: no setting in the context);
`decrypt` = the processor's `decryptor.Process` (the registry handler with the session's key store). -/
def maskProcess (decrypt : Bytes → Out Bytes) (setting : Option Bytes) (data : Bytes) : Out Bytes :=
  match setting with
  | some pat =>
    if pat ≠ [] then
      match decrypt data with
      | .ok newData => if newData == data then .ok pat else .ok newData
      | _ => .ok pat
    else decrypt data
  | none => decrypt data

/-- `DecryptHandler.OnCryptoEnvelope` around any `DataProcessor`: an error is swallowed (the container is
returned unchanged); the detector then compares the result with the container -/
def decryptHandler (proc : Bytes → Out Bytes) : Callback := fun container =>
  match proc container with
  | .ok d => if d == container then .same else .replaced d
  | _ => .same

/-- the mutable fields of the session's objects on this path. `masking.Processor` contributes none
(see the header); `hasMatched` is `OldContainerDetectorWrapper.hasMatchedEnvelope` as the previous
column left it. -/
structure MaskSession where
  hasMatched : Bool
deriving DecidableEq, Repr

def MaskSession.init : MaskSession := ⟨false⟩

/-- `OldContainerDetectorWrapper.OnColumn` of the session for ONE column whose context carries the
setting `cfg`: the flag is reset first, whatever the previous column left; the decrypt handler runs the
session's masking processor with the pattern of `cfg`. Result: the state afterwards and what the
client receives. (`fatal`/`panic` leave the flag as the interrupted scan set it – recorded as `true`,
the reset at the start of the next call makes the value irrelevant.) -/
def maskSessionColumn (c : CryptoOps) (kv : KeyView) (_s : MaskSession) (cfg : MaskCfg) (stored : Bytes) : MaskSession × ScanOut :=
  let out := onColumnCompat [decryptHandler (maskProcess (process c kv) (some cfg.pattern))] stored
  let flag := match out with
    | .ok _ hit => hit
    | _ => true
  (⟨flag⟩, out)

/-- the columns of a session one after another through the SAME objects -/
def maskSessionColumns (c : CryptoOps) (kv : KeyView) : MaskSession → List (MaskCfg × Bytes) → MaskSession × List ScanOut
  | s, [] => (s, [])
  | s, (cfg, stored) :: rest =>
    let (s1, o) := maskSessionColumn c kv s cfg stored
    let (s2, os) := maskSessionColumns c kv s1 rest
    (s2, o :: os)

/-- the decrypt handler over the masking processor with a non-empty pattern is the masking callback -/
theorem decryptHandler_maskProcess (c : CryptoOps) (kv : KeyView) (pat : Bytes) (hp : pat ≠ []) :
    decryptHandler (maskProcess (process c kv) (some pat)) = maskCallback c kv pat := by
  funext container
  unfold decryptHandler maskProcess maskCallback
  simp only [hp, ne_eq, not_false_eq_true, if_true]
  cases process c kv container with
  | ok d => by_cases h : (d == container) = true <;> simp [h]
  | err => simp
  | panic => simp

/-- without a pattern (or without a setting) the masking processor is the plain decryptor -/
theorem decryptHandler_maskProcess_nil (c : CryptoOps) (kv : KeyView) :
    decryptHandler (maskProcess (process c kv) (some [])) = decryptCallback c kv := by
  funext container
  unfold decryptHandler maskProcess decryptCallback
  simp only [ne_eq, not_true_eq_false, if_false]
  cases process c kv container <;> rfl

theorem maskSessionColumn_out (c : CryptoOps) (kv : KeyView) (s : MaskSession) (cfg : MaskCfg) (stored : Bytes) :
    (maskSessionColumn c kv s cfg stored).2 = maskRead c kv cfg stored := by
  unfold maskSessionColumn maskRead
  by_cases hp : cfg.pattern = []
  · simp only [hp, if_true]
    rw [decryptHandler_maskProcess_nil]
  · simp only [hp, if_false]
    rw [decryptHandler_maskProcess c kv _ hp]

/-- one column does not depend on the state the previous columns left -/
theorem maskSessionColumn_stateless (c : CryptoOps) (kv : KeyView) (s s' : MaskSession) (cfg : MaskCfg) (stored : Bytes) :
    maskSessionColumn c kv s cfg stored = maskSessionColumn c kv s' cfg stored := rfl

theorem maskSessionColumns_out (c : CryptoOps) (kv : KeyView) (s : MaskSession) (cols : List (MaskCfg × Bytes)) :
    (maskSessionColumns c kv s cols).2 = cols.map (fun x => maskRead c kv x.1 x.2) := by
  induction cols generalizing s with
  | nil => rfl
  | cons x rest ih =>
    obtain ⟨cfg, stored⟩ := x
    simp only [maskSessionColumns, List.map_cons]
    rw [ih, maskSessionColumn_out]

end AcraModel.Envelope
