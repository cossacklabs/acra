import AcraModel.Basic.Bytes
/-!
Integer conversions used by the envelope round-trip proofs (C01): the 8- and 2-byte length fields and Go's
`int` reading of a 64-bit value.
-/
namespace AcraModel.Envelope
open AcraModel

theorem toInt64_of_lt {n : Nat} (h : n < 2^63) : toInt64 n = (n : Int) := by
  unfold toInt64
  have h1 : n % 2^64 = n := Nat.mod_eq_of_lt (by omega)
  rw [h1, if_pos h]

theorem c01_leVal_leBytes8 {n : Nat} (h : n < 2^64) : leVal (leBytes 8 n) = n :=
  leVal_leBytes_of_lt 8 n (by simpa using h)

theorem c01_leVal_leBytes2 {n : Nat} (h : n < 65536) : leVal (leBytes 2 n) = n :=
  leVal_leBytes_of_lt 2 n (by simpa using h)

end AcraModel.Envelope
