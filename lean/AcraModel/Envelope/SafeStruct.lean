import AcraModel.Envelope.SafeBlock
import AcraModel.Envelope.StructLemmas
/-!
AcraStruct: closed forms of `getDataLength` / `validateStruct` / `extractStruct` / `decryptStruct`
and what follows from them – no panic, bounds (helpers for C03 / C14).
-/
namespace AcraModel.Envelope
open AcraModel Generated

/-- the declared data length field of an AcraStruct (as unsigned number) -/
def structDL (d : Bytes) : Nat := leVal ((d.take 145).drop 137)

theorem getDataLength_eq (d : Bytes) (h : 145 ≤ d.length) : getDataLength d = .ok (toInt64 (structDL d)) := by
  unfold getDataLength
  rw [show structMin = 145 from rfl, show structDataLenSize = 8 from rfl,
    goSlice_ok d (145 - 8) 145 (by omega) h]
  rfl

theorem getDataLength_short (d : Bytes) (h : d.length < 145) : getDataLength d = .panic := by
  unfold getDataLength goSlice
  rw [show structMin = 145 from rfl, show structDataLenSize = 8 from rfl, if_neg (by omega)]
  rfl

theorem validateStruct_eq (d : Bytes) :
    validateStruct d = if d.length < 145 then .err else
      if d.take 8 ≠ structTag then .err else
        if toInt64 (structDL d) ≠ ((d.length - 145 : Nat) : Int) then .err else .ok () := by
  unfold validateStruct
  rw [show structMin = 145 from rfl, show structTagLen = 8 from rfl]
  by_cases h : d.length < 145
  · rw [if_pos h, if_pos h]
  · rw [if_neg h, if_neg h, goSlice_zero_ok d 8 (by omega), getDataLength_eq d (by omega)]
    simp only [Out.bind_ok]
    rfl

theorem validateStruct_ne_panic (d : Bytes) : validateStruct d ≠ .panic := by
  rw [validateStruct_eq]; repeat' split
  all_goals simp

theorem toInt64_eq_nat {x n : Nat} (hx : x < 2^64) (h : toInt64 x = (n : Int)) : x = n := by
  unfold toInt64 at h
  rw [Nat.mod_eq_of_lt hx] at h
  split at h <;> omega

theorem lt_of_toInt64_pos {x : Nat} (hx : x < 2^64) (h : 0 < toInt64 x) : x < 2^63 := by
  unfold toInt64 at h
  rw [Nat.mod_eq_of_lt hx] at h
  split at h <;> omega

theorem structDL_lt (d : Bytes) (h : 145 ≤ d.length) : structDL d < 2^64 :=
  leVal_lt_of_length (n := 8) (by rw [List.length_drop, List.length_take]; omega)

theorem validateStruct_ok {d : Bytes} (h : validateStruct d = .ok ()) :
    145 ≤ d.length ∧ d.take 8 = structTag ∧ structDL d = d.length - 145 := by
  rw [validateStruct_eq] at h
  split at h
  · cases h
  · split at h
    · cases h
    · split at h
      · cases h
      · next h1 h2 h3 =>
        have h1 : 145 ≤ d.length := by omega
        refine ⟨h1, by simpa using h2, ?_⟩
        exact toInt64_eq_nat (structDL_lt d h1) (by simpa using h3)

/-- the canonical decomposition of a byte string that passes `ValidateAcraStructLength` -/
theorem validateStruct_layout {d : Bytes} (h : validateStruct d = .ok ()) :
    d = structTag ++ ((d.drop 8).take 45) ++ ((d.drop 53).take 84) ++ leBytes 8 (d.drop 145).length ++ d.drop 145 := by
  obtain ⟨h1, h2, h3⟩ := validateStruct_ok h
  have e : (d.drop 137).take 8 = leBytes 8 (d.drop 145).length := by
    have hl : ((d.drop 137).take 8).length = 8 := by rw [List.length_take, List.length_drop]; omega
    rw [← leBytes_leVal_of_length hl, take_drop_eq, List.length_drop]
    exact congrArg (leBytes 8) h3
  rw [← e, ← h2]
  simp only [List.append_assoc]
  rw [← drop_split d 137 8, ← drop_split d 53 84, ← drop_split d 8 45, List.take_append_drop]

theorem extractStruct_eq (d : Bytes) :
    extractStruct d = if d.length < 145 then .err else
      if toInt64 (structDL d + 145) < 0 ∨ toInt64 (structDL d + 145) > d.length then .err else
        match validateStruct (d.take (toInt64 (structDL d + 145)).toNat) with
        | .ok () => .ok ((toInt64 (structDL d + 145)).toNat, d.take (toInt64 (structDL d + 145)).toNat)
        | .err => .err
        | .panic => .panic := by
  unfold extractStruct
  rw [show structMin = 145 from rfl, show structDataLenSize = 8 from rfl]
  by_cases h : d.length < 145
  · rw [if_pos h, if_pos h]
  · rw [if_neg h, if_neg h, goSlice_ok d (145 - 8) 145 (by omega) (by omega)]
    simp only [Out.bind_ok, Nat.reduceSub]
    unfold structDL
    by_cases h2 : toInt64 (leVal (List.drop 137 (List.take 145 d)) + 145) < 0 ∨
        toInt64 (leVal (List.drop 137 (List.take 145 d)) + 145) > d.length
    · rw [if_pos h2, if_pos h2]
    · rw [if_neg h2, if_neg h2, goSlice_zero_ok d _ (by omega), Out.bind_ok]
      -- the two `match`es are different auxiliary functions: compare them constructor by constructor
      cases validateStruct (d.take (toInt64 (leVal (List.drop 137 (List.take 145 d)) + 145)).toNat) <;> rfl

theorem extractStruct_ne_panic (d : Bytes) : extractStruct d ≠ .panic := by
  rw [extractStruct_eq]
  split
  · simp
  · split
    · simp
    · have := validateStruct_ne_panic (d.take (toInt64 (structDL d + 145)).toNat)
      split <;> simp_all

theorem extractStruct_bounds' {d : Bytes} {n : Nat} {s : Bytes} (h : extractStruct d = .ok (n, s)) :
    145 ≤ n ∧ n ≤ d.length ∧ s = d.take n ∧ validateStruct s = .ok () := by
  rw [extractStruct_eq] at h
  split at h
  · cases h
  · split at h
    · cases h
    · next h1 h2 =>
      split at h
      · next hv =>
        obtain ⟨rfl, rfl⟩ := Prod.mk.inj (Out.ok.inj h)
        have := (validateStruct_ok hv).1
        rw [List.length_take] at this
        refine ⟨by omega, by omega, rfl, hv⟩
      · cases h
      · cases h

/-- what `DecryptAcrastruct` computes on a validated AcraStruct -/
theorem decryptStruct_eq (c : CryptoOps) (priv ctx d : Bytes) (hv : validateStruct d = .ok ()) :
    decryptStruct c priv ctx d =
      match c.unwrap priv ((d.drop 8).take 45) ((d.drop 53).take 84) with
      | none => .err
      | some symKey =>
        if symKey = [] then .err else
        match c.dec symKey ctx (d.drop 145) with
        | none => .err
        | some m => .ok m := by
  have hl := (validateStruct_ok hv).1
  unfold decryptStruct
  rw [hv, show structTagLen = 8 from rfl, show structPubLen = 45 from rfl, show structKeyBlockLen = 129 from rfl,
    show structDataLenSize = 8 from rfl]
  simp only [Out.bind_ok]
  rw [goSliceFrom_ok d 8 (by omega)]
  simp only [Out.bind_ok]
  have hi : (d.drop 8).length = d.length - 8 := List.length_drop
  rw [goSlice_zero_ok _ 45 (by omega), goSlice_ok _ 45 129 (by omega) (by omega)]
  simp only [Out.bind_ok]
  have e1 : List.drop 45 (List.take 129 (List.drop 8 d)) = (d.drop 53).take 84 := by
    rw [List.drop_take]; simp
  rw [e1]
  cases c.unwrap priv (List.take 45 (List.drop 8 d)) (List.take 84 (List.drop 53 d)) with
  | none => rfl
  | some symKey =>
    simp only []
    rw [goSlice_ok _ 129 (129 + 8) (by omega) (by omega), goSliceFrom_ok _ (129 + 8) (by omega)]
    simp only [Out.bind_ok, List.drop_drop]
    rfl

theorem decryptStruct_ne_panic (c : CryptoOps) (priv ctx d : Bytes) : decryptStruct c priv ctx d ≠ .panic := by
  cases hv : validateStruct d with
  | panic => exact absurd hv (validateStruct_ne_panic d)
  | err => unfold decryptStruct; rw [hv]; simp
  | ok u =>
    rw [decryptStruct_eq c priv ctx d hv]
    repeat' split
    all_goals simp

theorem decryptStructRotated_ne_panic (c : CryptoOps) (ctx d : Bytes) (keys : List Bytes) :
    decryptStructRotated c ctx d keys ≠ .panic := by
  induction keys with
  | nil => simp [decryptStructRotated]
  | cons k ks ih =>
    simp only [decryptStructRotated]
    split
    · simp
    · next h => exact absurd h (decryptStruct_ne_panic c k ctx d)
    · exact ih

/-- a successful rotated decryption is a successful decryption with one of the keys -/
theorem decryptStructRotated_ok {c : CryptoOps} {ctx d : Bytes} {keys : List Bytes} {m : Bytes}
    (h : decryptStructRotated c ctx d keys = .ok m) : ∃ k ∈ keys, decryptStruct c k ctx d = .ok m := by
  induction keys with
  | nil => simp [decryptStructRotated] at h
  | cons k ks ih =>
    simp only [decryptStructRotated] at h
    split at h
    · next hk => cases h; exact ⟨k, List.mem_cons_self, hk⟩
    · cases h
    · obtain ⟨k', hm, hk'⟩ := ih h
      exact ⟨k', List.mem_cons_of_mem _ hm, hk'⟩

end AcraModel.Envelope
