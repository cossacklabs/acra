import AcraModel.Envelope.SafeGenuine
import AcraModel.Crypto.Box
import AcraModel.Envelope.StructLemmas
/-!
Concrete values for the non-vacuity examples of C03, and the few lemmas those examples need.
-/
namespace AcraModel.Envelope
open AcraModel Generated

/-- a crypto back end that accepts everything (only to show that the success branches of the
decoders are reachable; satisfies no law) -/
def safeToyOps : CryptoOps where
  enc := fun _ _ m _ => some m
  dec := fun _ _ ct => some ct
  wrap := fun _ _ m _ => some m
  unwrap := fun _ _ ct => some ct
  pubOf := id
  validPriv := fun _ => true
  privOfSeed := id
  hmac := fun _ m => m
  sha256 := id

def unwrapOr (o : Out Bytes) : Bytes := match o with | .ok b => b | _ => []
def getOr (o : Option Bytes) : Bytes := match o with | some b => b | none => []

def exKey : Bytes := [7, 7]
def exKey2 : Bytes := [8, 8, 8]
/-- "random" stream: data key `5…5` (32), nonces `5…5` -/
def exRnd : Bytes := List.replicate 56 5
def exRnd2 : Bytes := List.replicate 56 6
def exMsg : Bytes := [1, 2, 3]
def exMsg2 : Bytes := [4, 5]
/-- a genuine AcraBlock of `exMsg` under `exKey` (Box back end) -/
def exBlock : Bytes := unwrapOr (createBlock boxOps exKey [] exMsg exRnd)
/-- a second value: `exMsg2` under the same key with data key `6…6` -/
def exBlock2 : Bytes := unwrapOr (createBlock boxOps exKey [] exMsg2 exRnd2)
def exEncKey : Bytes := getOr (boxOps.enc exKey [] (exRnd.take 32) ((exRnd.drop 44).take 12))
def exEncData : Bytes := getOr (boxOps.enc (exRnd.take 32) [] exMsg ((exRnd.drop 32).take 12))
def exEncData2 : Bytes := getOr (boxOps.enc (exRnd2.take 32) [] exMsg2 ((exRnd2.drop 32).take 12))
/-- key part of value 1 spliced with the data part of value 2 -/
def exSpliced : Bytes := buildBlock (keyId boxOps exKey []) exEncKey exEncData2
/-- the parts of `exSpliced` are what they are said to be, and the two data keys differ -/
theorem exSpliced_parts : boxOps.enc exKey [] (exRnd.take 32) ((exRnd.drop 44).take 12) = some exEncKey ∧
    boxOps.enc (exRnd2.take 32) [] exMsg2 ((exRnd2.drop 32).take 12) = some exEncData2 ∧
    exRnd.take 32 ≠ exRnd2.take 32 ∧
    (exSpliced.take (18 + leVal ((exSpliced.take 18).drop 16))).drop 18 = exEncKey ∧
    exSpliced.drop (18 + leVal ((exSpliced.take 18).drop 16)) = exEncData2 := by decide +kernel

def exKv : KeyView := ⟨none, none, some exKey, some [exKey2, exKey]⟩
def exContainer : Bytes := unwrapOr (serialize exBlock idBlock)
/-- the same container with one byte of the sealed key part changed (offset 30 = first byte of the key part) -/
def exDamaged : Bytes := exContainer.take 30 ++ [5] ++ exContainer.drop 31
/-- the block with an unregistered key backend id (byte 12) – never passes `ExtractAcraBlockFromData` -/
def exBadBackend : Bytes := exBlock.take 12 ++ [9] ++ exBlock.drop 13
/-- a well-formed (not genuine) AcraStruct: tag, 45+84 header bytes, length 3, three data bytes -/
def exStruct : Bytes := structTag ++ List.replicate 45 1 ++ List.replicate 84 2 ++ leBytes 8 3 ++ [9, 9, 9]

/-- a buffer that is exactly one container the callbacks replace -/
theorem scan_single (cbs : List Callback) (d : Bytes) (n : Int) (cont p : Bytes)
    (hs : startsWith containerTag d = true) (he : extractContainer d = .ok (n, cont))
    (hr : runCallbacks cont cbs = .replace p) (hn : n = d.length) : scan cbs d = .ok p true := by
  cases d with
  | nil => simp [startsWith, containerTag, toBytes, Layout.containerTag] at hs
  | cons b r =>
    rw [scan.eq_2, if_neg (by simp [hs]), he]
    simp only [hr]
    rw [dif_pos (by subst hn; simp only [List.length_cons]; omega)]
    have : (b :: r).drop n.toNat = [] := by
      subst hn; simp
    rw [this, scan.eq_1]
    simp [ScanOut.prepend]

/-- the 12-byte header `%%% | length = 2^63 | AcraBlock id` -/
def hugeHdr : Bytes := [37, 37, 37, 0, 0, 0, 0, 0, 0, 0, 128, 240]

theorem extractContainer_huge (tail : Bytes) (ht : tail.length = 2^63) :
    extractContainer (hugeHdr ++ tail) = .ok (toInt64 (2^63), hugeHdr ++ tail) := by
  have hlen : (hugeHdr ++ tail).length = 12 + 2^63 := by
    have : hugeHdr.length = 12 := rfl
    rw [List.length_append, ht, this]
  have hv : validateContainer (hugeHdr ++ tail) = .ok 240 := by
    rw [validateContainer_eq, if_neg (by rw [hlen]; omega)]
    have h3 : (hugeHdr ++ tail).take 3 = containerTag := rfl
    rw [if_neg (by rw [h3]; exact fun h => h rfl)]
    rfl
  have hl : leVal (List.drop 3 (List.take 11 (hugeHdr ++ tail))) = 2^63 := by
    have : List.drop 3 (List.take 11 (hugeHdr ++ tail)) = [0, 0, 0, 0, 0, 0, 0, 128] := rfl
    rw [this]
    decide
  unfold extractContainer
  rw [hv]
  dsimp only
  rw [goSlice_lengthField _ (by rw [hlen]; omega), Out.bind_ok, hl, show containerMin = 12 from rfl, hlen, if_neg (by omega)]
  rfl

theorem toInt64_huge : toInt64 (2^63) < 0 := by decide

/-- on such a (physically impossible) buffer the `OnColumn` loop would slice out of range -/
theorem scan_huge (tail : Bytes) (ht : tail.length = 2^63) :
    scan [fun _ => Cb.replaced []] (hugeHdr ++ tail) = .panic := by
  have hc : hugeHdr ++ tail = 37 :: ([37, 37, 0, 0, 0, 0, 0, 0, 0, 128, 240] ++ tail) := rfl
  have he := extractContainer_huge tail ht
  rw [hc] at he ⊢
  rw [scan.eq_2, if_neg (by rw [← hc]; exact fun h => nomatch h), he]
  have hr : runCallbacks (37 :: ([37, 37, 0, 0, 0, 0, 0, 0, 0, 128, 240] ++ tail)) [fun _ => Cb.replaced []]
      = .replace [] := rfl
  simp only [hr]
  rw [dif_neg (fun h => absurd h.1 (by have := toInt64_huge; omega))]

/-- for every back end with the (length-style) laws of the real one there is a genuine AcraStruct that
decrypts: valid reader and ephemeral keys, 45-byte public key, 84-byte wrapped key -/
theorem struct_witness (c : CryptoOps) (hs : SealLaws c) (hsl : SealLen c) (hm : MsgLaws c) (hml : MsgLen c)
    (hk : KeygenLaws c) :
    ∃ priv ePriv rest m, c.validPriv priv = true ∧ c.validPriv ePriv = true ∧ (c.pubOf ePriv).length = 45 ∧
      decryptStruct c priv [] (structTag ++ c.pubOf ePriv ++ rest) = .ok m := by
  have hp : c.validPriv (c.privOfSeed (List.replicate 32 1)) = true := hk.valid_seed _ (by simp)
  have he : c.validPriv (c.privOfSeed (List.replicate 32 2)) = true := hk.valid_seed _ (by simp)
  cases hw : c.wrap (c.privOfSeed (List.replicate 32 2)) (c.pubOf (c.privOfSeed (List.replicate 32 1)))
      (List.replicate 32 3) (List.replicate 12 0) with
  | none =>
    exfalso
    have := (hm.wrap_none _ _ _ _ he hp).1 hw
    revert this; simp [nonceLen, maxMsgLen]
  | some W =>
    cases hb : c.enc (List.replicate 32 3) [] [1, 2, 3] (List.replicate 12 0) with
    | none =>
      exfalso
      have := (hs.enc_none _ _ _ _).1 hb
      revert this; simp [nonceLen, maxMsgLen]
    | some body =>
      have hWl : W.length = 84 := by rw [hml.wrap_len _ _ _ _ _ hw]; rfl
      have hbl : body.length = 47 := by rw [hsl.enc_len _ _ _ _ _ hb]; rfl
      have hPl := hml.pub_len _ he
      refine ⟨_, _, W ++ leBytes 8 body.length ++ body, [1, 2, 3], hp, he, hPl, ?_⟩
      have hL : body.length < 2^63 := by rw [hbl]; decide
      have := c01_decryptStruct_fields c (c.privOfSeed (List.replicate 32 1)) [] _ W _ body (List.replicate 32 3) [1, 2, 3]
        hPl hWl (leBytes_length 8 _)
        (c01_validateStruct_fields _ W _ body hPl hWl (leBytes_length 8 _)
          (leVal_leBytes_of_lt 8 _ (Nat.lt_trans hL (by decide))) hL)
        (hm.unwrap_wrap _ _ _ _ _ he hp hw) (by simp) (hs.dec_enc _ _ _ _ _ hb)
      simpa only [List.append_assoc] using this

/-- the Box back end with a Secure Message that unwraps everything: `SealLaws` and `SealCommit` only
speak about `enc`/`dec`, so they carry over (Box itself cannot produce an 84-byte wrapped key for a
45-byte public key, so no AcraStruct decrypts under plain `boxOps`) -/
def boxOpenOps : CryptoOps := { boxOps with unwrap := fun _ _ ct => some ct }

theorem boxOpen_sealLaws : SealLaws boxOpenOps :=
  ⟨Box.sealLaws.dec_enc, Box.sealLaws.enc_of_dec, Box.sealLaws.enc_none⟩

theorem boxOpen_sealCommit : SealCommit boxOpenOps := ⟨Box.sealCommit.enc_inj⟩

def exSymKey : Bytes := List.replicate 84 2
def exBody : Bytes := getOr (boxOps.enc exSymKey [] exMsg (List.replicate 12 5))
/-- an AcraStruct whose body is `exMsg` sealed (Box) under the 84 bytes of its own key block -/
def exStruct2 : Bytes := structTag ++ List.replicate 45 1 ++ exSymKey ++ leBytes 8 exBody.length ++ exBody

end AcraModel.Envelope
