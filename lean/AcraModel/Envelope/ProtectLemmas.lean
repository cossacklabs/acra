import AcraModel.Envelope.ContainerLemmas
import AcraModel.Envelope.BlockLemmas
import AcraModel.Envelope.StructLemmas
/-!
Lemmas about the registry handler's `protect` / `reveal` (C01): what a successful `protect` that did
not pass its input through has computed, and how `reveal` takes a serialized container apart.
-/
namespace AcraModel.Envelope
open AcraModel Generated

/-- sealing succeeds on a non-empty message below the limit under a non-empty key with a 12-byte nonce -/
theorem _root_.AcraModel.SealLaws.enc_some {c : CryptoOps} (hs : SealLaws c) {k m n : Bytes} (x : Bytes) (hm : m ≠ []) (hk : k ≠ [])
    (hn : n.length = nonceLen) (hl : m.length < maxMsgLen) : ∃ ct, c.enc k x m n = some ct := by
  cases h : c.enc k x m n with
  | some ct => exact ⟨ct, rfl⟩
  | none =>
    rcases (hs.enc_none k x m n).mp h with h | h | h | h
    · exact absurd h hm
    · exact absurd h hk
    · exact absurd hn h
    · omega

/-- wrapping succeeds likewise between well-formed keys -/
theorem _root_.AcraModel.MsgLaws.wrap_some {c : CryptoOps} (hm : MsgLaws c) {a b m n : Bytes} (ha : c.validPriv a = true)
    (hb : c.validPriv b = true) (hne : m ≠ []) (hn : n.length = nonceLen) (hl : m.length < maxMsgLen) :
    ∃ ct, c.wrap a (c.pubOf b) m n = some ct := by
  cases h : c.wrap a (c.pubOf b) m n with
  | some ct => exact ⟨ct, rfl⟩
  | none =>
    rcases (hm.wrap_none a b m n ha hb).mp h with h | h | h
    · exact absurd h hne
    · exact absurd hn h
    · omega

/-- a `protect` that did not pass its input through has run the handler of kind `k` and serialized
its result -/
theorem c01_protect_ok {c : CryptoOps} {kv : KeyView} {k : Kind} {m rnd p : Bytes}
    (hp : protect c kv k m rnd = .ok p) (hnm : matchKind k m = false) (hnr : registryMatch m = false) :
    ∃ e, encryptKind c kv k m rnd = .ok e ∧ e ≠ [] ∧ p = serBytes e k.id := by
  unfold protect at hp
  rw [hnm, hnr] at hp
  simp only [Bool.or_self, Bool.false_eq_true, if_false] at hp
  obtain ⟨e, he, hs⟩ := Out.bind_eq_ok hp
  obtain ⟨hne, hpe⟩ := c01_serialize_ok hs
  exact ⟨e, he, hne, hpe⟩

theorem c01_encryptKind_block {c : CryptoOps} {kv : KeyView} {m rnd e : Bytes}
    (he : encryptKind c kv .block m rnd = .ok e) (hnm : matchKind .block m = false) :
    ∃ key, kv.sym = some key ∧ createBlock c key [] m rnd = .ok e := by
  unfold encryptKind at he
  rw [hnm] at he
  simp only [Bool.false_eq_true, if_false] at he
  cases hs : kv.sym with
  | none => rw [hs] at he; cases he
  | some key => rw [hs] at he; exact ⟨key, rfl, he⟩

/-- `RegistryHandler.Process` on a serialized container followed by arbitrary bytes: the envelope is
cut out by its declared length and handed to the handler of its kind -/
theorem c01_process_ser (c : CryptoOps) (kv : KeyView) (k : Kind) (e suf : Bytes) (he : e ≠ [])
    (hlen : e.length + 12 < 2^64) (hm : matchKind k e = true) :
    process c kv (serBytes e k.id ++ suf) = decryptKind c kv k e := by
  unfold process
  rw [c01_getEnvelopeID_ser suf he (c01_kindOfId_id k)]
  simp only [Out.bind_ok, c01_kindOfId_id]
  unfold decryptWithHandler
  rw [c01_deserialize_ser suf he (c01_kindOfId_id k) hlen]
  simp only [Out.bind_ok, hm, Bool.not_true, Bool.false_eq_true, if_false]

theorem c01_registryMatch_ser (k : Kind) (e suf : Bytes) (he : e ≠ [])
    (hlen : e.length + 12 < 2^64) (hm : matchKind k e = true) :
    registryMatch (serBytes e k.id ++ suf) = true := by
  unfold registryMatch
  rw [c01_deserialize_ser suf he (c01_kindOfId_id k) hlen]
  simp only [c01_kindOfId_id, hm]

/-- the block handler on exactly one freshly built block -/
theorem c01_decryptKind_block (c : CryptoOps) (kv : KeyView) (b m : Bytes) (ks : List Bytes)
    (hx : extractBlock b = .ok (b.length, b)) (hks : kv.syms = some ks)
    (hd : decryptBlock c ks [] b = .ok m) : decryptKind c kv .block b = .ok m := by
  unfold decryptKind
  simp only [hx, hks, hd, ne_eq, not_true_eq_false, if_false]

theorem c01_protect_of_match (c : CryptoOps) (kv : KeyView) (k : Kind) (d rnd : Bytes)
    (h : matchKind k d = true ∨ registryMatch d = true) : protect c kv k d rnd = .ok d := by
  unfold protect
  rcases h with h | h <;> simp [h]

/-- Hypotheses of the AcraBlock round trip through the registry handler: the AEAD laws; the writer's
current symmetric key `key` occurs somewhere in the reader's key list; keys listed before it do not
unseal the wrapped data key when their 2-byte id collides; the 2-byte id really is 2 bytes and the
length fields do not wrap (both follow from `HashLen c` resp. `SealLen c`). -/
def BlockRoundTripHyps (c : CryptoOps) (kvW kvR : KeyView) (rnd p : Bytes) : Prop :=
  SealLaws c ∧ ∃ (key : Bytes) (pre post : List Bytes),
    (keyId c key []).length = 2 ∧ kvW.sym = some key ∧ kvR.syms = some (pre ++ key :: post) ∧
    (∀ k' ∈ pre, ∀ encKey, c.enc key [] (rnd.take 32) ((rnd.drop 44).take 12) = some encKey →
      keyId c k' [] = keyId c key [] → c.dec k' [] encKey = none) ∧
    (∀ encKey, c.enc key [] (rnd.take 32) ((rnd.drop 44).take 12) = some encKey → encKey.length < 65536) ∧
    p.length < 2^63

/-- Hypotheses of the AcraStruct round trip through the registry handler: the laws of the AEAD and
of Secure Message with their length laws, key generation; the writer used the public key of a
well-formed `priv` that occurs somewhere in the reader's list of private keys; keys listed before it
fail on the value (or give the same answer). -/
def StructRoundTripHyps (c : CryptoOps) (kvW kvR : KeyView) (m rnd : Bytes) : Prop :=
  SealLaws c ∧ SealLen c ∧ MsgLaws c ∧ MsgLen c ∧ KeygenLaws c ∧ ∃ (priv : Bytes) (pre post : List Bytes),
    c.validPriv priv = true ∧ kvW.pub = some (c.pubOf priv) ∧ kvR.privs = some (pre ++ priv :: post) ∧
    (∀ k' ∈ pre, ∀ s, createStruct c (c.pubOf priv) [] m rnd = .ok s →
      decryptStruct c k' [] s = .err ∨ decryptStruct c k' [] s = .ok m)

/-- the round-trip hypotheses for the envelope kind used -/
def RoundTripHyps (c : CryptoOps) (k : Kind) (kvW kvR : KeyView) (m rnd p : Bytes) : Prop :=
  match k with
  | .block => BlockRoundTripHyps c kvW kvR rnd p
  | .struct => StructRoundTripHyps c kvW kvR m rnd

/-- everything `reveal` and the column processor need to know about a value protected as AcraBlock -/
theorem c01_protect_block_facts (c : CryptoOps) (hs : SealLaws c) (kvW kvR : KeyView) (key m rnd p : Bytes)
    (pre post : List Bytes)
    (hkid : (keyId c key []).length = 2)
    (hW : kvW.sym = some key) (hR : kvR.syms = some (pre ++ key :: post))
    (hpre : ∀ k' ∈ pre, ∀ encKey, c.enc key [] (rnd.take 32) ((rnd.drop 44).take 12) = some encKey →
      keyId c k' [] = keyId c key [] → c.dec k' [] encKey = none ∨ c.dec k' [] encKey = some (rnd.take 32))
    (hEncKey : ∀ encKey, c.enc key [] (rnd.take 32) ((rnd.drop 44).take 12) = some encKey → encKey.length < 65536)
    (hplen : p.length < 2^63)
    (hnm : matchKind .block m = false) (hnr : registryMatch m = false)
    (hp : protect c kvW .block m rnd = .ok p) :
    ∃ e, p = serBytes e Kind.block.id ∧ e ≠ [] ∧ e.length + 12 < 2^63 ∧ matchKind .block e = true ∧
      decryptKind c kvR .block e = .ok m := by
  obtain ⟨e, he, hne', rfl⟩ := c01_protect_ok hp hnm hnr
  obtain ⟨key', hk', hcb⟩ := c01_encryptKind_block he hnm
  rw [hW] at hk'; cases hk'
  rw [c01_serBytes_length] at hplen
  obtain ⟨encData, encKey, h1, h2, rfl⟩ := c01_createBlock_ok hcb
  have hx := c01_extractBlock_build (keyId c key []) encKey encData [] hkid (by omega)
  rw [List.append_nil] at hx
  have hd := c01_decryptBlock_build c hs key [] _ m encKey encData _ _ pre post hkid (hEncKey _ h2) h1 h2
    (fun k' hk' hid => hpre k' hk' encKey h2 hid)
  exact ⟨_, rfl, hne', by omega, by simp [matchKind, hx, Out.isOk], c01_decryptKind_block c kvR _ m _ hx hR hd⟩

/-- Under the length law and with 32-byte hashes the hypotheses of the AcraBlock round trip come down to: the
writer's key occurs in the reader's list and no key listed before it has the same 2-byte id. `b` is the block
`CreateAcraBlock` made; the value `protect` returns is `serBytes b idBlock`. -/
theorem c01_blockRoundTripHyps {c : CryptoOps} (hs : SealLaws c) (hsl : SealLen c) (hh : HashLen c)
    {kvW kvR : KeyView} {key m rnd b : Bytes} {pre post : List Bytes}
    (hW : kvW.sym = some key) (hR : kvR.syms = some (pre ++ key :: post))
    (hids : ∀ k' ∈ pre, keyId c k' [] ≠ keyId c key [])
    (hb : createBlock c key [] m rnd = .ok b) :
    b.length = m.length + 138 ∧ RoundTripHyps c .block kvW kvR m rnd (serBytes b idBlock) := by
  have hkid := c01_keyId_length hh key []
  obtain ⟨hbl, hm, hek⟩ := c01_block_sizes hs hsl hkid hb
  refine ⟨hbl, hs, key, pre, post, hkid, hW, hR, fun k' hk' _ _ hid => absurd hid (hids k' hk'),
    fun ek h => by rw [hek ek h]; decide, ?_⟩
  rw [c01_serBytes_length, hbl]
  omega

/-- the same for the value `protect` returned for an unprotected `m` -/
theorem c01_blockRoundTripHyps_protect {c : CryptoOps} (hs : SealLaws c) (hsl : SealLen c) (hh : HashLen c)
    {kvW kvR : KeyView} {key m rnd p : Bytes} {pre post : List Bytes}
    (hW : kvW.sym = some key) (hR : kvR.syms = some (pre ++ key :: post))
    (hids : ∀ k' ∈ pre, keyId c k' [] ≠ keyId c key [])
    (hnm : matchKind .block m = false) (hnr : registryMatch m = false)
    (hp : protect c kvW .block m rnd = .ok p) :
    p.length = m.length + 150 ∧ RoundTripHyps c .block kvW kvR m rnd p := by
  obtain ⟨e, he, _, rfl⟩ := c01_protect_ok hp hnm hnr
  obtain ⟨key', hk', hcb⟩ := c01_encryptKind_block he hnm
  rw [hW] at hk'; cases hk'
  obtain ⟨hbl, hH⟩ := c01_blockRoundTripHyps hs hsl hh hW hR hids hcb
  exact ⟨by rw [c01_serBytes_length, hbl]; omega, hH⟩

theorem c01_encryptKind_struct {c : CryptoOps} {kv : KeyView} {m rnd e : Bytes}
    (he : encryptKind c kv .struct m rnd = .ok e) (hnm : matchKind .struct m = false) :
    ∃ pub, kv.pub = some pub ∧ createStruct c pub [] m rnd = .ok e := by
  unfold encryptKind at he
  rw [hnm] at he
  simp only [Bool.false_eq_true, if_false] at he
  cases hs : kv.pub with
  | none => rw [hs] at he; cases he
  | some pub => rw [hs] at he; exact ⟨pub, rfl, he⟩

/-- the struct handler on a valid AcraStruct -/
theorem c01_decryptKind_struct (c : CryptoOps) (kv : KeyView) (s m : Bytes) (ps : List Bytes)
    (hv : validateStruct s = .ok ()) (hps : kv.privs = some ps)
    (hd : decryptStructRotated c [] s ps = .ok m) : decryptKind c kv .struct s = .ok m := by
  unfold decryptKind
  simp only [hv, hps, hd]

/-- everything `reveal` and the column processor need to know about a value protected as AcraStruct -/
theorem c01_protect_struct_facts (c : CryptoOps) (hs : SealLaws c) (hsl : SealLen c) (hm : MsgLaws c) (hml : MsgLen c)
    (hk : KeygenLaws c) (kvW kvR : KeyView) (priv m rnd p : Bytes) (pre post : List Bytes)
    (hpriv : c.validPriv priv = true)
    (hW : kvW.pub = some (c.pubOf priv)) (hR : kvR.privs = some (pre ++ priv :: post))
    (hpre : ∀ k' ∈ pre, ∀ s, createStruct c (c.pubOf priv) [] m rnd = .ok s →
      decryptStruct c k' [] s = .err ∨ decryptStruct c k' [] s = .ok m)
    (hnm : matchKind .struct m = false) (hnr : registryMatch m = false)
    (hp : protect c kvW .struct m rnd = .ok p) :
    ∃ e, p = serBytes e Kind.struct.id ∧ e ≠ [] ∧ e.length = m.length + 189 ∧ m.length < 2^32 ∧
      matchKind .struct e = true ∧ decryptKind c kvR .struct e = .ok m := by
  obtain ⟨e, he, hne', rfl⟩ := c01_protect_ok hp hnm hnr
  obtain ⟨pub, hpub, hcs⟩ := c01_encryptKind_struct he hnm
  rw [hW] at hpub; cases hpub
  obtain ⟨hval, _, hd, hlen, hmlen⟩ := c01_struct_roundtrip c hs hsl hm hml hk priv [] m rnd e hpriv hcs
  refine ⟨e, rfl, hne', hlen, hmlen, by simp [matchKind, hval], ?_⟩
  exact c01_decryptKind_struct c kvR e m _ hval hR
    (c01_decryptStructRotated_found c [] e priv m pre post (fun k' hk' => hpre k' hk' e hcs) hd)

/-- everything the revealing entry points need to know about a value `protect` produced, either kind -/
theorem protect_facts (c : CryptoOps) (k : Kind) (kvW kvR : KeyView) (m rnd p : Bytes)
    (h : RoundTripHyps c k kvW kvR m rnd p)
    (hnm : matchKind k m = false) (hnr : registryMatch m = false)
    (hp : protect c kvW k m rnd = .ok p) :
    ∃ e, p = serBytes e k.id ∧ e ≠ [] ∧ e.length + 12 < 2^63 ∧ matchKind k e = true ∧
      decryptKind c kvR k e = .ok m := by
  cases k with
  | block =>
    obtain ⟨hs, key, pre, post, hkid, hW, hR, hpre, hek, hpl⟩ := h
    exact c01_protect_block_facts c hs kvW kvR key m rnd p pre post hkid hW hR
      (fun k' hk' encKey h2 hid => Or.inl (hpre k' hk' encKey h2 hid)) hek hpl hnm hnr hp
  | struct =>
    obtain ⟨hs, hsl, hm, hml, hk, priv, pre, post, hpriv, hW, hR, hpre⟩ := h
    obtain ⟨e, hpe, he, hlen, hmlen, hmatch, hdec⟩ := c01_protect_struct_facts c hs hsl hm hml hk kvW kvR priv m rnd p
      pre post hpriv hW hR hpre hnm hnr hp
    exact ⟨e, hpe, he, by omega, hmatch, hdec⟩

/-- `reveal` on a serialized container alone -/
theorem c01_reveal_ser (c : CryptoOps) (kv : KeyView) (k : Kind) (e : Bytes) (he : e ≠ [])
    (hlen : e.length + 12 < 2^64) (hm : matchKind k e = true) :
    reveal c kv (serBytes e k.id) = decryptKind c kv k e := by
  have := c01_process_ser c kv k e [] he hlen hm
  rwa [List.append_nil] at this

end AcraModel.Envelope
