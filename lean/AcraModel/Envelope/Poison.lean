import AcraModel.Envelope.Detector
/-
Poison records (`poison/poison.go`, `crypto/poison_detector.go`): intrusion-detection values sealed
under dedicated poison keys. The detector callback tries to decrypt every recognised container with
the poison keys; success raises the alarm (runs the configured callbacks).

`scanT` is the column scan of `Detector.lean` with an alarm counter threaded through, so that
"the alarm is raised (before the value is delivered)" is a statement about the value returned:
the scan returns only after all callbacks have run, so `alarms > 0` in the result means the callbacks
ran before delivery.
-/
namespace AcraModel.Envelope
open AcraModel

/-- `poison.CreatePoisonRecord` / `CreateSymmetricPoisonRecord`: `rnd` = data bytes, then the
envelope's own random stream -/
def createPoison (c : CryptoOps) (pk : KeyView) (k : Kind) (dataLen : Nat) (rnd : Bytes) : Out Bytes := do
  let data := rnd.take dataLen
  let e ← match k with
    | .struct => (match pk.pub with
        | none => Out.err
        | some p => createStruct c p [] data (rnd.drop dataLen))
    | .block => (match pk.sym with
        | none => Out.err
        | some key => createBlock c key [] data (rnd.drop dataLen))
  serialize e k.id

structure PoisonCfg where
  /-- `PoisonRecordCallbackStorage.HasCallbacks()` -/
  hasCallbacks : Bool
  /-- whether running the configured callbacks returns an error -/
  callbackErr : Bool
  /-- the poison keys as a key view (`PoisonRecordKeyStoreWrapper`) -/
  pk : KeyView

/-- does the container decrypt under the poison keys -/
def isPoison (c : CryptoOps) (pk : KeyView) (container : Bytes) : Bool := (process c pk container).isOk

/-- a callback together with "did it raise the alarm" -/
abbrev CallbackT := Bytes → Cb × Bool

def plainT (cb : Callback) : CallbackT := fun x => (cb x, false)

/-- `PoisonRecordDetector.OnCryptoEnvelope` -/
def poisonCallback (c : CryptoOps) (cfg : PoisonCfg) : CallbackT := fun container =>
  if !cfg.hasCallbacks then (.same, false)
  else if isPoison c cfg.pk container then (if cfg.callbackErr then .fatal else .same, true)
  else (.same, false)

def runCallbacksT (container : Bytes) : List CallbackT → CbsOut × Nat
  | [] => (.skip, 0)
  | cb :: rest =>
    match cb container with
    | (.fatal, a) => (.fatal, a.toNat)
    | (.replaced b, a) => (.replace b, a.toNat)
    | (_, a) => let (o, n) := runCallbacksT container rest; (o, n + a.toNat)

/-- `scan` with the number of alarms raised on the way -/
def scanT (cbs : List CallbackT) (rest : Bytes) : ScanOut × Nat :=
  match rest with
  | [] => (.ok [] false, 0)
  | b :: r =>
    if !startsWith containerTag (b :: r) then let (o, n) := scanT cbs r; (o.prepend [b], n) else
    match extractContainer (b :: r) with
    | .panic => (.panic, 0)
    | .err => let (o, n) := scanT cbs r; (o.prepend [b], n)
    | .ok (n, container) =>
      match runCallbacksT container cbs with
      | (.fatal, a) => (.fatal, a)
      | (.skip, a) => let (o, k) := scanT cbs r; (o.prepend [b] true, k + a)
      | (.replace p, a) =>
        if hn : 0 < n ∧ n ≤ (b :: r).length then
          let (o, k) := scanT cbs ((b :: r).drop n.toNat); (o.prepend p true, k + a)
        else (.panic, a)
termination_by rest.length
decreasing_by
  all_goals simp_wf
  all_goals omega

/-- `EnvelopeDetector.OnColumn` with alarm count -/
def onColumnT (cbs : List CallbackT) (inBuffer : Bytes) : ScanOut × Nat :=
  if inBuffer.length < containerMin ∨ cbs.isEmpty then (.ok inBuffer false, 0) else scanT cbs inBuffer

/-- `EnvelopeDetector.OnCryptoEnvelope` with alarm count -/
def onCryptoEnvelopeT (container : Bytes) : List CallbackT → Out Bytes × Nat
  | [] => (.ok container, 0)
  | cb :: rest =>
    match cb container with
    | (.fatal, a) => (.err, a.toNat)
    | (.replaced b, a) => (.ok b, a.toNat)
    | (_, a) => let (o, n) := onCryptoEnvelopeT container rest; (o, n + a.toNat)

/-- `OldContainerDetectorWrapper.OnAcraStruct` / `OnAcraBlock` with alarm count -/
def onBareT (cbs : List CallbackT) (id : UInt8) (bare : Bytes) : Out Bytes × Nat :=
  match serialize bare id with
  | .ok s =>
    match onCryptoEnvelopeT s cbs with
    | (.ok p, a) => (if p == s then .ok bare else .ok p, a)
    | (o, a) => (o, a)
  | .err => (.err, 0)
  | .panic => (.panic, 0)

def bindT (x : Out Bytes × Nat) (f : Bytes → Bytes) (a : Nat) : Out Bytes × Nat :=
  (x.1.bind (fun o => .ok (f o)), x.2 + a)

/-- `acrastruct.ProcessAcraStructs` with alarm count -/
def processStructsT (proc : Bytes → Out Bytes × Nat) (rest : Bytes) : Out Bytes × Nat :=
  match rest with
  | [] => (.ok [], 0)
  | b :: r =>
    if !startsWith structTag (b :: r) then bindT (processStructsT proc r) (b :: ·) 0 else
    if (b :: r).length > structMin then
      match getDataLength (b :: r) with
      | .panic => (.panic, 0)
      | .err => (.err, 0)
      | .ok dl =>
        let l := wrapInt64 (dl + structMin)
        if hl : 0 < l ∧ l ≤ (b :: r).length then
          match proc ((b :: r).take l.toNat) with
          | (.ok p, a) => bindT (processStructsT proc ((b :: r).drop l.toNat)) (p ++ ·) a
          | (.err, a) => (.err, a)
          | (.panic, a) => (.panic, a)
        else bindT (processStructsT proc r) (b :: ·) 0
    else bindT (processStructsT proc r) (b :: ·) 0
termination_by rest.length
decreasing_by
  all_goals simp_wf
  all_goals omega

/-- `acrablock.ProcessAcraBlocks` with alarm count -/
def processBlocksT (proc : Bytes → Out Bytes × Nat) (rest : Bytes) : Out Bytes × Nat :=
  match rest with
  | [] => (.ok [], 0)
  | b :: r =>
    if !startsWith blockTag (b :: r) then bindT (processBlocksT proc r) (b :: ·) 0 else
    if (b :: r).length > blockMin then
      match extractBlock (b :: r) with
      | .panic => (.panic, 0)
      | .err => bindT (processBlocksT proc r) (b :: ·) 0
      | .ok (n, blk) =>
        if hn : 0 < n ∧ n ≤ (b :: r).length then
          match proc blk with
          | (.ok p, a) => bindT (processBlocksT proc ((b :: r).drop n)) (p ++ ·) a
          | (.err, a) => (.err, a)
          | (.panic, a) => (.panic, a)
        else (.panic, 0)
    else bindT (processBlocksT proc r) (b :: ·) 0
termination_by rest.length
decreasing_by
  all_goals simp_wf
  all_goals omega

/-- `OldContainerDetectorWrapper.OnColumn` with alarm count; `cbs` are the callbacks after the wrapper's own -/
def onColumnCompatT (cbs : List CallbackT) (inBuffer : Bytes) : ScanOut × Nat :=
  let all := plainT (fun _ => Cb.same) :: cbs
  match onColumnT all inBuffer with
  | (.fatal, a) => (.fatal, a)
  | (.panic, a) => (.panic, a)
  | (.ok out hit, a) =>
    if hit || out != inBuffer then (.ok out hit, a) else
      let s1 := if inBuffer.length < structMin then (.ok inBuffer, 0) else processStructsT (onBareT all idStruct) inBuffer
      match s1 with
      | (.panic, a1) => (.panic, a + a1)
      | (.err, a1) => (.fatal, a + a1)
      | (.ok o1, a1) =>
        let s2 := if o1.length < blockMin then (.ok o1, 0) else processBlocksT (onBareT all idBlock) o1
        match s2 with
        | (.panic, a2) => (.panic, a + a1 + a2)
        | (.err, a2) => (.fatal, a + a1 + a2)
        | (.ok o2, a2) => (.ok o2 false, a + a1 + a2)

/-- the callbacks the SQL proxies register behind the compatibility wrapper's own (which `onColumnCompatT`
puts in front): poison detector (only when callbacks are configured), decrypt handler -/
def proxyCallbacks (c : CryptoOps) (cfg : PoisonCfg) (kv : KeyView) : List CallbackT :=
  (if cfg.hasCallbacks then [poisonCallback c cfg] else []) ++ [plainT (decryptCallback c kv)]

/-- what a column value goes through in the SQL proxies (`containerDetector.OnColumn`) -/
def proxyOnColumn (c : CryptoOps) (cfg : PoisonCfg) (kv : KeyView) (data : Bytes) : ScanOut × Nat :=
  onColumnCompatT (proxyCallbacks c cfg kv) data

/-- AcraTranslator's decrypt operations: reveal with the client's keys; on failure scan the input
with the poison detector only; the client always gets an error then. Result: (value?, alarms) -/
def translatorDecrypt (c : CryptoOps) (cfg : PoisonCfg) (kv : KeyView) (k : Kind) (data : Bytes) : Out Bytes × Nat :=
  match decryptWithHandler c kv k data with
  | .ok m => (.ok m, 0)
  | .panic => (.panic, 0)
  | .err =>
    let cbs := if cfg.hasCallbacks then [poisonCallback c cfg] else []
    (.err, (onColumnT cbs data).2)

/-- the same with the buffer handed to the poison detector on failure made explicit: `DecryptWithHandler(handler,
data, …)` fails ⇒ `poisonDetector.OnColumn(ctx, scanned)`. WHICH variable the code passes there – and what it holds on
that path – is a regenerated fact (`Wiring.translatorPoisonSites`); `translatorDecrypt` is the case `scanned = data`. -/
def translatorDecryptScan (c : CryptoOps) (cfg : PoisonCfg) (kv : KeyView) (k : Kind) (data scanned : Bytes) : Out Bytes × Nat :=
  match decryptWithHandler c kv k data with
  | .ok m => (.ok m, 0)
  | .panic => (.panic, 0)
  | .err =>
    let cbs := if cfg.hasCallbacks then [poisonCallback c cfg] else []
    (.err, (onColumnT cbs scanned).2)

theorem translatorDecryptScan_self (c : CryptoOps) (cfg : PoisonCfg) (kv : KeyView) (k : Kind) (data : Bytes) :
    translatorDecryptScan c cfg kv k data data = translatorDecrypt c cfg kv k data := rfl

end AcraModel.Envelope
