import AcraModel.Envelope.MaskLemmas
import AcraModel.Envelope.MaskSession
/-!
Lemmas for C11 about values that merely LOOK like a protected value at their first bytes:
`RegistryHandler.MatchDataSignature` (`registryMatch`) is not a header test – a value that starts with
the 12 header bytes of a serialized container (`%%% | length(8) | envelope id`) matches only if the
declared payload is inside the value AND the envelope handler of that id recognises the payload.
-/
namespace AcraModel.Envelope
open AcraModel Generated

/-- a value that starts with `%` is neither a bare AcraStruct nor starts with a bare AcraBlock -/
theorem matchKind_pct (k : Kind) (r : Bytes) : matchKind k (37 :: r) = false := by
  cases k with
  | struct =>
    unfold matchKind
    simp only [c01_validateStruct_pct]
    rfl
  | block =>
    unfold matchKind
    simp only [c01_extractBlock_pct]
    rfl

/-- the internal length a container header declares: `getSerializedContainerLength` computes
`uint64(length field) - SerializedContainerMinSize` in 64-bit unsigned arithmetic -/
def declaredInternal (L : Bytes) : Nat := (leVal L + 2^64 - containerMin) % 2^64

theorem validateContainer_header (L junk : Bytes) (id : UInt8) (k : Kind) (hL : L.length = 8)
    (hk : kindOfId id = some k) (hj : junk ≠ []) :
    validateContainer (containerTag ++ L ++ [id] ++ junk) = .ok id := by
  obtain ⟨h1, _, h3, _⟩ := c01_container_fields L junk [] id hL
  simp only [List.append_nil] at h1 h3
  have hlen : ¬ (containerTag ++ L ++ [id] ++ junk).length ≤ containerMin := by
    have : 0 < junk.length := List.length_pos_iff.mpr hj
    simp only [List.length_append, c01_containerTag_length, hL, List.length_singleton]
    show ¬ _ ≤ 12
    omega
  unfold validateContainer
  rw [if_neg hlen]
  simp only [c01_containerTag_length, Layout.containerTagBeginSize, Layout.containerLengthSize]
  rw [h1, h3]
  simp [hk]

/-- **The match predicate deserializes**: for a value made of a well-formed container header (tag, any
8 length bytes, a registered envelope id) followed by at least one byte, `MatchDataSignature` answers
what the envelope handler says about the declared payload – and `false` when the declared payload does
not fit into the value. The header alone decides nothing. -/
theorem registryMatch_header (L junk : Bytes) (id : UInt8) (k : Kind) (hL : L.length = 8)
    (hk : kindOfId id = some k) (hj : junk ≠ []) :
    registryMatch (containerTag ++ L ++ [id] ++ junk) =
      (decide (declaredInternal L ≤ junk.length) && matchKind k (junk.take (declaredInternal L))) := by
  obtain ⟨_, h2, _, h4⟩ := c01_container_fields L junk [] id hL
  simp only [List.append_nil] at h2 h4
  have hlen : (containerTag ++ L ++ [id] ++ junk).length = 12 + junk.length := by
    simp only [List.length_append, c01_containerTag_length, hL, List.length_singleton]
  have hc : containerMin = 12 := rfl
  unfold registryMatch deserialize getEnvelopeID
  rw [validateContainer_header L junk id k hL hk hj]
  simp only [Out.bind_ok, Bool.false_eq_true, if_false]
  unfold containerInternalLength
  simp only [c01_containerTag_length, Layout.containerLengthSize]
  rw [h2, Out.bind_ok, hlen, hc]
  have hd : declaredInternal L = (leVal L + 2^64 - 12) % 2^64 := rfl
  by_cases hfit : (leVal L + 2^64 - 12) % 2^64 > 12 + junk.length - 12
  · rw [if_pos hfit]
    have : ¬ declaredInternal L ≤ junk.length := by rw [hd]; omega
    simp [this]
  · rw [if_neg hfit, Out.pure_eq, Out.bind_ok, h4, Out.bind_ok, Out.pure_eq]
    have : declaredInternal L ≤ junk.length := by rw [hd]; omega
    simp only [hk, this, decide_true, Bool.true_and]
    rfl

/-- a header followed by bytes that are NOT an envelope of the named kind (or by fewer bytes than it
declares) is not a protected value -/
theorem registryMatch_header_false (L junk : Bytes) (id : UInt8) (k : Kind) (hL : L.length = 8)
    (hk : kindOfId id = some k) (hj : junk ≠ [])
    (h : junk.length < declaredInternal L ∨ matchKind k (junk.take (declaredInternal L)) = false) :
    registryMatch (containerTag ++ L ++ [id] ++ junk) = false := by
  rw [registryMatch_header L junk id k hL hk hj]
  rcases h with h | h
  · have : ¬ declaredInternal L ≤ junk.length := by omega
    simp [this]
  · simp [h]

/-- fewer than 18 bytes are no envelope of either kind -/
theorem matchKind_short (k : Kind) (d : Bytes) (h : d.length < 18) : matchKind k d = false := by
  cases k with
  | struct =>
    unfold matchKind validateStruct
    rw [if_pos (by rw [c01_structMin]; omega)]
    rfl
  | block =>
    unfold matchKind extractBlock
    rw [if_pos (by show d.length < 18; exact h)]
    rfl

/-- in particular: a header followed by 1…17 arbitrary bytes, whatever length it declares -/
theorem registryMatch_header_short (L junk : Bytes) (id : UInt8) (k : Kind) (hL : L.length = 8)
    (hk : kindOfId id = some k) (hj : junk ≠ []) (hs : junk.length < 18) :
    registryMatch (containerTag ++ L ++ [id] ++ junk) = false := by
  refine registryMatch_header_false L junk id k hL hk hj (Or.inr (matchKind_short k _ ?_))
  rw [List.length_take]
  omega

theorem containerTag_cons : ∃ r, containerTag = 37 :: r := ⟨[37, 37], by decide⟩

/-- such a value is not a bare envelope either: both hypotheses the masking theorems make about the
hidden part hold for it -/
theorem header_lookalike_not_protected (L junk : Bytes) (id : UInt8) (k k' : Kind) (hL : L.length = 8)
    (hk : kindOfId id = some k) (hj : junk ≠ [])
    (h : junk.length < declaredInternal L ∨ matchKind k (junk.take (declaredInternal L)) = false) :
    matchKind k' (containerTag ++ L ++ [id] ++ junk) = false ∧
    registryMatch (containerTag ++ L ++ [id] ++ junk) = false := by
  refine ⟨?_, registryMatch_header_false L junk id k hL hk hj h⟩
  obtain ⟨r, hr⟩ := containerTag_cons
  rw [hr]
  simp only [List.cons_append]
  exact matchKind_pct k' _

/-- the only way the plaintext `m` enters the bytes `e`: as the message of `c.enc` under a fresh data key -/
def SealedIn (c : CryptoOps) (kv : KeyView) (k : Kind) (m rnd e : Bytes) : Prop :=
  match k with
  | .block => ∃ key encData encKey, kv.sym = some key ∧
      c.enc (rnd.take 32) [] m ((rnd.drop 32).take 12) = some encData ∧
      c.enc key [] (rnd.take 32) ((rnd.drop 44).take 12) = some encKey ∧
      e = buildBlock (keyId c key []) encKey encData
  | .struct => ∃ pub encKey encData, kv.pub = some pub ∧
      c.wrap (c.privOfSeed (rnd.take 32)) pub ((rnd.drop 32).take 32) ((rnd.drop 64).take 12) = some encKey ∧
      c.enc ((rnd.drop 32).take 32) [] m ((rnd.drop 76).take 12) = some encData ∧
      e = structTag ++ c.pubOf (c.privOfSeed (rnd.take 32)) ++ encKey ++ leBytes 8 encData.length ++ encData

theorem protect_sealedIn {c : CryptoOps} {kv : KeyView} {k : Kind} {m rnd p : Bytes}
    (hp : protect c kv k m rnd = .ok p) (hnm : matchKind k m = false) (hnr : registryMatch m = false) :
    ∃ e, e ≠ [] ∧ p = serBytes e k.id ∧ SealedIn c kv k m rnd e := by
  obtain ⟨e, he, hne, rfl⟩ := c01_protect_ok hp hnm hnr
  refine ⟨e, hne, rfl, ?_⟩
  cases k with
  | block =>
    obtain ⟨key, hk, hcb⟩ := c01_encryptKind_block he hnm
    obtain ⟨encData, encKey, h1, h2, rfl⟩ := c01_createBlock_ok hcb
    exact ⟨key, encData, encKey, hk, h1, h2, rfl⟩
  | struct =>
    obtain ⟨pub, hk, hcs⟩ := c01_encryptKind_struct he hnm
    obtain ⟨encKey, encData, h1, h2, rfl⟩ := c01_createStruct_ok hcs
    exact ⟨pub, encKey, encData, hk, h1, h2, rfl⟩

end AcraModel.Envelope
