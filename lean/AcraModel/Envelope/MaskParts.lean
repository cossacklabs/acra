import AcraModel.Envelope.Masking
import AcraModel.Envelope.SafeBasic
/-!
Masking (C11): the parts of a masked value (clear window, hidden part), the stored form
`window | container` resp. `container | window`, and what the masking callback answers.
-/
namespace AcraModel.Envelope
open AcraModel Generated

/-- the part of the value that is stored protected: everything when the value is not longer than the
configured window, otherwise the end (left window) resp. the beginning (right window) -/
def hiddenPart (cfg : MaskCfg) (v : Bytes) : Bytes :=
  if cfg.k ≥ v.length then v else if cfg.left then v.drop cfg.k else v.take (v.length - cfg.k)

/-- the part of the value that stays in clear: the configured window, or nothing when the value is not
longer than the window -/
def windowPart (cfg : MaskCfg) (v : Bytes) : Bytes :=
  if cfg.k ≥ v.length then [] else if cfg.left then v.take cfg.k else v.drop (v.length - cfg.k)

/-- window and replacement of the protected part on the configured sides -/
def joinSides (cfg : MaskCfg) (window x : Bytes) : Bytes := if cfg.left then window ++ x else x ++ window

/-- the bytes that follow the container in the stored value (they are part of what the callbacks are
handed: `ExtractSerializedContainer` returns the whole rest of the buffer) -/
def afterContainer (cfg : MaskCfg) (window : Bytes) : Bytes := if cfg.left then [] else window

theorem joinSides_parts (cfg : MaskCfg) (v : Bytes) : joinSides cfg (windowPart cfg v) (hiddenPart cfg v) = v := by
  unfold joinSides windowPart hiddenPart
  by_cases hk : cfg.k ≥ v.length
  · simp only [hk, if_true]
    split <;> simp
  · simp only [hk, if_false]
    cases cfg.left
    · simp
    · simp

theorem joinSides_eq (cfg : MaskCfg) (w x : Bytes) :
    joinSides cfg w x = (if cfg.left then w else []) ++ x ++ afterContainer cfg w := by
  unfold joinSides afterContainer
  cases cfg.left <;> simp

theorem windowPart_length_le (cfg : MaskCfg) (v : Bytes) : (windowPart cfg v).length ≤ cfg.k := by
  unfold windowPart
  split
  · simp
  · split
    · rw [List.length_take]; omega
    · rw [List.length_drop]; omega

theorem windowPart_short (cfg : MaskCfg) (v : Bytes) (h : v.length ≤ cfg.k) : windowPart cfg v = [] := by
  unfold windowPart; rw [if_pos h]

theorem hiddenPart_short (cfg : MaskCfg) (v : Bytes) (h : v.length ≤ cfg.k) : hiddenPart cfg v = v := by
  unfold hiddenPart; rw [if_pos h]

/-- `maskWrite` on a masked column: protect the hidden part, keep the window -/
theorem maskWrite_eq (c : CryptoOps) (kv : KeyView) (cfg : MaskCfg) (v rnd : Bytes) (hp : cfg.pattern ≠ []) :
    maskWrite c kv cfg v rnd =
      (protect c kv cfg.kind (hiddenPart cfg v) rnd).bind (fun e => .ok (joinSides cfg (windowPart cfg v) e)) := by
  unfold maskWrite hiddenPart windowPart joinSides
  rw [if_neg hp]
  by_cases hk : cfg.k ≥ v.length
  · simp only [hk, if_true]
    cases protect c kv cfg.kind v rnd with
    | ok e => cases cfg.left <;> simp [Out.bind]
    | err => rfl
    | panic => rfl
  · simp only [hk, if_false]
    cases hl : cfg.left
    · simp only [Bool.false_eq_true, if_false]; rfl
    · simp only [if_true]; rfl

theorem maskWrite_ok {c : CryptoOps} {kv : KeyView} {cfg : MaskCfg} {v rnd stored : Bytes} (hp : cfg.pattern ≠ [])
    (h : maskWrite c kv cfg v rnd = .ok stored) :
    ∃ p, protect c kv cfg.kind (hiddenPart cfg v) rnd = .ok p ∧ stored = joinSides cfg (windowPart cfg v) p := by
  rw [maskWrite_eq c kv cfg v rnd hp] at h
  obtain ⟨p, hq, h⟩ := Out.bind_eq_ok h
  cases h
  exact ⟨p, hq, rfl⟩

/-- the owner: the container opens to `m` – the callback hands out `m` -/
theorem maskCallback_owner {c : CryptoOps} {kv : KeyView} {pat cont m : Bytes}
    (hproc : process c kv cont = .ok m) (hne : m ≠ cont) : maskCallback c kv pat cont = .replaced m := by
  unfold maskCallback
  rw [hproc]
  simp [hne]

/-- everybody else: the container does not open – the callback hands out the pattern -/
theorem maskCallback_other {c : CryptoOps} {kv : KeyView} {pat cont : Bytes}
    (hproc : ∀ m, process c kv cont ≠ .ok m) (hne : pat ≠ cont) : maskCallback c kv pat cont = .replaced pat := by
  unfold maskCallback
  cases hp : process c kv cont with
  | ok m => exact absurd hp (hproc m)
  | err => simp [hne]
  | panic => simp [hne]

theorem side_noPct {cfg : MaskCfg} {w : Bytes} (hw : ∀ x ∈ w, x ≠ 37) :
    (∀ x ∈ (if cfg.left then w else []), x ≠ 37) ∧ (∀ x ∈ afterContainer cfg w, x ≠ 37) := by
  unfold afterContainer
  cases cfg.left <;> simp <;> exact hw

/-- Hypotheses under which a reader is a NON-owner of the stored masked value: the hidden part of
`v` does not already look like a protected value (otherwise `protect` passes it through in clear),
`protect` produced the container `p` (shorter than `2^63` bytes), the reader's registry handler does
not open `p` (followed by whatever follows it in the stored value), and the pattern is not literally
the container (automatic for patterns of at most 12 bytes). -/
def NonOwnerHyps (c : CryptoOps) (kvW kvR : KeyView) (cfg : MaskCfg) (v rnd p : Bytes) : Prop :=
  matchKind cfg.kind (hiddenPart cfg v) = false ∧ registryMatch (hiddenPart cfg v) = false ∧
  protect c kvW cfg.kind (hiddenPart cfg v) rnd = .ok p ∧ p.length < 2^63 ∧
  (∀ m, process c kvR (p ++ afterContainer cfg (windowPart cfg v)) ≠ .ok m) ∧
  (cfg.pattern.length ≤ 12 ∨ cfg.pattern ≠ p ++ afterContainer cfg (windowPart cfg v))

end AcraModel.Envelope
