/-
Basic vocabulary shared by all models: byte strings, Go-style outcomes (`ok | err | panic`),
Go slice expressions, little/big-endian integers, and hex helpers for the line protocol.
Core Lean only (no Mathlib) so that the driver links as a `lean_exe`.
-/
namespace AcraModel

abbrev Bytes := List UInt8

/-- Outcome of a Go function: a value, a returned error, or a run-time panic. -/
inductive Out (α : Type) where
  | ok : α → Out α
  | err : Out α
  | panic : Out α
deriving Repr, DecidableEq

namespace Out
@[inline] def bind {α β} (x : Out α) (f : α → Out β) : Out β :=
  match x with
  | ok a => f a
  | err => err
  | panic => panic
instance : Monad Out where
  pure := ok
  bind := bind
@[simp] theorem bind_ok {α β} (a : α) (f : α → Out β) : (ok a >>= f) = f a := rfl
@[simp] theorem bind_err {α β} (f : α → Out β) : ((err : Out α) >>= f) = err := rfl
@[simp] theorem bind_panic {α β} (f : α → Out β) : ((panic : Out α) >>= f) = panic := rfl
@[simp] theorem pure_eq {α} (a : α) : (pure a : Out α) = ok a := rfl
theorem bind_eq_ok {α β} {x : Out α} {f : α → Out β} {b : β} (h : (x >>= f) = ok b) : ∃ a, x = ok a ∧ f a = ok b := by
  cases x with
  | ok a => exact ⟨a, rfl, h⟩
  | err => cases h
  | panic => cases h
/-- a bind does not panic when its first part does not and the rest does not on what the first part returns -/
theorem bind_ne_panic {α β} {x : Out α} {f : α → Out β} (hx : x ≠ panic)
    (hf : ∀ a, x = ok a → f a ≠ panic) : (x >>= f) ≠ panic := by
  cases x with
  | ok a => exact hf a rfl
  | err => exact fun h => nomatch h
  | panic => exact absurd rfl hx
def isOk {α} : Out α → Bool | ok _ => true | _ => false
def ofOption {α} : Option α → Out α | some a => ok a | none => err
end Out

/-- Go `b[lo:hi]` on a slice whose capacity equals its length: panics when out of range. -/
def goSlice (b : Bytes) (lo hi : Nat) : Out Bytes :=
  if lo ≤ hi ∧ hi ≤ b.length then .ok ((b.take hi).drop lo) else .panic

/-- Go `b[lo:]`. -/
def goSliceFrom (b : Bytes) (lo : Nat) : Out Bytes :=
  if lo ≤ b.length then .ok (b.drop lo) else .panic

/-- Go `b[i]`. -/
def goIndex (b : Bytes) (i : Nat) : Out UInt8 :=
  match b[i]? with
  | some x => .ok x
  | none => .panic

theorem goSlice_ok (b : Bytes) (lo hi : Nat) (h1 : lo ≤ hi) (h2 : hi ≤ b.length) :
    goSlice b lo hi = .ok ((b.take hi).drop lo) := by
  unfold goSlice; rw [if_pos ⟨h1, h2⟩]

theorem goSlice_zero_ok (b : Bytes) (hi : Nat) (h2 : hi ≤ b.length) :
    goSlice b 0 hi = .ok (b.take hi) := by
  rw [goSlice_ok b 0 hi (Nat.zero_le _) h2]; simp

theorem goSliceFrom_ok (b : Bytes) (lo : Nat) (h : lo ≤ b.length) :
    goSliceFrom b lo = .ok (b.drop lo) := by
  unfold goSliceFrom; rw [if_pos h]

theorem goIndex_ok (b : Bytes) (i : Nat) (h : i < b.length) : goIndex b i = .ok b[i] := by
  unfold goIndex; rw [List.getElem?_eq_getElem h]

theorem goIndex_ne_panic_of_lt (b : Bytes) (i : Nat) (h : i < b.length) : ∃ x, goIndex b i = .ok x :=
  ⟨_, goIndex_ok b i h⟩

theorem goSlice_eq_ok {b r : Bytes} {lo hi : Nat} (h : goSlice b lo hi = .ok r) :
    lo ≤ hi ∧ hi ≤ b.length ∧ r = (b.take hi).drop lo := by
  unfold goSlice at h
  split at h
  · next hc => cases h; exact ⟨hc.1, hc.2, rfl⟩
  · cases h

theorem goSlice_append_mid (a b c : Bytes) :
    goSlice (a ++ b ++ c) a.length (a.length + b.length) = .ok b := by
  unfold goSlice
  have h : a.length ≤ a.length + b.length ∧ a.length + b.length ≤ (a ++ b ++ c).length := by
    simp [List.length_append]
  rw [if_pos h]
  simp [List.take_append]

theorem goSlice_prefix (a c : Bytes) : goSlice (a ++ c) 0 a.length = .ok a := by
  have := goSlice_append_mid [] a c
  simpa using this

theorem goSliceFrom_append (a c : Bytes) : goSliceFrom (a ++ c) a.length = .ok c := by
  unfold goSliceFrom; simp

/-- what is read inside `d` is not disturbed by bytes appended behind it -/
theorem goSlice_append_right {d b : Bytes} {lo hi : Nat} (c : Bytes) (h : goSlice d lo hi = .ok b) :
    goSlice (d ++ c) lo hi = .ok b := by
  unfold goSlice at h ⊢
  split at h
  · next hb =>
    rw [if_pos ⟨hb.1, by rw [List.length_append]; omega⟩, List.take_append_of_le_length hb.2]
    exact h
  · cases h

theorem goIndex_append_right {d : Bytes} {x : UInt8} {i : Nat} (c : Bytes) (h : goIndex d i = .ok x) :
    goIndex (d ++ c) i = .ok x := by
  unfold goIndex at h ⊢
  cases hd : d[i]? with
  | none => rw [hd] at h; cases h
  | some y => rw [List.getElem?_append_left (List.getElem?_eq_some_iff.1 hd).1, hd]; rw [hd] at h; exact h

/-- the part appended last is read back from where it starts -/
theorem goSlice_last (a b : Bytes) {lo hi : Nat} (hlo : a.length = lo) (hhi : lo + b.length = hi) :
    goSlice (a ++ b) lo hi = .ok b := by
  subst hlo hhi
  have := goSlice_append_mid a b []
  rwa [List.append_nil] at this

theorem goIndex_last (a : Bytes) (x : UInt8) {i : Nat} (hi : a.length = i) : goIndex (a ++ [x]) i = .ok x := by
  subst hi
  unfold goIndex
  rw [List.getElem?_append_right (Nat.le_refl _), Nat.sub_self]
  rfl

theorem goSlice_length {b r : Bytes} {lo hi : Nat} (h : goSlice b lo hi = .ok r) : r.length = hi - lo := by
  obtain ⟨_, h2, rfl⟩ := goSlice_eq_ok h
  rw [List.length_drop, List.length_take, Nat.min_eq_left h2]

/-- little-endian encoding of `n` on `k` bytes (Go `binary.LittleEndian.PutUintNN`, truncating). -/
def leBytes : Nat → Nat → Bytes
  | 0, _ => []
  | k+1, n => UInt8.ofNat (n % 256) :: leBytes k (n / 256)

def leVal : Bytes → Nat
  | [] => 0
  | b :: bs => b.toNat + 256 * leVal bs

/-- big-endian encoding of `n` on `k` bytes. -/
def beBytes (k n : Nat) : Bytes := (leBytes k n).reverse

def beVal (b : Bytes) : Nat := leVal b.reverse

@[simp] theorem leBytes_length (k n : Nat) : (leBytes k n).length = k := by
  induction k generalizing n with
  | zero => rfl
  | succ k ih => simp [leBytes, ih]

@[simp] theorem beBytes_length (k n : Nat) : (beBytes k n).length = k := by simp [beBytes]

theorem leVal_leBytes (k n : Nat) : leVal (leBytes k n) = n % 256 ^ k := by
  induction k generalizing n with
  | zero => simp [leBytes, leVal, Nat.mod_one]
  | succ k ih =>
    simp only [leBytes, leVal, ih]
    have h : (UInt8.ofNat (n % 256)).toNat = n % 256 := by
      simp [UInt8.toNat_ofNat']
    rw [h, Nat.pow_succ, Nat.mul_comm (256 ^ k) 256, Nat.mod_mul]

theorem leVal_leBytes_of_lt (k n : Nat) (h : n < 256 ^ k) : leVal (leBytes k n) = n := by
  rw [leVal_leBytes, Nat.mod_eq_of_lt h]

theorem beVal_beBytes_of_lt (k n : Nat) (h : n < 256 ^ k) : beVal (beBytes k n) = n := by
  simp [beVal, beBytes, leVal_leBytes_of_lt k n h]

theorem leVal_lt (b : Bytes) : leVal b < 256 ^ b.length := by
  induction b with
  | nil => simp [leVal]
  | cons x xs ih =>
    simp only [leVal, List.length_cons, Nat.pow_succ]
    have := x.toNat_lt
    omega

theorem beVal_lt (b : Bytes) : beVal b < 256 ^ b.length := by
  have := leVal_lt b.reverse
  rwa [List.length_reverse] at this

/-- the ASCII code of a decimal digit -/
theorem digit_toNat {d : Nat} (h : d < 10) : (UInt8.ofNat (48 + d)).toNat = 48 + d := by
  rw [UInt8.toNat_ofNat', Nat.mod_eq_of_lt (by omega)]

theorem leBytes_leVal (b : Bytes) : leBytes b.length (leVal b) = b := by
  induction b with
  | nil => rfl
  | cons x xs ih =>
    simp only [List.length_cons, leBytes, leVal]
    have hx : x.toNat < 256 := x.toNat_lt
    have h1 : (x.toNat + 256 * leVal xs) % 256 = x.toNat := by
      rw [Nat.add_mul_mod_self_left, Nat.mod_eq_of_lt hx]
    have h2 : (x.toNat + 256 * leVal xs) / 256 = leVal xs := by
      rw [Nat.add_mul_div_left _ _ (by decide : 0 < 256), Nat.div_eq_of_lt hx, Nat.zero_add]
    rw [h1, h2, ih]
    simp

theorem leVal_lt_of_length {l : Bytes} {n : Nat} (h : l.length = n) : leVal l < 256 ^ n := h ▸ leVal_lt l

theorem leBytes_leVal_of_length {l : Bytes} {n : Nat} (h : l.length = n) : leBytes n (leVal l) = l :=
  h ▸ leBytes_leVal l

/-- the low `a` bytes, then the bytes of what is left above them -/
theorem leBytes_add (a b n : Nat) : leBytes (a + b) n = leBytes a n ++ leBytes b (n / 256 ^ a) := by
  induction a generalizing n with
  | zero => simp [leBytes]
  | succ a ih =>
    rw [Nat.succ_add]
    simp only [leBytes, List.cons_append, List.cons.injEq, true_and]
    rw [ih, Nat.div_div_eq_div_mul, Nat.pow_succ, Nat.mul_comm]

/-- Reinterpretation of a 64-bit pattern as Go `int64`/`int` (two's complement). -/
def toInt64 (n : Nat) : Int :=
  if n % 2^64 < 2^63 then ((n % 2^64 : Nat) : Int) else ((n % 2^64 : Nat) : Int) - ((2^64 : Nat) : Int)

/-! ### hex helpers (driver only) -/

def hexDigit (n : Nat) : Char := if n < 10 then Char.ofNat (48 + n) else Char.ofNat (87 + n)

def hexOf (b : Bytes) : String :=
  if b.isEmpty then "-" else
  String.ofList (b.flatMap fun x => [hexDigit (x.toNat / 16), hexDigit (x.toNat % 16)])

def hexVal (c : Char) : Option Nat :=
  if '0' ≤ c ∧ c ≤ '9' then some (c.toNat - 48)
  else if 'a' ≤ c ∧ c ≤ 'f' then some (c.toNat - 87)
  else if 'A' ≤ c ∧ c ≤ 'F' then some (c.toNat - 55)
  else none

/-- tail-recursive (inputs of many megabytes must not overflow the stack) -/
def ofHexCharsAux : List Char → Array UInt8 → Option Bytes
  | [], acc => some acc.toList
  | [_], _ => none
  | a :: b :: r, acc =>
    match hexVal a, hexVal b with
    | some x, some y => ofHexCharsAux r (acc.push (UInt8.ofNat (16 * x + y)))
    | _, _ => none

def ofHexChars (l : List Char) : Option Bytes := ofHexCharsAux l #[]

/-- `-` is the empty string; otherwise an even number of hex digits. -/
def ofHex (s : String) : Option Bytes :=
  if s = "-" then some [] else ofHexChars s.toList

def Out.render {α} (f : α → String) : Out α → String
  | .ok a => "ok " ++ f a
  | .err => "err"
  | .panic => "panic"

end AcraModel
