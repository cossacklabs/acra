import AcraModel.Typed.IntCodec
import AcraModel.Wire.Bytea
import AcraModel.Wire.LenEnc
import AcraModel.Generated.Typed
/-
Type-aware read path: model of
  decryptor/postgresql/data_encoder.go  (PgSQLDataDecoderProcessor / PgSQLDataEncoderProcessor .OnColumn)
  decryptor/postgresql/types/{int4,int8,text,bytea}.go (Decode / Encode / EncodeOnFail / encodeDefault)
  decryptor/mysql/data_encoder.go (DataDecoderProcessor / DataEncoderProcessor: decodeBinary, encodeText, encodeBinary)
  decryptor/mysql/types/{long,long_long,string,blob}.go
The subscribers between decoder and encoder (envelope detection and decryption) are a parameter
`reveal : Bytes → Option Bytes`: `some m` = the value was revealed as plaintext `m` (context marked
"decrypted"), `none` = the column passes unchanged.
-/
namespace AcraModel.Typed
open AcraModel AcraModel.Wire

inductive DataType where
  | int32 | int64 | str | bytes
deriving Repr, DecidableEq

/-- `response_on_fail` after `BasicColumnEncryptionSetting.Init` (empty ⇒ ciphertext, or default_value when a default is given) -/
inductive Policy where
  | ciphertext | defaultValue | error
deriving Repr, DecidableEq

/-- the part of a column setting the read path looks at -/
structure Setting where
  dataType : Option DataType          -- none: no data_type / data_type_db_identifier (DataTypeID = 0)
  policy : Policy
  default : Option Bytes              -- default_data_value
  binaryOp : Bool                     -- config.IsBinaryDataOperation(setting)
deriving Repr, DecidableEq

inductive Res where
  | value (b : Bytes) (rollback : Bool)   -- delivered bytes; rollback = MySQL "error converted data type" mark
  | encodingError                         -- base.EncodingError: reported to the client as an error for the statement
  | otherError                            -- any other error: the row is not delivered
deriving Repr, DecidableEq

def bitsOf : DataType → Nat
  | .int32 => 32 | .int64 => 64 | _ => 0

/-- `encoding/base64.StdEncoding.DecodeString` is not modelled bit by bit: the harness passes the decoded default
along with the text (`none` = the text is not valid base64). -/
structure Default64 where
  decoded : Option Bytes
deriving Repr, DecidableEq

/-! ### PostgreSQL -/

/-- the common text-format branch of every `Decode`: bytea hex/escape decoding for binary operations.
Result: the decoded data, or `none` (hex syntax error). -/
def pgDecodeText (s : Setting) (data : Bytes) : Option Bytes :=
  if s.binaryOp then
    match Bytea.decodeEscaped data with
    | .ok d => some d
    | .error .octal => some data
    | .error .hex => none           -- hex syntax error after "\\x": the decoder returns the error (the row fails)
  else some data

/-- `PgSQLDataDecoderProcessor.OnColumn`: `none` = error -/
def pgDecode (s : Setting) (binary : Bool) (data : Bytes) : Option Bytes :=
  match s.dataType with
  | some .int32 =>
    if binary then
      if data.length = 4 ∨ data.length = 8 then some (formatInt (beToInt data)) else some data
    else pgDecodeText s data
  | some .int64 =>
    if binary then
      if data.length = 8 then some (formatInt (beToInt data)) else some data
    else pgDecodeText s data
  | some _ => if binary then some data else pgDecodeText s data
  | none => pgDecodeText s data        -- no registered encoder: decoded whatever the format is

/-- whether the decoder saved the encoded value in the context (`EncodedValueContext`) -/
def pgSavesEncoded (s : Setting) (binary : Bool) (data : Bytes) : Bool :=
  s.binaryOp && (Bytea.decodeEscaped data).toOption.isSome &&
    (match s.dataType with | none => true | some _ => !binary)

/-- `EncodeOnFail` of the PostgreSQL types: `ok none` = nothing to substitute (deliver the data as it is) -/
def pgEncodeOnFail (s : Setting) (binary : Bool) (d64 : Default64) : Except Res (Option Bytes) :=
  match s.policy with
  | .ciphertext => .ok none
  | .error => .error .encodingError
  | .defaultValue =>
    match s.default with
    | none => .ok none
    | some d =>
      match s.dataType with
      | some .int32 | some .int64 =>
        match parseInt d (bitsOf (s.dataType.getD .int32)) with
        | none => .error .otherError
        | some v => .ok (some (if binary then intToBE (bitsOf (s.dataType.getD .int32) / 8) v else d))
      | some .str => .ok (some d)
      | _ =>  -- bytes (also used for columns without a data type that were decrypted)
        match d64.decoded with
        | none => .ok none
        | some b => .ok (some (if binary then b else Bytea.pgEncodeToHex b))

/-- `PgSQLDataEncoderProcessor.OnColumn` -/
def pgEncode (s : Setting) (binary decrypted : Bool) (saved : Option Bytes) (d64 : Default64) (data : Bytes) : Res :=
  -- empty data: an untyped column gets back the value saved by the decoder, if any (after the `fix:` for "\\x")
  if data.isEmpty then .value (if s.dataType.isNone then saved.getD data else data) false else
  match s.dataType with
  | some .int32 | some .int64 =>
    let bits := bitsOf (s.dataType.getD .int32)
    match parseInt data bits with
    | some v => .value (if binary then intToBE (bits / 8) v else data) false
    | none =>
      if !decrypted then
        match pgEncodeOnFail s binary d64 with
        | .error e => e
        | .ok (some v) => .value v false
        | .ok none => .value data false
      else .value data false
  | some .str =>
    if !decrypted then
      match pgEncodeOnFail s binary d64 with
      | .error e => e
      | .ok (some v) => .value v false
      | .ok none => .value data false
    else .value data false
  | some .bytes =>
    let plain := if binary then data else Bytea.pgEncodeToHex data
    if !decrypted then
      match pgEncodeOnFail s binary d64 with
      | .error e => e
      | .ok (some v) => .value v false
      | .ok none => .value plain false
    else .value plain false
  | none =>
    if decrypted then
      -- `types.NewByteaDataTypeEncoder().Encode` with a decrypted context
      .value (if binary then data else Bytea.pgEncodeToHex data) false
    else match saved with
      | some e => .value e false
      | none => .value data false

/-- decoder → reveal → encoder, as wired by `decryptor/postgresql/proxy.go` -/
def pgTypedRead (s : Setting) (binary : Bool) (d64 : Default64) (reveal : Bytes → Option Bytes) (wire : Bytes) : Res :=
  match pgDecode s binary wire with
  | none => .otherError
  | some x =>
    let saved := if pgSavesEncoded s binary wire then some wire else none
    match reveal x with
    | some m => pgEncode s binary true saved d64 m
    | none => pgEncode s binary false saved d64 x

/-! ### MySQL -/

def myTypeCode : DataType → Nat
  | .int32 => Generated.Typed.myTypeLong
  | .int64 => Generated.Typed.myTypeLongLong
  | .str => Generated.Typed.myTypeString
  | .bytes => Generated.Typed.myTypeBlob

def lenenc (b : Bytes) : Bytes := LenEnc.putLengthEncodedString (some b)

/-- `EncodeOnFail` of the MySQL types -/
def myEncodeOnFail (s : Setting) (binary : Bool) (d64 : Default64) : Except Res (Option Bytes) :=
  match s.policy with
  | .ciphertext => .ok none
  | .error => .error .encodingError
  | .defaultValue =>
    match s.default with
    | none => .ok none
    | some d =>
      match s.dataType with
      | some .int32 | some .int64 =>
        let bits := bitsOf (s.dataType.getD .int32)
        match parseInt d bits with
        | none => .error .otherError
        | some v => .ok (some (if binary then intToLE (bits / 8) v else lenenc d))
      | some .str => .ok (some (lenenc d))
      | _ =>
        match d64.decoded with
        | none => .ok none
        | some b => .ok (some (lenenc b))

/-- `DataTypeEncoder.Encode` of the MySQL types: `encoded v`, `notHandled` = (nil, nil), `fail r` = the result of the
on-fail policy, `convErr` = `ErrConvertToDataType` -/
inductive MyEnc where
  | encoded (b : Bytes)
  | notHandled
  | convErr
  | fail (r : Res)

def myTypeEncode (s : Setting) (t : DataType) (binary decrypted : Bool) (d64 : Default64) (data : Bytes) : MyEnc :=
  let onFail : MyEnc :=
    match myEncodeOnFail s binary d64 with
    | .error e => .fail e
    | .ok (some v) => .encoded v
    | .ok none => .convErr
  match t with
  | .int32 | .int64 =>
    match parseInt data (bitsOf t) with
    | some v => .encoded (if binary then intToLE (bitsOf t / 8) v else lenenc data)
    | none => if !decrypted then onFail else .notHandled
  | .str | .bytes => if !decrypted then onFail else .encoded (lenenc data)

/-- the generic tail of `encodeBinary`: re-encode under the column's wire type (`colType`) -/
def myEncodeBinaryAs (colType : Nat) (data : Bytes) : Res :=
  let intAs (bits : Nat) : Res :=
    match parseInt data bits with
    | some v => .value (intToLE (bits / 8) v) false
    | none => .otherError
  if colType = Generated.Typed.myTypeNull then .otherError      -- "NULL not kept NULL" (data is not nil here)
  else if colType = Generated.Typed.myTypeTiny then intAs 8
  else if colType = Generated.Typed.myTypeShort ∨ colType = Generated.Typed.myTypeYear then intAs 16
  else if colType = Generated.Typed.myTypeInt24 ∨ colType = Generated.Typed.myTypeLong then intAs 32
  else if colType = Generated.Typed.myTypeLongLong then intAs 64
  else .value (lenenc data) false

/-- `DataEncoderProcessor.OnColumn` (float columns are outside the model) -/
def myEncode (s : Setting) (binary decrypted : Bool) (colType originType : Nat) (d64 : Default64) (data : Bytes) : Res :=
  if data.isEmpty then .value (lenenc data) false else
  match s.dataType with
  | none => if binary then myEncodeBinaryAs colType data else .value (lenenc data) false
  | some t =>
    match myTypeEncode s t binary decrypted d64 data with
    | .fail e => e
    | .encoded b => .value b false
    | .notHandled => if binary then myEncodeBinaryAs colType data else .value (lenenc data) false
    | .convErr =>
      -- roll the field type back and encode as the original type
      if binary then
        match myEncodeBinaryAs originType data with
        | .value b _ => .value b true
        | r => r
      else .value (lenenc data) true

/-- `DataDecoderProcessor.OnColumn`: binary integers become decimal text (float columns outside the model) -/
def myDecode (binary : Bool) (colType originType : Nat) (data : Bytes) : Bytes :=
  if !binary then data else
  let t := if originType ≠ 0 then originType else colType
  let width : Option Nat :=
    if t = Generated.Typed.myTypeTiny then some 1
    else if t = Generated.Typed.myTypeShort ∨ t = Generated.Typed.myTypeYear then some 2
    else if t = Generated.Typed.myTypeInt24 ∨ t = Generated.Typed.myTypeLong then some 4
    else if t = Generated.Typed.myTypeLongLong then some 8
    else none
  match width with
  | some k => if data.length < k then data else formatInt (leToInt (data.take k))
  | none => data

/-- decoder → reveal → encoder, as wired by `decryptor/mysql/proxy.go` -/
def myTypedRead (s : Setting) (binary : Bool) (colType originType : Nat) (d64 : Default64) (reveal : Bytes → Option Bytes) (wire : Bytes) : Res :=
  let x := myDecode binary colType originType wire
  match reveal x with
  | some m => myEncode s binary true colType originType d64 m
  | none => myEncode s binary false colType originType d64 x

end AcraModel.Typed
