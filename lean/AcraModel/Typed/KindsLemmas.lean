import AcraModel.Typed.Kinds
/-
Helper lemmas for `Typed/Kinds.lean`: the configuration space of a column (`Shape`) is finite, so what `Init`
accepts and which mask bits a kind sets are established by running the model over every shape in the kernel
(once per kind; the one option a kind does not look at is fixed), against the regenerated table `validSettingMasks`.
-/
namespace AcraModel.Typed
open AcraModel

def allTypes : List (Option DataType) := [none, some .int32, some .int64, some .str, some .bytes]
def allOnFail : List (Option Policy) := [none, some .ciphertext, some .defaultValue, some .error]
def bools : List Bool := [false, true]

theorem mem_allTypes (t : Option DataType) : t ∈ allTypes := by
  rcases t with _ | (_ | _ | _ | _) <;> decide

theorem mem_allOnFail (o : Option Policy) : o ∈ allOnFail := by
  rcases o with _ | (_ | _ | _) <;> decide

theorem mem_bools (b : Bool) : b ∈ bools := by cases b <;> decide

/-- Two options are looked at for some kinds only: `tokenAndType` for tokenized columns, the envelope for all others
(tokenization always stores AcraBlocks). The other one is reset. -/
def Shape.norm (sh : Shape) : Shape :=
  if sh.kind = .tokenized then { sh with acrastruct := false } else { sh with tokenAndType := false }

/-- `p` holds for every normal shape of kind `k` (a finite conjunction the kernel can evaluate); the one Boolean `b` is
the option of the two that `norm` keeps -/
def forallShapeOf (k : Kind) (p : Shape → Bool) : Bool :=
  allTypes.all fun t => allOnFail.all fun o => bools.all fun d => bools.all fun i =>
  bools.all fun b => bools.all fun r => p (Shape.norm ⟨k, t, o, d, i, b, b, r⟩)

theorem forallShapeOf_elim (k : Kind) (p : Shape → Bool) (h : forallShapeOf k p = true)
    (sh : Shape) (hk : sh.kind = k) : p sh.norm = true := by
  obtain ⟨k', t, o, d, i, ta, a, r⟩ := sh
  simp only at hk
  subst hk
  simp only [forallShapeOf, List.all_eq_true] at h
  have key := fun b => h t (mem_allTypes t) o (mem_allOnFail o) d (mem_bools d) i (mem_bools i) b (mem_bools b) r (mem_bools r)
  cases k' with
  | tokenized => exact key ta
  | _ => exact key a

/-- What `Init` accepts, in closed form (`b`: the declared type's encoder accepts the text of the default):
* a default needs a data type, the policy `default_value` and a text the encoder accepts – for every kind;
* encryption only: a typed column must be re-encrypted to AcraBlocks, an untyped one cannot have `response_on_fail`;
* searchable: always re-encrypted; with a default `response_on_fail` has to be written out;
* masked: re-encrypted, neither `response_on_fail` nor a default, never an integer type, and with a data type only as AcraBlock;
* tokenized: a token type, re-encrypted, neither `response_on_fail` nor a default nor a data type of its own. -/
def Shape.acceptsSpec (sh : Shape) (b : Bool) : Bool :=
  let typed := sh.dataType.isSome
  let defaultRule := !sh.hasDefault || (typed && sh.policy == .defaultValue && b)
  match sh.kind with
  | .plain => defaultRule && (if typed then sh.reencrypt else !sh.onFail.isSome)
  | .searchable => sh.reencrypt && defaultRule && (!sh.hasDefault || sh.onFail.isSome)
  | .masked => sh.reencrypt && !sh.onFail.isSome && !sh.hasDefault &&
      (sh.dataType != some .int32 && sh.dataType != some .int64) && (!typed || !sh.acrastruct)
  | .tokenized => typed && sh.reencrypt && !sh.onFail.isSome && !sh.hasDefault && !sh.tokenAndType

/-- everything the theorems need to know about one shape -/
def shapeCheck (sh : Shape) : Bool :=
  -- the mask bits `OnlyEncryption` / `IsSearchable` / `GetMaskingPattern` are read from mirror the kind
  (maskOnlyEncryption sh.mask == (sh.kind == .plain)) &&
  (maskSearchable sh.mask == (sh.kind == .searchable)) &&
  (maskMasked sh.mask == (sh.kind == .masked)) &&
  -- acceptance
  (sh.accepts true == sh.acceptsSpec true)

/-- a table of masks as one number, bit `m` set for every entry `m`: a lookup is one shift in the kernel's bignum
arithmetic, where `elemNat` walks the list for every shape -/
def maskSet : List Nat → Nat
  | [] => 0
  | x :: xs => 2 ^ x ||| maskSet xs

theorem elemNat_eq_testBit (n : Nat) (xs : List Nat) : elemNat n xs = (maskSet xs).testBit n := by
  induction xs with
  | nil => simp [elemNat, maskSet]
  | cons x xs ih =>
    have : n.beq x = decide (x = n) := by
      rw [Bool.eq_iff_iff, Nat.beq_eq, decide_eq_true_iff]; exact eq_comm
    rw [elemNat, maskSet, Nat.testBit_or, Nat.testBit_two_pow, ih, this]

/-- `ValidateMaskingParams` on the regenerated list: masking goes with every data type but the integer ones -/
theorem maskingDataTypes_contains (t : Option DataType) :
    Generated.Typed.maskingDataTypes.contains (Shape.encryptedTypeName t) = (t != some .int32 && t != some .int64) := by
  rcases t with _ | (_ | _ | _ | _) <;> simp [Generated.Typed.maskingDataTypes, Shape.encryptedTypeName]

theorem shapeCheck_plain : forallShapeOf .plain shapeCheck = true := by
  simp only [forallShapeOf, shapeCheck, Shape.accepts, elemNat_eq_testBit, maskingDataTypes_contains]
  decide +kernel
theorem shapeCheck_searchable : forallShapeOf .searchable shapeCheck = true := by
  simp only [forallShapeOf, shapeCheck, Shape.accepts, elemNat_eq_testBit, maskingDataTypes_contains]
  decide +kernel
theorem shapeCheck_masked : forallShapeOf .masked shapeCheck = true := by
  simp only [forallShapeOf, shapeCheck, Shape.accepts, elemNat_eq_testBit, maskingDataTypes_contains]
  decide +kernel
theorem shapeCheck_tokenized : forallShapeOf .tokenized shapeCheck = true := by
  simp only [forallShapeOf, shapeCheck, Shape.accepts, elemNat_eq_testBit, maskingDataTypes_contains]
  decide +kernel

/-- the checks do not look at the option `norm` resets -/
theorem shapeCheck_norm (sh : Shape) : shapeCheck sh = shapeCheck sh.norm := by
  obtain ⟨k, t, o, d, i, ta, a, r⟩ := sh
  cases k with
  | tokenized => cases a <;> rfl
  | _ => rfl

theorem shapeCheck_all (sh : Shape) : shapeCheck sh = true := by
  rw [shapeCheck_norm]
  cases hk : sh.kind
  · exact forallShapeOf_elim _ _ shapeCheck_plain sh hk
  · exact forallShapeOf_elim _ _ shapeCheck_searchable sh hk
  · exact forallShapeOf_elim _ _ shapeCheck_masked sh hk
  · exact forallShapeOf_elim _ _ shapeCheck_tokenized sh hk

/-- the three mask bits read by `OnlyEncryption` / `IsSearchable` / `GetMaskingPattern` mirror the kind -/
theorem mask_bits (sh : Shape) :
    maskOnlyEncryption sh.mask = (sh.kind == .plain) ∧ maskSearchable sh.mask = (sh.kind == .searchable) ∧
    maskMasked sh.mask = (sh.kind == .masked) := by
  have h := shapeCheck_all sh
  simp only [shapeCheck, Bool.and_eq_true, beq_iff_eq] at h
  exact ⟨h.1.1.1, h.1.1.2, h.1.2⟩

/-- the encoder's verdict on the default's text matters only when there is a default -/
theorem accepts_defaultOk (sh : Shape) (b : Bool) : sh.accepts b = (sh.accepts true && (!sh.hasDefault || b)) := by
  unfold Shape.accepts
  cases b <;> cases sh.hasDefault <;> simp

theorem acceptsSpec_defaultOk (sh : Shape) (b : Bool) : sh.acceptsSpec b = (sh.acceptsSpec true && (!sh.hasDefault || b)) := by
  unfold Shape.acceptsSpec
  cases b <;> cases sh.hasDefault <;> cases sh.kind <;> simp

/-- `Init` accepts exactly the shapes of the closed form -/
theorem accepts_eq_spec (sh : Shape) (b : Bool) : sh.accepts b = sh.acceptsSpec b := by
  have h := shapeCheck_all sh
  simp only [shapeCheck, Bool.and_eq_true, beq_iff_eq] at h
  rw [accepts_defaultOk, acceptsSpec_defaultOk, h.2]

/-- what an accepted column consists of -/
theorem initColumn_some (r : RawColumn) (c : Column) (h : initColumn r = some c) :
    r.shape.accepts r.raw.defaultOk = true ∧ c.kind = r.kind ∧ c.mask = r.shape.mask ∧
    c.setting.dataType = r.raw.dataType ∧ c.setting.policy = r.shape.policy ∧ c.setting.default = r.raw.default := by
  unfold initColumn at h
  by_cases ha : r.shape.accepts r.raw.defaultOk = true
  · simp only [ha, if_true, Option.some.injEq] at h
    subst h
    exact ⟨ha, rfl, rfl, rfl, rfl, rfl⟩
  · simp [ha] at h

/-- `HasTypeAwareSupport` with the regenerated disjuncts spelled out -/
theorem hasTypeAwareSupport_eq (c : Column) :
    hasTypeAwareSupport c = (c.onlyEncryption || c.isSearchable || (c.hasMaskingPattern && c.hasDBTypeID)) := by
  simp [hasTypeAwareSupport, Generated.Typed.typeAwareDisjuncts, typeAwareDisjunct, maskingSupport,
    Generated.Typed.maskingSupportRequires, Bool.or_assoc]

/-- `IsBinaryDataOperation` with the regenerated disjuncts spelled out -/
theorem isBinaryDataOperation_eq (c : Column) :
    isBinaryDataOperation c = (c.tokenBytes || c.onlyEncryption || c.isSearchable || c.hasMaskingPattern) := by
  simp [isBinaryDataOperation, Generated.Typed.binaryOpDisjuncts, binaryOpDisjunct, Bool.or_assoc]

/-- masked and tokenized columns: no `response_on_fail`, no default; masked: no integer type -/
theorem acceptsSpec_masked_tokenized (sh : Shape) (b : Bool) (h : sh.acceptsSpec b = true)
    (hk : sh.kind = .masked ∨ sh.kind = .tokenized) :
    sh.onFail = none ∧ sh.hasDefault = false ∧
    (sh.kind = .masked → sh.dataType ≠ some .int32 ∧ sh.dataType ≠ some .int64) := by
  obtain ⟨k, t, o, d, i, ta, a, r⟩ := sh
  simp only at hk
  rcases hk with rfl | rfl
  · simp [Shape.acceptsSpec] at h
    obtain ⟨⟨⟨⟨_, ho⟩, hd⟩, h1, h2⟩, _⟩ := h
    exact ⟨ho, hd, fun _ => ⟨h1, h2⟩⟩
  · simp [Shape.acceptsSpec] at h
    obtain ⟨⟨⟨_, ho⟩, hd⟩, _⟩ := h
    exact ⟨ho, hd, fun hm => by simp at hm⟩

/-- every kind but tokenization is an operation over binary data -/
theorem isBinaryDataOperation_of_kind (s : Setting) (k : Kind) (sh : Shape) (hk : sh.kind ≠ .tokenized) :
    isBinaryDataOperation ⟨s, k, sh.mask⟩ = true := by
  obtain ⟨h1, h2, h3⟩ := mask_bits sh
  rw [isBinaryDataOperation_eq]
  simp only [Column.onlyEncryption, Column.isSearchable, Column.hasMaskingPattern, h1, h2, h3]
  cases hkk : sh.kind <;> simp_all

end AcraModel.Typed
