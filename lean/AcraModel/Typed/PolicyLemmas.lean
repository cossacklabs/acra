import AcraModel.Typed.Spec
/-
The failure branch of the two encoders (`EncodeOnFail` and the encoder's `OnColumn` for a value that was not
revealed), stated against the specification of `Typed/Spec.lean`.
-/
namespace AcraModel.Typed
open AcraModel AcraModel.Wire

/-- "not a decimal literal of the column's width" in the form the policy theorems assume it, for an integer width -/
theorem parseInt_none_of (x : Bytes) (bits : Nat) (h : ∀ n, parseInt x bits ≠ some n ∨ bits = 0) (hb : bits ≠ 0) :
    parseInt x bits = none := by
  cases hp : parseInt x bits with
  | none => rfl
  | some n => exact ((h n).resolve_right hb hp).elim

theorem not_literal_of (x : Bytes) (bits : Nat) (h : ¬ ∃ n, parseInt x bits = some n ∧ bits ≠ 0) (n : Int) :
    parseInt x bits ≠ some n ∨ bits = 0 :=
  Decidable.or_iff_not_imp_right.mpr fun hb hn => h ⟨n, hn, hb⟩

/-- a valid default that has no plaintext form is no default at all -/
theorem default_none_of_plain (s : Setting) (t : DataType) (d64 : Default64) (ht : s.dataType = some t)
    (hv : validDefault s d64) (h : defaultPlain s d64 = none) : s.default = none := by
  unfold defaultPlain at h
  unfold validDefault at hv
  cases hsd : s.default with
  | none => rfl
  | some d0 => cases t <;> simp_all

/-- when the failure-policy table of `typed_policy` delivers a value it is the encoded default, or the fall-back `c` under
`ciphertext` or without a default -/
theorem policyTable_value (p : Policy) (dp : Option Bytes) (enc : Bytes → Option Bytes) (c : Res) (out : Bytes) (rb : Bool)
    (h : (match p, dp with
      | .error, _ => Res.encodingError
      | .defaultValue, some d => (match enc d with | some w => .value w false | none => .otherError)
      | _, _ => c) = .value out rb) :
    (∃ d, dp = some d ∧ enc d = some out ∧ rb = false) ∨
      ((p = .ciphertext ∨ (p = .defaultValue ∧ dp = none)) ∧ c = .value out rb) := by
  cases p <;> cases dp <;> simp only [] at h
  · exact .inr ⟨.inl rfl, h⟩
  · exact .inr ⟨.inl rfl, h⟩
  · exact .inr ⟨.inr ⟨rfl, rfl⟩, h⟩
  · rename_i d
    cases hw : enc d <;> simp only [hw] at h
    · cases h
    · cases h; exact .inl ⟨d, rfl, hw, rfl⟩
  · cases h
  · cases h

/-- `EncodeOnFail` (PostgreSQL) substitutes the specification encoding of the default's plaintext -/
theorem pgEncodeOnFail_eq (s : Setting) (t : DataType) (binary : Bool) (d64 : Default64) (ht : s.dataType = some t) :
    pgEncodeOnFail s binary d64 =
      match s.policy, defaultPlain s d64 with
      | .error, _ => .error .encodingError
      | .defaultValue, some d =>
        (match pgSpecEncode t binary d with
         | some w => .ok (some w)
         | none => .error .otherError)
      | _, _ => .ok none := by
  unfold pgEncodeOnFail defaultPlain
  rw [ht]
  cases s.policy <;> try rfl
  cases s.default with
  | none => cases t <;> rfl
  | some d =>
    cases t <;> simp only [pgSpecEncode, bitsOf, Option.getD_some]
    · cases parseInt d 32 <;> rfl
    · cases parseInt d 64 <;> rfl
    · cases d64.decoded <;> rfl

/-- the PostgreSQL encoder on a stored value that was not revealed and is not a value of the declared type -/
theorem pgEncode_unrevealed (s : Setting) (t : DataType) (binary : Bool) (saved : Option Bytes) (d64 : Default64)
    (x : Bytes) (ht : s.dataType = some t) (hne : x ≠ [])
    (hnl : ∀ n, parseInt x (bitsOf t) ≠ some n ∨ bitsOf t = 0) :
    pgEncode s binary false saved d64 x =
      match pgEncodeOnFail s binary d64 with
      | .error e => e
      | .ok (some v) => .value v false
      | .ok none => .value (pgCipherForm t binary x) false := by
  have hxe : x.isEmpty = false := List.isEmpty_eq_false_iff.mpr hne
  unfold pgEncode
  simp only [hxe, Bool.false_eq_true, if_false, ht]
  cases t
  · simp only [bitsOf, Option.getD_some, parseInt_none_of x 32 hnl (by decide), Bool.not_false, if_true]; rfl
  · simp only [bitsOf, Option.getD_some, parseInt_none_of x 64 hnl (by decide), Bool.not_false, if_true]; rfl
  · simp only [Bool.not_false, if_true]; rfl
  · simp only [Bool.not_false, if_true]; rfl

/-- `EncodeOnFail` (MySQL) substitutes the specification encoding of the default's plaintext -/
theorem myEncodeOnFail_eq (s : Setting) (t : DataType) (binary : Bool) (d64 : Default64) (ht : s.dataType = some t) :
    myEncodeOnFail s binary d64 =
      match s.policy, defaultPlain s d64 with
      | .error, _ => .error .encodingError
      | .defaultValue, some d =>
        (match mySpecEncode t binary d with
         | some w => .ok (some w)
         | none => .error .otherError)
      | _, _ => .ok none := by
  unfold myEncodeOnFail defaultPlain
  rw [ht]
  cases s.policy <;> try rfl
  cases s.default with
  | none => cases t <;> rfl
  | some d =>
    cases t <;> simp only [mySpecEncode, bitsOf, Option.getD_some]
    · cases parseInt d 32 <;> rfl
    · cases parseInt d 64 <;> rfl
    · cases d64.decoded <;> rfl

/-- the MySQL encoder on a stored value that was not revealed and is not a value of the declared type: what
`EncodeOnFail` substitutes, else the stored value under the database's own column type `o` (`hO`: that type is one the
generic binary encoder passes through), marked as rolled back -/
theorem myEncode_unrevealed (s : Setting) (t : DataType) (binary : Bool) (c o : Nat) (d64 : Default64)
    (x : Bytes) (ht : s.dataType = some t) (hne : x ≠ [])
    (hnl : ∀ n, parseInt x (bitsOf t) ≠ some n ∨ bitsOf t = 0)
    (hO : myEncodeBinaryAs o x = .value (lenenc x) false) :
    myEncode s binary false c o d64 x =
      match myEncodeOnFail s binary d64 with
      | .error e => e
      | .ok (some v) => .value v false
      | .ok none => .value (lenenc x) true := by
  have hxe : x.isEmpty = false := List.isEmpty_eq_false_iff.mpr hne
  have henc : myTypeEncode s t binary false d64 x =
      match myEncodeOnFail s binary d64 with
      | .error e => .fail e
      | .ok (some v) => .encoded v
      | .ok none => .convErr := by
    unfold myTypeEncode
    cases t
    · simp only [bitsOf, parseInt_none_of x 32 hnl (by decide), Bool.not_false, if_true]; rfl
    · simp only [bitsOf, parseInt_none_of x 64 hnl (by decide), Bool.not_false, if_true]; rfl
    · simp only [Bool.not_false, if_true]; rfl
    · simp only [Bool.not_false, if_true]; rfl
  unfold myEncode
  simp only [hxe, Bool.false_eq_true, if_false, ht, henc, hO]
  cases myEncodeOnFail s binary d64 with
  | error e => rfl
  | ok v => cases v <;> cases binary <;> rfl

end AcraModel.Typed
