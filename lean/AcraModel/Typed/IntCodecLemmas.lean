import AcraModel.Typed.IntCodec
/-!
Lemmas about the integer codecs of `AcraModel.Typed.IntCodec`:
text side (`parseInt` / `formatInt`) and binary side (`intToBE` / `beToInt`, `intToLE` / `leToInt`).
-/
-- `1 ≤ bits` / `1 ≤ b.length` is a hypothesis of every lemma of the codec, also of the five whose proof does not use it
-- (`parseInt_formatInt`, `parseInt_formatInt_out_of_range`, `parseInt_inRange`, `intToBE_beToInt`, `intToLE_leToInt`).
set_option linter.unusedVariables false

namespace AcraModel.Typed
open AcraModel

/-- one step of the `digitsVal` fold -/
def digitStep (acc : Option Nat) (c : UInt8) : Option Nat :=
  acc.bind fun a => if 48 ≤ c.toNat ∧ c.toNat ≤ 57 then some (a * 10 + (c.toNat - 48)) else none

theorem digitsVal_eq_foldl (ds : Bytes) : digitsVal ds = ds.foldl digitStep (some 0) := by
  cases ds with
  | nil | cons c r => rfl

theorem digitChar_toNat (d : Nat) : (digitChar d).toNat = 48 + d % 10 := by
  unfold digitChar
  rw [UInt8.toNat_ofNat', Nat.mod_eq_of_lt]
  have := Nat.mod_lt d (by decide : 10 > 0)
  omega

theorem digitStep_digitChar (a d : Nat) :
    digitStep (some a) (digitChar d) = some (a * 10 + d % 10) := by
  unfold digitStep
  have h := digitChar_toNat d
  have hc : 48 ≤ (digitChar d).toNat ∧ (digitChar d).toNat ≤ 57 := by omega
  simp only [Option.bind_some, if_pos hc]
  congr 1
  omega

/-- value of a least-significant-first digit string, as the fold `digitsVal` performs on its reverse -/
theorem foldr_digitsRev (fuel n : Nat) (h : n < fuel) :
    (digitsRev fuel n).foldr (fun c acc => digitStep acc c) (some 0) = some n := by
  induction fuel generalizing n with
  | zero => omega
  | succ fuel ih =>
    unfold digitsRev
    by_cases h10 : n < 10
    · rw [if_pos h10]
      simp only [List.foldr_cons, List.foldr_nil, digitStep_digitChar]
      congr 1; omega
    · rw [if_neg h10]
      simp only [List.foldr_cons]
      rw [ih (n / 10) (by omega), digitStep_digitChar]
      congr 1; omega

theorem digitsRev_ne_nil (fuel n : Nat) (h : 0 < fuel) : digitsRev fuel n ≠ [] := by
  cases fuel with
  | zero => omega
  | succ fuel =>
    unfold digitsRev
    split <;> exact List.cons_ne_nil _ _

theorem digitsRev_all_digits (fuel n : Nat) :
    ∀ c ∈ digitsRev fuel n, 48 ≤ c.toNat ∧ c.toNat ≤ 57 := by
  induction fuel generalizing n with
  | zero => intro c hc; simp [digitsRev] at hc
  | succ fuel ih =>
    intro c hc
    unfold digitsRev at hc
    by_cases h10 : n < 10
    · rw [if_pos h10] at hc
      simp only [List.mem_singleton] at hc
      subst hc
      have := digitChar_toNat n
      omega
    · rw [if_neg h10] at hc
      rcases List.mem_cons.mp hc with hc | hc
      · subst hc
        have := digitChar_toNat (n % 10)
        omega
      · exact ih (n / 10) c hc

theorem digitsVal_natDigits (n : Nat) : digitsVal (natDigits n) = some n := by
  rw [digitsVal_eq_foldl, natDigits, List.foldl_reverse]
  exact foldr_digitsRev (n + 1) n (by omega)

theorem natDigits_ne_nil (n : Nat) : natDigits n ≠ [] := by
  unfold natDigits
  intro h
  exact digitsRev_ne_nil (n + 1) n (by omega) (List.reverse_eq_nil_iff.mp h)

theorem formatInt_ne_nil (n : Int) : formatInt n ≠ [] := by
  unfold formatInt
  split
  · exact List.cons_ne_nil _ _
  · exact natDigits_ne_nil _

theorem natDigits_all_digits (n : Nat) : ∀ c ∈ natDigits n, 48 ≤ c.toNat ∧ c.toNat ≤ 57 := by
  intro c hc
  unfold natDigits at hc
  exact digitsRev_all_digits (n + 1) n c (List.mem_reverse.mp hc)

theorem natDigits_head (n : Nat) :
    ∃ c r, natDigits n = c :: r ∧ (48 ≤ c.toNat ∧ c.toNat ≤ 57) ∧ c.toNat ≠ 43 ∧ c.toNat ≠ 45 := by
  cases hd : natDigits n with
  | nil => exact absurd hd (natDigits_ne_nil n)
  | cons c r =>
    have h := natDigits_all_digits n c (by rw [hd]; exact List.mem_cons_self)
    exact ⟨c, r, rfl, h, by omega, by omega⟩

/-- the part of `parseInt` after the sign has been split off -/
def parseCore (neg : Bool) (ds : Bytes) (bits : Nat) : Option Int :=
  if ds.isEmpty then none else
  match digitsVal ds with
  | none => none
  | some u =>
    let cutoff := 2 ^ (bits - 1)
    if !neg ∧ u ≥ cutoff then none
    else if neg ∧ u > cutoff then none
    else some (if neg then -(u : Int) else (u : Int))

theorem parseInt_nil (bits : Nat) : parseInt [] bits = none := by
  simp [parseInt]

theorem parseInt_plus (c : UInt8) (r : Bytes) (bits : Nat) (h : c.toNat = 43) :
    parseInt (c :: r) bits = parseCore false r bits := by
  simp [parseInt, parseCore, h]
  generalize digitsVal r = o
  cases o <;> rfl

theorem parseInt_minus (c : UInt8) (r : Bytes) (bits : Nat) (h : c.toNat = 45) :
    parseInt (c :: r) bits = parseCore true r bits := by
  simp [parseInt, parseCore, h]
  generalize digitsVal r = o
  cases o <;> rfl

theorem parseInt_nosign (c : UInt8) (r : Bytes) (bits : Nat) (h1 : c.toNat ≠ 43) (h2 : c.toNat ≠ 45) :
    parseInt (c :: r) bits = parseCore false (c :: r) bits := by
  simp [parseInt, parseCore, h1, h2]
  generalize digitsVal (c :: r) = o
  cases o <;> rfl

theorem parseCore_natDigits (neg : Bool) (m bits : Nat) :
    parseCore neg (natDigits m) bits =
      if neg = false ∧ m ≥ 2 ^ (bits - 1) then none
      else if neg = true ∧ m > 2 ^ (bits - 1) then none
      else some (if neg then -(m : Int) else (m : Int)) := by
  unfold parseCore
  have hne : (natDigits m).isEmpty = false := List.isEmpty_eq_false_iff.mpr (natDigits_ne_nil m)
  rw [hne, digitsVal_natDigits]
  cases neg <;> simp

theorem parseInt_natDigits (m bits : Nat) :
    parseInt (natDigits m) bits = if m ≥ 2 ^ (bits - 1) then none else some (m : Int) := by
  obtain ⟨c, r, hd, _, h43, h45⟩ := natDigits_head m
  rw [hd, parseInt_nosign c r bits h43 h45, ← hd, parseCore_natDigits]
  simp

theorem parseInt_neg_natDigits (m bits : Nat) :
    parseInt (45 :: natDigits m) bits = if m > 2 ^ (bits - 1) then none else some (-(m : Int)) := by
  rw [parseInt_minus 45 (natDigits m) bits (by decide), parseCore_natDigits]
  simp

/-- behind `Props.C19.int_codec_roundtrip_text` -/
theorem parseInt_formatInt (bits : Nat) (n : Int) (hb : 1 ≤ bits) (h : inRange bits n) :
    parseInt (formatInt n) bits = some n := by
  unfold inRange at h
  unfold formatInt
  generalize hC : 2 ^ (bits - 1) = C at h
  by_cases hn : n < 0
  · rw [if_pos hn, parseInt_neg_natDigits, hC]
    have hle : ¬ n.natAbs > C := by omega
    rw [if_neg hle]
    congr 1; omega
  · rw [if_neg hn, parseInt_natDigits, hC]
    have hle : ¬ n.natAbs ≥ C := by omega
    rw [if_neg hle]
    congr 1; omega

theorem parseInt_formatInt_out_of_range (bits : Nat) (n : Int) (hb : 1 ≤ bits) (h : ¬ inRange bits n) :
    parseInt (formatInt n) bits = none := by
  unfold inRange at h
  unfold formatInt
  generalize hC : 2 ^ (bits - 1) = C at h
  by_cases hn : n < 0
  · rw [if_pos hn, parseInt_neg_natDigits, hC]
    have hgt : n.natAbs > C := by omega
    rw [if_pos hgt]
  · rw [if_neg hn, parseInt_natDigits, hC]
    have hge : n.natAbs ≥ C := by omega
    rw [if_pos hge]

theorem parseCore_inRange (neg : Bool) (ds : Bytes) (bits : Nat) (n : Int)
    (h : parseCore neg ds bits = some n) : inRange bits n := by
  unfold parseCore at h
  have hpos : 0 < 2 ^ (bits - 1) := Nat.pow_pos (by decide)
  unfold inRange
  generalize 2 ^ (bits - 1) = C at h hpos
  split at h
  · cases h
  · split at h
    · cases h
    · cases neg <;> simp at h <;> omega

/-- behind `Props.C19.int_codec_range`: whatever `parseInt` accepts lies in range -/
theorem parseInt_inRange (s : Bytes) (bits : Nat) (n : Int) (hb : 1 ≤ bits)
    (h : parseInt s bits = some n) : inRange bits n := by
  cases s with
  | nil => rw [parseInt_nil] at h; cases h
  | cons c r =>
    by_cases h43 : c.toNat = 43
    · rw [parseInt_plus c r bits h43] at h
      exact parseCore_inRange _ _ _ _ h
    · by_cases h45 : c.toNat = 45
      · rw [parseInt_minus c r bits h45] at h
        exact parseCore_inRange _ _ _ _ h
      · rw [parseInt_nosign c r bits h43 h45] at h
        exact parseCore_inRange _ _ _ _ h

theorem pow256 (k : Nat) : 256 ^ k = 2 ^ (8 * k) := by
  rw [Nat.pow_mul]

theorem pow_split (k : Nat) (hk : 1 ≤ k) : 2 ^ (8 * k) = 2 * 2 ^ (8 * k - 1) := by
  have : 8 * k = (8 * k - 1) + 1 := by omega
  rw [this, Nat.pow_succ]
  simp only [Nat.add_sub_cancel]
  omega

theorem twos_lt (k : Nat) (n : Int) : twos k n < 2 ^ (8 * k) := by
  unfold twos
  have hM : (0 : Int) < ((2 ^ (8 * k) : Nat) : Int) := by
    have : 0 < 2 ^ (8 * k) := Nat.pow_pos (by decide)
    omega
  have h1 := Int.emod_lt_of_pos n hM
  have h0 := Int.emod_nonneg n (Int.ne_of_gt hM)
  omega

theorem signed_twos (k : Nat) (n : Int) (hk : 1 ≤ k) (h : inRange (8 * k) n) :
    signed k (twos k n) = n := by
  unfold inRange at h
  unfold signed twos
  have hsplit := pow_split k hk
  have hpos : 0 < 2 ^ (8 * k - 1) := Nat.pow_pos (by decide)
  generalize 2 ^ (8 * k - 1) = H at h hsplit hpos
  generalize 2 ^ (8 * k) = M at hsplit
  subst hsplit
  by_cases hn : 0 ≤ n
  · have ht : n % ((2 * H : Nat) : Int) = n := Int.emod_eq_of_lt hn (by omega)
    rw [ht]
    have hlt : n.toNat < H := by omega
    rw [if_pos hlt]
    omega
  · have ht : n % ((2 * H : Nat) : Int) = n + ((2 * H : Nat) : Int) := by
      rw [← Int.add_emod_right n ((2 * H : Nat) : Int)]
      exact Int.emod_eq_of_lt (by omega) (by omega)
    rw [ht]
    have hge : ¬ (n + ((2 * H : Nat) : Int)).toNat < H := by omega
    rw [if_neg hge]
    omega

theorem twos_signed (k u : Nat) (hu : u < 2 ^ (8 * k)) : twos k (signed k u) = u := by
  unfold signed twos
  generalize 2 ^ (8 * k - 1) = H
  generalize 2 ^ (8 * k) = M at hu
  by_cases hlt : u < H
  · rw [if_pos hlt]
    have ht : (u : Int) % (M : Int) = (u : Int) := Int.emod_eq_of_lt (by omega) (by omega)
    rw [ht]; omega
  · rw [if_neg hlt]
    have ht : ((u : Int) - (M : Int)) % (M : Int) = (u : Int) := by
      rw [Int.sub_emod_right]
      exact Int.emod_eq_of_lt (by omega) (by omega)
    rw [ht]; omega

theorem signed_inRange (k u : Nat) (hk : 1 ≤ k) (hu : u < 2 ^ (8 * k)) : inRange (8 * k) (signed k u) := by
  unfold inRange signed
  have hsplit := pow_split k hk
  generalize 2 ^ (8 * k - 1) = H at hsplit
  generalize 2 ^ (8 * k) = M at hsplit hu
  subst hsplit
  by_cases hlt : u < H
  · rw [if_pos hlt]; omega
  · rw [if_neg hlt]; omega

@[simp] theorem intToBE_length (k : Nat) (n : Int) : (intToBE k n).length = k := by
  simp [intToBE]

@[simp] theorem intToLE_length (k : Nat) (n : Int) : (intToLE k n).length = k := by
  simp [intToLE]

/-- behind `Props.C19.int_codec_roundtrip_binary`, PostgreSQL (big-endian) form -/
theorem beToInt_intToBE (k : Nat) (n : Int) (hk : 1 ≤ k) (h : inRange (8 * k) n) :
    beToInt (intToBE k n) = n := by
  unfold beToInt
  rw [intToBE_length]
  unfold intToBE
  rw [beVal_beBytes_of_lt k (twos k n) (by rw [pow256]; exact twos_lt k n)]
  exact signed_twos k n hk h

/-- behind `Props.C19.int_codec_roundtrip_binary`, MySQL (little-endian) form -/
theorem leToInt_intToLE (k : Nat) (n : Int) (hk : 1 ≤ k) (h : inRange (8 * k) n) :
    leToInt (intToLE k n) = n := by
  unfold leToInt
  rw [intToLE_length]
  unfold intToLE
  rw [leVal_leBytes_of_lt k (twos k n) (by rw [pow256]; exact twos_lt k n)]
  exact signed_twos k n hk h

theorem beVal_lt' (b : Bytes) : beVal b < 2 ^ (8 * b.length) := by
  rw [← pow256]; exact beVal_lt b

theorem leVal_lt' (b : Bytes) : leVal b < 2 ^ (8 * b.length) := by
  have := leVal_lt b
  rw [pow256] at this
  exact this

theorem beBytes_beVal (b : Bytes) : beBytes b.length (beVal b) = b := by
  unfold beBytes beVal
  have := leBytes_leVal b.reverse
  rw [List.length_reverse] at this
  rw [this, List.reverse_reverse]

/-- every byte string is the big-endian form of its signed reading, which is in range -/
theorem intToBE_beToInt (b : Bytes) (hb : 1 ≤ b.length) : intToBE b.length (beToInt b) = b := by
  unfold intToBE beToInt
  rw [twos_signed b.length (beVal b) (beVal_lt' b)]
  exact beBytes_beVal b

theorem beToInt_inRange (b : Bytes) (hb : 1 ≤ b.length) : inRange (8 * b.length) (beToInt b) := by
  unfold beToInt
  exact signed_inRange b.length (beVal b) hb (beVal_lt' b)

theorem intToLE_leToInt (b : Bytes) (hb : 1 ≤ b.length) : intToLE b.length (leToInt b) = b := by
  unfold intToLE leToInt
  rw [twos_signed b.length (leVal b) (leVal_lt' b)]
  exact leBytes_leVal b

theorem leToInt_inRange (b : Bytes) (hb : 1 ≤ b.length) : inRange (8 * b.length) (leToInt b) := by
  unfold leToInt
  exact signed_inRange b.length (leVal b) hb (leVal_lt' b)

theorem beToInt_intToBE_4 (n : Int) (h : inRange 32 n) : beToInt (intToBE 4 n) = n :=
  beToInt_intToBE 4 n (by decide) h
theorem beToInt_intToBE_8 (n : Int) (h : inRange 64 n) : beToInt (intToBE 8 n) = n :=
  beToInt_intToBE 8 n (by decide) h
theorem leToInt_intToLE_4 (n : Int) (h : inRange 32 n) : leToInt (intToLE 4 n) = n :=
  leToInt_intToLE 4 n (by decide) h
theorem leToInt_intToLE_8 (n : Int) (h : inRange 64 n) : leToInt (intToLE 8 n) = n :=
  leToInt_intToLE 8 n (by decide) h

theorem parse_then_binary_roundtrip_be (bits k : Nat) (n : Int) (hk : 1 ≤ k) (hbits : bits = 8 * k)
    (h : inRange bits n) :
    beToInt (intToBE k n) = n ∧ parseInt (formatInt (beToInt (intToBE k n))) bits = some n := by
  subst hbits
  have h1 := beToInt_intToBE k n hk h
  exact ⟨h1, by rw [h1]; exact parseInt_formatInt (8 * k) n (by omega) h⟩

theorem parse_then_binary_roundtrip_le (bits k : Nat) (n : Int) (hk : 1 ≤ k) (hbits : bits = 8 * k)
    (h : inRange bits n) :
    leToInt (intToLE k n) = n ∧ parseInt (formatInt (leToInt (intToLE k n))) bits = some n := by
  subst hbits
  have h1 := leToInt_intToLE k n hk h
  exact ⟨h1, by rw [h1]; exact parseInt_formatInt (8 * k) n (by omega) h⟩

theorem parse_then_binary_roundtrip_be_32 (n : Int) (h : inRange 32 n) :
    beToInt (intToBE 4 n) = n ∧ parseInt (formatInt (beToInt (intToBE 4 n))) 32 = some n :=
  parse_then_binary_roundtrip_be 32 4 n (by decide) rfl h

theorem parse_then_binary_roundtrip_be_64 (n : Int) (h : inRange 64 n) :
    beToInt (intToBE 8 n) = n ∧ parseInt (formatInt (beToInt (intToBE 8 n))) 64 = some n :=
  parse_then_binary_roundtrip_be 64 8 n (by decide) rfl h

theorem parse_then_binary_roundtrip_le_32 (n : Int) (h : inRange 32 n) :
    leToInt (intToLE 4 n) = n ∧ parseInt (formatInt (leToInt (intToLE 4 n))) 32 = some n :=
  parse_then_binary_roundtrip_le 32 4 n (by decide) rfl h

theorem parse_then_binary_roundtrip_le_64 (n : Int) (h : inRange 64 n) :
    leToInt (intToLE 8 n) = n ∧ parseInt (formatInt (leToInt (intToLE 8 n))) 64 = some n :=
  parse_then_binary_roundtrip_le 64 8 n (by decide) rfl h

theorem parseInt_formatInt_of_parseInt (s : Bytes) (bits : Nat) (n : Int) (hb : 1 ≤ bits)
    (h : parseInt s bits = some n) : parseInt (formatInt n) bits = some n :=
  parseInt_formatInt bits n hb (parseInt_inRange s bits n hb h)

end AcraModel.Typed
