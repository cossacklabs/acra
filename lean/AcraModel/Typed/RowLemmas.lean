import AcraModel.Typed.Row
import AcraModel.Typed.IntCodecLemmas
import AcraModel.Typed.Spec
/-!
Lemmas about the column loops of `Typed/Row.lean`: with the context handling the source has (regenerated facts) the
outcome for column `i` of a row is the outcome of the single-column read path (`myTypedRead` / `pgTypedRead`) on
column `i`'s own setting, stored value and keys, in the format PostgreSQL's rule assigns to column `i`.
-/
namespace AcraModel.Typed
open AcraModel AcraModel.Wire

/-- per-column outcomes (`none` = NULL) to the row outcome: the first error ends the row -/
def collectRow : List (Option Res) → RowRes
  | [] => .cols []
  | none :: r => (collectRow r).cons none
  | some (.value b rb) :: r => (collectRow r).cons (some (b, rb))
  | some .encodingError :: _ => .encodingError
  | some .otherError :: _ => .otherError

def Res.isValue : Res → Bool
  | .value _ _ => true
  | _ => false

theorem RowRes.cons_cols {v : Option (Bytes × Bool)} {r : RowRes} {outs : List (Option (Bytes × Bool))}
    (h : r.cons v = .cols outs) : ∃ t, r = .cols t ∧ outs = v :: t := by
  cases r with
  | cols t => simp only [RowRes.cons, RowRes.cols.injEq] at h; exact ⟨t, rfl, h.symm⟩
  | encodingError | otherError => cases h

/-- a delivered row lists the values of the per-column outcomes, none of which is an error -/
theorem collectRow_eq_map {l : List (Option Res)} {outs : List (Option (Bytes × Bool))} (h : collectRow l = .cols outs) :
    l = outs.map (Option.map fun v => Res.value v.1 v.2) := by
  induction l generalizing outs with
  | nil => cases h; rfl
  | cons x xs ih =>
    match x, h with
    | none, h | some (.value _ _), h =>
      obtain ⟨t, ht, rfl⟩ := RowRes.cons_cols h
      rw [ih ht]; rfl
    | some .encodingError, h | some .otherError, h => cases h

/-- a row that is delivered: as many values as columns, NULL stays NULL, and the value at position `i` is the value of
the `i`-th per-column outcome -/
theorem collectRow_cols (l : List (Option Res)) (outs : List (Option (Bytes × Bool))) (h : collectRow l = .cols outs) :
    outs.length = l.length ∧
    (∀ i : Nat, l[i]? = some none → outs[i]? = some none) ∧
    (∀ (i : Nat) (r : Res), l[i]? = some (some r) → ∃ b rb, r = Res.value b rb ∧ outs[i]? = some (some (b, rb))) := by
  cases collectRow_eq_map h
  refine ⟨by simp, fun i hi => ?_, fun i r hi => ?_⟩
  · rw [List.getElem?_map] at hi
    obtain ⟨_ | v, ho, hm⟩ := Option.map_eq_some_iff.mp hi <;> cases hm
    exact ho
  · rw [List.getElem?_map] at hi
    obtain ⟨_ | v, ho, hm⟩ := Option.map_eq_some_iff.mp hi <;> cases hm
    exact ⟨v.1, v.2, rfl, ho⟩

theorem RowRes.cons_of_not_cols {r : RowRes} (h : ∀ outs, r ≠ .cols outs) (v : Option (Bytes × Bool)) : r.cons v = r := by
  cases r with
  | cols t => exact absurd rfl (h t)
  | encodingError | otherError => rfl

/-- a row that is not delivered: some column's OWN outcome is that error, and every column in front of it has a value
(or is NULL) -/
theorem collectRow_error (l : List (Option Res)) (h : ∀ outs, collectRow l ≠ .cols outs) :
    ∃ (i : Nat) (r : Res), l[i]? = some (some r) ∧ r.isValue = false ∧
      (collectRow l = .encodingError ↔ r = Res.encodingError) ∧ (collectRow l = .otherError ↔ r = Res.otherError) ∧
      ∀ j : Nat, j < i → ∀ r' : Res, l[j]? = some (some r') → r'.isValue = true := by
  induction l with
  | nil => exact absurd rfl (h [])
  | cons x xs ih =>
    -- a NULL or a value in front: the row fails as its tail does, one position further on
    have lift : ∀ v, collectRow (x :: xs) = (collectRow xs).cons v → (∀ r', x = some r' → r'.isValue = true) →
        ∃ (i : Nat) (r : Res), (x :: xs)[i]? = some (some r) ∧ r.isValue = false ∧
          (collectRow (x :: xs) = .encodingError ↔ r = Res.encodingError) ∧
          (collectRow (x :: xs) = .otherError ↔ r = Res.otherError) ∧
          ∀ j : Nat, j < i → ∀ r' : Res, (x :: xs)[j]? = some (some r') → r'.isValue = true := by
      intro v hcons hy
      have hx : ∀ outs, collectRow xs ≠ .cols outs := fun outs hc => h (v :: outs) (by rw [hcons, hc]; rfl)
      obtain ⟨i, r, h1, h2, h3, h4, h5⟩ := ih hx
      rw [hcons, RowRes.cons_of_not_cols hx]
      refine ⟨i + 1, r, h1, h2, h3, h4, fun j hj r' hr' => ?_⟩
      cases j with
      | zero => exact hy r' (Option.some.inj hr')
      | succ j => exact h5 j (by omega) r' hr'
    match x with
    | none => exact lift none rfl fun r' hr => by cases hr
    | some (.value b rb) => exact lift (some (b, rb)) rfl fun r' hr => by cases hr; rfl
    | some .encodingError | some .otherError =>
      exact ⟨0, _, rfl, rfl, by simp [collectRow], by simp [collectRow], fun j hj => by omega⟩

/-- the per-column outcomes of a MySQL row when every column starts from the context `cur` -/
def myColsFrom (binary : Bool) (cur : Ctx) : List (RowColumn × Option Bytes) → List (Option Res)
  | [] => []
  | (c, v) :: rest => v.map (fun wire => (myColumnChain cur c binary wire).2) :: myColsFrom binary cur rest

theorem myColsFrom_length (binary : Bool) (cur : Ctx) (cols : List (RowColumn × Option Bytes)) :
    (myColsFrom binary cur cols).length = cols.length := by
  induction cols with
  | nil => rfl
  | cons x xs ih => simp [myColsFrom, ih]

theorem myColsFrom_getElem? (binary : Bool) (cur : Ctx) (cols : List (RowColumn × Option Bytes)) (i : Nat) :
    (myColsFrom binary cur cols)[i]? =
      (cols[i]?).map fun cv => cv.2.map fun wire => (myColumnChain cur cv.1 binary wire).2 := by
  induction cols generalizing i with
  | nil => simp [myColsFrom]
  | cons x xs ih =>
    obtain ⟨c, v⟩ := x
    cases i with
    | zero => simp [myColsFrom]
    | succ i => simpa [myColsFrom] using ih i

/-- **the MySQL row loop without a carried context is a map over the columns**: every column is processed from the
same context `cur` (the row context), the first failing column ends the row -/
theorem myRowLoop_uncarried (binary : Bool) (cur : Ctx) (cols : List (RowColumn × Option Bytes)) :
    myRowLoop false binary cur cols = collectRow (myColsFrom binary cur cols) := by
  induction cols with
  | nil => rfl
  | cons x xs ih =>
    obtain ⟨c, v⟩ := x
    cases v with
    | none => simp only [myRowLoop, myColsFrom, Option.map_none, collectRow, ih]
    | some wire =>
      simp only [myRowLoop, myColsFrom, Option.map_some]
      cases hc : myColumnChain cur c binary wire with
      | mk ret res =>
        cases res with
        | value b rb => simp only [collectRow, Bool.false_eq_true, if_false, ih]
        | encodingError | otherError => simp only [collectRow]

/-- a column that has a setting, processed from the fresh context, is the single-column read path `myTypedRead` -/
theorem myColumnChain_fresh (c : RowColumn) (s : Setting) (d64 : Default64) (binary : Bool) (wire : Bytes)
    (hs : c.setting = some (s, d64)) :
    (myColumnChain Ctx.fresh c binary wire).2 = myTypedRead s binary c.colType c.originType d64 c.reveal wire := by
  unfold myColumnChain myTypedRead
  simp only [hs, Ctx.fresh, Option.getD_some]
  cases hr : c.reveal (myDecode binary c.colType c.originType wire) with
  | none =>
    simp only
    cases he : myEncode s binary false c.colType c.originType d64 (myDecode binary c.colType c.originType wire) with
    | value b rb => cases rb <;> simp
    | encodingError | otherError => rfl
  | some m =>
    simp only
    cases he : myEncode s binary true c.colType c.originType d64 m with
    | value b rb => cases rb <;> simp
    | encodingError | otherError => rfl

theorem formatCode_eq (b : Bool) : (formatCode b = Generated.Typed.pgDataFormatBinary) = (b = true) := by
  cases b <;> simp [formatCode, Generated.Typed.baseBinaryFormat, Generated.Typed.baseTextFormat,
    Generated.Typed.pgDataFormatBinary]

/-- valid format codes: text (0) or binary (1) -/
def ValidCodes (rf : List Nat) : Prop := ∀ c ∈ rf, c = 0 ∨ c = 1

/-- `GetParameterFormatByIndex` on valid codes follows PostgreSQL's rule -/
theorem formatByIndex_rule (rf : List Nat) (hv : ValidCodes rf) (i : Nat) :
    Pg.formatByIndex i rf =
      match pgResultFormat rf i with
      | some c => .ok (c == 1)
      | none => .err := by
  have code : ∀ c, (c = 0 ∨ c = 1) →
      (if c = Generated.Wire.pgBindFormatText then Out.ok false
       else if c = Generated.Wire.pgBindFormatBinary then Out.ok true else Out.err) = Out.ok (c == 1) := by
    intro c hc
    rcases hc with rfl | rfl <;> simp [Generated.Wire.pgBindFormatText, Generated.Wire.pgBindFormatBinary]
  match rf, hv with
  | [], _ => rfl
  | [c], hv =>
    simp only [Pg.formatByIndex, pgResultFormat, List.length_singleton, if_true, List.head?_cons]
    exact code c (hv c List.mem_cons_self)
  | a :: b :: r, hv =>
    simp only [Pg.formatByIndex, pgResultFormat, List.length_cons]
    rw [if_neg (by omega)]
    cases hi : (a :: b :: r)[i]? with
    | none => rfl
    | some c => exact code c (hv c (List.mem_of_getElem? hi))

theorem pgResultFormat_lt (rf : List Nat) (i : Nat) (hi : i < rf.length) : pgResultFormat rf i = rf[i]? := by
  match rf, hi with
  | [c], hi =>
    have : i = 0 := by simpa using hi
    subst this
    rfl
  | a :: b :: r, _ => rfl

theorem resolveFormats_valid (rf : List Nat) (hv : ValidCodes rf) (n i : Nat) (h : n + i = rf.length) :
    resolveFormats rf n i = .ok (rf.drop i) := by
  induction n generalizing i with
  | zero =>
    have : rf.drop i = [] := List.drop_eq_nil_of_le (by omega)
    rw [this]; rfl
  | succ n ih =>
    have hi : i < rf.length := by omega
    have hc : rf[i]? = some rf[i] := List.getElem?_eq_getElem hi
    have hcv := hv rf[i] (List.getElem_mem hi)
    unfold resolveFormats
    rw [formatByIndex_rule rf hv i, pgResultFormat_lt rf i hi, hc]
    simp only
    rw [ih (i + 1) (by omega)]
    have hd : rf.drop i = rf[i] :: rf.drop (i + 1) := (List.drop_eq_getElem_cons hi)
    rw [hd]
    rcases hcv with h0 | h1
    · rw [h0]; rfl
    · rw [h1]; rfl

/-- `GetResultFormats` on valid codes gives back the declared codes -/
theorem getResultFormats_valid (rf : List Nat) (hv : ValidCodes rf) : getResultFormats rf = .ok rf := by
  unfold getResultFormats
  rw [resolveFormats_valid rf hv rf.length 0 (by omega)]
  rfl

/-- **the format the proxy uses for column `i` is the format PostgreSQL assigns to column `i`** – for every list of
valid result-format codes and EVERY column index: no code → text, one code → that code for all columns, one code per
column → the column's own code; a column without a code is an error (PostgreSQL rejects such a Bind). Depends on the
regenerated shape of the lookup (`GetParameterFormatByIndex(i, bindPacket.resultFormats)`, no index guard). -/
theorem columnFormat_rule (rf : List Nat) (hv : ValidCodes rf) (i : Nat) :
    columnFormat (some rf) i =
      match pgResultFormat rf i with
      | some c => .ok (c == 1)
      | none => .err := by
  simp only [columnFormat, getResultFormats_valid rf hv]
  unfold columnFormatOf
  have h1 : Generated.Typed.pgRowFormatSlice = 0 := rfl
  have h2 : Generated.Typed.pgRowFormatIndexGuard = false := rfl
  have h3 : Generated.Typed.pgRowFormatOp = 0 := rfl
  simp only [h1, h2, h3, if_true, Bool.false_eq_true, false_and, if_false]
  rw [formatByIndex_rule rf hv i]
  cases pgResultFormat rf i with
  | none => rfl
  | some c =>
    simp only [formatCode_eq]
    cases hc : (c == 1) <;> simp

/-- a simple query (no Bind packet): every column is text -/
theorem columnFormat_simple (i : Nat) : columnFormat none i = .ok false := by
  simp [columnFormat, Generated.Typed.pgRowFormatDefault, Generated.Typed.pgDataFormatBinary]

/-- the outcome of column `i` alone: its result format, then the subscriber chain from `cur` -/
def pgColRes (rf : Option (List Nat)) (cur : Ctx) (i : Nat) (c : RowColumn) (wire : Bytes) : Res :=
  match columnFormat rf i with
  | .ok binary => (pgColumnChain cur c binary wire).2
  | _ => .otherError

def pgColsFrom (rf : Option (List Nat)) (cur : Ctx) : Nat → List (RowColumn × Option Bytes) → List (Option Res)
  | _, [] => []
  | i, (c, v) :: rest => v.map (pgColRes rf cur i c) :: pgColsFrom rf cur (i + 1) rest

theorem pgColsFrom_length (rf : Option (List Nat)) (cur : Ctx) (i : Nat) (cols : List (RowColumn × Option Bytes)) :
    (pgColsFrom rf cur i cols).length = cols.length := by
  induction cols generalizing i with
  | nil => rfl
  | cons x xs ih => simp [pgColsFrom, ih]

theorem pgColsFrom_getElem? (rf : Option (List Nat)) (cur : Ctx) (i : Nat) (cols : List (RowColumn × Option Bytes))
    (k : Nat) :
    (pgColsFrom rf cur i cols)[k]? = (cols[k]?).map fun cv => cv.2.map (pgColRes rf cur (i + k) cv.1) := by
  induction cols generalizing i k with
  | nil => simp [pgColsFrom]
  | cons x xs ih =>
    obtain ⟨c, v⟩ := x
    cases k with
    | zero => simp [pgColsFrom]
    | succ k =>
      simp only [pgColsFrom, List.getElem?_cons_succ]
      rw [ih (i + 1) k]
      have : i + 1 + k = i + (k + 1) := by omega
      rw [this]

/-- **the PostgreSQL row loop without a carried context is a map over the columns** -/
theorem pgRowLoop_uncarried (rf : Option (List Nat)) (cur : Ctx) (i : Nat) (cols : List (RowColumn × Option Bytes)) :
    pgRowLoop false rf cur i cols = collectRow (pgColsFrom rf cur i cols) := by
  induction cols generalizing i with
  | nil => rfl
  | cons x xs ih =>
    obtain ⟨c, v⟩ := x
    cases v with
    | none => simp only [pgRowLoop, pgColsFrom, Option.map_none, collectRow, ih]
    | some wire =>
      simp only [pgRowLoop, pgColsFrom, Option.map_some, pgColRes]
      cases hf : columnFormat rf i with
      | ok binary =>
        simp only
        cases hc : pgColumnChain cur c binary wire with
        | mk ret res =>
          cases res with
          | value b rb => simp only [collectRow, Bool.false_eq_true, if_false, ih]
          | encodingError | otherError => simp only [collectRow]
      | err | panic => simp only [collectRow]

/-- a column that has a setting, processed from the fresh context, is the single-column read path `pgTypedRead` -/
theorem pgColumnChain_fresh (c : RowColumn) (s : Setting) (d64 : Default64) (binary : Bool) (wire : Bytes)
    (hs : c.setting = some (s, d64)) :
    (pgColumnChain Ctx.fresh c binary wire).2 = pgTypedRead s binary d64 c.reveal wire := by
  unfold pgColumnChain pgTypedRead
  simp only [hs, Ctx.fresh, Option.getD_some]
  cases hd : pgDecode s binary wire with
  | none => rfl
  | some x =>
    simp only
    cases hsv : pgSavesEncoded s binary wire <;> cases hr : c.reveal x <;> simp

/-! ### columns without a setting: the decoder → encoder subscribers relay the value -/

theorem decodeEscaped_cases (d : Bytes) :
    (∃ x, Bytea.decodeEscaped d = .ok x) ∨ Bytea.decodeEscaped d = .error .octal ∨
      Bytea.decodeEscaped d = .error .hex := by
  cases h : Bytea.decodeEscaped d with
  | ok x => exact Or.inl ⟨x, rfl⟩
  | error e => cases e <;> simp

theorem pgChainNoSetting_identity (binary : Bool) (d : Bytes) :
    pgChainNoSetting binary d = .ok d ∨
      (Bytea.decodeEscaped d = .error .hex ∧ pgChainNoSetting binary d = .err) := by
  unfold pgChainNoSetting pgColumnChain plainColumn
  simp only [Ctx.fresh, Option.getD_none, emptySetting, pgDecode, pgDecodeText, pgSavesEncoded, if_true]
  rcases decodeEscaped_cases d with ⟨x, hd⟩ | hd | hd
  · left
    simp [hd, pgEncode, Except.toOption]
  · left
    simp [hd, pgEncode, Except.toOption]
  · right
    simp [hd]

/-- fixed-width integer column types of the MySQL binary protocol and their widths
(TINY 1, SHORT 2, YEAR 13, INT24 9, LONG 3, LONGLONG 8) -/
def intWidth (t : Nat) : Option Nat :=
  if t = 1 then some 1
  else if t = 2 ∨ t = 13 then some 2
  else if t = 9 ∨ t = 3 then some 4
  else if t = 8 then some 8
  else none

theorem intWidth_cases (t k : Nat) (h : intWidth t = some k) :
    (t = 1 ∧ k = 1) ∨ (t = 2 ∧ k = 2) ∨ (t = 13 ∧ k = 2) ∨ (t = 9 ∧ k = 4) ∨ (t = 3 ∧ k = 4) ∨ (t = 8 ∧ k = 8) := by
  unfold intWidth at h
  by_cases h1 : t = 1
  · rw [if_pos h1] at h; cases h; exact .inl ⟨h1, rfl⟩
  rw [if_neg h1] at h
  by_cases h2 : t = 2 ∨ t = 13
  · rw [if_pos h2] at h; cases h
    exact .inr (h2.elim (fun e => .inl ⟨e, rfl⟩) fun e => .inr (.inl ⟨e, rfl⟩))
  rw [if_neg h2] at h
  by_cases h3 : t = 9 ∨ t = 3
  · rw [if_pos h3] at h; cases h
    exact .inr (.inr (.inr (h3.elim (fun e => .inl ⟨e, rfl⟩) fun e => .inr (.inl ⟨e, rfl⟩))))
  rw [if_neg h3] at h
  by_cases h4 : t = 8
  · rw [if_pos h4] at h; cases h; exact .inr (.inr (.inr (.inr (.inr ⟨h4, rfl⟩))))
  · rw [if_neg h4] at h; cases h

theorem myChainNoSetting_int (t k : Nat) (v : Bytes) (ht : intWidth t = some k) (hv : v.length = k) :
    myChainNoSetting true t v = .ok v := by
  have hk1 : 1 ≤ k := by rcases intWidth_cases t k ht with h | h | h | h | h | h <;> omega
  have hemp : (formatInt (leToInt v)).isEmpty = false := List.isEmpty_eq_false_iff.mpr (formatInt_ne_nil _)
  have hr := leToInt_inRange v (by omega)
  rw [hv] at hr
  have hp : parseInt (formatInt (leToInt v)) (8 * k) = some (leToInt v) := parseInt_formatInt (8 * k) _ (by omega) hr
  have hle : intToLE k (leToInt v) = v := by
    have := intToLE_leToInt v (by omega)
    rwa [hv] at this
  have htake : v.take k = v := List.take_of_length_le (by omega)
  unfold myChainNoSetting myColumnChain plainColumn
  rcases intWidth_cases t k ht with ⟨rfl, rfl⟩ | ⟨rfl, rfl⟩ | ⟨rfl, rfl⟩ | ⟨rfl, rfl⟩ | ⟨rfl, rfl⟩ | ⟨rfl, rfl⟩ <;>
    simp [Ctx.fresh, emptySetting, myDecode, myEncode, myEncodeBinaryAs, Generated.Typed.myTypeTiny,
      Generated.Typed.myTypeShort, Generated.Typed.myTypeYear, Generated.Typed.myTypeInt24, Generated.Typed.myTypeLong,
      Generated.Typed.myTypeLongLong, Generated.Typed.myTypeNull, hv, htake, hemp, hp, hle]

theorem myChainNoSetting_text (t : Nat) (v : Bytes) : myChainNoSetting false t v = .ok (lenenc v) := by
  unfold myChainNoSetting myColumnChain plainColumn
  simp only [Ctx.fresh, Option.getD_none, emptySetting, myDecode, myEncode]
  cases v <;> simp

theorem myChainNoSetting_blob (t : Nat) (v : Bytes) (hb : blobLike t) : myChainNoSetting true t v = .ok (lenenc v) := by
  obtain ⟨h0, h1, h2, h3, h4, h5, h6, h8, h9, h13⟩ := hb
  unfold myChainNoSetting myColumnChain plainColumn
  cases v <;>
    simp [Ctx.fresh, emptySetting, myDecode, myEncode, myEncodeBinaryAs, Generated.Typed.myTypeTiny,
      Generated.Typed.myTypeShort, Generated.Typed.myTypeYear, Generated.Typed.myTypeInt24, Generated.Typed.myTypeLong,
      Generated.Typed.myTypeLongLong, Generated.Typed.myTypeNull, h1, h2, h3, h6, h8, h9, h13]

end AcraModel.Typed
