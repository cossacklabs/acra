import AcraModel.Keystore.Calls
/-! Which storage calls can change a current key file or shrink a history; what one back-end call and one
locked phase of the v2 store leave behind under a fault (C08). -/
namespace AcraModel.Keystore

/-- calls that never touch a current file -/
def Call.keepsCur : Call → Bool
  | .rename _ _ | .remove _ => false
  | _ => true

/-- calls that never remove a history file -/
def Call.keepsOld : Call → Bool
  | .removeOld _ _ => false
  | _ => true

theorem applyCall_keepsCur {fs fs' : FS} {c : Call} (hc : c.keepsCur = true) (h : applyCall fs c = some fs') :
    fs'.cur = fs.cur := by
  cases c <;> simp [Call.keepsCur] at hc <;> simp [applyCall] at h
  all_goals (try (subst h; rfl))
  all_goals (try (split at h <;> simp at h <;> (try (subst h; rfl))))
  all_goals (obtain ⟨_, h⟩ := h; subst h; rfl)

/-- `Link` and `Copy` succeed only on an existing file whose history directory exists; they append its content to the history -/
theorem applyCall_backup {fs fs' : FS} {f : FileId} {x : Call} (hx : x = .link f ∨ x = .copy f)
    (h : applyCall fs x = some fs') :
    ∃ c1, fs.cur f = some c1 ∧ fs.oldDir f = true ∧
      fs' = { fs with old := upd fs.old f (fs.old f ++ [(fs.clock, c1)]), clock := fs.clock + 1 } := by
  have h' : applyCall fs (.link f) = some fs' := by rcases hx with rfl | rfl <;> exact h
  cases hc1 : fs.cur f with
  | none => simp [applyCall, hc1] at h'
  | some c1 =>
    by_cases hd : fs.oldDir f = true
    · exact ⟨c1, rfl, hd, by simpa [applyCall, hc1, hd] using h'.symm⟩
    · simp [applyCall, hc1, hd] at h'

theorem applyCall_keepsOld {fs fs' : FS} {c : Call} (hc : c.keepsOld = true) (h : applyCall fs c = some fs') (f' : FileId) :
    ∃ l, fs'.old f' = fs.old f' ++ l := by
  have grow : ∀ (f : FileId) (c0 : Content), ∃ l, upd fs.old f (fs.old f ++ [(fs.clock, c0)]) f' = fs.old f' ++ l := by
    intro f c0
    by_cases hf : f' = f
    · subst hf; exact ⟨[(fs.clock, c0)], by simp⟩
    · exact ⟨[], by simp [upd, hf]⟩
  cases c with
  | removeOld f t => simp [Call.keepsOld] at hc
  | link f | copy f =>
    obtain ⟨c1, -, -, rfl⟩ := applyCall_backup (f := f) (by simp) h
    exact grow f c1
  | writeFile id f c0 | rename id f | readDirOld f =>
    simp only [applyCall] at h
    split at h
    · cases h; exact ⟨[], by simp⟩
    · cases h
  | mkdirAll f | tempFile f | stat f | mkdirOld f | remove f | readDirHist f =>
    simp only [applyCall] at h; cases h; exact ⟨[], by simp⟩

theorem applyAll_keeps (fs : FS) (cs : List Call) (h1 : ∀ c ∈ cs, c.keepsCur = true) (h2 : ∀ c ∈ cs, c.keepsOld = true) :
    (applyAll fs cs).1.cur = fs.cur ∧ ∀ f', ∃ l, (applyAll fs cs).1.old f' = fs.old f' ++ l := by
  induction cs generalizing fs with
  | nil => exact ⟨rfl, fun _ => ⟨[], by simp [applyAll]⟩⟩
  | cons c cs ih =>
    simp only [applyAll]
    cases hc : applyCall fs c with
    | none => exact ⟨rfl, fun _ => ⟨[], by simp⟩⟩
    | some fs' =>
      have hcur := applyCall_keepsCur (h1 c (by simp)) hc
      have ih' := ih fs' (fun c' hc' => h1 c' (by simp [hc'])) (fun c' hc' => h2 c' (by simp [hc']))
      refine ⟨by simpa [hcur] using ih'.1, fun f' => ?_⟩
      obtain ⟨l1, hl1⟩ := applyCall_keepsOld (h2 c (by simp)) hc f'
      obtain ⟨l2, hl2⟩ := ih'.2 f'
      exact ⟨l1 ++ l2, by simp [hl2, hl1]⟩

/-- `WriteKeyFile` is a list of calls none of which touches a current file or removes a history file,
followed by one `Rename` of the temporary over the target. -/
theorem writeKeyFileCalls_shape (fs : FS) (f : FileId) (c : Content) :
    ∃ pre, writeKeyFileCalls fs f c = pre ++ [.rename fs.nextTmp f] ∧
      (∀ x ∈ pre, x.keepsCur = true) ∧ (∀ x ∈ pre, x.keepsOld = true) := by
  unfold writeKeyFileCalls
  cases (fs.cur f).isSome <;> exact ⟨_, rfl, List.all_eq_true.1 rfl, List.all_eq_true.1 rfl⟩

theorem tmps_fresh_filter_map (n : Nat) (c : Content) (l : List (Nat × FileId × Content)) (h : ∀ t ∈ l, t.1 ≠ n) :
    List.filter (fun x => !decide (x.fst = n)) (List.map (fun t => if t.fst = n then (t.fst, t.snd.fst, c) else t) l) = l := by
  induction l with
  | nil => rfl
  | cons t ts ih =>
    have ht : t.1 ≠ n := h t List.mem_cons_self
    have ih' := ih (fun t' ht' => h t' (List.mem_cons_of_mem _ ht'))
    simp [ht, ih']

/-- temporary-file ids are handed out from a counter: no existing temporary carries the next id -/
def FS.TmpFresh (fs : FS) : Prop := ∀ t ∈ fs.tmps, t.1 ≠ fs.nextTmp

/-- A completed `WriteKeyFile` installs exactly the new content in the target, leaves every other
current file alone and leaves no temporary file behind. -/
theorem writeKeyFile_complete (fs : FS) (f : FileId) (c : Content) (hf : fs.TmpFresh) :
    (applyAll fs (writeKeyFileCalls fs f c)).2 = true ∧
    (applyAll fs (writeKeyFileCalls fs f c)).1.cur = upd fs.cur f (some c) ∧
    (applyAll fs (writeKeyFileCalls fs f c)).1.tmps = fs.tmps := by
  unfold writeKeyFileCalls
  -- with or without a previous content to back up, the temporary is written, renamed away, and gone
  cases h : fs.cur f <;> simp [h, applyAll, applyCall, FS.tmpContent] <;> exact tmps_fresh_filter_map _ _ _ hf

theorem X2.call_st (ft : Fault) (x : X2) (c : BCall) (eff : V2 → V2) :
    (x.call ft c eff).1.st = x.st ∨ (x.call ft c eff).1.st = eff x.st := by
  unfold X2.call
  simp only
  split <;> (try simp)
  split <;> simp

theorem X2.call_id_st (ft : Fault) (x : X2) (c : BCall) : (x.call ft c id).1.st = x.st := by
  rcases X2.call_st ft x c id with h | h <;> simpa using h

theorem X2.call_spec (ft : Fault) (x : X2) (c : BCall) (eff : V2 → V2) :
    ∃ x' o, x.call ft c eff = (x', o) ∧ (x'.st = x.st ∨ x'.st = eff x.st) :=
  ⟨_, _, rfl, X2.call_st ft x c eff⟩

theorem X2.call_id_spec (ft : Fault) (x : X2) (c : BCall) : ∃ x' o, x.call ft c id = (x', o) ∧ x'.st = x.st :=
  ⟨_, _, rfl, X2.call_id_st ft x c⟩

theorem X2.unlockFail_st (ft : Fault) (x : X2) : (x.unlockFail ft).st = x.st := by
  unfold X2.unlockFail
  obtain ⟨x', o, e, h⟩ := X2.call_id_spec ft x .unlock
  rw [e]
  cases o <;> exact h

/-- Invariant transfer for one phase: any property of the back end that is preserved by creating the
temporary and by renaming it over the ring with *the computed content* holds after the phase,
whatever the fault. -/
theorem X2.phase_inv (ft : Fault) (x : X2) (s : Slot) (compute : Option Ring → Option (Option Ring))
    (P : V2 → Prop) (h0 : P x.st)
    (hput : ∀ st, P st → P { st with newTmp := upd st.newTmp s true })
    (hren : ∀ st r, compute (x.st.rings s) = some (some r) → P st →
      P { st with rings := upd st.rings s (some r), newTmp := upd st.newTmp s false }) :
    P (x.phase ft s compute).st := by
  -- follows `X2.phase` call by call: Lock, Get, `compute`, Put `.new`, Rename, Unlock; of each call's
  -- outcome `none` is a crash, `some false` an injected error (then `unlockFail`), `some true` success
  unfold X2.phase
  by_cases hout : x.out ≠ .ok
  · rw [if_pos hout]; exact h0
  rw [if_neg hout]
  obtain ⟨x1, o1, e, e1⟩ := X2.call_id_spec ft x .lock
  rw [e]
  match o1 with
  | none => simpa [e1] using h0
  | some false => simpa [e1] using h0
  | some true =>
    obtain ⟨x2, o2, e, e2⟩ := X2.call_id_spec ft x1 (.get s)
    replace e2 : x2.st = x.st := e2.trans e1
    simp only [e]
    match o2 with
    | none => simpa [e2] using h0
    | some false => simpa [X2.unlockFail_st, e2] using h0
    | some true =>
      simp only [e2]
      cases hcomp : compute (x.st.rings s) with
      | none => simpa [X2.unlockFail_st, e2] using h0
      | some w =>
        have hend : ∀ x3 : X2, P x3.st → P (match x3.call ft .unlock id with
            | (x, some false) => { x with out := .err }
            | (x, _) => x).st := by
          intro x3 h3
          obtain ⟨x4, o4, e, e4⟩ := X2.call_id_spec ft x3 .unlock
          rw [e]
          match o4 with
          | none => simpa [e4] using h3
          | some false => simpa [e4] using h3
          | some true => simpa [e4] using h3
        cases w with
        | none => exact hend x2 (e2 ▸ h0)
        | some r =>
          simp only
          by_cases htmp : x.st.newTmp s = true
          · -- leftover temporary: Put fails
            rw [if_pos htmp]
            obtain ⟨x3, o3, e, e3⟩ := X2.call_id_spec ft x2 (.putNew s)
            rw [e]
            match o3 with
            | none => simpa [e3, e2] using h0
            | some b => simpa [X2.unlockFail_st, e3, e2] using h0
          · rw [if_neg htmp]
            obtain ⟨x3, o3, e, e3⟩ := X2.call_spec ft x2 (.putNew s) (fun st => { st with newTmp := upd st.newTmp s true })
            rw [e]
            have h3 : P x3.st := by
              rcases e3 with e3 | e3 <;> rw [e3, e2]
              · exact h0
              · exact hput _ h0
            match o3 with
            | none => exact h3
            | some false => simpa [X2.unlockFail_st] using h3
            | some true =>
              simp only
              obtain ⟨x4, o4, e, e4⟩ := X2.call_spec ft x3 (.renameNew s)
                (fun st => { st with rings := upd st.rings s (some r), newTmp := upd st.newTmp s false })
              rw [e]
              have h4 : P x4.st := by
                rcases e4 with e4 | e4 <;> rw [e4]
                · exact h3
                · exact hren _ r hcomp h3
              match o4 with
              | none => exact h4
              | some false => simpa [X2.unlockFail_st] using h4
              | some true => exact hend x4 h4

end AcraModel.Keystore
