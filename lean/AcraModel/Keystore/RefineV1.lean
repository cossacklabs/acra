import AcraModel.Keystore.RefineFS
/-!
# v1: the invariant of runs without destroy-current and the abstraction to the specification

`FSInv`: per key file the current file holds the newest generation, the history directory holds older
generations in increasing order of both name (time) and generation, public files mirror private ones
for key pairs. `absFS` reads the specification's state off such a storage.
-/
namespace AcraModel.Keystore

/-- generations held by the history directory of `f`, in directory order -/
def FS.oldIds (fs : FS) (f : FileId) : List Nat := (fs.old f).map (·.2.raw)

/-- Key file `f` after `n` generations (no destroy-current): the current file holds generation `n`;
the history holds complete older generations, increasing in name and in generation. -/
structure FileOK (fs : FS) (f : FileId) (n : Nat) : Prop where
  cur : fs.cur f = if n = 0 then none else some (.full n)
  full : ∀ e ∈ fs.old f, e.2 = .full e.2.raw
  sorted : (fs.oldIds f).Pairwise (· < ·)
  bound : ∀ g ∈ fs.oldIds f, 0 < g ∧ g < n
  times : (fs.old f).Pairwise (fun a b => a.1 < b.1)
  clock : ∀ e ∈ fs.old f, e.1 < fs.clock
  dir : fs.old f ≠ [] → fs.oldDir f = true

/-- `FileOK` survives when the history loses entries, the clock advances and the generation counter grows -/
theorem FileOK.of_sublist {fs fs' : FS} {f : FileId} {n n' : Nat} (h : FileOK fs f n)
    (hc : fs'.cur f = if n' = 0 then none else some (.full n')) (ho : (fs'.old f).Sublist (fs.old f)) (hn : n ≤ n')
    (hk : fs.clock ≤ fs'.clock) (hd : fs'.old f ≠ [] → fs'.oldDir f = true) : FileOK fs' f n' := by
  have hids : (fs'.oldIds f).Sublist (fs.oldIds f) := ho.map _
  refine ⟨hc, fun e he => h.full e (ho.subset he), h.sorted.sublist hids, ?_, h.times.sublist ho, ?_, hd⟩
  · intro g hg; have := h.bound g (hids.subset hg); omega
  · intro e he; exact Nat.lt_of_lt_of_le (h.clock e (ho.subset he)) hk

theorem FileOK.congr {fs fs' : FS} {f : FileId} {n : Nat} (h : FileOK fs f n) (hc : fs'.cur f = fs.cur f)
    (ho : fs'.old f = fs.old f) (hd : fs'.oldDir f = fs.oldDir f) (hk : fs.clock ≤ fs'.clock) : FileOK fs' f n :=
  h.of_sublist (hc ▸ h.cur) (ho ▸ List.Sublist.refl _) (Nat.le_refl n) hk (by rw [ho, hd]; exact h.dir)

theorem FileOK.distinct {fs : FS} {f : FileId} {n : Nat} (h : FileOK fs f n) : fs.OldDistinct f :=
  h.times.imp (by intro a b hab; exact Nat.ne_of_lt hab)

theorem FileOK.old_nil {fs : FS} {f : FileId} (h : FileOK fs f 0) : fs.old f = [] := by
  cases ho : fs.old f with
  | nil => rfl
  | cons e es =>
    have := h.bound e.2.raw (by simp [FS.oldIds, ho])
    omega

theorem FileOK.pos_of_old {fs : FS} {f : FileId} {n : Nat} (h : FileOK fs f n) (hne : fs.old f ≠ []) : n ≠ 0 :=
  fun hn => hne (hn ▸ h).old_nil

theorem FileOK.written_other {fs : FS} {f f' : FileId} {n : Nat} (c : Content) (h : FileOK fs f' n) (hne : f' ≠ f) :
    FileOK (fs.written f c) f' n :=
  h.congr (by rw [FS.written_cur]; simp [upd, hne]) (FS.written_old_other _ _ _ _ hne)
    (FS.written_oldDir_other _ _ _ _ hne) (FS.written_clock _ _ _)

theorem FileOK.ids_sorted {fs : FS} {f : FileId} {n : Nat} (h : FileOK fs f n) :
    (fs.oldIds f ++ [n]).Pairwise (· < ·) := by
  rw [List.pairwise_append]
  refine ⟨h.sorted, by simp, ?_⟩
  intro a ha b hb
  have : b = n := by simpa using hb
  subst this
  exact (h.bound a ha).2

theorem FileOK.written_same {fs : FS} {f : FileId} {n : Nat} (h : FileOK fs f n) :
    FileOK (fs.written f (.full (n + 1))) f (n + 1) := by
  have hcur' : (fs.written f (.full (n + 1))).cur f = some (.full (n + 1)) := by rw [FS.written_cur]; simp
  by_cases hn : n = 0
  · subst hn
    have hc : fs.cur f = none := by simpa using h.cur
    have ho := FS.written_old_none fs f (.full 1) hc
    exact h.of_sublist (by simpa using hcur') (ho ▸ List.Sublist.refl _) (Nat.zero_le 1) (FS.written_clock _ _ _)
      (by rw [ho, FS.written_oldDir_none fs f _ hc]; exact h.dir)
  · have hc : fs.cur f = some (.full n) := by simpa [hn] using h.cur
    obtain ⟨ho, hd, hk⟩ := FS.written_old_some fs f (.full (n + 1)) (.full n) hc
    refine ⟨by simpa using hcur', ?_, ?_, ?_, ?_, ?_, ?_⟩
    · rw [ho]; intro e he
      rcases List.mem_append.1 he with he | he
      · exact h.full e he
      · have : e = (fs.clock, Content.full n) := by simpa using he
        subst this; rfl
    · simp only [FS.oldIds, ho, List.map_append, List.map_cons, List.map_nil, Content.raw]
      exact h.ids_sorted
    · simp only [FS.oldIds, ho, List.map_append, List.map_cons, List.map_nil, Content.raw]
      intro g hg
      rcases List.mem_append.1 hg with hg | hg
      · have := h.bound g hg; omega
      · have : g = n := by simpa using hg
        omega
    · rw [ho, List.pairwise_append]
      refine ⟨h.times, by simp, ?_⟩
      intro a ha b hb
      have : b = (fs.clock, Content.full n) := by simpa using hb
      subst this
      exact h.clock a ha
    · rw [ho, hk]; intro e he
      rcases List.mem_append.1 he with he | he
      · have := h.clock e he; omega
      · have : e = (fs.clock, Content.full n) := by simpa using he
        subst this; simp
    · intro _; exact hd

theorem FS.written_old_length (fs : FS) (f : FileId) (c : Content) :
    ((fs.written f c).old f).length = (fs.old f).length + (if (fs.cur f).isSome then 1 else 0) := by
  cases h : fs.cur f with
  | none => simp [FS.written_old_none fs f c h]
  | some c0 => simp [(FS.written_old_some fs f c c0 h).1]

theorem priv_ne_pub (s s' : Slot) : privFile s ≠ pubFile s' := by simp [privFile, pubFile]
theorem pub_ne_priv (s s' : Slot) : pubFile s ≠ privFile s' := by simp [privFile, pubFile]
theorem priv_ne_priv {s s' : Slot} (h : s ≠ s') : privFile s ≠ privFile s' := by simp [privFile, h]
theorem pub_ne_pub {s s' : Slot} (h : s ≠ s') : pubFile s ≠ pubFile s' := by simp [pubFile, h]

/-- invariant of the storage in runs without destroy-current and without faults -/
structure FSInv (fs : FS) (count : Slot → Nat) : Prop where
  tmps : fs.tmps = []
  priv : ∀ s, FileOK fs (privFile s) (count s)
  pub : ∀ s, FileOK fs (pubFile s) (if s.kind.isPair then count s else 0)
  len : ∀ s, s.kind.isPair = true → (fs.old (pubFile s)).length = (fs.old (privFile s)).length

theorem FSInv.init : FSInv FS.init (fun _ => 0) := by
  have h : ∀ f, FileOK FS.init f 0 := fun f =>
    ⟨rfl, by simp [FS.init], by simp [FS.oldIds, FS.init], by simp [FS.oldIds, FS.init], by simp [FS.init],
      by simp [FS.init], by simp [FS.init]⟩
  exact ⟨rfl, fun s => h _, fun s => by simpa using h _, fun s _ => rfl⟩

theorem FSInv.generated {fs : FS} {count : Slot → Nat} (h : FSInv fs count) (s : Slot) :
    FSInv (fs.generated s (count s + 1)) (upd count s (count s + 1)) := by
  unfold FS.generated
  cases hp : s.kind.isPair
  · -- one file
    simp only [Bool.false_eq_true, if_false]
    refine ⟨FS.written_tmps _ _ _, ?_, ?_, ?_⟩
    · intro s'
      by_cases hs : s' = s
      · subst hs; simpa using (h.priv s').written_same
      · simpa [upd, hs] using (h.priv s').written_other _ (priv_ne_priv hs)
    · intro s'
      have := (h.pub s').written_other (f := privFile s) (.full (count s + 1)) (pub_ne_priv _ _)
      by_cases hs : s' = s
      · subst hs; simpa [hp] using this
      · simpa [upd, hs] using this
    · intro s' hp'
      have hs : s' ≠ s := by intro e; subst e; simp [hp] at hp'
      rw [FS.written_old_other _ _ _ _ (pub_ne_priv _ _), FS.written_old_other _ _ _ _ (priv_ne_priv hs)]
      exact h.len s' hp'
  · -- key pair: private file, then public file
    simp only [if_true]
    refine ⟨FS.written_tmps _ _ _, ?_, ?_, ?_⟩
    · intro s'
      by_cases hs : s' = s
      · subst hs
        simpa using ((h.priv s').written_same).written_other (f := pubFile s') _ (priv_ne_pub _ _)
      · simpa [upd, hs] using ((h.priv s').written_other _ (priv_ne_priv hs)).written_other (f := pubFile s) _ (priv_ne_pub _ _)
    · intro s'
      have h1 := (h.pub s').written_other (f := privFile s) (.full (count s + 1)) (pub_ne_priv _ _)
      by_cases hs : s' = s
      · subst hs
        simp only [hp, if_true] at h1
        simpa [hp] using h1.written_same
      · simpa [upd, hs] using h1.written_other (f := pubFile s) _ (pub_ne_pub hs)
    · intro s' hp'
      by_cases hs : s' = s
      · subst hs
        rw [FS.written_old_length, FS.written_old_other _ _ (privFile s') _ (priv_ne_pub _ _),
          FS.written_old_other _ _ (pubFile s') _ (pub_ne_priv _ _), FS.written_old_length, h.len s' hp']
        have e1 : (fs.written (privFile s') (.full (count s' + 1))).cur (pubFile s') = fs.cur (pubFile s') := by
          rw [FS.written_cur]; simp [upd, pub_ne_priv]
        rw [e1, (h.priv s').cur, (h.pub s').cur]
        simp only [hp', if_true]
      · rw [FS.written_old_other _ _ _ _ (pub_ne_pub hs), FS.written_old_other _ _ _ _ (pub_ne_priv _ _),
          FS.written_old_other _ _ _ _ (priv_ne_pub _ _), FS.written_old_other _ _ _ _ (priv_ne_priv hs)]
        exact h.len s' hp'

theorem FS.drotted_fail {fs : FS} {f : FileId} {i : Nat} (h : (fs.drotted f i).2 = false) : (fs.drotted f i).1 = fs := by
  unfold FS.drotted at h ⊢
  split <;> simp_all

theorem FS.drotted_ok_iff (fs : FS) (f : FileId) (i : Nat) :
    (fs.drotted f i).2 = true ↔ (fs.oldDir f = true ∧ 2 ≤ i ∧ i ≤ (fs.old f).length + 1) := by
  unfold FS.drotted
  split <;> simp_all

theorem FS.drotted_fields (fs : FS) (f : FileId) (i : Nat) :
    (fs.drotted f i).1.cur = fs.cur ∧ (fs.drotted f i).1.oldDir = fs.oldDir ∧ (fs.drotted f i).1.clock = fs.clock ∧
    (fs.drotted f i).1.tmps = fs.tmps ∧ ∀ f', f' ≠ f → (fs.drotted f i).1.old f' = fs.old f' := by
  unfold FS.drotted
  split
  · refine ⟨rfl, rfl, rfl, rfl, ?_⟩
    intro f' hf'; simp [upd, hf']
  · exact ⟨rfl, rfl, rfl, rfl, fun _ _ => rfl⟩

theorem FS.drotted_old (fs : FS) (f : FileId) (i : Nat) (h : (fs.drotted f i).2 = true) :
    (fs.drotted f i).1.old f = (fs.old f).eraseIdx (i - 2) := by
  have h' := (FS.drotted_ok_iff fs f i).1 h
  unfold FS.drotted
  rw [if_pos h']
  simp

theorem FileOK.drotted_other {fs : FS} {f f' : FileId} {n : Nat} (i : Nat) (h : FileOK fs f' n) (hne : f' ≠ f) :
    FileOK (fs.drotted f i).1 f' n := by
  obtain ⟨h1, h2, h3, _, h5⟩ := FS.drotted_fields fs f i
  exact h.congr (by rw [h1]) (h5 f' hne) (by rw [h2]) (by rw [h3]; exact Nat.le_refl _)

theorem FileOK.drotted_same {fs : FS} {f : FileId} {n : Nat} (i : Nat) (h : FileOK fs f n) :
    FileOK (fs.drotted f i).1 f n := by
  cases hok : (fs.drotted f i).2
  · rw [FS.drotted_fail hok]; exact h
  · obtain ⟨h1, h2, h3, _, _⟩ := FS.drotted_fields fs f i
    have ho := FS.drotted_old fs f i hok
    refine h.of_sublist (h1 ▸ h.cur) (ho ▸ List.eraseIdx_sublist _ _) (Nat.le_refl n) (Nat.le_of_eq h3.symm) ?_
    rw [ho, h2]; intro hne; apply h.dir; intro hnil; rw [hnil] at hne; simp at hne

/-- storage after destroy-rotated of slot `s`, in closed form -/
def FS.slotDrotted (fs : FS) (s : Slot) (i : Nat) : FS :=
  if ¬ s.kind.canDestroy then fs else
  if ¬ (fs.drotted (privFile s) i).2 then fs else
  if s.kind.isPair then ((fs.drotted (privFile s) i).1.drotted (pubFile s) i).1 else (fs.drotted (privFile s) i).1

theorem fsStep_gen {fs : FS} {count : Slot → Nat} (h : FSInv fs count) (s : Slot) :
    fsStep fs count (.gen s) = fs.generated s (count s + 1) := by
  simp [fsStep, applyAll_genCalls fs s _ h.tmps]

theorem fsStep_drot {fs : FS} {count : Slot → Nat} (h : FSInv fs count) (s : Slot) (i : Nat) :
    fsStep fs count (.drot s i) = fs.slotDrotted s i := by
  unfold fsStep FS.slotDrotted
  by_cases hc : s.kind.canDestroy = true
  · simp only [hc, not_true_eq_false, if_false]
    obtain ⟨e1, e2⟩ := applyAll_drotFileCalls fs (privFile s) i (h.priv s).distinct
    rw [e1, e2]
    cases hok : (fs.drotted (privFile s) i).2
    · simp [FS.drotted_fail hok]
    · simp only [not_true_eq_false, if_false, Bool.not_eq_true]
      cases hp : s.kind.isPair
      · simp
      · simp only [if_true]
        have hpub := ((h.pub s).drotted_other (f := privFile s) i (pub_ne_priv _ _)).distinct
        exact (applyAll_drotFileCalls _ (pubFile s) i hpub).1
  · simp [hc]

/-- the public file of a key pair has as many history entries as the private file, so it accepts the same indices -/
theorem FSInv.drotted_pub_ok {fs : FS} {count : Slot → Nat} (h : FSInv fs count) (s : Slot) (i : Nat)
    (hp : s.kind.isPair = true) (hok : (fs.drotted (privFile s) i).2 = true) :
    ((fs.drotted (privFile s) i).1.drotted (pubFile s) i).2 = true := by
  obtain ⟨c1, d1, k1, t1, o1⟩ := FS.drotted_fields fs (privFile s) i
  have hok' := (FS.drotted_ok_iff _ _ _).1 hok
  have hlen := h.len s hp
  have hpubold : (fs.drotted (privFile s) i).1.old (pubFile s) = fs.old (pubFile s) := o1 _ (pub_ne_priv _ _)
  rw [FS.drotted_ok_iff, hpubold, d1, hlen]
  exact ⟨(h.pub s).dir (List.ne_nil_of_length_pos (by omega)), hok'.2.1, hok'.2.2⟩

theorem FSInv.slotDrotted {fs : FS} {count : Slot → Nat} (h : FSInv fs count) (s : Slot) (i : Nat) :
    FSInv (fs.slotDrotted s i) count := by
  unfold FS.slotDrotted
  by_cases hc : s.kind.canDestroy = true
  · simp only [hc, not_true_eq_false, if_false]
    cases hok : (fs.drotted (privFile s) i).2
    · simpa using h
    · simp only [not_true_eq_false, if_false, Bool.not_eq_true]
      obtain ⟨c1, d1, k1, t1, o1⟩ := FS.drotted_fields fs (privFile s) i
      cases hp : s.kind.isPair
      · simp only [Bool.false_eq_true, if_false]
        refine ⟨by rw [t1]; exact h.tmps, ?_, ?_, ?_⟩
        · intro s'
          by_cases hs : s' = s
          · subst hs; exact (h.priv s').drotted_same i
          · exact (h.priv s').drotted_other i (priv_ne_priv hs)
        · intro s'; exact (h.pub s').drotted_other i (pub_ne_priv _ _)
        · intro s' hp'
          have hs : s' ≠ s := by intro e; subst e; simp [hp] at hp'
          rw [o1 _ (pub_ne_priv _ _), o1 _ (priv_ne_priv hs)]
          exact h.len s' hp'
      · simp only [if_true]
        obtain ⟨c2, d2, k2, t2, o2⟩ := FS.drotted_fields (fs.drotted (privFile s) i).1 (pubFile s) i
        refine ⟨by rw [t2, t1]; exact h.tmps, ?_, ?_, ?_⟩
        · intro s'
          by_cases hs : s' = s
          · subst hs; exact ((h.priv s').drotted_same i).drotted_other i (priv_ne_pub _ _)
          · exact ((h.priv s').drotted_other i (priv_ne_priv hs)).drotted_other i (priv_ne_pub _ _)
        · intro s'
          by_cases hs : s' = s
          · subst hs; exact ((h.pub s').drotted_other i (pub_ne_priv _ _)).drotted_same i
          · exact ((h.pub s').drotted_other i (pub_ne_priv _ _)).drotted_other i (pub_ne_pub hs)
        · intro s' hp'
          by_cases hs : s' = s
          · subst hs
            rw [FS.drotted_old _ _ _ (h.drotted_pub_ok s' i hp' hok), o2 _ (priv_ne_pub _ _), FS.drotted_old _ _ _ hok,
              o1 _ (pub_ne_priv _ _)]
            simp only [List.length_eraseIdx]
            rw [h.len s' hp']
          · rw [o2 _ (pub_ne_pub hs), o2 _ (priv_ne_pub _ _), o1 _ (pub_ne_priv _ _), o1 _ (priv_ne_priv hs)]
            exact h.len s' hp'
  · simpa [hc] using h

theorem fsStep_inv {fs : FS} {count : Slot → Nat} (h : FSInv fs count) (o : Op) (ho : o.isDcur = false) :
    FSInv (fsStep fs count o) (countStep count o) := by
  cases o with
  | gen s => rw [fsStep_gen h]; exact h.generated s
  | drot s i => rw [fsStep_drot h]; exact h.slotDrotted s i
  | dcur s => simp [Op.isDcur] at ho
  | _ => exact h

theorem V1.step_fsInv (st : V1) (o : Op) (hi : FSInv st.fs st.count) (ho : o.isDcur = false) :
    FSInv (st.step o).1.fs (st.step o).1.count := by
  rw [(V1.step_fs st o).1, (V1.step_fs st o).2]
  exact fsStep_inv hi o ho

/-- key file `f` holds generation `g` (as its current file or in its history) -/
def FS.holds (fs : FS) (f : FileId) (g : Nat) : Bool :=
  fs.cur f == some (.full g) || (fs.old f).any (·.2 == .full g)

/-- **Abstraction function**: the history of slot `s` is `1 .. count s`; a generation is alive when
the private/symmetric key file of the slot still holds it. -/
def absFS (fs : FS) (count : Slot → Nat) : Spec :=
  fun s => (List.range (count s)).map fun i => ⟨i + 1, fs.holds (privFile s) (i + 1)⟩

def V1.abs (st : V1) : Spec := absFS st.fs st.count

theorem FileOK.mem_oldIds {fs : FS} {f : FileId} {n : Nat} (h : FileOK fs f n) (x : Nat) :
    (fs.old f).any (·.2 == .full x) = true ↔ x ∈ fs.oldIds f := by
  simp only [List.any_eq_true, FS.oldIds, List.mem_map, beq_iff_eq]
  constructor
  · rintro ⟨e, he, hx⟩; exact ⟨e, he, by rw [hx]; rfl⟩
  · rintro ⟨e, he, hx⟩; exact ⟨e, he, by rw [h.full e he, hx]⟩

theorem FileOK.holds_iff {fs : FS} {f : FileId} {n : Nat} (h : FileOK fs f n) (x : Nat) (hx : 0 < x) (hxn : x ≤ n) :
    fs.holds f x = true ↔ (x ∈ fs.oldIds f ∨ x = n) := by
  have hn : n ≠ 0 := by omega
  simp only [FS.holds, Bool.or_eq_true, h.mem_oldIds, h.cur, hn, if_false, beq_iff_eq, Option.some.injEq, Content.full.injEq]
  constructor
  · rintro (h1 | h1)
    · exact Or.inr h1.symm
    · exact Or.inl h1
  · rintro (h1 | h1)
    · exact Or.inr h1
    · exact Or.inl h1.symm

theorem survivors_abs {fs : FS} {count : Slot → Nat} (h : FSInv fs count) (s : Slot) :
    (absFS fs count s).survivors = if count s = 0 then [] else fs.oldIds (privFile s) ++ [count s] := by
  by_cases hn : count s = 0
  · simp [absFS, hn, SpecSlot.survivors]
  · simp only [hn, if_false, absFS]
    have hp := h.priv s
    apply survivors_of_sorted _ _ _ hp.ids_sorted
    · intro g hg
      rcases List.mem_append.1 hg with hg | hg
      · have := hp.bound g hg; omega
      · have : g = count s := by simpa using hg
        omega
    · intro g h0 hg
      rw [hp.holds_iff g h0 hg]
      simp

theorem current_abs {fs : FS} {count : Slot → Nat} (h : FSInv fs count) (s : Slot) :
    (absFS fs count s).current = if count s = 0 then none else some (count s) := by
  simp only [SpecSlot.current, survivors_abs h]
  by_cases hn : count s = 0 <;> simp [hn]

theorem rotated_abs {fs : FS} {count : Slot → Nat} (h : FSInv fs count) (s : Slot) :
    (absFS fs count s).rotated = fs.oldIds (privFile s) := by
  simp only [SpecSlot.rotated, survivors_abs h]
  by_cases hn : count s = 0
  · have := (h.priv s)
    rw [hn] at this
    simp [hn, FS.oldIds, this.old_nil]
  · simp [hn]

theorem allNewestFirst_abs {fs : FS} {count : Slot → Nat} (h : FSInv fs count) (s : Slot) (hn : count s ≠ 0) :
    (absFS fs count s).allNewestFirst = count s :: (fs.oldIds (privFile s)).reverse := by
  simp [SpecSlot.allNewestFirst, survivors_abs h, hn]

theorem abs_isEmpty (fs : FS) (count : Slot → Nat) (s : Slot) : (absFS fs count s).isEmpty = decide (count s = 0) := by
  cases hn : count s <;> simp [absFS, hn, List.range_succ]

theorem holds_congr {fs fs' : FS} {f : FileId} (hc : fs'.cur f = fs.cur f) (ho : fs'.old f = fs.old f) (x : Nat) :
    fs'.holds f x = fs.holds f x := by simp [FS.holds, hc, ho]

theorem FS.generated_other (fs : FS) (s s' : Slot) (g : Nat) (hs : s' ≠ s) :
    (fs.generated s g).cur (privFile s') = fs.cur (privFile s') ∧ (fs.generated s g).old (privFile s') = fs.old (privFile s') := by
  unfold FS.generated
  split
  · rw [FS.written_cur, FS.written_cur, FS.written_old_other _ _ _ _ (priv_ne_pub _ _), FS.written_old_other _ _ _ _ (priv_ne_priv hs)]
    simp [upd, priv_ne_pub, priv_ne_priv hs]
  · rw [FS.written_cur, FS.written_old_other _ _ _ _ (priv_ne_priv hs)]
    simp [upd, priv_ne_priv hs]

theorem abs_generated {fs : FS} {count : Slot → Nat} (h : FSInv fs count) (s : Slot) :
    absFS (fs.generated s (count s + 1)) (upd count s (count s + 1)) = upd (absFS fs count) s (absFS fs count s).generate := by
  funext s'
  by_cases hs : s' = s
  · subst hs
    have h' := (h.generated s').priv s'
    simp only [upd_same] at h' ⊢
    simp only [absFS, upd_same, SpecSlot.generate, List.length_map, List.length_range, List.range_succ, List.map_append,
      List.map_cons, List.map_nil]
    congr 1
    · apply List.map_congr_left
      intro i hi
      have hi : i < count s' := List.mem_range.1 hi
      congr 1
      rw [Bool.eq_iff_iff, h'.holds_iff (i + 1) (by omega) (by omega), (h.priv s').holds_iff (i + 1) (by omega) (by omega)]
      -- history afterwards = history before plus the previous current generation
      have hn : count s' ≠ 0 := by omega
      have hc : fs.cur (privFile s') = some (.full (count s')) := by simpa [hn] using (h.priv s').cur
      have hold : (fs.generated s' (count s' + 1)).oldIds (privFile s') = fs.oldIds (privFile s') ++ [count s'] := by
        unfold FS.generated FS.oldIds
        split
        · rw [FS.written_old_other _ _ _ _ (priv_ne_pub _ _), (FS.written_old_some _ _ _ _ hc).1]; simp [Content.raw]
        · rw [(FS.written_old_some _ _ _ _ hc).1]; simp [Content.raw]
      rw [hold]
      simp only [List.mem_append, List.mem_singleton]
      constructor
      · rintro ((h1 | h1) | h1)
        · exact Or.inl h1
        · exact Or.inr h1
        · omega
      · intro h1; exact Or.inl h1
    · congr 1
      congr 1
      rw [h'.holds_iff _ (by omega) (Nat.le_refl _)]
      exact Or.inr rfl
  · simp only [absFS, upd_other _ _ _ _ hs]
    obtain ⟨e1, e2⟩ := FS.generated_other fs s s' (count s + 1) hs
    apply List.map_congr_left
    intro i _
    rw [holds_congr e1 e2]

theorem FS.slotDrotted_other (fs : FS) (s s' : Slot) (i : Nat) (hs : s' ≠ s) :
    (fs.slotDrotted s i).cur (privFile s') = fs.cur (privFile s') ∧ (fs.slotDrotted s i).old (privFile s') = fs.old (privFile s') := by
  unfold FS.slotDrotted
  obtain ⟨c1, _, _, _, o1⟩ := FS.drotted_fields fs (privFile s) i
  obtain ⟨c2, _, _, _, o2⟩ := FS.drotted_fields (fs.drotted (privFile s) i).1 (pubFile s) i
  by_cases h1 : ¬ s.kind.canDestroy = true
  · rw [if_pos h1]; exact ⟨rfl, rfl⟩
  rw [if_neg h1]
  by_cases h2 : ¬ (fs.drotted (privFile s) i).2 = true
  · rw [if_pos h2]; exact ⟨rfl, rfl⟩
  rw [if_neg h2]
  by_cases h3 : s.kind.isPair = true
  · rw [if_pos h3, c2, c1, o2 _ (priv_ne_pub _ _), o1 _ (priv_ne_priv hs)]; exact ⟨rfl, rfl⟩
  · rw [if_neg h3, c1, o1 _ (priv_ne_priv hs)]; exact ⟨rfl, rfl⟩

/-- the listed index `i` names a rotated key of the specification exactly when v1's destroy accepts it -/
theorem listedAt_abs {fs : FS} {count : Slot → Nat} (h : FSInv fs count) (s : Slot) (i : Nat) :
    (absFS fs count s).listedAt i = if (fs.drotted (privFile s) i).2 then (fs.oldIds (privFile s))[i - 2]? else none := by
  simp only [SpecSlot.listedAt, rotated_abs h]
  by_cases hok : (fs.drotted (privFile s) i).2 = true
  · have := (FS.drotted_ok_iff _ _ _).1 hok
    simp [hok, this.2.1]
  · have hno : ¬ (fs.oldDir (privFile s) = true ∧ 2 ≤ i ∧ i ≤ (fs.old (privFile s)).length + 1) :=
      fun hh => hok ((FS.drotted_ok_iff _ _ _).2 hh)
    simp only [hok, Bool.false_eq_true, if_false]
    by_cases h2 : 2 ≤ i
    · simp only [h2, if_true]
      apply List.getElem?_eq_none
      simp only [FS.oldIds, List.length_map]
      by_cases hlen : i ≤ (fs.old (privFile s)).length + 1
      · exact absurd ⟨(h.priv s).dir (List.ne_nil_of_length_pos (by omega)), h2, hlen⟩ hno
      · omega
    · simp [h2]

theorem abs_slotDrotted {fs : FS} {count : Slot → Nat} (h : FSInv fs count) (s : Slot) (i : Nat) (g : Nat)
    (hc : s.kind.canDestroy = true) (hok : (fs.drotted (privFile s) i).2 = true) (hg : (fs.oldIds (privFile s))[i - 2]? = some g) :
    absFS (fs.slotDrotted s i) count = upd (absFS fs count) s ((absFS fs count s).destroyId g) := by
  funext s'
  by_cases hs : s' = s
  · subst hs
    have h' := (h.slotDrotted s' i).priv s'
    have hold : (fs.slotDrotted s' i).oldIds (privFile s') = (fs.oldIds (privFile s')).eraseIdx (i - 2) := by
      unfold FS.slotDrotted FS.oldIds
      simp only [hc, hok, not_true_eq_false, if_false]
      rw [← map_eraseIdx']
      congr 1
      split
      · rw [(FS.drotted_fields _ (pubFile s') i).2.2.2.2 _ (priv_ne_pub _ _), FS.drotted_old _ _ _ hok]
      · rw [FS.drotted_old _ _ _ hok]
    have hgmem : g ∈ fs.oldIds (privFile s') := List.mem_of_getElem? hg
    have hgn := (h.priv s').bound g hgmem
    have hnd : (fs.oldIds (privFile s')).Pairwise (· ≠ ·) := (h.priv s').sorted.imp (by intro a b hab; exact Nat.ne_of_lt hab)
    simp only [absFS, upd_same, SpecSlot.destroyId, List.map_map]
    apply List.map_congr_left
    intro j hj
    have hj : j < count s' := List.mem_range.1 hj
    simp only [Function.comp]
    by_cases hjg : j + 1 = g
    · simp only [hjg, if_true]
      congr 1
      rw [Bool.eq_false_iff, Ne, h'.holds_iff g (by omega) (by omega), hold, mem_eraseIdx_of_nodup _ _ _ hnd hg]
      omega
    · simp only [hjg, if_false]
      congr 1
      rw [Bool.eq_iff_iff, h'.holds_iff _ (by omega) (by omega), (h.priv s').holds_iff _ (by omega) (by omega), hold,
        mem_eraseIdx_of_nodup _ _ _ hnd hg]
      constructor
      · rintro (⟨h1, _⟩ | h1)
        · exact Or.inl h1
        · exact Or.inr h1
      · rintro (h1 | h1)
        · exact Or.inl ⟨h1, hjg⟩
        · exact Or.inr h1
  · simp only [absFS, upd_other _ _ _ _ hs]
    obtain ⟨e1, e2⟩ := FS.slotDrotted_other fs s s' i hs
    apply List.map_congr_left
    intro j _
    rw [holds_congr e1 e2]

end AcraModel.Keystore
