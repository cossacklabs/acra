import AcraModel.Keystore.RefineSpec
import AcraModel.Keystore.RingLemmas
/-!
# v2: the ring invariant of runs without destroy-current, readers in closed form, the abstraction
-/
namespace AcraModel.Keystore

/-- a key of a ring still offers its material -/
def Key2.alive (k : Key2) : Bool := decide (k.state ≠ .destroyed)

/-- Ring of a slot after `n` generations (no destroy-current, no activation): sequence numbers are
`1..n` in order, key `q` carries generation `q` until it is destroyed, `current` is the newest key and
the newest key is not destroyed. -/
structure RingOK (r : Ring) (n : Nat) : Prop where
  seqs : r.keys.map (·.seq) = (List.range n).map (· + 1)
  st : ∀ k ∈ r.keys, (k.state = .preActive ∧ k.data = some k.seq) ∨ (k.state = .destroyed ∧ k.data = none)
  cur : r.current = if n = 0 then none else some n
  last : ∀ k ∈ r.keys, k.seq = n → k.state = .preActive

theorem RingOK.len {r : Ring} {n : Nat} (h : RingOK r n) : r.keys.length = n := by
  have := congrArg List.length h.seqs
  simpa using this

theorem RingOK.seq_bound {r : Ring} {n : Nat} (h : RingOK r n) {k : Key2} (hk : k ∈ r.keys) : 0 < k.seq ∧ k.seq ≤ n := by
  have : k.seq ∈ r.keys.map (·.seq) := List.mem_map.2 ⟨k, hk, rfl⟩
  rw [h.seqs] at this
  obtain ⟨i, hi, hik⟩ := List.mem_map.1 this
  have := List.mem_range.1 hi
  omega

theorem RingOK.distinct {r : Ring} {n : Nat} (h : RingOK r n) : r.Distinct := by
  have := range_succ_sorted n
  rw [← h.seqs, List.pairwise_map] at this
  exact this.imp (by intro a b hab; exact Nat.ne_of_lt hab)

theorem RingOK.find_mem {r : Ring} {n : Nat} (h : RingOK r n) {k : Key2} (hk : k ∈ r.keys) : r.find k.seq = some k :=
  find_of_pairwise_ne (key := Key2.seq) h.distinct hk

theorem RingOK.find_none {r : Ring} {n : Nat} (h : RingOK r n) (q : Nat) (hq : q = 0 ∨ n < q) : r.find q = none := by
  simp only [Ring.find, List.find?_eq_none, decide_eq_true_eq]
  intro k hk hkq
  have := h.seq_bound hk
  omega

/-- a non-empty ring ends with the key of generation `n`, alive -/
theorem RingOK.split {r : Ring} {n : Nat} (h : RingOK r n) (hn : n ≠ 0) :
    ∃ init last, r.keys = init ++ [last] ∧ last.seq = n ∧ last.state = .preActive ∧ last.data = some n := by
  rcases List.eq_nil_or_concat r.keys with hnil | ⟨init, last, hk⟩
  · have := h.len; rw [hnil] at this; simp at this; omega
  · rw [List.concat_eq_append] at hk
    have hs := h.seqs
    obtain ⟨m, rfl⟩ : ∃ m, n = m + 1 := ⟨n - 1, by omega⟩
    rw [hk, List.range_succ] at hs
    simp only [List.map_append, List.map_cons, List.map_nil] at hs
    have hl := (List.append_inj' hs rfl).2
    have hseq : last.seq = m + 1 := by simpa using hl
    have hmem : last ∈ r.keys := by rw [hk]; simp
    have hst := h.last last hmem hseq
    refine ⟨init, last, hk, hseq, hst, ?_⟩
    rcases h.st last hmem with ⟨_, hd⟩ | ⟨hd, _⟩
    · rw [hd, hseq]
    · rw [hst] at hd; cases hd

theorem RingOK.nextSeq {r : Ring} {n : Nat} (h : RingOK r n) : r.nextSeq = n + 1 := by
  by_cases hn : n = 0
  · subst hn
    have : r.keys = [] := List.eq_nil_of_length_eq_zero h.len
    simp [Ring.nextSeq, this]
  · obtain ⟨init, last, hk, hseq, _, _⟩ := h.split hn
    simp [Ring.nextSeq, hk, hseq]

theorem RingOK.material_current {r : Ring} {n : Nat} (h : RingOK r n) :
    r.current.bind r.material = if n = 0 then none else some n := by
  rw [h.cur]
  by_cases hn : n = 0
  · simp [hn]
  · obtain ⟨init, last, hk, hseq, hst, hd⟩ := h.split hn
    have hf : r.find n = some last := by
      rw [← hseq]; exact h.find_mem (by rw [hk]; simp)
    simp [hn, Ring.material, hf, hst, hd]

/-- the fold of `Ring.rotatedActive`, over any keys the ring finds under their own numbers: it succeeds and keeps
the numbers of those not destroyed -/
theorem rotatedFold (r : Ring) (ks : List Key2) (hf : ∀ k ∈ ks, r.find k.seq = some k) :
    (ks.map (·.seq)).foldr (fun q acc =>
      match r.find q, acc with
      | some k, some l => some (if k.state = .destroyed then l else q :: l)
      | _, _ => none) (some []) = some ((ks.filter Key2.alive).map (·.seq)) := by
  induction ks with
  | nil => rfl
  | cons k ks ih =>
    simp only [List.map_cons, List.foldr_cons, ih (fun k' hk' => hf k' (by simp [hk'])), hf k (by simp)]
    by_cases hd : k.state = .destroyed
    · simp [hd, Key2.alive]
    · simp [hd, Key2.alive]

theorem RingOK.rotatedActive {r : Ring} {n : Nat} (h : RingOK r n) :
    r.rotatedActive = some ((r.keys.dropLast.filter Key2.alive).map (·.seq)) := by
  unfold Ring.rotatedActive
  have hmap : (List.range (r.keys.length - 1)).map (· + 1) = r.keys.dropLast.map (·.seq) := by
    rw [h.len]
    by_cases hn : n = 0
    · subst hn
      have : r.keys = [] := List.eq_nil_of_length_eq_zero h.len
      simp [this]
    · obtain ⟨init, last, hk, _⟩ := h.split hn
      obtain ⟨m, rfl⟩ : ∃ m, n = m + 1 := ⟨n - 1, by omega⟩
      have hs := h.seqs
      rw [hk, List.range_succ] at hs
      simp only [List.map_append, List.map_cons, List.map_nil] at hs
      rw [hk, List.dropLast_concat, (List.append_inj' hs rfl).1]
      simp
  rw [hmap]
  exact rotatedFold r _ (fun k hk => h.find_mem (List.dropLast_subset _ hk))

/-- `Ring.allMaterial` likewise, the keys not destroyed carrying their number as data -/
theorem allMaterialAux (r : Ring) (ks : List Key2) (hf : ∀ k ∈ ks, r.find k.seq = some k)
    (hd : ∀ k ∈ ks, k.alive = true → k.data = some k.seq) :
    ((ks.map (·.seq)).filter fun q => (r.find q).any (·.state ≠ .destroyed)).mapM r.material =
      some ((ks.filter Key2.alive).map (·.seq)) := by
  induction ks with
  | nil => rfl
  | cons k ks ih =>
    have ih' := ih (fun k' hk' => hf k' (by simp [hk'])) (fun k' hk' => hd k' (by simp [hk']))
    have hfk := hf k (by simp)
    by_cases ha : k.alive = true
    · have hs : k.state ≠ .destroyed := by simpa [Key2.alive] using ha
      have hm : r.material k.seq = some k.seq := by simp [Ring.material, hfk, hs, hd k (by simp) ha]
      simp only [List.map_cons, List.filter_cons, hfk, Option.any_some, ne_eq, hs, not_false_eq_true, decide_true, if_true,
        List.mapM_cons, hm, ha]
      simp only [ne_eq] at ih'
      rw [ih']
      rfl
    · have hs : k.state = .destroyed := by simpa [Key2.alive] using ha
      simp only [List.map_cons, List.filter_cons, hfk, Option.any_some, ne_eq, hs, not_true_eq_false, decide_false,
        Bool.false_eq_true, if_false, ha]
      simp only [ne_eq] at ih'
      exact ih'

theorem RingOK.allMaterial {r : Ring} {n : Nat} (h : RingOK r n) :
    r.allMaterial = some ((r.keys.filter Key2.alive).map (·.seq)).reverse := by
  unfold Ring.allMaterial Ring.allSeqs
  rw [← List.map_reverse, allMaterialAux r r.keys.reverse (fun k hk => h.find_mem (List.mem_reverse.1 hk))]
  · rw [List.filter_reverse, List.map_reverse]
  · intro k hk ha
    rcases h.st k (List.mem_reverse.1 hk) with ⟨_, hd⟩ | ⟨hd, _⟩
    · exact hd
    · simp [Key2.alive, hd] at ha

def Ring.abs (r : Ring) : SpecSlot := r.keys.map fun k => ⟨k.seq, k.alive⟩

def V2.abs (st : V2) : Spec := fun s => match st.rings s with
  | some r => r.abs
  | none => []

theorem Ring.survivors_abs (r : Ring) : r.abs.survivors = (r.keys.filter Key2.alive).map (·.seq) := by
  simp only [Ring.abs, SpecSlot.survivors, List.filter_map, List.map_map]
  rfl

theorem RingOK.survivors {r : Ring} {n : Nat} (h : RingOK r n) (hn : n ≠ 0) :
    r.abs.survivors = (r.keys.dropLast.filter Key2.alive).map (·.seq) ++ [n] := by
  obtain ⟨init, last, hk, hseq, hst, _⟩ := h.split hn
  rw [Ring.survivors_abs, hk, List.dropLast_concat]
  simp [Key2.alive, hst, hseq]

theorem RingOK.current_abs {r : Ring} {n : Nat} (h : RingOK r n) :
    r.abs.current = if n = 0 then none else some n := by
  by_cases hn : n = 0
  · have : r.keys = [] := List.eq_nil_of_length_eq_zero (hn ▸ h.len)
    simp [SpecSlot.current, Ring.survivors_abs, this, hn]
  · simp [SpecSlot.current, h.survivors hn, hn]

theorem RingOK.rotated_abs {r : Ring} {n : Nat} (h : RingOK r n) :
    r.abs.rotated = (r.keys.dropLast.filter Key2.alive).map (·.seq) := by
  by_cases hn : n = 0
  · have : r.keys = [] := List.eq_nil_of_length_eq_zero (hn ▸ h.len)
    simp [SpecSlot.rotated, Ring.survivors_abs, this]
  · simp [SpecSlot.rotated, h.survivors hn]

theorem RingOK.empty : RingOK Ring.empty 0 :=
  ⟨rfl, by simp [Ring.empty], rfl, by simp [Ring.empty]⟩

/-- the ring after `AddKey` + `SetCurrent` of generation `n + 1` -/
def Ring.added (r : Ring) (n : Nat) : Ring := ⟨r.keys ++ [⟨n + 1, .preActive, some (n + 1)⟩], some (n + 1)⟩

theorem RingOK.added {r : Ring} {n : Nat} (h : RingOK r n) : RingOK (r.added n) (n + 1) := by
  refine ⟨?_, ?_, by simp [Ring.added], ?_⟩
  · simp [Ring.added, h.seqs, List.range_succ]
  · intro k hk
    rcases List.mem_append.1 hk with hk | hk
    · exact h.st k hk
    · have : k = ⟨n + 1, .preActive, some (n + 1)⟩ := by simpa using hk
      subst this; exact Or.inl ⟨rfl, rfl⟩
  · intro k hk hkn
    rcases List.mem_append.1 hk with hk | hk
    · have := h.seq_bound hk; omega
    · have : k = ⟨n + 1, .preActive, some (n + 1)⟩ := by simpa using hk
      subst this; rfl

theorem RingOK.addKey {r : Ring} {n : Nat} (h : RingOK r n) :
    applyTxs r [.addKey ⟨n + 1, .preActive, some (n + 1)⟩] = some ⟨r.keys ++ [⟨n + 1, .preActive, some (n + 1)⟩], r.current⟩ := by
  simp [applyTxs, Tx.apply, h.find_none (n + 1) (Or.inr (Nat.lt_succ_self n))]

theorem RingOK.setCurrent {r : Ring} {n : Nat} (h : RingOK r n) :
    applyTxs ⟨r.keys ++ [⟨n + 1, .preActive, some (n + 1)⟩], r.current⟩ [.setCurrent r.current (some (n + 1))] = some (r.added n) := by
  have hnew : (Ring.find ⟨r.keys ++ [⟨n + 1, .preActive, some (n + 1)⟩], r.current⟩ (n + 1)).isSome = true := by
    simp only [Ring.find, List.find?_isSome]
    exact ⟨⟨n + 1, .preActive, some (n + 1)⟩, by simp, by simp⟩
  by_cases hn : n = 0
  · simp only [h.cur, hn, if_true] at hnew ⊢
    simp [applyTxs, Tx.apply, hnew, Ring.added]
  · obtain ⟨init, last, hk, hseq, _, _⟩ := h.split hn
    have hold : (Ring.find ⟨r.keys ++ [⟨n + 1, .preActive, some (n + 1)⟩], r.current⟩ n).isSome = true := by
      simp only [Ring.find, List.find?_isSome]
      exact ⟨last, by rw [hk]; simp, by simp [hseq]⟩
    simp only [h.cur, hn, if_false] at hnew hold ⊢
    simp [applyTxs, Tx.apply, hnew, hold, Ring.added]

theorem Ring.abs_added (r : Ring) (n : Nat) (hl : r.keys.length = n) : (r.added n).abs = r.abs.generate := by
  simp [Ring.abs, Ring.added, SpecSlot.generate, hl, Key2.alive]

theorem Ring.destroyed_keys (r : Ring) (q : Nat) :
    (r.destroyed q).keys = r.keys.map fun k => if k.seq = q then { k with data := none, state := .destroyed } else k := by
  simp only [Ring.destroyed, Ring.setKey, List.map_map]
  apply List.map_congr_left
  intro k _
  by_cases hk : k.seq = q <;> simp [hk]

theorem RingOK.destroyed {r : Ring} {n : Nat} (h : RingOK r n) (q : Nat) (hq : q ≠ n) : RingOK (r.destroyed q) n := by
  refine ⟨?_, ?_, ?_, ?_⟩
  · rw [Ring.destroyed_keys, List.map_map, ← h.seqs]
    apply List.map_congr_left
    intro k _
    by_cases hk : k.seq = q <;> simp [hk]
  · rw [Ring.destroyed_keys]
    intro k hk
    obtain ⟨k0, hk0, rfl⟩ := List.mem_map.1 hk
    by_cases hkq : k0.seq = q
    · simp [hkq]
    · simpa [hkq] using h.st k0 hk0
  · exact h.cur
  · rw [Ring.destroyed_keys]
    intro k hk hkn
    obtain ⟨k0, hk0, rfl⟩ := List.mem_map.1 hk
    by_cases hkq : k0.seq = q
    · simp only [hkq, if_true] at hkn; exact absurd hkn hq
    · simp only [hkq, if_false] at hkn ⊢
      exact h.last k0 hk0 hkn

theorem Ring.abs_destroyed (r : Ring) (q : Nat) : (r.destroyed q).abs = r.abs.destroyId q := by
  simp only [Ring.abs, Ring.destroyed_keys, SpecSlot.destroyId, List.map_map]
  apply List.map_congr_left
  intro k _
  by_cases hk : k.seq = q <;> simp [hk, Key2.alive]

end AcraModel.Keystore
