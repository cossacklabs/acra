import AcraModel.Keystore.RefineCacheStep
/-!
# v1 key cache in runs without destroy-current: the invariant that survives rotation

After a rotation the cache may be *stale* (the cached current key of a symmetric slot is an older
generation), so `V1.Coh` is lost. What every operation other than destroy-current keeps is `CohM`:
a cached current key is *some* generation of its slot, cached history entries agree with their files,
and a cached list of names is the directory's. With the storage invariant this is `V1.MInv`
(`V1.step_minv`), from which: a surviving key that read-all offered is offered by every later read-all
(`V1.cache_monotone`).
-/
namespace AcraModel.Keystore

/-- what every cache entry satisfies in runs without destroy-current -/
def MG (fs : FS) (count : Slot → Nat) : CKey → CVal → Prop
  | .rel f, v => f.pub = false → ∃ g, v = .key g ∧ g ≤ count f.slot
  | .relOld f t, v => t < fs.clock ∧ ∀ e, (fs.old f).find? (·.1 = t) = some e → ∃ g, e.2.decrypt = some g ∧ v = .key g
  | .names f, v => f.pub = false ∧ f.slot.kind.hasAll = true ∧ v = .paths (historicalNames fs f)
  | .absPub _, _ => True

def V1.CohM (st : V1) : Prop := ∀ k v, st.look k = some v → MG st.fs st.count k v

theorem fresh_rel_priv {fs : FS} {count : Slot → Nat} (hi : FSInv fs count) (s : Slot) (v : CVal)
    (h : Fresh fs (.rel (privFile s)) v) : v = .key (count s) := by
  simp only [Fresh, privFile, Bool.false_eq_true, if_false] at h
  obtain ⟨g, hg, rfl⟩ := h
  have hc := (hi.priv s).cur
  simp only [privFile] at hc
  rw [hc] at hg
  by_cases hn : count s = 0
  · simp [hn] at hg
  · simp only [hn, if_false, Option.bind_some, Content.decrypt, Option.some.injEq] at hg
    rw [hg]

/-- a value just loaded from a storage satisfying the invariant is fine -/
theorem Fresh.mg {fs : FS} {count : Slot → Nat} (hi : FSInv fs count) {k : CKey} {v : CVal} (h : Fresh fs k v) : MG fs count k v := by
  cases k with
  | rel f =>
    intro hf
    obtain ⟨s, p⟩ := f
    simp only at hf
    subst hf
    exact ⟨count s, fresh_rel_priv hi s v h, Nat.le_refl _⟩
  | relOld f t =>
    refine ⟨?_, h.good⟩
    obtain ⟨hf, g, hg, -⟩ := h
    obtain ⟨s, p⟩ := f
    simp only at hf
    subst hf
    cases hfind : (fs.old ⟨s, false⟩).find? (·.1 = t) with
    | none => simp [FS.readName, hfind] at hg
    | some e =>
      have het : e.1 = t := by simpa using List.find?_some hfind
      rw [← het]
      exact (hi.priv s).clock e (List.mem_of_find?_eq_some hfind)
  | names f => exact h
  | absPub f => trivial

theorem V1.CohM.evol {st st' : V1} (hc : st.CohM) (hi : FSInv st.fs st.count) (he : Evol (Fresh st.fs) st st')
    (hfs : st'.fs = st.fs) (hcnt : st'.count = st.count) : st'.CohM := by
  intro k v hv
  rw [hfs, hcnt]
  rcases he k v hv with h | h
  · exact hc k v h
  · exact h.mg hi

theorem V1.CohM.clear (st : V1) : st.clear.CohM := by
  intro k v hv; rw [V1.clear_look] at hv; cases hv

theorem V1.CohM.of_nocache {st : V1} (h : st.cache = none) : st.CohM := by
  intro k v hv
  simp [V1.look, h] at hv

theorem MG.removeOld {fs : FS} {count : Slot → Nat} {f : FileId} {t : Nat} {k : CKey} {v : CVal} (h : MG fs count k v)
    (hk : k ≠ .names f) : MG { fs with old := upd fs.old f ((fs.old f).filter (·.1 ≠ t)) } count k v := by
  cases k with
  | rel f' => exact h
  | absPub f' => trivial
  | names f' => exact Good.removeOld (k := .names f') h hk
  | relOld f' t' => exact ⟨h.1, Good.removeOld (k := .relOld f' t') h.2 hk⟩

/-- destroy-rotated on one file: `CohM` is kept, and apart from the refreshed list of names every
entry is untouched or forgotten -/
theorem V1.drotFile_cohM (st : V1) (f : FileId) (i : Nat) (hc : st.CohM) :
    (st.drotFile f i).1.CohM ∧
    ∀ k v, k ≠ .names f → (st.drotFile f i).1.look k = some v → st.look k = some v := by
  constructor
  · intro k v hv
    rw [(V1.drotFile_fs st f i).2.1]
    exact V1.drotFile_keeps (P := fun fs => MG fs st.count) st f i (fun _ _ _ h hk => h.removeOld hk)
      (fun _ _ h => ⟨h.1, h.2.1, rfl⟩) hc k v hv
  · intro k v hk hv
    rcases V1.drotFile_look st f i with ⟨_, hl⟩ | ⟨t, _, hl⟩
    · exact hl k ▸ hv
    · rcases hl k v hv with ⟨rfl, _⟩ | ⟨_, hv'⟩
      · exact absurd rfl hk
      · exact hv'

theorem FS.written_old_grow (fs : FS) (f f' : FileId) (c : Content) :
    ∃ l, (fs.written f c).old f' = fs.old f' ++ l ∧ ∀ e ∈ l, fs.clock ≤ e.1 := by
  by_cases hf : f' = f
  · subst hf
    cases hc : fs.cur f' with
    | none => exact ⟨[], by simp [FS.written_old_none fs f' c hc], by simp⟩
    | some c0 => exact ⟨[(fs.clock, c0)], (FS.written_old_some fs f' c c0 hc).1, by simp⟩
  · exact ⟨[], by simp [FS.written_old_other fs f f' c hf], by simp⟩

theorem FS.generated_old_grow (fs : FS) (s : Slot) (g : Nat) (f' : FileId) :
    ∃ l, (fs.generated s g).old f' = fs.old f' ++ l ∧ ∀ e ∈ l, fs.clock ≤ e.1 := by
  unfold FS.generated
  split
  · obtain ⟨l1, h1, b1⟩ := FS.written_old_grow fs (privFile s) f' (.full g)
    obtain ⟨l2, h2, b2⟩ := FS.written_old_grow (fs.written (privFile s) (.full g)) (pubFile s) f' (.full g)
    refine ⟨l1 ++ l2, by rw [h2, h1, List.append_assoc], ?_⟩
    intro e he
    rcases List.mem_append.1 he with he | he
    · exact b1 e he
    · exact Nat.le_trans (FS.written_clock _ _ _) (b2 e he)
  · exact FS.written_old_grow fs (privFile s) f' (.full g)

theorem FS.generated_clock (fs : FS) (s : Slot) (g : Nat) : fs.clock ≤ (fs.generated s g).clock := by
  unfold FS.generated
  split
  · exact Nat.le_trans (FS.written_clock _ _ _) (FS.written_clock _ _ _)
  · exact FS.written_clock _ _ _

theorem find_append_later (l l' : List (Nat × Content)) (t : Nat) (h : ∀ e ∈ l', t < e.1) :
    (l ++ l').find? (·.1 = t) = l.find? (·.1 = t) := by
  have : l'.find? (·.1 = t) = none := by
    rw [List.find?_eq_none]
    intro e he
    have := h e he
    simp only [decide_eq_true_eq]
    omega
  rw [List.find?_append, this, Option.or_none]

theorem MG.generated {fs : FS} {count : Slot → Nat} {k : CKey} {v : CVal} (h : MG fs count k v) (s : Slot)
    (hk : k ≠ .names (privFile s)) :
    MG (fs.generated s (count s + 1)) (upd count s (count s + 1)) k v := by
  cases k with
  | rel f =>
    intro hf
    obtain ⟨g, hv, hg⟩ := h hf
    refine ⟨g, hv, ?_⟩
    by_cases hs : f.slot = s
    · subst hs; simp only [upd_same]; omega
    · simpa [upd, hs] using hg
  | absPub f => trivial
  | names f =>
    obtain ⟨hf, ha, hv⟩ := h
    refine ⟨hf, ha, ?_⟩
    obtain ⟨s', p⟩ := f
    simp only at hf
    subst hf
    have hs : s' ≠ s := by
      intro e; subst e; exact hk rfl
    have := (FS.generated_other fs s s' (count s + 1) hs).2
    simp only [privFile] at this
    simp only [historicalNames, this]
    exact hv
  | relOld f t =>
    obtain ⟨hc, hfind⟩ := h
    refine ⟨Nat.lt_of_lt_of_le hc (FS.generated_clock _ _ _), ?_⟩
    obtain ⟨l, hl, hb⟩ := FS.generated_old_grow fs s (count s + 1) f
    intro e he
    rw [hl, find_append_later _ _ _ (fun e' he' => Nat.lt_of_lt_of_le hc (hb e' he'))] at he
    exact hfind e he

/-- every cache entry after generate/rotate of `s`: the new current key, the refreshed list of names,
or an entry that was there before -/
theorem V1.gen_look_cases (st : V1) (s : Slot) (hi : FSInv st.fs st.count) (k : CKey) (v : CVal)
    (h : (st.step (.gen s)).1.look k = some v) :
    (k = .rel (privFile s) ∧ v = .key (st.count s + 1)) ∨
    (k = .rel (pubFile s) ∧ v = .key (st.count s + 1) ∧ s.kind.isPair = true) ∨
    (k = .names (privFile s) ∧ v = .paths (historicalNames (st.fs.generated s (st.count s + 1)) (privFile s)) ∧
      ∃ v0, st.look (.names (privFile s)) = some v0) ∨
    (st.look k = some v ∧ (k = .names (privFile s) → s.kind.hasAll = false)) := by
  simp only [V1.step, applyAll_genCalls st.fs s _ hi.tmps, not_true_eq_false, if_false] at h
  cases hk : s.kind <;> simp only [hk] at h
  case sp | pp =>
    rcases V1.look_refresh_cases _ _ k v h with ⟨rfl, hv, v0, hv0⟩ | ⟨hne, h1⟩
    · refine Or.inr (Or.inr (Or.inl ⟨rfl, hv, v0, ?_⟩))
      rcases V1.look_cadd_cases _ _ _ _ _ hv0 with ⟨hh, _⟩ | ⟨_, h2⟩
      · cases hh
      · rcases V1.look_cadd_cases _ _ _ _ _ h2 with ⟨hh, _⟩ | ⟨_, h3⟩
        · cases hh
        · exact h3
    · rcases V1.look_cadd_cases _ _ _ _ _ h1 with ⟨rfl, rfl⟩ | ⟨_, h2⟩
      · exact Or.inr (Or.inl ⟨rfl, rfl, by simp [Kind.isPair]⟩)
      · rcases V1.look_cadd_cases _ _ _ _ _ h2 with ⟨rfl, rfl⟩ | ⟨_, h3⟩
        · exact Or.inl ⟨rfl, rfl⟩
        · exact Or.inr (Or.inr (Or.inr ⟨h3, fun e => absurd e hne⟩))
  case ss | ps =>
    rcases V1.look_refresh_cases _ _ k v h with ⟨rfl, hv, v0, hv0⟩ | ⟨hne, h1⟩
    · exact Or.inr (Or.inr (Or.inl ⟨rfl, hv, v0, hv0⟩))
    · exact Or.inr (Or.inr (Or.inr ⟨h1, fun e => absurd e hne⟩))
  case hm | al =>
    rcases V1.look_cadd_cases _ _ _ _ _ h with ⟨rfl, rfl⟩ | ⟨_, h2⟩
    · exact Or.inl ⟨rfl, rfl⟩
    · exact Or.inr (Or.inr (Or.inr ⟨h2, fun _ => by simp [Kind.hasAll]⟩))

/-- invariant of a cached v1 store in runs without destroy-current -/
structure V1.MInv (st : V1) : Prop where
  fs : FSInv st.fs st.count
  coh : st.CohM

theorem V1.MInv.init (c : Int) : (V1.init c).MInv := by
  refine ⟨FSInv.init, fun k v hv => ?_⟩
  have : (V1.init c).look k = none := by
    unfold V1.init V1.look
    by_cases hc : c < 0 <;> simp [hc, LRU.look]
  rw [this] at hv; cases hv

/-- loading values into the cache, storage and counters unchanged, keeps the invariant -/
theorem V1.MInv.evol {st st' : V1} (hm : st.MInv) (he : Evol (Fresh st.fs) st st') (hfs : st'.fs = st.fs)
    (hcnt : st'.count = st.count) : st'.MInv :=
  ⟨by rw [hfs, hcnt]; exact hm.fs, hm.coh.evol hm.fs he hfs hcnt⟩

/-- **Every operation other than destroy-current keeps the invariant, and changes the cached current
key of a slot only by forgetting it or by setting it to the slot's newest generation.** -/
theorem V1.step_minv (st : V1) (o : Op) (hm : st.MInv) (ho : o.isDcur = false) :
    (st.step o).1.MInv ∧
    ∀ s v, (st.step o).1.look (.rel (privFile s)) = some v →
      st.look (.rel (privFile s)) = some v ∨ v = .key ((st.step o).1.count s) := by
  obtain ⟨hi, hc⟩ := hm
  have hfs := V1.step_fs st o
  have hi' := V1.step_fsInv st o hi ho
  -- the readers
  have hread : o.isRead = true → (st.step o).1.CohM ∧
      ∀ s v, (st.step o).1.look (.rel (privFile s)) = some v →
        st.look (.rel (privFile s)) = some v ∨ v = .key ((st.step o).1.count s) := by
    intro hr
    have he := V1.step_read_evol st o hr
    obtain ⟨e1, e2⟩ := V1.step_read_fs st o hr
    refine ⟨hc.evol hi he e1 e2, ?_⟩
    intro s v hv
    rcases he _ _ hv with h | h
    · exact Or.inl h
    · right; rw [e2]; exact fresh_rel_priv hi s v h
  cases o with
  | cur s | pub s | all s => exact ⟨⟨hi', (hread rfl).1⟩, (hread rfl).2⟩
  | list | listRot => exact ⟨⟨hi, hc⟩, fun s v hv => Or.inl hv⟩
  | reset | reopen =>
    refine ⟨⟨hi', V1.CohM.clear st⟩, ?_⟩
    intro s v hv
    simp only [V1.step, V1.clear_look] at hv
    cases hv
  | dcur s => simp [Op.isDcur] at ho
  | drot s i =>
    suffices h : (st.step (.drot s i)).1.CohM ∧ ∀ k v, (∀ f, k ≠ .names f) → (st.step (.drot s i)).1.look k = some v → st.look k = some v by
      exact ⟨⟨hi', h.1⟩, fun s' v hv => Or.inl (h.2 _ v (by intro f hf; cases hf) hv)⟩
    refine V1.step_drot_ind (P := fun st' => st'.CohM ∧ ∀ k v, (∀ f, k ≠ .names f) → st'.look k = some v → st.look k = some v)
      st s i ⟨hc, fun _ _ _ hv => hv⟩ fun st' f h => ?_
    obtain ⟨c1, b1⟩ := V1.drotFile_cohM st' f i h.1
    exact ⟨c1, fun k v hk hv => h.2 k v hk (b1 k v (hk f) hv)⟩
  | gen s =>
    have efs : (st.step (.gen s)).1.fs = st.fs.generated s (st.count s + 1) := by rw [hfs.1, fsStep_gen hi]
    have ecnt : (st.step (.gen s)).1.count = upd st.count s (st.count s + 1) := hfs.2
    refine ⟨⟨hi', ?_⟩, ?_⟩
    · intro k v hv
      rw [efs, ecnt]
      rcases V1.gen_look_cases st s hi k v hv with ⟨rfl, rfl⟩ | ⟨rfl, rfl, _⟩ | ⟨rfl, rfl, v0, hv0⟩ | ⟨hv0, hk⟩
      · intro _; exact ⟨_, rfl, by simp [privFile]⟩
      · intro hf; simp [pubFile] at hf
      · have := hc _ _ hv0
        exact ⟨this.1, this.2.1, rfl⟩
      · have hg := hc _ _ hv0
        apply hg.generated s
        intro e
        subst e
        have h1 := hk rfl
        have h2 : s.kind.hasAll = true := hg.2.1
        rw [h1] at h2
        cases h2
    · intro s' v hv
      rw [ecnt]
      rcases V1.gen_look_cases st s hi _ v hv with ⟨hk, rfl⟩ | ⟨hk, _⟩ | ⟨hk, _⟩ | ⟨hv0, _⟩
      · have : s' = s := by simpa [privFile] using hk
        subst this
        right; simp
      · simp [privFile, pubFile] at hk
      · cases hk
      · exact Or.inl hv0

theorem V1.readAllAux_old (f : FileId) (m : Bool) (hf : f.pub = false) (names : List (Option Nat)) (st : V1) (acc : List Nat)
    (hm : st.MInv) (hex : ∀ nm ∈ names, ∃ t e, nm = some t ∧ (st.fs.old f).find? (·.1 = t) = some e) :
    (V1.readAllAux f m st names acc).2 = pureAll st.fs f names acc := by
  refine (V1.readAllAux_inv (I := fun st' => st'.fs = st.fs ∧ st'.MInv) f m names ?_ st acc ⟨rfl, hm⟩).2
  rintro st' nm ⟨hfs, hm'⟩ hn
  obtain ⟨t, e, rfl, he⟩ := hex nm hn
  have h3 := V1.readKey_fs st' f (some t) m
  have h4 := V1.readKey_count st' f (some t) m
  refine ⟨⟨h3.trans hfs, hm'.evol (V1.readKey_evol st' f (some t) m hf) h3 h4⟩, ?_⟩
  rw [V1.readKey_result]
  cases hl : st'.look (ckeyOf f (some t)) with
  | none => rfl
  | some v =>
    obtain ⟨g, hg, rfl⟩ := (hm'.coh _ _ hl).2 e (hfs ▸ he)
    simp [FS.readName, hfs, he, hg]

/-- **read-all on a cached store** (no destroy-current in the past): it answers whenever the slot was
generated, and an answer is some first key `x` followed by the whole history newest first; `x` is the
slot's newest generation unless the cache held an older generation as "current" key; afterwards the
cache holds for the current key, if anything, `x` or the newest generation. -/
theorem V1.readAll_front (st : V1) (s : Slot) (hm : st.MInv) (ha : s.kind.hasAll = true) :
    (st.count s ≠ 0 → (st.readAll s).2 ≠ none) ∧
    ∀ l, (st.readAll s).2 = some l → ∃ x, l = x :: (st.fs.oldIds (privFile s)).reverse ∧
      (x ≠ st.count s → st.look (.rel (privFile s)) = some (.key x)) ∧
      ∀ v, (st.readAll s).1.look (.rel (privFile s)) = some v → v = .key x ∨ v = .key (st.count s) := by
  obtain ⟨st1, he, g3, g4, g2⟩ := V1.readAll_names st s ha fun v hl => (hm.coh _ _ hl).2.2
  rw [he]
  have hm1 : st1.MInv := hm.evol g2 g3 g4
  -- the current file
  have hcur : (st.fs.readName (privFile s) none).bind Content.decrypt = if st.count s = 0 then none else some (st.count s) := by
    have := (hm.fs.priv s).cur
    by_cases hn : st.count s = 0 <;> simp [FS.readName, this, hn, Content.decrypt]
  simp only [historicalNames, V1.readAllAux]
  have r1 := V1.readKey_result st1 (privFile s) none (!s.kind.isPair)
  have r2 := V1.readKey_evol st1 (privFile s) none (!s.kind.isPair) rfl
  have r3 := V1.readKey_fs st1 (privFile s) none (!s.kind.isPair)
  have r4 := V1.readKey_count st1 (privFile s) none (!s.kind.isPair)
  generalize st1.readKey (privFile s) none (!s.kind.isPair) = p at r1 r2 r3 r4 ⊢
  obtain ⟨st2, r⟩ := p
  simp only at r1 r2 r3 r4
  rw [g3] at r1 r2
  -- value read for the current name
  have hx : (st.count s ≠ 0 → r ≠ none) ∧ ∀ x, r = some x →
      (x ≠ st.count s → st1.look (.rel (privFile s)) = some (.key x)) ∧
      (∀ v, st1.look (.rel (privFile s)) = some v → v = .key x) := by
    rw [r1, hcur]
    cases hl : st1.look (ckeyOf (privFile s) none) with
    | none =>
      simp only [ckeyOf] at hl
      refine ⟨fun hn => by simp [hn], fun x hx => ?_⟩
      by_cases hn : st.count s = 0
      · simp [hn] at hx
      · simp only [hn, if_false, Option.some.injEq] at hx
        subst hx
        exact ⟨fun h => absurd rfl h, fun v hv => by rw [hl] at hv; cases hv⟩
    | some v =>
      obtain ⟨g, rfl, _⟩ := hm1.coh _ _ hl rfl
      simp only [ckeyOf] at hl
      refine ⟨fun _ => by simp, fun x hx => ?_⟩
      obtain rfl : g = x := by simpa using hx
      exact ⟨fun _ => hl, fun v hv => by rw [hl] at hv; cases hv; rfl⟩
  cases r with
  | none => exact ⟨fun hn => absurd rfl (hx.1 hn), fun l hl => by simp at hl⟩
  | some x =>
    obtain ⟨hx1, hx2⟩ := hx.2 x rfl
    have hm2 : st2.MInv := hm1.evol (g3 ▸ r2) r3 r4
    have hres : (V1.readAllAux (privFile s) (!s.kind.isPair) st2 ((st.fs.old (privFile s)).map fun e => some e.1).reverse [x]).2 =
        some (x :: (st.fs.oldIds (privFile s)).reverse) := by
      rw [V1.readAllAux_old (privFile s) (!s.kind.isPair) rfl _ st2 [x] hm2 (by
        intro nm hnm
        rw [r3, g3]
        have := hist_exists st.fs (privFile s) nm (by simp only [historicalNames]; exact List.mem_cons_of_mem _ hnm)
        simp only [List.mem_reverse, List.mem_map] at hnm
        obtain ⟨e, _, rfl⟩ := hnm
        obtain ⟨e', he'⟩ := this e.1 rfl
        exact ⟨e.1, e', rfl, he'⟩),
        r3, g3, ← List.map_reverse, pureAll_hist (hm.fs.priv s) _ (fun e he => List.mem_reverse.1 he)]
      simp [FS.oldIds]
    simp only
    rw [hres]
    refine ⟨fun _ => by simp, fun l hl => ?_⟩
    cases hl
    refine ⟨x, rfl, ?_, ?_⟩
    · intro hne
      rcases g2 _ _ (hx1 hne) with h | h
      · exact h
      · cases fresh_rel_priv hm.fs s _ h
        exact absurd rfl hne
    · intro v hv
      have hev := V1.readAllAux_evol (privFile s) (!s.kind.isPair) rfl
        ((st.fs.old (privFile s)).map fun e => some e.1).reverse st2 [x]
      rw [r3, g3] at hev
      rcases hev _ _ hv with h | h
      · rcases r2 _ _ h with h' | h'
        · exact Or.inl (hx2 v h')
        · exact Or.inr (fresh_rel_priv hm.fs s v h')
      · exact Or.inr (fresh_rel_priv hm.fs s v h)

/-- slot `s` holds generation `g` for read-all: it is in the history directory, or it is the newest
generation and the cache does not shadow the current key with another one -/
def V1.Holds (st : V1) (s : Slot) (g : Nat) : Prop :=
  g ∈ st.fs.oldIds (privFile s) ∨ (g = st.count s ∧ ∀ v, st.look (.rel (privFile s)) = some v → v = .key g)

theorem alive_iff {fs : FS} {count : Slot → Nat} (hi : FSInv fs count) (s : Slot) (g : Nat) :
    g ∈ (absFS fs count s).survivors ↔ (count s ≠ 0 ∧ (g ∈ fs.oldIds (privFile s) ∨ g = count s)) := by
  rw [survivors_abs hi]
  by_cases hn : count s = 0 <;> simp [hn]

theorem absFS_length (fs : FS) (count : Slot → Nat) (s : Slot) : (absFS fs count s).length = count s := by
  simp [absFS]

theorem survivors_generate (sl : SpecSlot) : (SpecSlot.generate sl).survivors = sl.survivors ++ [sl.length + 1] := by
  simp [SpecSlot.generate, SpecSlot.survivors]

/-- no operation other than generate makes a generation alive, and generate only the new one -/
theorem survivors_back (fmt : Fmt) (sp : Spec) (o : Op) (s : Slot) (g : Nat)
    (h : g ∈ ((Spec.stepApi fmt sp o).1 s).survivors) : g ∈ (sp s).survivors ∨ g = (sp s).length + 1 := by
  -- the state after `o` is `sp`, or `sp` with the history of one slot generated once more or with one id destroyed
  have hupd : ∀ s0 sl, (s = s0 → g ∈ sl.survivors → g ∈ (sp s).survivors ∨ g = (sp s).length + 1) →
      g ∈ (upd sp s0 sl s).survivors → g ∈ (sp s).survivors ∨ g = (sp s).length + 1 := by
    intro s0 sl hsl h
    by_cases hs : s = s0
    · rw [hs, upd_same] at h; exact hsl hs h
    · rw [upd_other _ _ _ _ hs] at h; exact Or.inl h
  have hdestroy : ∀ s0 g0, s = s0 → g ∈ ((sp s0).destroyId g0).survivors → g ∈ (sp s).survivors ∨ g = (sp s).length + 1 := by
    intro s0 g0 hs h
    rw [survivors_destroyId] at h
    exact Or.inl (hs ▸ (List.mem_filter.1 h).1)
  cases o with
  | gen s0 =>
    refine hupd s0 _ (fun hs h => ?_) h
    rw [survivors_generate] at h
    rcases List.mem_append.1 h with h | h
    · exact Or.inl (hs ▸ h)
    · exact Or.inr (by simpa [hs] using h)
  | drot s0 i =>
    simp only [Spec.stepApi, Spec.step, SpecSlot.destroyRotated] at h
    split at h
    · cases hl : (sp s0).listedAt i with
      | none => simp only [hl, Option.map_none] at h; exact Or.inl h
      | some g0 => simp only [hl, Option.map_some] at h; exact hupd s0 _ (hdestroy s0 g0) h
    · exact Or.inl h
  | dcur s0 =>
    simp only [Spec.stepApi, Spec.step, SpecSlot.destroyCurrent] at h
    split at h
    · refine hupd s0 _ (fun hs h => ?_) h
      split at h
      · exact hdestroy s0 _ hs h
      · exact Or.inl (hs ▸ h)
    · exact Or.inl h
  | all s0 =>
    simp only [Spec.stepApi, Spec.step] at h
    split at h <;> exact Or.inl h
  | _ => exact Or.inl h

theorem countStep_mono (count : Slot → Nat) (o : Op) (s : Slot) : count s ≤ countStep count o s := by
  cases o with
  | gen s0 =>
    simp only [countStep]
    by_cases hs : s = s0
    · subst hs; simp
    · simp [upd, hs]
  | _ => exact Nat.le_refl _

theorem V1.step_count_mono (st : V1) (o : Op) (s : Slot) : st.count s ≤ (st.step o).1.count s := by
  rw [(V1.step_fs st o).2]
  exact countStep_mono _ _ _

/-- a generation that survives after a step (and existed before it) survived before it: `survivors_back`, a fact
about the specification, pulled back through `V1.step_sim` at the store without cache `⟨fs, none, count⟩` -/
theorem alive_back_step {fs : FS} {count : Slot → Nat} (hi : FSInv fs count) (o : Op) (ho : o.isDcur = false)
    (s : Slot) (g : Nat) (hg : g ≤ count s)
    (h : g ∈ (absFS (fsStep fs count o) (countStep count o) s).survivors) : g ∈ (absFS fs count s).survivors := by
  have hsim := V1.step_sim ⟨fs, none, count⟩ o ⟨rfl, hi⟩ ho
  have hfs := V1.step_fs ⟨fs, none, count⟩ o
  have habs : absFS (fsStep fs count o) (countStep count o) = (Spec.stepApi .v1 (absFS fs count) o).1 := by
    have e : absFS (V1.step ⟨fs, none, count⟩ o).1.fs (V1.step ⟨fs, none, count⟩ o).1.count =
        (Spec.stepApi .v1 (absFS fs count) o).1 := hsim.2.1
    rw [hfs.1, hfs.2] at e
    exact e
  rw [habs] at h
  rcases survivors_back _ _ _ _ _ h with h | h
  · exact h
  · rw [absFS_length] at h; omega

theorem alive_back_run (ops : List Op) (st : V1) (hi : FSInv st.fs st.count) (hops : ∀ o ∈ ops, o.isDcur = false)
    (s : Slot) (g : Nat) (hg : g ≤ st.count s)
    (h : g ∈ ((st.run ops).1.abs s).survivors) : g ∈ (st.abs s).survivors := by
  induction ops generalizing st with
  | nil => exact h
  | cons o os ih =>
    have hfs := V1.step_fs st o
    have ho := hops o (by simp)
    have := ih (st.step o).1 (V1.step_fsInv st o hi ho) (fun o' ho' => hops o' (by simp [ho']))
      (Nat.le_trans hg (V1.step_count_mono st o s)) h
    unfold V1.abs at this
    rw [hfs.1, hfs.2] at this
    exact alive_back_step hi o ho s g hg this

theorem V1.holds_step (st : V1) (o : Op) (hm : st.MInv) (ho : o.isDcur = false) (s : Slot) (g : Nat)
    (hh : st.Holds s g) (halive : g ∈ ((st.step o).1.abs s).survivors) : (st.step o).1.Holds s g := by
  obtain ⟨hm', hkey⟩ := V1.step_minv st o hm ho
  unfold V1.abs at halive
  rw [alive_iff hm'.fs] at halive
  obtain ⟨_, ha | ha⟩ := halive
  · exact Or.inl ha
  · have hcnt := V1.step_count_mono st o s
    rcases hh with h1 | ⟨h1, h2⟩
    · have := ((hm.fs.priv s).bound g h1).2; omega
    · refine Or.inr ⟨ha, ?_⟩
      intro v hv
      rcases hkey s v hv with h | h
      · exact h2 v h
      · rw [h, ← ha]

theorem V1.holds_run (ops : List Op) (st : V1) (hm : st.MInv) (hops : ∀ o ∈ ops, o.isDcur = false) (s : Slot) (g : Nat)
    (hg : g ≤ st.count s) (hh : st.Holds s g) (halive : g ∈ ((st.run ops).1.abs s).survivors) :
    (st.run ops).1.MInv ∧ (st.run ops).1.Holds s g := by
  induction ops generalizing st with
  | nil => exact ⟨hm, hh⟩
  | cons o os ih =>
    have ho := hops o (by simp)
    have hm' := (V1.step_minv st o hm ho).1
    have hg' : g ≤ (st.step o).1.count s := Nat.le_trans hg (V1.step_count_mono st o s)
    have halive' : g ∈ ((st.step o).1.abs s).survivors :=
      alive_back_run os (st.step o).1 hm'.fs (fun o' ho' => hops o' (by simp [ho'])) s g hg' halive
    exact ih (st.step o).1 hm' (fun o' ho' => hops o' (by simp [ho'])) hg' (V1.holds_step st o hm ho s g hh halive') halive

theorem V1.run_minv (ops : List Op) (st : V1) (hm : st.MInv) (hops : ∀ o ∈ ops, o.isDcur = false) : (st.run ops).1.MInv := by
  induction ops generalizing st with
  | nil => exact hm
  | cons o os ih => exact ih _ (V1.step_minv st o hm (hops o (by simp))).1 (fun o' ho' => hops o' (by simp [ho']))

theorem survivors_pos (fs : FS) (count : Slot → Nat) (s : Slot) (g : Nat) (h : g ∈ (absFS fs count s).survivors) : 0 < g := by
  unfold absFS at h
  rw [survivors_range] at h
  obtain ⟨i, _, rfl⟩ := List.mem_map.1 (List.mem_filter.1 h).1
  omega

/-- The idea: a survivor `g` that read-all offered is afterwards *held* (`V1.Holds`), `V1.holds_run` carries
that through `ops2` as long as `g` survives, and read-all of a state that holds `g` offers it
(`V1.readAll_front`). -/
theorem V1.cache_monotone (st1 : V1) (hm1 : st1.MInv) (ops2 : List Op) (s : Slot) (g : Nat)
    (h2 : ∀ o ∈ ops2, o.isDcur = false) (l1 : List Nat)
    (hobs : (st1.step (.all s)).2 = .keys l1) (hg : g ∈ l1)
    (halive : g ∈ (((st1.step (.all s)).1.run ops2).1.abs s).survivors) :
    ∃ l2, (((st1.step (.all s)).1.run ops2).1.step (.all s)).2 = .keys l2 ∧ g ∈ l2 := by
  -- the slot has a read-all
  have ha : s.kind.hasAll = true := by
    cases hh : s.kind.hasAll
    · simp [V1.step, hh] at hobs
    · rfl
  have hst : (st1.step (.all s)).1 = (st1.readAll s).1 := by simp [V1.step, ha]
  have hr1 : (st1.readAll s).2 = some l1 := by
    cases hr : (st1.readAll s).2 with
    | none => simp [V1.step, ha, hr] at hobs
    | some l => simp only [V1.step, ha, hr, not_true_eq_false, if_false, Obs.keys.injEq] at hobs; rw [hobs]
  have hm1' := (V1.step_minv st1 (.all s) hm1 rfl).1
  have hfs1 : (st1.step (.all s)).1.fs = st1.fs := (V1.step_fs st1 (.all s)).1
  have hcnt1 : (st1.step (.all s)).1.count = st1.count := (V1.step_fs st1 (.all s)).2
  -- g is a positive generation
  have hpos : 0 < g := survivors_pos _ _ s g halive
  obtain ⟨x, hl1, hx1, hx2⟩ := (V1.readAll_front st1 s hm1 ha).2 l1 hr1
  -- g is the first key offered or comes from the history directory
  have hgx : g = x ∨ g < st1.count s := by
    rw [hl1] at hg
    rcases List.mem_cons.1 hg with h | h
    · exact Or.inl h
    · exact Or.inr ((hm1.fs.priv s).bound g (List.mem_reverse.1 h)).2
  -- g existed at the time of the first read
  have hgle : g ≤ st1.count s := by
    rcases hgx with rfl | h
    · by_cases hxc : g = st1.count s
      · omega
      · obtain ⟨g', hv, hle⟩ := hm1.coh _ _ (hx1 hxc) rfl
        cases hv
        exact hle
    · omega
  -- it survives at the first read
  have halive1' : g ∈ (((st1.step (.all s)).1.abs s).survivors) :=
    alive_back_run ops2 _ hm1'.fs h2 s g (by rw [hcnt1]; exact hgle) halive
  have halive1 : g ∈ (absFS st1.fs st1.count s).survivors := by
    unfold V1.abs at halive1'; rw [hfs1, hcnt1] at halive1'; exact halive1'
  -- read-all holds it afterwards
  have hholds1 : (st1.step (.all s)).1.Holds s g := by
    rw [alive_iff hm1.fs] at halive1
    unfold V1.Holds
    rw [hfs1, hcnt1]
    rcases halive1.2 with h | h
    · exact Or.inl h
    · refine Or.inr ⟨h, ?_⟩
      intro v hv
      rw [hst] at hv
      have hxg : x = g := by
        rcases hgx with h' | h'
        · exact h'.symm
        · omega
      rcases hx2 v hv with h' | h'
      · rw [h', hxg]
      · rw [h', h]
  obtain ⟨hm2, hholds2⟩ := V1.holds_run ops2 _ hm1' h2 s g (by rw [hcnt1]; exact hgle) hholds1 halive
  generalize ((st1.step (.all s)).1.run ops2).1 = st2 at hm2 hholds2 halive ⊢
  have halive2 := halive
  unfold V1.abs at halive2
  rw [alive_iff hm2.fs] at halive2
  obtain ⟨hsome, hshape⟩ := V1.readAll_front st2 s hm2 ha
  obtain ⟨l2, hy⟩ := Option.ne_none_iff_exists'.1 (hsome halive2.1)
  obtain ⟨y, rfl, hy1, _⟩ := hshape l2 hy
  refine ⟨y :: (st2.fs.oldIds (privFile s)).reverse, by simp [V1.step, ha, hy], ?_⟩
  rcases hholds2 with h | ⟨h, hsh⟩
  · exact List.mem_cons_of_mem _ (List.mem_reverse.2 h)
  · by_cases hyc : y = st2.count s
    · rw [hyc, ← h]; exact List.mem_cons_self
    · have := hsh _ (hy1 hyc)
      cases this
      exact List.mem_cons_self

theorem V1.run_append (a b : List Op) (st : V1) : (st.run (a ++ b)).1 = ((st.run a).1.run b).1 := by
  induction a generalizing st with
  | nil => rfl
  | cons o os ih => simp only [List.cons_append, V1.run]; exact ih _

/-- the abstraction of a cached run is the specification's state: the storage does not depend on the cache -/
theorem V1.abs_run_cached (c : Int) (ops : List Op) (hops : ∀ o ∈ ops, o.isDcur = false) :
    ((V1.init c).run ops).1.abs = (Spec.runApi .v1 Spec.init ops).1 := by
  obtain ⟨h1, h2⟩ := V1.run_fs ops (V1.init c) (V1.init (-1)) (Eq.refl FS.init) (Eq.refl fun _ => 0)
  have h := V1.run_sim ops (V1.init (-1)) V1.Inv.init hops
  have habs : (V1.init (-1)).abs = Spec.init := rfl
  rw [habs] at h
  rw [← h.2.1]
  unfold V1.abs
  rw [h1, h2]

end AcraModel.Keystore
