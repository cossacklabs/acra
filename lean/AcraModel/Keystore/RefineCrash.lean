import AcraModel.Keystore.CrashLemmas
import AcraModel.Keystore.RefineV2Step
import AcraModel.Keystore.RefineCacheStep
/-!
# Whole write operations under a fault (C08): invariants of the fault executor

`X1.exec_inv` is the induction principle of `X1.exec`: a relation `R` between the calls still to be
made and the storage that survives performing the next call and the executor's error paths (the
backup inserted after a failing `Stat`, `Copy` after a failing `Link`) yields a property `Fin` of the
storage wherever the execution stops – after any fault, in any mode.
-/
namespace AcraModel.Keystore

@[simp] theorem X1.note_st (x : X1) (c : Call) : (x.note c).st = x.st := rfl
@[simp] theorem X1.note_out (x : X1) (c : Call) : (x.note c).out = x.out := rfl

theorem X1.perform_fs (x : X1) (c : Call) :
    (applyCall x.st.fs c = none ∧ x.perform c = (x, false)) ∨
    (∃ fs', applyCall x.st.fs c = some fs' ∧ x.perform c = (x.setFs fs', true)) := by
  unfold X1.perform
  cases h : applyCall x.st.fs c with
  | none => exact Or.inl ⟨rfl, rfl⟩
  | some fs' => exact Or.inr ⟨fs', rfl, rfl⟩

theorem X1.exec_inv (ft : Fault) (R : List Call → FS → Prop) (Fin : FS → Prop)
    (h_stop : ∀ cs fs, R cs fs → Fin fs)
    (h_perf : ∀ c cs fs fs', R (c :: cs) fs → applyCall fs c = some fs' → R cs fs')
    (h_stat : ∀ f cs fs, R (.stat f :: cs) fs → R (.mkdirOld f :: .link f :: cs) fs)
    (h_link : ∀ f cs fs, R (.link f :: cs) fs → R (.copy f :: cs) fs)
    (h_torn : ∀ id f g cs fs fs', R (.writeFile id f (.full g) :: cs) fs →
      applyCall fs (.writeFile id f (.torn g)) = some fs' → Fin fs')
    (fuel : Nat) (x : X1) (cs : List Call) (h : R cs x.st.fs) : Fin (X1.exec ft fuel x cs).st.fs := by
  induction fuel generalizing x cs with
  | zero => simp only [X1.exec]; exact h_stop _ _ h
  | succ fuel ih =>
    cases cs with
    | nil => simp only [X1.exec]; exact h_stop _ _ h
    | cons c cs =>
      simp only [X1.exec]
      by_cases hout : x.out ≠ .ok
      · rw [if_pos hout]; exact h_stop _ _ h
      · rw [if_neg hout]
        -- the state carried by the bookkeeping record
        generalize hmode : (if x.fired = true then FaultMode.none else ft.at x.idx) = mode
        have hx1 : ∀ (b : Bool), (if b then ({ x.note c with fired := true } : X1) else x.note c).st = x.st := by
          intro b; cases b <;> rfl
        generalize hx1' : (if mode ≠ FaultMode.none then ({ x.note c with fired := true } : X1) else x.note c) = x1
        have hst1 : x1.st = x.st := by
          rw [← hx1']; split <;> rfl
        have hR1 : R (c :: cs) x1.st.fs := by rw [hst1]; exact h
        cases mode with
        | cb => exact h_stop _ _ hR1
        | ca =>
          simp only
          rcases X1.perform_fs x1 c with ⟨_, hp⟩ | ⟨fs', ha, hp⟩
          · rw [hp]; exact h_stop _ _ hR1
          · rw [hp]; exact h_stop _ _ (h_perf _ _ _ _ hR1 ha)
        | torn =>
          simp only
          split
          · rename_i id f g
            rcases X1.perform_fs x1 (.writeFile id f (.torn g)) with ⟨_, hp⟩ | ⟨fs', ha, hp⟩
            · rw [hp]; exact h_stop _ _ hR1
            · rw [hp]; exact h_torn _ _ _ _ _ _ hR1 ha
          · exact h_stop _ _ hR1
        | err =>
          simp only
          split
          · rename_i f
            split
            · apply ih
              exact h_perf _ _ _ _ hR1 rfl
            · apply ih
              exact h_stat _ _ _ hR1
          · rename_i f
            apply ih
            exact h_link _ _ _ hR1
          · exact h_stop _ _ hR1
        | none =>
          simp only
          rcases X1.perform_fs x1 c with ⟨_, hp⟩ | ⟨fs', ha, hp⟩
          · rw [hp]
            simp only
            split
            · rename_i f
              apply ih
              exact h_link _ _ _ hR1
            · exact h_stop _ _ hR1
          · rw [hp]
            simp only
            apply ih
            exact h_perf _ _ _ _ hR1 ha

/-- **Outcome of one `WriteKeyFile(<f>, c)` under any fault**, relative to the storage `fs0` before it:
no other file changes, the history of `<f>` only grows, and the current file is what it was or is
completely the new content – and then the previous content is in the history. -/
structure WAtomic (fs0 fs : FS) (f : FileId) (c : Content) : Prop where
  others : ∀ f', f' ≠ f → fs.cur f' = fs0.cur f' ∧ fs.old f' = fs0.old f'
  grow : ∃ l, fs.old f = fs0.old f ++ l
  target : fs.cur f = fs0.cur f ∨ (fs.cur f = some c ∧ ∀ c0, fs0.cur f = some c0 → ∃ t, (t, c0) ∈ fs.old f)

/-- before the final rename -/
structure WPre (fs0 fs : FS) (f : FileId) : Prop where
  cur : fs.cur = fs0.cur
  others : ∀ f', f' ≠ f → fs.old f' = fs0.old f'
  grow : ∃ l, fs.old f = fs0.old f ++ l

def WBacked (fs0 fs : FS) (f : FileId) : Prop := ∀ c0, fs0.cur f = some c0 → ∃ t, (t, c0) ∈ fs.old f

def WMidCall (f : FileId) (x : Call) : Prop := x = .stat f ∨ x = .mkdirOld f ∨ x = .link f ∨ x = .copy f

/-- the backup of the previous content is done, or still ahead -/
def WPend (fs0 fs : FS) (f : FileId) (m : List Call) : Prop := WBacked fs0 fs f ∨ Call.link f ∈ m ∨ Call.copy f ∈ m

inductive WStage (fs0 : FS) (f : FileId) (c : Content) : List Call → FS → Prop
  | s0 (m : List Call) (fs : FS) : (∀ x ∈ m, WMidCall f x) → WPre fs0 fs f → fs.nextTmp = fs0.nextTmp → WPend fs0 fs f m →
      WStage fs0 f c (.mkdirAll f :: .tempFile f :: .writeFile fs0.nextTmp f c :: (m ++ [.rename fs0.nextTmp f])) fs
  | s1 (m : List Call) (fs : FS) : (∀ x ∈ m, WMidCall f x) → WPre fs0 fs f → fs.nextTmp = fs0.nextTmp → WPend fs0 fs f m →
      WStage fs0 f c (.tempFile f :: .writeFile fs0.nextTmp f c :: (m ++ [.rename fs0.nextTmp f])) fs
  | s2 (m : List Call) (fs : FS) : (∀ x ∈ m, WMidCall f x) → WPre fs0 fs f → fs.tmps.any (·.1 = fs0.nextTmp) = true → WPend fs0 fs f m →
      WStage fs0 f c (.writeFile fs0.nextTmp f c :: (m ++ [.rename fs0.nextTmp f])) fs
  | mid (x : Call) (m : List Call) (fs : FS) : WMidCall f x → (∀ x ∈ m, WMidCall f x) → WPre fs0 fs f →
      fs.tmpContent fs0.nextTmp = some c → WPend fs0 fs f (x :: m) →
      WStage fs0 f c (x :: (m ++ [.rename fs0.nextTmp f])) fs
  | last (fs : FS) : WPre fs0 fs f → fs.tmpContent fs0.nextTmp = some c → WBacked fs0 fs f →
      WStage fs0 f c [.rename fs0.nextTmp f] fs
  | done (fs : FS) : WAtomic fs0 fs f c → WStage fs0 f c [] fs

theorem WPre.atomic {fs0 fs : FS} {f : FileId} (c : Content) (h : WPre fs0 fs f) : WAtomic fs0 fs f c :=
  ⟨fun f' hf' => ⟨by rw [h.cur], h.others f' hf'⟩, h.grow, Or.inl (by rw [h.cur])⟩

theorem WStage.stop {fs0 : FS} {f : FileId} {c : Content} {cs : List Call} {fs : FS} (h : WStage fs0 f c cs fs) :
    WAtomic fs0 fs f c := by
  cases h with
  | s0 m fs _ hp _ _ | s1 m fs _ hp _ _ | s2 m fs _ hp _ _ => exact hp.atomic c
  | mid x m fs _ _ hp _ _ => exact hp.atomic c
  | last fs hp _ _ => exact hp.atomic c
  | done fs h => exact h

theorem tmpContent_written (tmps : List (Nat × FileId × Content)) (id : Nat) (c : Content) (h : tmps.any (·.1 = id) = true) :
    ((tmps.map fun t => if t.1 = id then (t.1, t.2.1, c) else t).find? (·.1 = id)).map (·.2.2) = some c := by
  induction tmps with
  | nil => simp at h
  | cons t ts ih =>
    by_cases ht : t.1 = id
    · simp only [List.map_cons, ht, if_true, List.find?_cons, decide_true, Option.map_some]
    · have : ts.any (·.1 = id) = true := by simpa only [List.any_cons, ht, decide_false, Bool.false_or] using h
      simp only [List.map_cons, ht, if_false, List.find?_cons, decide_false]
      exact ih this

/-- once the temporary file holds `c`: the backup calls `m` still to come, then the rename -/
theorem WStage.backup {fs0 : FS} {f : FileId} {c : Content} {m : List Call} {fs : FS}
    (hm : ∀ x ∈ m, WMidCall f x) (hp : WPre fs0 fs f) (htc : fs.tmpContent fs0.nextTmp = some c)
    (hpe : WPend fs0 fs f m) : WStage fs0 f c (m ++ [.rename fs0.nextTmp f]) fs := by
  cases m with
  | nil =>
    refine .last _ hp htc ?_
    rcases hpe with h | h | h
    · exact h
    · cases h
    · cases h
  | cons y m' =>
    exact .mid y m' _ (hm y List.mem_cons_self) (fun z hz => hm z (List.mem_cons_of_mem _ hz)) hp htc hpe

/-- a staged continuation goes on or stops in an admissible state when its next call is performed -/
theorem WStage.perform {fs0 : FS} {f : FileId} {c : Content} {x : Call} {cs : List Call} {fs fs' : FS}
    (h : WStage fs0 f c (x :: cs) fs) (ha : applyCall fs x = some fs') : WStage fs0 f c cs fs' := by
  cases h with
  | s0 m fs hm hp hn hpe =>
    simp only [applyCall, Option.some.injEq] at ha
    subst ha
    exact .s1 m _ hm hp hn hpe
  | s1 m fs hm hp hn hpe =>
    simp only [applyCall, Option.some.injEq] at ha
    subst ha
    refine .s2 m _ hm ⟨hp.cur, hp.others, hp.grow⟩ ?_ hpe
    simp [hn]
  | s2 m fs hm hp hn hpe =>
    simp only [applyCall, hn, if_true, Option.some.injEq] at ha
    subst ha
    have htc : FS.tmpContent { fs with tmps := fs.tmps.map fun t => if t.1 = fs0.nextTmp then (t.1, t.2.1, c) else t } fs0.nextTmp = some c :=
      tmpContent_written fs.tmps fs0.nextTmp c hn
    exact .backup hm ⟨hp.cur, hp.others, hp.grow⟩ htc hpe
  | mid _ m fs hx hm hp htc hpe =>
    -- a call of the backup: Stat, MkdirAll(.old), Link or Copy
    have hstep : WPre fs0 fs' f ∧ fs'.tmpContent fs0.nextTmp = some c ∧
        (WBacked fs0 fs f → WBacked fs0 fs' f) ∧ ((x = .link f ∨ x = .copy f) → WBacked fs0 fs' f) := by
      rcases hx with rfl | rfl | hx
      · simp only [applyCall, Option.some.injEq] at ha; subst ha
        exact ⟨hp, htc, id, by intro h; rcases h with h | h <;> cases h⟩
      · simp only [applyCall, Option.some.injEq] at ha; subst ha
        exact ⟨⟨hp.cur, hp.others, hp.grow⟩, htc, id, by intro h; rcases h with h | h <;> cases h⟩
      · -- `Link` and `Copy` have the same effect
        obtain ⟨c1, hc1, -, rfl⟩ := applyCall_backup hx ha
        obtain ⟨l, hl⟩ := hp.grow
        refine ⟨⟨hp.cur, fun f' hf' => by simpa [upd, hf'] using hp.others f' hf', ⟨l ++ [(fs.clock, c1)], by simp [hl]⟩⟩,
          htc, ?_, ?_⟩
        · intro hb c0 hc0
          obtain ⟨t, ht⟩ := hb c0 hc0
          exact ⟨t, by simp [ht]⟩
        · intro _ c0 hc0
          rw [← hp.cur, hc1] at hc0
          cases hc0
          exact ⟨fs.clock, by simp⟩
    obtain ⟨hp', htc', hb1, hb2⟩ := hstep
    have hpend' : WBacked fs0 fs' f ∨ Call.link f ∈ m ∨ Call.copy f ∈ m := by
      rcases hpe with h | h | h
      · exact Or.inl (hb1 h)
      · rcases List.mem_cons.1 h with h | h
        · exact Or.inl (hb2 (Or.inl h.symm))
        · exact Or.inr (Or.inl h)
      · rcases List.mem_cons.1 h with h | h
        · exact Or.inl (hb2 (Or.inr h.symm))
        · exact Or.inr (Or.inr h)
    exact .backup hm hp' htc' hpend'
  | last fs hp htc hb =>
    simp only [applyCall, htc, Option.some.injEq] at ha
    subst ha
    refine .done _ ⟨?_, hp.grow, Or.inr ⟨by simp, hb⟩⟩
    intro f' hf'
    exact ⟨by simp [upd, hf', hp.cur], hp.others f' hf'⟩

theorem WStage.statErr {fs0 : FS} {f f' : FileId} {c : Content} {cs : List Call} {fs : FS}
    (h : WStage fs0 f c (.stat f' :: cs) fs) : WStage fs0 f c (.mkdirOld f' :: .link f' :: cs) fs := by
  cases h with
  | mid _ m fs hx hm hp htc hpe =>
    have hff : f' = f := by
      rcases hx with h | h | h | h <;> cases h; rfl
    subst hff
    have : Call.mkdirOld f' :: Call.link f' :: (m ++ [Call.rename fs0.nextTmp f']) =
        Call.mkdirOld f' :: ((Call.link f' :: m) ++ [Call.rename fs0.nextTmp f']) := rfl
    rw [this]
    refine .mid _ _ _ (Or.inr (Or.inl rfl)) ?_ hp htc (Or.inr (Or.inl (by simp)))
    intro z hz
    rcases List.mem_cons.1 hz with rfl | hz
    · exact Or.inr (Or.inr (Or.inl rfl))
    · exact hm z hz

theorem WStage.linkErr {fs0 : FS} {f f' : FileId} {c : Content} {cs : List Call} {fs : FS}
    (h : WStage fs0 f c (.link f' :: cs) fs) : WStage fs0 f c (.copy f' :: cs) fs := by
  cases h with
  | mid _ m fs hx hm hp htc hpe =>
    have hff : f' = f := by
      rcases hx with h | h | h | h <;> cases h; rfl
    subst hff
    refine .mid _ _ _ (Or.inr (Or.inr (Or.inr rfl))) hm hp htc ?_
    rcases hpe with h | h | h
    · exact Or.inl h
    · exact Or.inr (Or.inr (by simp))
    · exact Or.inr (Or.inr (by simp))

theorem WStage.torn {fs0 : FS} {f f' : FileId} {c : Content} {id g : Nat} {cs : List Call} {fs fs' : FS}
    (h : WStage fs0 f c (.writeFile id f' (.full g) :: cs) fs) (ha : applyCall fs (.writeFile id f' (.torn g)) = some fs') :
    WAtomic fs0 fs' f c := by
  cases h with
  | s2 m fs hm hp hn hpe =>
    simp only [applyCall, hn, if_true, Option.some.injEq] at ha
    subst ha
    refine WPre.atomic _ ?_
    exact ⟨hp.cur, hp.others, hp.grow⟩
  | mid _ m fs hx hm hp htc hpe =>
    rcases hx with h | h | h | h <;> cases h

theorem writeKeyFile_fault (ft : Fault) (x : X1) (f : FileId) (c : Content) (fuel : Nat) :
    WAtomic x.st.fs (X1.exec ft fuel x (writeKeyFileCalls x.st.fs f c)).st.fs f c := by
  apply X1.exec_inv ft (WStage x.st.fs f c) (fun fs => WAtomic x.st.fs fs f c)
    (fun _ _ h => h.stop) (fun _ _ _ _ h ha => h.perform ha) (fun _ _ _ h => h.statErr) (fun _ _ _ h => h.linkErr)
    (fun _ _ _ _ _ _ h ha => h.torn ha)
  -- the initial continuation is stage 0
  have hpre : WPre x.st.fs x.st.fs f := ⟨rfl, fun _ _ => rfl, ⟨[], by simp⟩⟩
  unfold writeKeyFileCalls
  cases hc : x.st.fs.cur f with
  | none =>
    have : [Call.mkdirAll f, .tempFile f, .writeFile x.st.fs.nextTmp f c, .stat f] ++
        (if (none : Option Content).isSome then [Call.mkdirOld f, .link f] else []) ++ [.rename x.st.fs.nextTmp f] =
        .mkdirAll f :: .tempFile f :: .writeFile x.st.fs.nextTmp f c :: ([.stat f] ++ [.rename x.st.fs.nextTmp f]) := rfl
    rw [this]
    refine .s0 _ _ ?_ hpre rfl (Or.inl ?_)
    · intro z hz; simp at hz; subst hz; exact Or.inl rfl
    · intro c0 hc0; rw [hc] at hc0; cases hc0
  | some c1 =>
    have : [Call.mkdirAll f, .tempFile f, .writeFile x.st.fs.nextTmp f c, .stat f] ++
        (if (some c1 : Option Content).isSome then [Call.mkdirOld f, .link f] else []) ++ [.rename x.st.fs.nextTmp f] =
        .mkdirAll f :: .tempFile f :: .writeFile x.st.fs.nextTmp f c :: ([.stat f, .mkdirOld f, .link f] ++ [.rename x.st.fs.nextTmp f]) := rfl
    rw [this]
    refine .s0 _ _ ?_ hpre rfl (Or.inr (Or.inl (by simp)))
    intro z hz
    simp at hz
    rcases hz with rfl | rfl | rfl
    · exact Or.inl rfl
    · exact Or.inr (Or.inl rfl)
    · exact Or.inr (Or.inr (Or.inl rfl))

theorem X1.run_readDirHist_fs (ft : Fault) (x : X1) (f : FileId) : (X1.run ft x [.readDirHist f]).st.fs = x.st.fs := by
  unfold X1.run
  apply X1.exec_inv ft (fun cs fs => (cs = [.readDirHist f] ∨ cs = []) ∧ fs = x.st.fs) (fun fs => fs = x.st.fs)
  · intro cs fs h; exact h.2
  · intro c cs fs fs' h ha
    rcases h.1 with h1 | h1
    · cases h1
      simp only [applyCall, Option.some.injEq] at ha
      exact ⟨Or.inr rfl, by rw [← ha]; exact h.2⟩
    · cases h1
  · intro f' cs fs h; rcases h.1 with h1 | h1 <;> cases h1
  · intro f' cs fs h; rcases h.1 with h1 | h1 <;> cases h1
  · intro id f' g cs fs fs' h; rcases h.1 with h1 | h1 <;> cases h1
  · exact ⟨Or.inl rfl, rfl⟩

theorem X1.refresh_fs (ft : Fault) (x : X1) (f : FileId) : (x.refresh ft f).st.fs = x.st.fs := by
  unfold X1.refresh
  split
  · rfl
  · have h1 := V1.cget_fs x.st (.names f)
    generalize x.st.cget (.names f) = p at h1 ⊢
    obtain ⟨st', r⟩ := p
    simp only at h1
    cases r with
    | none => exact h1
    | some v =>
      simp only
      have h2 := X1.run_readDirHist_fs ft { x with st := st' } f
      split
      · simp only [V1.loadNames_fs]; rw [h2]; exact h1
      · rw [h2]; exact h1

theorem X1.cache_fs (x : X1) (g : V1 → V1) (hg : ∀ st, (g st).fs = st.fs) : (x.cache g).st.fs = x.st.fs := by
  unfold X1.cache
  split
  · exact hg _
  · rfl

theorem V1.stepF_gen_atomic (st : V1) (ft : Fault) (s : Slot) (hp : s.kind.isPair = false) :
    WAtomic st.fs (st.stepF ft (.gen s)).1.fs (privFile s) (.full (st.count s + 1)) := by
  have hw := writeKeyFile_fault ft ⟨{ st with count := upd st.count s (st.count s + 1) }, [], 0, .ok, false⟩
    (privFile s) (.full (st.count s + 1)) (2 * (genCalls st.fs s (st.count s + 1)).length + 8)
  have hcalls : genCalls st.fs s (st.count s + 1) = writeKeyFileCalls st.fs (privFile s) (.full (st.count s + 1)) := by
    simp [genCalls, hp]
  simp only [V1.stepF, X1.run]
  rw [hcalls] at hw ⊢
  cases hk : s.kind <;> simp only [hk, Kind.isPair] at hp ⊢
  case ss | ps => rw [X1.refresh_fs]; exact hw
  case hm | al =>
    rw [X1.cache_fs _ (fun st_1 => st_1.cadd (.rel (privFile s)) (.key (st.count s + 1))) (fun _ => rfl)]; exact hw
  all_goals cases hp

theorem WAtomic.holds {fs0 fs : FS} {f : FileId} {c : Content} (h : WAtomic fs0 fs f c) (f' : FileId) (g : Nat)
    (hh : fs0.holds f' g = true) : fs.holds f' g = true := by
  by_cases hf : f' = f
  · subst hf
    obtain ⟨l, hl⟩ := h.grow
    simp only [FS.holds, Bool.or_eq_true, beq_iff_eq, List.any_eq_true] at hh ⊢
    rcases hh with hh | ⟨e, he, hec⟩
    · rcases h.target with ht | ⟨_, hb⟩
      · exact Or.inl (ht ▸ hh)
      · obtain ⟨t, ht⟩ := hb _ hh
        exact Or.inr ⟨_, ht, by simp⟩
    · exact Or.inr ⟨e, by rw [hl]; exact List.mem_append_left _ he, hec⟩
  · obtain ⟨h1, h2⟩ := h.others f' hf
    simpa [FS.holds, h1, h2] using hh

theorem X2.phase_atomic (ft : Fault) (x : X2) (s : Slot) (compute : Option Ring → Option (Option Ring)) :
    (∀ s', s' ≠ s → (x.phase ft s compute).st.rings s' = x.st.rings s') ∧
    ((x.phase ft s compute).st.rings s = x.st.rings s ∨
      ∃ r, compute (x.st.rings s) = some (some r) ∧ (x.phase ft s compute).st.rings s = some r) := by
  apply X2.phase_inv ft x s compute
    (fun st => (∀ s', s' ≠ s → st.rings s' = x.st.rings s') ∧
      (st.rings s = x.st.rings s ∨ ∃ r, compute (x.st.rings s) = some (some r) ∧ st.rings s = some r))
  · exact ⟨fun _ _ => rfl, Or.inl rfl⟩
  · intro st h; exact h
  · intro st r hr h
    refine ⟨fun s' hs' => ?_, Or.inr ⟨r, hr, by simp⟩⟩
    simp [upd, hs', h.1 s' hs']

/-- `OpenKeyRingRW` under any fault: the ring is what it was or – there was none – the empty ring -/
theorem X2.openRW_atomic (ft : Fault) (x : X2) (s : Slot) :
    (∀ s', s' ≠ s → (x.openRW ft s).st.rings s' = x.st.rings s') ∧
    ((x.openRW ft s).st.rings s = x.st.rings s ∨ (x.st.rings s = none ∧ (x.openRW ft s).st.rings s = some Ring.empty)) := by
  obtain ⟨ho, hc⟩ := X2.phase_atomic ft x s fun r => match r with | some _ => some none | none => some (some Ring.empty)
  refine ⟨ho, hc.imp_right ?_⟩
  rintro ⟨r, hr, h⟩
  cases h0 : x.st.rings s <;> rw [h0] at hr <;> cases hr
  exact ⟨rfl, h⟩

theorem X2.openRW_some (ft : Fault) (x : X2) (s : Slot) {r : Ring} (hr : x.st.rings s = some r) :
    (x.openRW ft s).st.rings s = some r := by
  rcases (X2.openRW_atomic ft x s).2 with h | ⟨h, _⟩
  · exact h.trans hr
  · rw [hr] at h; cases h

/-- `writeKeyRing` under any fault: the ring is what it was or the stored ring with all transactions applied -/
theorem X2.write_atomic (ft : Fault) (x : X2) (s : Slot) (txs : List Tx) :
    (∀ s', s' ≠ s → (x.write ft s txs).st.rings s' = x.st.rings s') ∧
    ((x.write ft s txs).st.rings s = x.st.rings s ∨
      ∃ r r', x.st.rings s = some r ∧ applyTxs r txs = some r' ∧ (x.write ft s txs).st.rings s = some r') := by
  obtain ⟨ho, hc⟩ := X2.phase_atomic ft x s (writeCompute txs)
  refine ⟨ho, hc.imp_right ?_⟩
  rintro ⟨r', hr', h⟩
  cases h0 : x.st.rings s with
  | none => rw [h0] at hr'; cases hr'
  | some r =>
    rw [h0] at hr'
    cases ht : applyTxs r txs with
    | none => simp [writeCompute, ht] at hr'
    | some r1 =>
      simp only [writeCompute, ht, Option.map_some, Option.some.injEq] at hr'
      exact ⟨r, r', rfl, hr' ▸ ht, h⟩

theorem RingOK.setCurrent_fail {r : Ring} {n : Nat} (h : RingOK r n) :
    applyTxs r [.setCurrent r.current (some (n + 1))] = none := by
  have hf := h.find_none (n + 1) (Or.inr (Nat.lt_succ_self n))
  simp only [applyTxs, Tx.apply, ne_eq, not_true_eq_false, if_false]
  cases r.current <;> simp [hf]

/-- **generate/rotate on an existing ring under any fault**: every other ring is untouched; the ring
is what it was, or has the new key appended with the old key still current, or is completely rotated. -/
theorem V2.stepF_gen_atomic (st : V2) (ft : Fault) (s : Slot) (r : Ring) (hr : st.rings s = some r)
    (hok : RingOK r (st.count s)) :
    (∀ s', s' ≠ s → (st.stepF ft (.gen s)).1.rings s' = st.rings s') ∧
    ∃ r', (st.stepF ft (.gen s)).1.rings s = some r' ∧
      (r' = r ∨ r' = ⟨r.keys ++ [⟨st.count s + 1, .preActive, some (st.count s + 1)⟩], r.current⟩ ∨ r' = r.added (st.count s)) := by
  simp only [V2.stepF]
  -- phase 1: OpenKeyRingRW finds the ring
  have o1 := (X2.openRW_atomic ft ⟨{ st with count := upd st.count s (st.count s + 1) }, [], 0, .ok, false⟩ s).1
  have e1 := X2.openRW_some ft ⟨{ st with count := upd st.count s (st.count s + 1) }, [], 0, .ok, false⟩ s hr
  generalize X2.openRW ft ⟨{ st with count := upd st.count s (st.count s + 1) }, [], 0, .ok, false⟩ s = x1 at e1 o1 ⊢
  rw [e1, Option.getD_some, hok.nextSeq]
  -- phase 2: AddKey
  obtain ⟨o2, c2⟩ := X2.write_atomic ft x1 s [.addKey ⟨st.count s + 1, .preActive, some (st.count s + 1)⟩]
  generalize x1.write ft s [.addKey ⟨st.count s + 1, .preActive, some (st.count s + 1)⟩] = x2 at o2 c2 ⊢
  -- phase 3: SetCurrent, which is refused when the key was not added
  obtain ⟨o3, c3⟩ := X2.write_atomic ft x2 s [.setCurrent ((x2.st.rings s).getD Ring.empty).current (some (st.count s + 1))]
  refine ⟨fun s' hs' => by rw [o3 s' hs', o2 s' hs', o1 s' hs'], ?_⟩
  rcases c2 with c2 | ⟨r0, r1, h0, ht, c2⟩
  · rw [e1] at c2
    rcases c3 with c3 | ⟨r2, r3, h2, ht3, _⟩
    · exact ⟨_, c3.trans c2, Or.inl rfl⟩
    · rw [c2] at h2 ht3; cases h2
      rw [Option.getD_some, hok.setCurrent_fail] at ht3; cases ht3
  · rw [e1] at h0; cases h0
    rw [hok.addKey] at ht; cases ht
    rcases c3 with c3 | ⟨r2, r3, h2, ht3, c3⟩
    · exact ⟨_, c3.trans c2, Or.inr (Or.inl rfl)⟩
    · rw [c2] at h2 ht3; cases h2
      rw [Option.getD_some, hok.setCurrent] at ht3; cases ht3
      exact ⟨_, c3, Or.inr (Or.inr rfl)⟩

/-- outcome of `destroyRotatedKeyByIndex(<f>, i)` under any fault: nothing happened, or exactly the
history file listed as `i` is gone -/
def DAtomic (fs0 fs : FS) (f : FileId) (i : Nat) : Prop :=
  fs = fs0 ∨ ∃ t c, (fs0.old f)[i - Generated.KeyNames.v1DestroyIndexOffset]? = some (t, c) ∧
    fs = { fs0 with old := upd fs0.old f ((fs0.old f).filter (·.1 ≠ t)) }

inductive DStage (fs0 : FS) (f : FileId) (i : Nat) : List Call → FS → Prop
  | a : DStage fs0 f i [.readDirOld f] fs0
  | b (t : Nat) (c : Content) : (fs0.old f)[i - Generated.KeyNames.v1DestroyIndexOffset]? = some (t, c) →
      DStage fs0 f i [.readDirOld f, .removeOld f t] fs0
  | c (t : Nat) (c : Content) : (fs0.old f)[i - Generated.KeyNames.v1DestroyIndexOffset]? = some (t, c) →
      DStage fs0 f i [.removeOld f t] fs0
  | d (fs : FS) : DAtomic fs0 fs f i → DStage fs0 f i [] fs

theorem drot_fault (ft : Fault) (x : X1) (f : FileId) (i : Nat) (fuel : Nat) :
    DAtomic x.st.fs (X1.exec ft fuel x (drotFileCalls x.st.fs f i).1).st.fs f i := by
  apply X1.exec_inv ft (DStage x.st.fs f i) (fun fs => DAtomic x.st.fs fs f i)
  · intro cs fs h
    cases h with
    | a | b t c _ | c t c _ => exact Or.inl rfl
    | d fs h => exact h
  · intro c cs fs fs' h ha
    cases h with
    | a =>
      simp only [applyCall] at ha
      split at ha
      · cases ha; exact .d _ (Or.inl rfl)
      · cases ha
    | b t c ht =>
      simp only [applyCall] at ha
      split at ha
      · cases ha; exact .c t c ht
      · cases ha
    | c t c ht =>
      simp only [applyCall, Option.some.injEq] at ha
      subst ha
      exact .d _ (Or.inr ⟨t, c, ht, rfl⟩)
  · intro f' cs fs h; cases h
  · intro f' cs fs h; cases h
  · intro id f' g cs fs fs' h; cases h
  · unfold drotFileCalls
    by_cases h1 : ¬ x.st.fs.oldDir f = true
    · rw [if_pos h1]; exact .a
    rw [if_neg h1]
    by_cases h2 : i < 2 ∨ i > (x.st.fs.old f).length + 1
    · rw [if_pos h2]; exact .a
    rw [if_neg h2]
    cases hg : (x.st.fs.old f)[i - Generated.KeyNames.v1DestroyIndexOffset]? with
    | none => exact .a
    | some e => obtain ⟨t, c⟩ := e; exact .b t c hg

theorem X1.drotFile_atomic (ft : Fault) (x : X1) (f : FileId) (i : Nat) :
    DAtomic x.st.fs (X1.drotFile ft x f i).st.fs f i := by
  unfold X1.drotFile
  by_cases ho : x.out ≠ .ok
  · rw [if_pos ho]; exact Or.inl rfl
  · rw [if_neg ho]
    have h := drot_fault ft x f i (2 * (drotFileCalls x.st.fs f i).1.length + 8)
    dsimp only
    unfold X1.run
    split
    · exact h
    · split
      · rw [X1.refresh_fs]; exact h
      · exact h

theorem V1.stepF_drot_atomic (st : V1) (ft : Fault) (s : Slot) (i : Nat) (hp : s.kind.isPair = false) :
    DAtomic st.fs (st.stepF ft (.drot s i)).1.fs (privFile s) i := by
  simp only [V1.stepF]
  split
  · exact Or.inl rfl
  · simp only [hp, Bool.false_eq_true, if_false]
    exact X1.drotFile_atomic ft ⟨st, [], 0, .ok, false⟩ (privFile s) i

/-- the back end after a faulted destroy-rotated is the one it started from, the one `OpenKeyRingRW`
left, or the one after the single ring write that destroys the listed key -/
theorem V2.stepF_drot_shape (st : V2) (ft : Fault) (s : Slot) (i : Nat) (x1 : X2)
    (hx : x1 = X2.openRW ft ⟨st, [], 0, .ok, false⟩ s) :
    (st.stepF ft (.drot s i)).1 = st ∨ (st.stepF ft (.drot s i)).1 = x1.st ∨
    ∃ act q k, ((x1.st.rings s).getD Ring.empty).rotatedActive = some act ∧
      act[i - Generated.KeyNames.v2DestroyIndexOffset]? = some q ∧ ((x1.st.rings s).getD Ring.empty).find q = some k ∧
      (st.stepF ft (.drot s i)).1 = (x1.write ft s [.destroyData q k.data, .changeState q k.state .destroyed]).st := by
  generalize hres : st.stepF ft (.drot s i) = res
  simp only [V2.stepF, ← hx] at hres
  by_cases hc : ¬ s.kind.canDestroy = true
  · rw [if_pos hc] at hres; exact Or.inl (hres ▸ rfl)
  rw [if_neg hc] at hres
  by_cases ho : x1.out ≠ .ok
  · rw [if_pos ho] at hres; exact Or.inr (Or.inl (hres ▸ rfl))
  rw [if_neg ho] at hres
  cases hact : ((x1.st.rings s).getD Ring.empty).rotatedActive with
  | none => rw [hact] at hres; exact Or.inr (Or.inl (hres ▸ rfl))
  | some act =>
    rw [hact] at hres; dsimp only at hres
    by_cases hl : i - 1 > act.length
    · rw [if_pos hl] at hres; exact Or.inr (Or.inl (hres ▸ rfl))
    rw [if_neg hl] at hres
    cases hk : (act[i - Generated.KeyNames.v2DestroyIndexOffset]?).bind ((x1.st.rings s).getD Ring.empty).find with
    | none => rw [hk] at hres; exact Or.inr (Or.inl (hres ▸ rfl))
    | some k =>
      rw [hk] at hres; dsimp only at hres
      by_cases ht : ¬ transitionValid k.state .destroyed = true
      · rw [if_pos ht] at hres; exact Or.inr (Or.inl (hres ▸ rfl))
      rw [if_neg ht] at hres
      obtain ⟨q, hq, hk⟩ := Option.bind_eq_some_iff.1 hk
      have hseq : k.seq = q := by simpa using List.find?_some hk
      exact Or.inr (Or.inr ⟨act, q, k, rfl, hq, hk, by rw [← hres, hseq]⟩)

/-- **destroy-rotated on an existing ring under any fault**: every other ring is untouched; the ring
is what it was, or exactly the listed key is destroyed. -/
theorem V2.stepF_drot_atomic (st : V2) (ft : Fault) (s : Slot) (i : Nat) (r : Ring) (hr : st.rings s = some r) :
    (∀ s', s' ≠ s → (st.stepF ft (.drot s i)).1.rings s' = st.rings s') ∧
    ((st.stepF ft (.drot s i)).1.rings s = some r ∨
     ∃ act q, r.rotatedActive = some act ∧ act[i - Generated.KeyNames.v2DestroyIndexOffset]? = some q ∧
       (st.stepF ft (.drot s i)).1.rings s = some (r.destroyed q)) := by
  have o1 := (X2.openRW_atomic ft ⟨st, [], 0, .ok, false⟩ s).1
  have e1 := X2.openRW_some ft ⟨st, [], 0, .ok, false⟩ s hr
  rcases V2.stepF_drot_shape st ft s i _ rfl with h | h | ⟨act, q, k, hact, hq, hk, h⟩ <;> rw [h]
  · exact ⟨fun _ _ => rfl, Or.inl hr⟩
  · exact ⟨o1, Or.inl e1⟩
  · rw [e1, Option.getD_some] at hact hk
    obtain ⟨o2, c2⟩ := X2.write_atomic ft (X2.openRW ft ⟨st, [], 0, .ok, false⟩ s) s
      [.destroyData q k.data, .changeState q k.state .destroyed]
    refine ⟨fun s' hs' => (o2 s' hs').trans (o1 s' hs'), ?_⟩
    rcases c2 with c2 | ⟨r0, r', h0, ht, c2⟩
    · exact Or.inl (c2.trans e1)
    · rw [e1] at h0; cases h0
      rw [Ring.destroy_txs r q k hk] at ht; cases ht
      exact Or.inr ⟨act, q, hact, hq, c2⟩

/-- the observation of "read current key" on a store without cache, as a function of the storage -/
def curObs (fs : FS) (s : Slot) : Obs :=
  if s.kind = .pp then
    (match (fs.cur (privFile s)).bind Content.decrypt, fs.cur (pubFile s) with
      | some g, some pc => .pair g pc.raw
      | _, _ => .err)
  else match (fs.cur (privFile s)).bind Content.decrypt with
    | some g => .key g
    | none => .err

theorem V1.cur_after_reopen (st : V1) (s : Slot) : (st.clear.step (.cur s)).2 = curObs st.fs s := by
  rw [(V1.step_coh st.clear (.cur s) (V1.Coh.clear st) rfl).2]
  show (V1.step ⟨st.fs, none, st.count⟩ (.cur s)).2 = _
  have hn : (⟨st.fs, none, st.count⟩ : V1).cache = none := rfl
  simp only [V1.step, curObs]
  cases hk : s.kind <;> simp only [V1.readKey_nocache _ _ _ _ hn, V1.poisonPair_nocache _ _ hn, FS.readName]
  case pp =>
    cases (st.fs.cur (privFile s)).bind Content.decrypt <;> cases st.fs.cur (pubFile s) <;> simp
  all_goals cases (st.fs.cur (privFile s)).bind Content.decrypt <;> simp

theorem ring_material_append (r : Ring) (k : Key2) (cur : Option Nat) (q : Nat) (g : Nat)
    (h : r.material q = some g) : Ring.material ⟨r.keys ++ [k], cur⟩ q = some g := by
  unfold Ring.material Ring.find at h ⊢
  cases hf : r.keys.find? (·.seq = q) with
  | none => simp [hf] at h
  | some k0 =>
    simp only [List.find?_append, hf, Option.some_or]
    simpa [hf] using h

/-- after a faulted rotation of an existing ring every readable key reads the same and the current
key is the old or the new generation -/
theorem gen_outcomes_read {r r' : Ring} {n : Nat} (hok : RingOK r n) (hn : n ≠ 0)
    (h : r' = r ∨ r' = ⟨r.keys ++ [⟨n + 1, .preActive, some (n + 1)⟩], r.current⟩ ∨ r' = r.added n) :
    (∀ q g, r.material q = some g → r'.material q = some g) ∧
    (r'.current.bind r'.material = some n ∨ r'.current.bind r'.material = some (n + 1)) := by
  have hcur := hok.material_current
  simp only [hn, if_false] at hcur
  rcases h with rfl | rfl | rfl
  · exact ⟨fun _ _ h => h, Or.inl hcur⟩
  · refine ⟨fun q g h => ring_material_append r _ _ q g h, Or.inl ?_⟩
    simp only [hok.cur, hn, if_false, Option.bind_some] at hcur ⊢
    exact ring_material_append r _ _ n n hcur
  · refine ⟨fun q g h => ring_material_append r _ _ q g h, Or.inr ?_⟩
    have := hok.added.material_current
    simpa using this

/-- reading the current key of any slot after a faulted rotation of the single-file key `s` and a reopen -/
theorem V1.stepF_gen_reads (st : V1) (ft : Fault) (s s' : Slot) (hp : s.kind.isPair = false) :
    ((st.stepF ft (.gen s)).1.clear.step (.cur s')).2 = (st.clear.step (.cur s')).2 ∨
    (s' = s ∧ ((st.stepF ft (.gen s)).1.clear.step (.cur s')).2 = .key (st.count s + 1)) := by
  have hw := V1.stepF_gen_atomic st ft s hp
  rw [V1.cur_after_reopen, V1.cur_after_reopen]
  by_cases hs : s' = s
  · subst hs
    have hk : s'.kind ≠ .pp := by intro e; simp [e, Kind.isPair] at hp
    rcases hw.target with ht | ⟨ht, _⟩
    · left; simp only [curObs, hk, if_false, ht]
    · right; exact ⟨rfl, by simp [curObs, hk, ht, Content.decrypt]⟩
  · left
    have h1 := (hw.others (privFile s') (by simp [privFile, hs])).1
    have h2 := (hw.others (pubFile s') (by simp [privFile, pubFile])).1
    simp only [curObs, h1, h2]

end AcraModel.Keystore
