import AcraModel.Keystore.SysFile
/-! Lemmas about the system-call level models of `Put`, `Copy` and `WriteKeyFile` (C08). -/
namespace AcraModel.Keystore.Sys
open AcraModel AcraModel.Keystore

theorem upd_restore (d : Disk) (p : Path) (h : d p = none) (a : Option Bytes) : upd (upd d p a) p none = d := by
  funext x; by_cases hx : x = p
  · subst hx; simp [upd, h]
  · simp [upd, hx]

theorem isSome_false_eq_none {α} {o : Option α} (h : ¬ (o.isSome = true)) : o = none := by
  cases o <;> simp_all

/-- the clean-up of a `Put` that removes the file it created, armed for calls 3–5 -/
structure PutCode.Sound (c : PutCode) : Prop where
  same : c.removeArg = some c.openArg
  armed : c.deferAt ≤ 3
  upTo : 6 ≤ c.disarmAt

theorem putCleanup_sound (c : PutCode) (hc : c.Sound) (e : PutEnv) (f : PutFaults) (hf : f.remove = false)
    (p : Path) (hp : e.eval c.openArg = some p) (i : Nat) (hi : 3 ≤ i ∧ i ≤ 5) (d : Disk) :
    putCleanup c e f i d = upd d p none := by
  have h1 : 2 < i ∧ c.deferAt ≤ i ∧ i < c.disarmAt := ⟨by omega, by have := hc.armed; omega, by have := hc.upTo; omega⟩
  simp only [putCleanup, if_pos h1, hc.same, Option.bind_some, hp, hf]
  simp

theorem putCleanup_early (c : PutCode) (e : PutEnv) (f : PutFaults) (i : Nat) (hi : i ≤ 2) (d : Disk) :
    putCleanup c e f i d = d := by
  have h1 : ¬ (2 < i ∧ c.deferAt ≤ i ∧ i < c.disarmAt) := by omega
  simp only [putCleanup, if_neg h1]

/-- the three ways `Put` ends: before it created the file (nothing changed); with an error from call `i`
after it created the file at `p`, the clean-up running on a disk that holds some bytes there; with success -/
theorem putWith_shape (c : PutCode) (e : PutEnv) (f : PutFaults) (d : Disk) (data : Bytes) :
    putWith c e f d data = (d, .err) ∨
    ∃ p, e.eval c.openArg = some p ∧ d p = none ∧
      ((∃ i b, 3 ≤ i ∧ i ≤ 5 ∧ putWith c e f d data = (putCleanup c e f i (upd d p (some b)), .err)) ∨
        putWith c e f d data = (upd d p (some data), .ok)) := by
  unfold putWith
  by_cases h0 : f.ospath = true
  · simp [h0]
  by_cases h1 : f.mkdir = true
  · simp [h0, h1, putCleanup_early]
  cases hp : e.eval c.openArg with
  | none => simp [h0, h1]
  | some p =>
    by_cases h2 : f.openFile = true ∨ (d p).isSome = true
    · simp [h0, h1, h2, putCleanup_early]
    refine Or.inr ⟨p, rfl, isSome_false_eq_none (fun hh => h2 (Or.inr hh)), ?_⟩
    simp only [h0, h1, if_neg h2, Bool.false_eq_true, if_false, upd_upd]
    cases hw : f.write with
    | some n => exact Or.inl ⟨3, _, by omega, by omega, rfl⟩
    | none =>
      by_cases h4 : f.sync = true
      · exact Or.inl ⟨4, data, by omega, by omega, by simp [h4]⟩
      by_cases h5 : f.close = true
      · exact Or.inl ⟨5, data, by omega, by omega, by simp [h4, h5]⟩
      · exact Or.inr (by simp [h4, h5])

/-- **A `Put` that returns an error has changed nothing** – whichever call failed, whatever prefix the
failing `write(2)` stored – provided the clean-up's own `Remove` works. -/
theorem putWith_err_unchanged (c : PutCode) (hc : c.Sound) (e : PutEnv) (f : PutFaults) (hf : f.remove = false)
    (d : Disk) (data : Bytes) (h : (putWith c e f d data).2 = .err) : (putWith c e f d data).1 = d := by
  rcases putWith_shape c e f d data with he | ⟨p, hp, hn, ⟨i, b, h3, h5, he⟩ | he⟩
  · rw [he]
  · rw [he, putCleanup_sound c hc e f hf p hp i ⟨h3, h5⟩, upd_restore d p hn]
  · rw [he] at h; cases h

/-- a `Put` that returns `nil` found nothing at the path and left exactly `data` there -/
theorem putWith_ok (c : PutCode) (e : PutEnv) (f : PutFaults) (d : Disk) (data : Bytes)
    (h : (putWith c e f d data).2 = .ok) :
    ∃ p, e.eval c.openArg = some p ∧ d p = none ∧ (putWith c e f d data).1 = upd d p (some data) := by
  rcases putWith_shape c e f d data with he | ⟨p, hp, hn, ⟨i, b, _, _, he⟩ | he⟩
  · rw [he] at h; cases h
  · rw [he] at h; cases h
  · exact ⟨p, hp, hn, by rw [he]⟩

/-- without faults `Put` succeeds exactly when nothing is at the path -/
theorem putWith_none (c : PutCode) (e : PutEnv) (d : Disk) (data : Bytes) (p : Path) (hp : e.eval c.openArg = some p)
    (hd : d p = none) : putWith c e PutFaults.none d data = (upd d p (some data), .ok) := by
  simp [putWith, PutFaults.none, hp, hd, upd_upd]

/-- the state a crash inside `Put` leaves: nothing new, or a prefix of the data at the path -/
theorem putCrash_prefix (e : PutEnv) (stage n : Nat) (d : Disk) (data : Bytes) :
    putCrash e stage n d data = d ∨ ∃ m, putCrash e stage n d data = upd d e.fullPath (some (data.take m)) := by
  unfold putCrash
  by_cases h : stage < 3 ∨ (d e.fullPath).isSome = true
  · simp [h]
  · simp only [if_neg h]
    by_cases h3 : stage = 3
    · exact Or.inr ⟨0, by simp [h3]⟩
    · exact Or.inr ⟨n, by simp [h3]⟩

/-- shape of a `Copy` that got as far as creating the destination -/
theorem copyWith_shape (c : CopyCode) (f : CopyFaults) (d : Disk) (src dst : Path) :
    (copyWith c f d src dst = (d, .err)) ∨
    ∃ s, d src = some s ∧ d dst = none ∧
      copyWith c f d src dst =
        if copyFailed c f then
          ((if c.removesDst ∧ ¬ f.remove then upd (upd d dst (some (copyDst f s))) dst none else upd d dst (some (copyDst f s))), .err)
        else (upd d dst (some (copyDst f s)), .ok) := by
  unfold copyWith
  cases hs : d src with
  | none => left; rfl
  | some s =>
    by_cases h1 : f.openSrc = true ∨ f.stat = true
    · left; simp [h1]
    by_cases h2 : f.openDst = true ∨ (d dst).isSome = true
    · left; simp [h1, h2]
    have hnone : d dst = none := isSome_false_eq_none (fun hh => h2 (Or.inr hh))
    right
    refine ⟨s, rfl, hnone, ?_⟩
    simp only [if_neg h1, if_neg h2]

theorem copyDst_of_not_failed (c : CopyCode) (hk : c.copyKept = true) (f : CopyFaults) (s : Bytes)
    (h : copyFailed c f = false) : copyDst f s = s := by
  unfold copyFailed at h
  unfold copyDst
  cases hc : f.copy with
  | none => rfl
  | some n => simp [hc, hk] at h

theorem copyDst_prefix (f : CopyFaults) (s : Bytes) : ∃ n, copyDst f s = s.take n := by
  unfold copyDst
  cases f.copy with
  | some n => exact ⟨n, rfl⟩
  | none => exact ⟨s.length, by simp⟩

/-- a `Copy` that returns `nil` found the source, found nothing at the destination, and left something there -/
theorem copyWith_ok' (c : CopyCode) (f : CopyFaults) (d : Disk) (src dst : Path)
    (h : (copyWith c f d src dst).2 = .ok) :
    ∃ s, d src = some s ∧ d dst = none ∧ copyFailed c f = false ∧
      (copyWith c f d src dst).1 = upd d dst (some (copyDst f s)) := by
  rcases copyWith_shape c f d src dst with he | ⟨s, hs, hn, he⟩
  · rw [he] at h; cases h
  · rw [he] at h ⊢
    cases hf : copyFailed c f with
    | true => simp [hf] at h
    | false => exact ⟨s, hs, hn, rfl, by simp⟩

/-- **`Copy` returns `nil` only when the whole source arrived** (the error of `io.Copy` being kept) -/
theorem copyWith_ok (c : CopyCode) (hk : c.copyKept = true) (f : CopyFaults) (d : Disk) (src dst : Path)
    (h : (copyWith c f d src dst).2 = .ok) :
    ∃ s, d src = some s ∧ d dst = none ∧ (copyWith c f d src dst).1 = upd d dst (some s) := by
  obtain ⟨s, hs, hn, hf, he⟩ := copyWith_ok' c f d src dst h
  exact ⟨s, hs, hn, by rw [he, copyDst_of_not_failed c hk f s hf]⟩

/-- a `Copy` that returns an error has changed nothing or left a prefix of the source at the destination;
with the removing clean-up (and a working `Remove`) it has changed nothing -/
theorem copyWith_err (c : CopyCode) (f : CopyFaults) (d : Disk) (src dst : Path)
    (h : (copyWith c f d src dst).2 = .err) :
    (copyWith c f d src dst).1 = d ∨
      (¬ (c.removesDst = true ∧ f.remove = false) ∧ d dst = none ∧
        ∃ s n, d src = some s ∧ (copyWith c f d src dst).1 = upd d dst (some (s.take n))) := by
  rcases copyWith_shape c f d src dst with he | ⟨s, hs, hn, he⟩
  · left; rw [he]
  · rw [he] at h ⊢
    cases hf : copyFailed c f with
    | false => simp [hf] at h
    | true =>
      simp only [if_true]
      by_cases hr : c.removesDst = true ∧ ¬ f.remove = true
      · left; simp only [if_pos hr]; exact upd_restore d dst hn _
      · right
        simp only [if_neg hr]
        obtain ⟨n, hn'⟩ := copyDst_prefix f s
        exact ⟨by intro hh; exact hr ⟨hh.1, by simp [hh.2]⟩, hn, s, n, hs, by rw [hn']⟩

structure WkfEnv.Distinct (e : WkfEnv) : Prop where
  ft : e.file ≠ e.tmp
  fb : e.file ≠ e.backup
  tb : e.tmp ≠ e.backup

/-- whatever `Copy` does, it touches only its destination -/
theorem copyWith_other (c : CopyCode) (f : CopyFaults) (d : Disk) (src dst p : Path) (hp : p ≠ dst) :
    (copyWith c f d src dst).1 p = d p := by
  rcases copyWith_shape c f d src dst with he | ⟨s, _, _, he⟩
  · rw [he]
  · rw [he]
    cases copyFailed c f
    · simp [upd_other _ _ _ _ hp]
    · by_cases hr : c.removesDst = true ∧ ¬ f.remove = true
      · simp only [if_true, if_pos hr]; rw [upd_other _ _ _ _ hp, upd_other _ _ _ _ hp]
      · simp only [if_true, if_neg hr]; rw [upd_other _ _ _ _ hp]

theorem backupWith_other (c : CopyCode) (e : WkfEnv) (f : WkfFaults) (d : Disk) (p : Path) (hp : p ≠ e.backup) :
    (backupWith c e f d).1 p = d p := by
  unfold backupWith
  by_cases h1 : (d e.file).isNone = true ∧ ¬ f.statErr = true
  · simp [h1]
  simp only [if_neg h1]
  by_cases h2 : f.mkdirOld = true
  · simp [h2]
  simp only [h2, Bool.false_eq_true, if_false]
  by_cases h3 : ¬ f.link = true ∧ (d e.file).isSome = true ∧ (d e.backup).isNone = true
  · simp only [if_pos h3]; exact upd_other _ _ _ _ hp
  · simp only [if_neg h3]; exact copyWith_other c f.copy d e.file e.backup p hp

/-- a successful backup of an existing key file put its complete content under the history name -/
theorem backupWith_ok (c : CopyCode) (hk : c.copyKept = true) (e : WkfEnv) (f : WkfFaults) (d : Disk) (old : Bytes)
    (hold : d e.file = some old) (h : (backupWith c e f d).2 = .ok) : (backupWith c e f d).1 e.backup = some old := by
  unfold backupWith at h ⊢
  have h1 : ¬ ((d e.file).isNone = true ∧ ¬ f.statErr = true) := by simp [hold]
  simp only [if_neg h1] at h ⊢
  by_cases h2 : f.mkdirOld = true
  · simp [h2] at h
  simp only [h2, Bool.false_eq_true, if_false] at h ⊢
  by_cases h3 : ¬ f.link = true ∧ (d e.file).isSome = true ∧ (d e.backup).isNone = true
  · simp only [if_pos h3]; simp [hold]
  · simp only [if_neg h3] at h ⊢
    obtain ⟨s, hs, _, heq⟩ := copyWith_ok c hk f.copy d e.file e.backup h
    rw [heq]; rw [hold] at hs; cases hs; simp

/-- **A rotation that returns `nil` kept the previous key**: the key file holds the new data and the history
name holds the complete previous content – for every fault at every storage call and every system call of the
history copy, with or without hard links. -/
theorem writeKeyFileWith_ok (c : CopyCode) (hk : c.copyKept = true) (e : WkfEnv) (he : e.Distinct) (f : WkfFaults)
    (d : Disk) (data old : Bytes) (hold : d e.file = some old)
    (h : (writeKeyFileWith c e f d data).2 = .ok) :
    (writeKeyFileWith c e f d data).1 e.file = some data ∧ (writeKeyFileWith c e f d data).1 e.backup = some old := by
  unfold writeKeyFileWith at h ⊢
  by_cases h1 : f.mkdir = true ∨ f.tempFile = true
  · simp [h1] at h
  simp only [if_neg h1] at h ⊢
  cases hw : f.writeFile with
  | some n => simp [hw] at h
  | none =>
    simp only [hw] at h ⊢
    have hfile : (upd (upd d e.tmp (some [])) e.tmp (some data)) e.file = some old := by
      rw [upd_upd, upd_other _ _ _ _ he.ft, hold]
    have hbk := backupWith_ok c hk e f _ old hfile
    generalize backupWith c e f (upd (upd d e.tmp (some [])) e.tmp (some data)) = b at h hbk ⊢
    obtain ⟨d3, r⟩ := b
    cases r with
    | err => simp at h
    | ok =>
      simp only at h ⊢
      by_cases h5 : f.rename = true
      · simp [h5] at h
      simp only [h5, Bool.false_eq_true, if_false]
      refine ⟨?_, ?_⟩
      · rw [upd_other _ _ _ _ he.ft]; simp
      · rw [upd_other _ _ _ _ (Ne.symm he.tb), upd_other _ _ _ _ (Ne.symm he.fb)]; exact hbk rfl

/-- **A rotation that returns an error left the key file alone.** -/
theorem writeKeyFileWith_err (c : CopyCode) (e : WkfEnv) (he : e.Distinct) (f : WkfFaults)
    (d : Disk) (data : Bytes) (h : (writeKeyFileWith c e f d data).2 = .err) :
    (writeKeyFileWith c e f d data).1 e.file = d e.file := by
  unfold writeKeyFileWith at h ⊢
  by_cases h1 : f.mkdir = true ∨ f.tempFile = true
  · simp [h1]
  simp only [if_neg h1] at h ⊢
  cases hw : f.writeFile with
  | some n => simp only [hw]; rw [upd_upd, upd_other _ _ _ _ he.ft]
  | none =>
    simp only [hw] at h ⊢
    have hb := backupWith_other c e f (upd (upd d e.tmp (some [])) e.tmp (some data)) e.file he.fb
    generalize backupWith c e f (upd (upd d e.tmp (some [])) e.tmp (some data)) = b at h hb ⊢
    obtain ⟨d3, r⟩ := b
    have hfile : d3 e.file = d e.file := by
      have hb' : d3 e.file = _ := hb
      rw [hb', upd_upd, upd_other _ _ _ _ he.ft]
    cases r with
    | err => exact hfile
    | ok =>
      simp only at h ⊢
      by_cases h5 : f.rename = true
      · simp only [h5, if_true]; exact hfile
      · simp [h5] at h

theorem copyOutcome_ok (c : CopyCode) (hk : c.copyKept = true) (len : Nat) (limit : Option Nat)
    (h : (copyOutcome c len limit).2 = .ok) : (copyOutcome c len limit).1 = .all := by
  unfold copyOutcome at h ⊢
  simp only at h ⊢
  obtain ⟨s, hs, _, he⟩ := copyWith_ok c hk _ _ "src" "dst" h
  rw [he]
  simp at hs
  simp [arrived, hs]

/-- **A rotation on a storage without hard links that reports success kept the previous key**: the complete
previous content is in the history and the new generation is current – whatever limit the history copy hit. -/
theorem V1.genNoLink_ok (c : CopyCode) (hk : c.copyKept = true) (st : V1) (s : Slot) (len : Nat) (limit : Option Nat)
    (c0 : Content) (hc0 : st.fs.cur (privFile s) = some c0)
    (h : (V1.genNoLink c st s len limit).2.2 = .ok) :
    (V1.genNoLink c st s len limit).1.fs.cur (privFile s) = some (.full (st.count s + 1)) ∧
    ∃ t, (t, c0) ∈ (V1.genNoLink c st s len limit).1.fs.old (privFile s) := by
  unfold V1.genNoLink at h ⊢
  simp only [hc0] at h ⊢
  cases hr : (copyOutcome c len limit).2 with
  | err =>
    generalize copyOutcome c len limit = co at h hr
    obtain ⟨a, r⟩ := co
    simp at hr; subst hr; simp at h
  | ok =>
    have ha := copyOutcome_ok c hk len limit hr
    generalize copyOutcome c len limit = co at h hr ha ⊢
    obtain ⟨a, r⟩ := co
    simp at hr ha; subst hr; subst ha
    simp [Arrived.content, applyAll, applyCall, FS.tmpContent]

/-- a rotation on such a storage that reports an error left the current key file alone -/
theorem V1.genNoLink_err (c : CopyCode) (st : V1) (s : Slot) (len : Nat) (limit : Option Nat)
    (c0 : Content) (hc0 : st.fs.cur (privFile s) = some c0)
    (h : (V1.genNoLink c st s len limit).2.2 = .err) :
    (V1.genNoLink c st s len limit).1.fs.cur (privFile s) = some c0 := by
  unfold V1.genNoLink at h ⊢
  simp only [hc0] at h ⊢
  generalize copyOutcome c len limit = co at h ⊢
  obtain ⟨a, r⟩ := co
  cases r with
  | err =>
    cases hac : a.content c0 <;> simp [hac, applyAll, applyCall, hc0]
  | ok =>
    cases hac : a.content c0 <;> simp [hac, applyAll, applyCall, FS.tmpContent] at h

end AcraModel.Keystore.Sys
