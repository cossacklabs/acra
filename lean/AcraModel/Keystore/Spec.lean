import AcraModel.Basic.Bytes
/-!
# Keystore vocabulary and the abstract specification of key generations (C06)

A *slot* is a key kind together with its owner. The specification keeps, per slot, the history of
generations oldest → newest with an `alive` flag. Keys are identified by the 1-based number of the
generation that produced them – never by their bytes.

`Spec` is what the statement of C06 says: the current key is the most recently generated surviving
one, every survivor is offered newest-first, the rotated listing numbers the surviving non-current
keys from 2 (oldest first), and destroying by listed index removes exactly that key.
-/
namespace AcraModel.Keystore

/-- The six key kinds of the property: storage key pair, storage symmetric, search HMAC,
poison pair, poison symmetric, audit log. -/
inductive Kind | sp | ss | hm | pp | ps | al
deriving DecidableEq, Repr

def Kind.isPair : Kind → Bool
  | .sp | .pp => true
  | _ => false

/-- kinds that have an owner (client id) -/
def Kind.hasClient : Kind → Bool
  | .sp | .ss | .hm => true
  | _ => false

/-- kinds with an "all keys" reader in Acra's API -/
def Kind.hasAll : Kind → Bool
  | .hm | .al => false
  | _ => true

/-- kinds with destroy operations in Acra's API -/
def Kind.canDestroy : Kind → Bool
  | .al => false
  | _ => true

structure Slot where
  kind : Kind
  client : Nat
deriving DecidableEq, Repr

/-- The operations of the property (the alphabet of histories). -/
inductive Op
  | gen (s : Slot) | cur (s : Slot) | pub (s : Slot) | all (s : Slot)
  | list | listRot
  | dcur (s : Slot) | drot (s : Slot) (i : Nat)
  | reset | reopen
deriving DecidableEq, Repr

/-- Canonical observations (what the line protocol compares). Key ids: 0 = a value no generation produced. -/
inductive Obs
  | ok | err | panic
  | key (g : Nat)
  | pair (g p : Nat)
  | keys (gs : List Nat)
  | files (fs : List (Slot × Bool))                 -- ListKeys: (slot, is-public-file)
  | rotated (rs : List ((Slot × Bool) × Nat))       -- ListRotatedKeys: per file, number of listed keys
deriving DecidableEq, Repr

/-- update of a function at one point (core-only stand-in for `Function.update`) -/
def upd {α β} [DecidableEq α] (f : α → β) (a : α) (b : β) : α → β := fun x => if x = a then b else f x

@[simp] theorem upd_same {α β} [DecidableEq α] (f : α → β) (a : α) (b : β) : upd f a b a = b := by simp [upd]
@[simp] theorem upd_other {α β} [DecidableEq α] (f : α → β) (a x : α) (b : β) (h : x ≠ a) : upd f a b x = f x := by simp [upd, h]

theorem upd_upd {α β} [DecidableEq α] (f : α → β) (a : α) (b c : β) : upd (upd f a b) a c = upd f a c := by
  funext x; by_cases h : x = a <;> simp [upd, h]

structure Gen where
  id : Nat
  alive : Bool
deriving DecidableEq, Repr

/-- history of one slot, oldest → newest -/
abbrev SpecSlot := List Gen

namespace SpecSlot
def generate (s : SpecSlot) : SpecSlot := s ++ [⟨s.length + 1, true⟩]
/-- surviving ids, oldest first -/
def survivors (s : SpecSlot) : List Nat := (s.filter (·.alive)).map (·.id)
def current (s : SpecSlot) : Option Nat := (survivors s).getLast?
def allNewestFirst (s : SpecSlot) : List Nat := (survivors s).reverse
/-- the rotated listing: surviving non-current keys, oldest first; listed index `i ≥ 2` ↦ element `i-2` -/
def rotated (s : SpecSlot) : List Nat := (survivors s).dropLast
def destroyId (s : SpecSlot) (g : Nat) : SpecSlot := s.map fun x => if x.id = g then { x with alive := false } else x
def listedAt (s : SpecSlot) (i : Nat) : Option Nat := if 2 ≤ i then (rotated s)[i - 2]? else none
def destroyRotated (s : SpecSlot) (i : Nat) : Option SpecSlot := (listedAt s i).map (destroyId s)
def destroyCurrent (s : SpecSlot) : SpecSlot := match current s with
  | some g => destroyId s g
  | none => s
end SpecSlot

theorem survivors_destroyId (s : SpecSlot) (g : Nat) :
    (SpecSlot.destroyId s g).survivors = s.survivors.filter (· ≠ g) := by
  induction s with
  | nil => rfl
  | cons x xs ih =>
    simp only [SpecSlot.destroyId, SpecSlot.survivors, List.map_cons, List.filter_cons] at ih ⊢
    by_cases hx : x.id = g <;> cases ha : x.alive <;> simp [hx, ha, ih]

abbrev Spec := Slot → SpecSlot

def Spec.init : Spec := fun _ => []

/-- one step of the specification: new state and observation. `list`, `pub`, `reset`, `reopen` have no
spec-level content of their own (`reset`/`reopen` change nothing). -/
def Spec.step (st : Spec) : Op → Spec × Obs
  | .gen s => (upd st s (st s).generate, .ok)
  | .cur s => (st, match (st s).current with | some g => .key g | none => .err)
  | .all s => (st, if (st s).survivors = [] then .err else .keys (st s).allNewestFirst)
  | .drot s i => match (st s).destroyRotated i with
      | some s' => (upd st s s', .ok)
      | none => (st, .err)
  | .dcur s => (upd st s (st s).destroyCurrent, if (st s).current.isSome then .ok else .err)
  | _ => (st, .ok)

end AcraModel.Keystore
