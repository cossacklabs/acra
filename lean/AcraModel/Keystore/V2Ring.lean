import AcraModel.Keystore.Spec
import AcraModel.Generated.KeyState
/-!
# Keystore v2: key rings and their transactions

Follows `keystore/v2/keystore/filesystem/{keyRing.go,keyRingTX.go,key.go}` and
`keystore/v2/keystore/api/key.go`. A ring is an append-only list of keys with sequence numbers, a
per-key state and a `current` pointer (`NoKey` = `none`). Every mutation is a transaction with
`Apply`/`Rollback`. Key data is identified by the generation that produced it.
-/
namespace AcraModel.Keystore

inductive KState | preActive | active | suspended | deactivated | compromised | destroyed
deriving DecidableEq, Repr

def KState.name : KState → String
  | .preActive => "KeyPreActive" | .active => "KeyActive" | .suspended => "KeySuspended"
  | .deactivated => "KeyDeactivated" | .compromised => "KeyCompromised" | .destroyed => "KeyDestroyed"

/-- `api.KeyStateTransitionValid`, interpreted from the regenerated table -/
def transitionValid (a b : KState) : Bool :=
  Generated.KeyState.validTransitions.contains (a.name, b.name)

structure Key2 where
  seq : Nat
  state : KState
  /-- key material (identity of the generation); `none` after `txDestroyKeyData` -/
  data : Option Nat
deriving DecidableEq, Repr

structure Ring where
  keys : List Key2
  current : Option Nat
deriving DecidableEq, Repr

def Ring.empty : Ring := ⟨[], none⟩

def Ring.find (r : Ring) (q : Nat) : Option Key2 := r.keys.find? (·.seq = q)

/-- `nextSeqnum`: 1 for an empty ring, last + 1 otherwise -/
def Ring.nextSeq (r : Ring) : Nat := match r.keys.getLast? with
  | some k => k.seq + 1
  | none => 1

def Ring.setKey (r : Ring) (q : Nat) (f : Key2 → Key2) : Ring :=
  { r with keys := r.keys.map fun k => if k.seq = q then f k else k }

/-- the transactions of `keyRingTX.go` (txSetKeys, used by import only, is not modelled) -/
inductive Tx
  | addKey (k : Key2)
  | setCurrent (old new : Option Nat)
  | changeState (q : Nat) (old new : KState)
  | destroyData (q : Nat) (backup : Option Nat)
deriving DecidableEq, Repr

/-- `Apply`; `none` = the transaction reports an error (ring untouched) -/
def Tx.apply (r : Ring) : Tx → Option Ring
  | .addKey k => if (r.find k.seq).isSome then none else some { r with keys := r.keys ++ [k] }
  | .setCurrent old new =>
      if r.current ≠ old then none
      else match old, new with
        | some o, some n => if (r.find o).isSome ∧ (r.find n).isSome then some { r with current := some n } else none
        | none, some n => if (r.find n).isSome then some { r with current := some n } else none
        | _, none => none
  | .changeState q old new =>
      match r.find q with
      | some k => if k.state = old then some (r.setKey q fun k => { k with state := new }) else none
      | none => none
  | .destroyData q _ =>
      match r.find q with
      | some _ => some (r.setKey q fun k => { k with data := none })
      | none => none

/-- `Rollback` (of a transaction that was applied) -/
def Tx.rollback (r : Ring) : Tx → Ring
  | .addKey _ => { r with keys := r.keys.dropLast }
  | .setCurrent old _ => { r with current := old }
  | .changeState q old _ => r.setKey q fun k => { k with state := old }
  | .destroyData q backup => r.setKey q fun k => { k with data := backup }

/-- `applyPendingTX`: apply in order; on the first failure the result is `none` (the Go code rolls the applied
ones back in reverse order, `Tx.rollback`, so the caller's ring is unchanged) -/
def applyTxs (r : Ring) : List Tx → Option Ring
  | [] => some r
  | t :: ts => match t.apply r with
    | some r' => applyTxs r' ts
    | none => none

/-- ring invariant: sequence numbers are 1..n in order, `current` names a key of the ring or is `NoKey` -/
def Ring.WF (r : Ring) : Prop :=
  r.keys.map (·.seq) = (List.range r.keys.length).map (· + 1) ∧
  (∀ c, r.current = some c → 1 ≤ c ∧ c ≤ r.keys.length)

/-- `AllKeys`: sequence numbers newest first -/
def Ring.allSeqs (r : Ring) : List Nat := (r.keys.map (·.seq)).reverse

end AcraModel.Keystore
