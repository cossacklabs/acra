import AcraModel.Keystore.V1Cache
import AcraModel.Generated.V1CacheKeys
/-!
# Keystore v1: under which cache key the list of current + rotated file names is kept (C15, C06)

`V1Cache.lean` writes the key of that cache entry abstractly (`CKey.names f`). In the code the key is the text
`.historical.` + `<path>`, and `<path>` is computed at every place that uses the entry: the reader
(`GetHistoricalPrivateKeyFilenames`) joins the private key directory and the file name with `filepath.Join`; the writers
that change a history directory refresh the entry under a path of their own. Whether reader and refresher spell the
SAME text depends on how the key directory was given (`--keys_dir=/path/keys/`, `a//b`, `./keys`): `filepath.Join` and
`filepath.Clean` normalise, `dir + "/" + name` does not.

This file models `filepath.Clean` (Unix), the spellings named by the regenerated table
`Generated.V1CacheKeys.namesCacheKeySites`, and the v1 store step with a refresh that can MISS (`V1.stepK`). With the
spellings of the current tree every refresh hits for every directory (`Props/C15.fact_names_cache_key_spelling`,
`refreshHits_of_normalising`) and `V1.stepK` is `V1.step` – so the cache theorems of C06 apply.
-/
namespace AcraModel.Keystore
open Generated.V1CacheKeys

/-- one component of `filepath.Clean`'s scan: `acc` = components kept so far (reversed) -/
def cleanStep (rooted : Bool) (acc : List String) (comp : String) : List String :=
  if comp = "" ∨ comp = "." then acc
  else if comp = ".." then
    match acc with
    | [] => if rooted then [] else [".."]
    | ".." :: r => if rooted then r else ".." :: ".." :: r
    | _ :: r => r
  else comp :: acc

/-- `filepath.Clean` for slash-separated paths -/
def cleanPath (p : String) : String :=
  if p = "" then "." else
  let rooted := p.startsWith "/"
  let comps := (p.splitOn "/").foldl (cleanStep rooted) []
  let body := "/".intercalate comps.reverse
  if rooted then "/" ++ body else if body = "" then "." else body

/-- `GetPrivateKeyFilePath`: directory, separator, name – as they are -/
def rawPath (dir name : String) : String := dir ++ "/" ++ name

/-- the path text of the cache key, by the spelling the table names (`dir`, `name` non-empty):
`join` = `filepath.Join(dir, name)` = `Clean(dir + "/" + name)`; `clean-sprintf` = `Clean(GetPrivateKeyFilePath(name))`;
`sprintf` = `GetPrivateKeyFilePath(name)`; anything else spells a key nobody else uses -/
def spellKey (spelling dir name : String) : String :=
  if spelling = "join" ∨ spelling = "clean-sprintf" then cleanPath (rawPath dir name)
  else if spelling = "sprintf" then rawPath dir name
  else "?" ++ spelling ++ "?" ++ rawPath dir name

/-- the spelling a function uses for a use (`get`, `load`, `refresh`) of the entry; `missing` when the table has no such row -/
def siteSpelling (fn use : String) : String :=
  match namesCacheKeySites.find? (fun r => r.1 == fn && r.2.1 == use) with
  | some r => r.2.2
  | none => "missing"

/-- does the refresh done by `fn` address the entry that `GetHistoricalPrivateKeyFilenames` reads and stores,
for this spelling of the key directory and this file name -/
def refreshHits (fn dir name : String) : Bool :=
  spellKey (siteSpelling fn "refresh") dir name == spellKey (siteSpelling "GetHistoricalPrivateKeyFilenames" "get") dir name &&
  spellKey (siteSpelling "GetHistoricalPrivateKeyFilenames" "load") dir name == spellKey (siteSpelling "GetHistoricalPrivateKeyFilenames" "get") dir name

/-- a spelling that normalises the path -/
def normalising (spelling : String) : Bool := spelling = "join" ∨ spelling = "clean-sprintf"

theorem spellKey_normalising (s t dir name : String) (hs : normalising s = true) (ht : normalising t = true) :
    spellKey s dir name = spellKey t dir name := by
  unfold normalising at hs ht
  unfold spellKey
  have hs' : s = "join" ∨ s = "clean-sprintf" := by simpa using hs
  have ht' : t = "join" ∨ t = "clean-sprintf" := by simpa using ht
  simp [hs', ht']

/-- **when reader, loader and refresher all normalise, the refresh hits – for EVERY directory spelling and name** -/
theorem refreshHits_of_normalising (fn dir name : String)
    (h1 : normalising (siteSpelling fn "refresh") = true)
    (h2 : normalising (siteSpelling "GetHistoricalPrivateKeyFilenames" "get") = true)
    (h3 : normalising (siteSpelling "GetHistoricalPrivateKeyFilenames" "load") = true) :
    refreshHits fn dir name = true := by
  unfold refreshHits
  rw [spellKey_normalising _ _ dir name h1 h2, spellKey_normalising _ _ dir name h3 h2]
  simp

/-- `V1.step`, except that the refresh after a generation is skipped when it addresses another cache entry
(`hitPair`: `SaveKeyPairWithFilename`, `hitSym`: `generateAndSaveSymmetricKey`) – a `cache.Get` on a key nobody
stored finds nothing and `refreshCachedHistoricalPrivateKeyFilenames` returns at once -/
def V1.stepK (hitPair hitSym : Bool) (st : V1) : Op → V1 × Obs
  | .gen s =>
    if (s.kind.isPair && hitPair) || ((s.kind == .ss || s.kind == .ps) && hitSym) || s.kind == .hm || s.kind == .al then
      st.step (.gen s)
    else
      let g := st.count s + 1
      let (fs', done) := applyAll st.fs (genCalls st.fs s g)
      let st1 := { st with fs := fs', count := upd st.count s g }
      if ¬ done then (st1, .err) else
      match s.kind with
      | .sp | .pp => ((st1.cadd (.rel (privFile s)) (.key g)).cadd (.rel (pubFile s)) (.key g), .ok)
      | _ => (st1, .ok)
  | o => st.step o

def V1.runK (hitPair hitSym : Bool) (st : V1) : List Op → V1 × List Obs
  | [] => (st, [])
  | o :: os => let (st', x) := st.stepK hitPair hitSym o; let (st'', xs) := V1.runK hitPair hitSym st' os; (st'', x :: xs)

theorem V1.stepK_true (st : V1) (o : Op) : st.stepK true true o = st.step o := by
  cases o with
  | gen s =>
    unfold V1.stepK
    cases hk : s.kind <;> simp [Kind.isPair, hk]
  | _ => rfl

theorem V1.runK_true (st : V1) (ops : List Op) : st.runK true true ops = st.run ops := by
  induction ops generalizing st with
  | nil => rfl
  | cons o os ih => simp only [V1.runK, V1.run, V1.stepK_true, ih]

def ppSlot : Slot := ⟨.pp, 0⟩
def psSlot : Slot := ⟨.ps, 0⟩

/-- the generations `GetPoisonPrivateKeys` (`s = ppSlot`) / `GetPoisonSymmetricKeys` (`s = psSlot`) return on state `st`,
newest first; `none`: an error (no keys – `ErrKeysNotFound` – or a read error) -/
def offeredGens (st : V1) (s : Slot) : Option (List Nat) :=
  match (st.step (.all s)).2 with
  | .keys l => some l
  | _ => none

/-- a list split at the FIRST occurrence of one of its members: what stands before it are other values -/
theorem split_at_first (g : Nat) : ∀ l : List Nat, g ∈ l →
    ∃ b, l = l.takeWhile (fun x => x != g) ++ g :: b := by
  intro l
  induction l with
  | nil => intro h; cases h
  | cons x r ih =>
    intro h
    by_cases hx : x = g
    · subst hx; exact ⟨r, by simp⟩
    · rcases List.mem_cons.mp h with h' | h'
      · exact absurd h'.symm hx
      · obtain ⟨b, hb⟩ := ih h'
        refine ⟨b, ?_⟩
        have : (x != g) = true := by simpa using hx
        rw [List.takeWhile_cons, this]
        simp only [if_true, List.cons_append]
        rw [← hb]

theorem mem_takeWhile_ne (g g' : Nat) : ∀ l : List Nat, g' ∈ l.takeWhile (fun x => x != g) → g' ≠ g := by
  intro l
  induction l with
  | nil => intro h; cases h
  | cons x r ih =>
    intro h
    by_cases hx : x = g
    · subst hx; simp at h
    · have : (x != g) = true := by simpa using hx
      rw [List.takeWhile_cons, this] at h
      simp only [if_true] at h
      rcases List.mem_cons.mp h with h' | h'
      · rw [h']; exact hx
      · exact ih h'

end AcraModel.Keystore
