import AcraModel.Keystore.Calls
import AcraModel.Keystore.V1Cache
import AcraModel.Generated.KeystoreCrash
/-!
# The key-rotation tool `acra-rotate` (file variant) as a sequence of events (C08)

Follows `cmd/acra-rotate/fileRotation.go:rotateFiles` and `rotator.go`. For every key id of the file map
the tool generates a new key pair IN MEMORY (`getRotatedPublicKey`), then for every data file of that id
reads it, decrypts it with the keys the keystore offers, re-encrypts it with the new public key and
writes it back (`ioutil.WriteFile`, in place); only after ALL files of ALL ids it saves the new key pairs
(`saveRotatedKeys` → `SaveDataEncryptionKeys` per id) – and when that fails it logs the error and
reports success.

The persistent state is what survives a restart: per key id the key generations the keystore offers for
decryption (0 = the key pair that existed before, 1 = the tool's new pair) and per data file the generation
its content is encrypted with (`none` = torn garbage). The save of a key pair is ONE event here: whatever
happens inside it, the old key stays offered and the new one is offered iff the save got far enough –
that is what the keystore theorems of C08 give (`v1_write_op_atomic`, `v2_write_op_atomic`); `saveCut` below
opens that event up into the storage / back-end calls of the key store's write operation.
-/
namespace AcraModel.Keystore.Rotate
open AcraModel.Keystore

def upd2 (f : Nat → Nat → Option Nat) (c i : Nat) (v : Option Nat) : Nat → Nat → Option Nat :=
  fun c' i' => if c' = c ∧ i' = i then v else f c' i'

structure RSt where
  /-- key id ↦ generations offered after a restart, newest first -/
  offered : Nat → List Nat
  /-- key id, file ↦ generation the file's content is encrypted with -/
  files : Nat → Nat → Option Nat

def RSt.init : RSt := ⟨fun _ => [0], fun _ _ => some 0⟩

/-- every data file can be decrypted with a key the keystore offers -/
def RSt.Safe (st : RSt) : Prop := ∀ c i, ∃ g, st.files c i = some g ∧ g ∈ st.offered c

inductive REv
  | read (c i : Nat)      -- ReadFile + decrypt through the keystore + re-encrypt in memory + Stat
  | rewrite (c i : Nat)   -- write the re-encrypted file back
  | save (c : Nat)        -- SaveDataEncryptionKeys(id, new pair)
deriving DecidableEq, Repr

structure Variant where
  /-- data files are replaced atomically (temporary + rename) instead of being written in place -/
  atomicRewrite : Bool
  /-- a failing save ends the run with an error instead of being logged -/
  saveErrorFatal : Bool

/-- one event under the fault mode delivered to it: new state, and `some o` when the run ends here -/
def step (v : Variant) (mode : FaultMode) (st : RSt) : REv → RSt × Option Outcome
  | .read _ _ =>
    match mode with
    | .none => (st, none)
    | .err => (st, some .err)
    | _ => (st, some .crash)
  | .rewrite c i =>
    let new : RSt := { st with files := upd2 st.files c i (some 1) }
    match mode with
    | .none => (new, none)
    -- `ioutil.WriteFile` opens the file with O_TRUNC and then writes: an I/O error of the write (disk full, quota)
    -- comes after the old content is gone – the file holds a prefix of the new content and the tool returns
    | .err => (if v.atomicRewrite then st else { st with files := upd2 st.files c i none }, some .err)
    | .cb => (st, some .crash)
    | .ca => (new, some .crash)
    | .torn => (if v.atomicRewrite then st else { st with files := upd2 st.files c i none }, some .crash)
  | .save c =>
    let new : RSt := { st with offered := upd st.offered c (1 :: st.offered c) }
    match mode with
    | .none => (new, none)
    | .err => (st, some (if v.saveErrorFatal then .err else .ok))
    | .ca => (new, some .crash)
    | _ => (st, some .crash)

def exec (v : Variant) (ft : Fault) : Nat → RSt → List REv → RSt × Outcome
  | _, st, [] => (st, .ok)
  | idx, st, e :: es =>
    match step v (ft.at idx) st e with
    | (st', some o) => (st', o)
    | (st', none) => exec v ft (idx + 1) st' es

def fileEvents (c : Nat) (l : List Nat) : List REv := l.flatMap fun i => [.read c i, .rewrite c i]

/-- the order of the code: all files of all key ids, then all saves. `clients` = (key id, number of files) -/
def eventsCode (clients : List (Nat × Nat)) : List REv :=
  (clients.flatMap fun cn => fileEvents cn.1 (List.range cn.2)) ++ clients.map fun cn => .save cn.1

/-- the other order: the new key pair of an id is saved before any of the id's files is rewritten -/
def eventsSavedFirst : List (Nat × Nat) → List REv
  | [] => []
  | cn :: rest => .save cn.1 :: (fileEvents cn.1 (List.range cn.2) ++ eventsSavedFirst rest)

/-- the tool as the regenerated facts describe it -/
def codeVariant : Variant :=
  ⟨Generated.KeystoreCrash.rotateFilesCalls.contains "2:Rename", Generated.KeystoreCrash.rotateSaveErrorReturned⟩

def codeEvents (clients : List (Nat × Nat)) : List REv :=
  if Generated.KeystoreCrash.rotateKeySavedWhenGenerated then eventsSavedFirst clients else eventsCode clients

/-- the slot of the key pair the tool rotates (storage key pair of the first client) -/
def pairSlot : Slot := ⟨.sp, 0⟩

/-- what the restarted key store offers for decryption, as generations of the TOOL's numbering (0 = the pair that
existed, 1 = the tool's new pair), newest first, duplicates removed; `none` = "all keys" fails -/
def offeredOf : Obs → Option (List Nat)
  | .keys l => some ((l.map (· - 1)).eraseDups)
  | _ => none

/-- v1: all `n` files of the key id are rewritten, then `SaveDataEncryptionKeys` = the key store's rotation of the
pair, crashing right after its `j`-th storage call: calls made, outcome, keys offered after the restart -/
def saveCutV1 (j : Nat) : List Call × Outcome × Option (List Nat) :=
  let st := ((V1.init (-1)).run [.gen pairSlot]).1
  let r := st.stepF ⟨.ca, j⟩ (.gen pairSlot)
  (r.2.1, r.2.2, offeredOf (r.1.clear.step (.all pairSlot)).2)

def saveCutV2 (j : Nat) : List BCall × Outcome × Option (List Nat) :=
  let st := (V2.init.run [.gen pairSlot]).1
  let r := st.stepF ⟨.ca, j⟩ (.gen pairSlot)
  (r.2.1, r.2.2, offeredOf (r.1.step (.all pairSlot)).2)

/-- `saved c`: the new key of `c` is offered. Every rewrite must find its key saved. -/
def Ready (saved : Nat → Bool) : List REv → Bool
  | [] => true
  | .save c :: es => Ready (fun x => x == c || saved x) es
  | .rewrite c _ :: es => saved c && Ready saved es
  | .read _ _ :: es => Ready saved es

def Inv (st : RSt) : Prop :=
  ∀ c, 0 ∈ st.offered c ∧ ∀ i, st.files c i = some 0 ∨ (st.files c i = some 1 ∧ 1 ∈ st.offered c)

theorem Inv.safe {st : RSt} (h : Inv st) : st.Safe := by
  intro c i
  rcases (h c).2 i with h0 | ⟨h1, h2⟩
  · exact ⟨0, h0, (h c).1⟩
  · exact ⟨1, h1, h2⟩

theorem Inv.init : Inv RSt.init := by
  intro c; exact ⟨by simp [RSt.init], fun i => Or.inl rfl⟩

theorem Inv.rewrite {st : RSt} (h : Inv st) (c i : Nat) (hc : 1 ∈ st.offered c) :
    Inv { st with files := upd2 st.files c i (some 1) } := by
  intro c'
  refine ⟨(h c').1, fun i' => ?_⟩
  by_cases e : c' = c ∧ i' = i
  · obtain ⟨rfl, rfl⟩ := e
    exact Or.inr ⟨by simp [upd2], hc⟩
  · simp only [upd2, if_neg e]; exact (h c').2 i'

theorem Inv.save {st : RSt} (h : Inv st) (c : Nat) :
    Inv { st with offered := upd st.offered c (1 :: st.offered c) } := by
  intro c'
  by_cases e : c' = c
  · subst e
    refine ⟨by simp [(h c').1], fun i => ?_⟩
    rcases (h c').2 i with h0 | ⟨h1, _⟩
    · exact Or.inl h0
    · exact Or.inr ⟨h1, by simp⟩
  · simp only [upd_other _ _ _ _ e]; exact h c'

theorem exec_ready (v : Variant) (hv : v.atomicRewrite = true) (ft : Fault) (evs : List REv) :
    ∀ (idx : Nat) (st : RSt) (saved : Nat → Bool), Inv st → (∀ c, saved c = true → 1 ∈ st.offered c) →
      Ready saved evs = true → Inv (exec v ft idx st evs).1 := by
  induction evs with
  | nil => intro idx st saved h _ _; simpa [exec] using h
  | cons e es ih =>
    intro idx st saved h hs hr
    cases e with
    | read c i =>
      have hr' : Ready saved es = true := by simpa [Ready] using hr
      cases hm : ft.at idx <;> simp only [exec, step, hm]
      · exact ih _ _ saved h hs hr'
      all_goals exact h
    | rewrite c i =>
      have hr' : saved c = true ∧ Ready saved es = true := by simpa [Ready] using hr
      have hn := h.rewrite c i (hs c hr'.1)
      cases hm : ft.at idx <;> simp only [exec, step, hm, hv, if_true]
      · exact ih _ _ saved hn hs hr'.2
      · exact h
      · exact h
      · exact hn
      · exact h
    | save c =>
      have hr' : Ready (fun x => x == c || saved x) es = true := by simpa [Ready] using hr
      have hn := h.save c
      have hs' : ∀ x, (x == c || saved x) = true →
          1 ∈ ({ st with offered := upd st.offered c (1 :: st.offered c) } : RSt).offered x := by
        intro x hx
        by_cases e : x = c
        · subst e; simp
        · have : saved x = true := by simpa [e] using hx
          simp only [upd_other _ _ _ _ e]; exact hs x this
      cases hm : ft.at idx <;> simp only [exec, step, hm]
      · exact ih _ _ _ hn hs' hr'
      · exact h
      · exact h
      · exact hn
      · exact h

theorem ready_files (saved : Nat → Bool) (c : Nat) (hc : saved c = true) (l : List Nat) (rest : List REv) :
    Ready saved (fileEvents c l ++ rest) = Ready saved rest := by
  induction l with
  | nil => simp [fileEvents]
  | cons i l ih =>
    have : fileEvents c (i :: l) = .read c i :: .rewrite c i :: fileEvents c l := by
      simp [fileEvents, List.flatMap_cons]
    rw [this]
    simp only [List.cons_append, Ready, hc, Bool.true_and]
    exact ih

theorem ready_savedFirst (clients : List (Nat × Nat)) : ∀ saved, Ready saved (eventsSavedFirst clients) = true := by
  induction clients with
  | nil => intro saved; rfl
  | cons cn rest ih =>
    intro saved
    simp only [eventsSavedFirst, Ready]
    rw [ready_files _ cn.1 (by simp)]
    exact ih _

end AcraModel.Keystore.Rotate
