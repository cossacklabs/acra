import AcraModel.Keystore.RefineCrash
import AcraModel.Keystore.CallsImport
/-!
# Import under faults: per-key atomicity (C08)

Whatever the fault, every key file of a v1 bundle is what it was or completely the bundle's content (histories
untouched), and every v2 ring is what it was, or completely the imported ring, or – it did not exist – the empty
ring `openKeyRing` created. With balanced push/pop counts a handle's transaction log is empty after every
operation.
-/
namespace AcraModel.Keystore
open Generated

structure IAtomic (fs0 fs : FS) (f : FileId) (c : Content) : Prop where
  old : fs.old = fs0.old
  cur : fs.cur = fs0.cur ∨ fs.cur = upd fs0.cur f (some c)

structure IKeep (fs0 fs : FS) : Prop where
  old : fs.old = fs0.old
  cur : fs.cur = fs0.cur

theorem IKeep.atomic {fs0 fs : FS} (h : IKeep fs0 fs) (f : FileId) (c : Content) : IAtomic fs0 fs f c :=
  ⟨h.old, Or.inl h.cur⟩

/-- the calls still to be made for one imported file, and what the storage looks like at that point -/
inductive IStage (fs0 : FS) (f : FileId) (c : Content) : List Call → FS → Prop
  | s0 (fs : FS) : IKeep fs0 fs → fs.nextTmp = fs0.nextTmp →
      IStage fs0 f c [.mkdirAll f, .tempFile f, .writeFile fs0.nextTmp f c, .rename fs0.nextTmp f] fs
  | s1 (fs : FS) : IKeep fs0 fs → fs.nextTmp = fs0.nextTmp →
      IStage fs0 f c [.tempFile f, .writeFile fs0.nextTmp f c, .rename fs0.nextTmp f] fs
  | s2 (fs : FS) : IKeep fs0 fs → fs.tmps.any (·.1 = fs0.nextTmp) = true →
      IStage fs0 f c [.writeFile fs0.nextTmp f c, .rename fs0.nextTmp f] fs
  | s3 (fs : FS) : IKeep fs0 fs → fs.tmpContent fs0.nextTmp = some c →
      IStage fs0 f c [.rename fs0.nextTmp f] fs
  | done (fs : FS) : IAtomic fs0 fs f c → IStage fs0 f c [] fs

theorem IStage.stop {fs0 : FS} {f : FileId} {c : Content} {cs : List Call} {fs : FS} (h : IStage fs0 f c cs fs) :
    IAtomic fs0 fs f c := by
  cases h with
  | s0 fs hk _ | s1 fs hk _ | s2 fs hk _ | s3 fs hk _ => exact hk.atomic f c
  | done fs h => exact h

theorem IStage.perform {fs0 : FS} {f : FileId} {c : Content} {x : Call} {cs : List Call} {fs fs' : FS}
    (h : IStage fs0 f c (x :: cs) fs) (ha : applyCall fs x = some fs') : IStage fs0 f c cs fs' := by
  cases h with
  | s0 fs hk hn =>
    simp only [applyCall, Option.some.injEq] at ha
    subst ha
    exact .s1 _ hk hn
  | s1 fs hk hn =>
    simp only [applyCall, Option.some.injEq] at ha
    subst ha
    exact .s2 _ ⟨hk.old, hk.cur⟩ (by simp [hn])
  | s2 fs hk hany =>
    simp only [applyCall, hany, if_true, Option.some.injEq] at ha
    subst ha
    refine .s3 _ ⟨hk.old, hk.cur⟩ ?_
    exact tmpContent_written fs.tmps fs0.nextTmp c hany
  | s3 fs hk htc =>
    simp only [applyCall, htc, Option.some.injEq] at ha
    subst ha
    exact .done _ ⟨hk.old, Or.inr (by simp [hk.cur])⟩

theorem importFile_fault (ft : Fault) (x : X1) (f : FileId) (c : Content) (fuel : Nat) :
    IAtomic x.st.fs (X1.exec ft fuel x (importFileCalls x.st.fs f c)).st.fs f c := by
  apply X1.exec_inv ft (IStage x.st.fs f c) (fun fs => IAtomic x.st.fs fs f c)
    (fun _ _ h => h.stop) (fun _ _ _ _ h ha => h.perform ha)
  · intro f' cs fs h; cases h
  · intro f' cs fs h; cases h
  · intro id f' g cs fs fs' h ha
    cases h with
    | s2 fs hk hany =>
      simp only [applyCall, hany, if_true, Option.some.injEq] at ha
      subst ha
      exact ⟨hk.old, Or.inl hk.cur⟩
  · exact .s0 _ ⟨rfl, rfl⟩ rfl

theorem X1.importFile_atomic (ft : Fault) (x : X1) (f : FileId) (c : Content) :
    IAtomic x.st.fs (x.importFile ft f c).1.st.fs f c := by
  unfold X1.importFile
  by_cases ho : x.out ≠ .ok
  · rw [if_pos ho]; exact ⟨rfl, Or.inl rfl⟩
  · rw [if_neg ho]
    have h := importFile_fault ft x f c (2 * (importFileCalls x.st.fs f c).length + 8)
    dsimp only
    split
    · exact ⟨h.old, h.cur⟩
    · exact h

/-- **a whole bundle under any fault**: the histories are untouched and every current key file is what
it was or completely the content the bundle holds for it -/
theorem X1.importFiles_atomic (ft : Fault) (newc : FileId → Content) (files : List FileId) :
    ∀ x : X1, (X1.importFiles ft newc x files).1.st.fs.old = x.st.fs.old ∧
      ∀ f, (X1.importFiles ft newc x files).1.st.fs.cur f = x.st.fs.cur f ∨
        (f ∈ files ∧ (X1.importFiles ft newc x files).1.st.fs.cur f = some (newc f)) := by
  induction files with
  | nil => intro x; exact ⟨rfl, fun _ => Or.inl rfl⟩
  | cons f0 rest ih =>
    intro x
    have h1 := X1.importFile_atomic ft x f0 (newc f0)
    have one : ∀ f, (x.importFile ft f0 (newc f0)).1.st.fs.cur f = x.st.fs.cur f ∨
        (f ∈ f0 :: rest ∧ (x.importFile ft f0 (newc f0)).1.st.fs.cur f = some (newc f)) := by
      intro f
      rcases h1.cur with e | e
      · exact Or.inl (by rw [e])
      · by_cases hf : f = f0
        · subst hf; exact Or.inr ⟨by simp, by rw [e]; simp⟩
        · exact Or.inl (by rw [e]; simp [upd, hf])
    unfold X1.importFiles
    generalize hp : x.importFile ft f0 (newc f0) = p at h1 one
    obtain ⟨x1, b⟩ := p
    cases b with
    | true => exact ⟨h1.old, one⟩
    | false =>
      simp only []
      split
      · exact ⟨h1.old, one⟩
      · obtain ⟨io, ic⟩ := ih x1
        refine ⟨io.trans h1.old, fun f => ?_⟩
        rcases ic f with e | ⟨hm, e⟩
        · rcases one f with e1 | ⟨hm1, e1⟩
          · exact Or.inl (e.trans e1)
          · exact Or.inr ⟨hm1, e.trans e1⟩
        · exact Or.inr ⟨List.mem_cons_of_mem _ hm, e⟩

theorem X2.readPhase_st (ft : Fault) (x : X2) (s : Slot) : (x.readPhase ft s).1.st = x.st := by
  unfold X2.readPhase
  by_cases hout : x.out ≠ .ok
  · rw [if_pos hout]
  rw [if_neg hout]
  obtain ⟨x1, o1, e, e1⟩ := X2.call_id_spec ft x .rlock
  rw [e]
  match o1 with
  | none => exact e1
  | some false => exact e1
  | some true =>
    obtain ⟨x2, o2, e, e2⟩ := X2.call_id_spec ft x1 (.get s)
    obtain ⟨x3, o3, e', e3⟩ := X2.call_id_spec ft x2 .runlock
    replace e3 : x3.st = x.st := e3.trans (e2.trans e1)
    simp only [e]
    match o2 with
    | none => exact e2.trans e1
    | some false =>
      simp only [e']
      cases o3 <;> exact e3
    | some true =>
      simp only [e']
      match o3 with
      | none => exact e3
      | some true => exact e3
      | some false =>
        simp only
        cases x3.st.rings s <;> exact e3

/-- what one imported ring may look like afterwards, relative to the back end `st0` before -/
def RingImported (st0 st : V2) (s : Slot) (new : Ring) : Prop :=
  (∀ s', s' ≠ s → st.rings s' = st0.rings s') ∧
  (st.rings s = st0.rings s ∨ st.rings s = some new ∨ (st0.rings s = none ∧ st.rings s = some Ring.empty))

theorem setKeys_phase (ft : Fault) (x : X2) (s : Slot) (new : Ring) :
    (∀ s', s' ≠ s → (x.phase ft s (setKeysCompute new)).st.rings s' = x.st.rings s') ∧
    ((x.phase ft s (setKeysCompute new)).st.rings s = x.st.rings s ∨
      (x.phase ft s (setKeysCompute new)).st.rings s = some new) := by
  obtain ⟨ho, hc⟩ := X2.phase_atomic ft x s (setKeysCompute new)
  refine ⟨ho, ?_⟩
  rcases hc with h | ⟨r, hr, h⟩
  · exact Or.inl h
  · right
    cases hs : x.st.rings s with
    | none => rw [hs] at hr; simp [setKeysCompute] at hr
    | some r0 =>
      rw [hs] at hr
      simp only [setKeysCompute, Option.some.injEq] at hr
      rw [h, hr]

theorem X2.importRing_atomic (ft : Fault) (ow : Bool) (x : X2) (s : Slot) (new : Ring) :
    RingImported x.st (x.importRing ft ow s new).st s new := by
  unfold X2.importRing
  have e := X2.readPhase_st ft x s
  generalize x.readPhase ft s = p at e
  obtain ⟨x1, res⟩ := p
  simp only at e
  match res with
  | none => simp only []; rw [e]; exact ⟨fun _ _ => rfl, Or.inl rfl⟩
  | some (some _) =>
    simp only []
    split
    · obtain ⟨ho, hc⟩ := setKeys_phase ft x1 s new
      rw [e] at ho hc
      exact ⟨ho, by rcases hc with h | h; exact Or.inl h; exact Or.inr (Or.inl h)⟩
    · simp only []; rw [e]; exact ⟨fun _ _ => rfl, Or.inl rfl⟩
  | some none =>
    simp only []
    obtain ⟨ho1, hc1⟩ := X2.openRW_atomic ft x1 s
    obtain ⟨ho2, hc2⟩ := setKeys_phase ft (x1.openRW ft s) s new
    rw [e] at ho1 hc1
    refine ⟨fun s' hs' => (ho2 s' hs').trans (ho1 s' hs'), ?_⟩
    rcases hc2 with h | h
    · rcases hc1 with h1 | ⟨h0, h1⟩
      · exact Or.inl (h.trans h1)
      · exact Or.inr (Or.inr ⟨h0, h.trans h1⟩)
    · exact Or.inr (Or.inl h)

/-- **a whole bundle of rings under any fault**: every ring is what it was, or completely the imported
ring, or – it did not exist – the empty ring created for the import -/
theorem X2.importRings_atomic (ft : Fault) (ow : Bool) (new : Slot → Ring) (slots : List Slot) :
    ∀ x : X2, ∀ s, (X2.importRings ft ow new x slots).st.rings s = x.st.rings s ∨
      (s ∈ slots ∧ ((X2.importRings ft ow new x slots).st.rings s = some (new s) ∨
        (x.st.rings s = none ∧ (X2.importRings ft ow new x slots).st.rings s = some Ring.empty))) := by
  induction slots with
  | nil => intro x s; exact Or.inl rfl
  | cons s0 rest ih =>
    intro x s
    have h1 := X2.importRing_atomic ft ow x s0 (new s0)
    have one : (x.importRing ft ow s0 (new s0)).st.rings s = x.st.rings s ∨
        (s ∈ s0 :: rest ∧ ((x.importRing ft ow s0 (new s0)).st.rings s = some (new s) ∨
          (x.st.rings s = none ∧ (x.importRing ft ow s0 (new s0)).st.rings s = some Ring.empty))) := by
      by_cases hs : s = s0
      · subst hs
        rcases h1.2 with h | h | h
        · exact Or.inl h
        · exact Or.inr ⟨by simp, Or.inl h⟩
        · exact Or.inr ⟨by simp, Or.inr h⟩
      · exact Or.inl (h1.1 s hs)
    unfold X2.importRings
    simp only []
    split
    · exact one
    · rcases ih (x.importRing ft ow s0 (new s0)) s with e | ⟨hm, e⟩
      · rcases one with e1 | ⟨hm1, e1⟩
        · exact Or.inl (e.trans e1)
        · refine Or.inr ⟨hm1, ?_⟩
          rcases e1 with e1 | ⟨h0, e1⟩
          · exact Or.inl (e.trans e1)
          · exact Or.inr ⟨h0, e.trans e1⟩
      · rcases e with e | ⟨h0, e⟩
        · exact Or.inr ⟨List.mem_cons_of_mem _ hm, Or.inl e⟩
        · -- the ring was missing when the later import of `s` started
          rcases one with e1 | ⟨hm1, e1⟩
          · exact Or.inr ⟨List.mem_cons_of_mem _ hm, Or.inr ⟨by rw [← e1]; exact h0, e⟩⟩
          · rcases e1 with e1 | ⟨h00, _⟩
            · rw [e1] at h0; cases h0
            · exact Or.inr ⟨hm1, Or.inr ⟨h00, e⟩⟩

/-- the transactions a handle operation pushes are as many as the regenerated table says it pushes -/
def HOp.pushes (h : HOp) : Nat :=
  ((KeystoreCrash.v2TxPushPop.find? (·.1 = h.name)).map (·.2.1)).getD 0

theorem HOp.txs_length (h : HOp) (view : Ring) (g : Nat) (txs : List Tx) (ht : h.txs view g = some txs)
    (hf : KeystoreCrash.v2TxPushPop.map (fun e => (e.1, e.2.1)) =
      [("setCurrent", 1), ("changeKeyState", 1), ("addKey", 1), ("destroyKey", 2), ("importASN1", 1)]) :
    txs.length = h.pushes := by
  have hp : ∀ n, ((KeystoreCrash.v2TxPushPop.find? (·.1 = n)).map (·.2.1)) =
      ((KeystoreCrash.v2TxPushPop.map (fun e => (e.1, e.2.1))).find? (·.1 = n)).map (·.2) := by
    intro n
    induction KeystoreCrash.v2TxPushPop with
    | nil => rfl
    | cons e es ih =>
      by_cases he : e.1 = n
      · simp [List.find?_cons, he]
      · simp only [List.find?_cons, List.map_cons, he, decide_false]; exact ih
  unfold HOp.pushes
  rw [hp, hf]
  cases h with
  | add => simp only [HOp.txs, Option.some.injEq] at ht; subst ht; rfl
  | setCurrent q => simp only [HOp.txs, Option.some.injEq] at ht; subst ht; rfl
  | destroy q =>
    simp only [HOp.txs] at ht
    split at ht
    · cases ht
    · split at ht
      · simp only [Option.some.injEq] at ht; subst ht; rfl
      · cases ht

/-- **the handle's log after one operation**: with balanced push/pop counts (`pops = pushes` for the
operation) a handle whose log was empty has an empty log again – whatever the fault did to the sync -/
theorem H2.hop_log (ft : Fault) (s : Slot) (h : H2) (op : HOp) (hl : h.log = [])
    (hbal : op.pops = op.pushes)
    (hf : KeystoreCrash.v2TxPushPop.map (fun e => (e.1, e.2.1)) =
      [("setCurrent", 1), ("changeKeyState", 1), ("addKey", 1), ("destroyKey", 2), ("importASN1", 1)]) :
    (h.hop ft s op).1.log = [] := by
  unfold H2.hop
  by_cases hcr : h.x.out = .crash
  · rw [if_pos hcr]; exact hl
  · rw [if_neg hcr]
    simp only []
    split
    · exact hl
    · rename_i txs ht
      have hlen := HOp.txs_length op _ _ txs ht hf
      have key : ∀ (c : Prop) [Decidable c], (if c then ([] : List Tx) else txs.take (txs.length - op.pops)) = [] := by
        intro c _; rw [hbal, ← hlen]; simp
      simp only [hl, List.nil_append]
      exact key _

end AcraModel.Keystore
