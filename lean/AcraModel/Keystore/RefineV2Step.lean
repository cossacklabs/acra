import AcraModel.Keystore.RefineV2
/-!
# v2: per-step simulation `V2.step ⊑ Spec.stepApi .v2` and refinement of whole runs
-/
namespace AcraModel.Keystore

/-- The slot whose ring an operation opens *read-write*: `OpenKeyRingRW` creates an empty ring when
the slot has none – the poison-key readers and every destroy do that. -/
def Op.opensRW : Op → Option Slot
  | .cur s | .all s => if s.kind = .pp ∨ s.kind = .ps then some s else none
  | .pub s => if s.kind = .pp then some s else none
  | .drot s _ | .dcur s => if s.kind.canDestroy then some s else none
  | _ => none

/-- destroy-rotated is called with a listed index (the listing starts at 2) -/
def Op.idxOk : Op → Bool
  | .drot _ i => decide (2 ≤ i)
  | _ => true

/-- Invariant of the v2 back end in runs without destroy-current, without faults and without rings
that were created empty: no leftover temporary; a slot has a ring exactly when it was generated, and
that ring satisfies `RingOK`. -/
structure V2.Inv (st : V2) : Prop where
  tmp : ∀ s, st.newTmp s = false
  ring : ∀ s, (st.rings s = none ∧ st.count s = 0) ∨ (∃ r, st.rings s = some r ∧ st.count s ≠ 0 ∧ RingOK r (st.count s))

theorem V2.Inv.init : V2.init.Inv := ⟨fun _ => rfl, fun _ => Or.inl ⟨rfl, rfl⟩⟩

theorem V2.push_ok (st : V2) (s : Slot) (r : Ring) (h : st.newTmp s = false) :
    st.push s r = some { st with rings := upd st.rings s (some r) } := by
  simp [V2.push, h]

theorem V2.write_ok (st : V2) (s : Slot) (txs : List Tx) (r r' : Ring) (hr : st.rings s = some r)
    (ht : applyTxs r txs = some r') (hn : st.newTmp s = false) :
    st.write s txs = some { st with rings := upd st.rings s (some r') } := by
  simp [V2.write, hr, ht, V2.push, hn]

theorem V2.openRW_some (st : V2) (s : Slot) (r : Ring) (hr : st.rings s = some r) : st.openRW s = some (st, r) := by
  simp [V2.openRW, hr]

/-- generate/rotate on the back end: the ring of the slot gets the new key as its current key -/
theorem V2.step_gen (st : V2) (s : Slot) (hinv : st.Inv) :
    st.step (.gen s) = ({ rings := upd st.rings s (some (((st.rings s).getD Ring.empty).added (st.count s))),
                          newTmp := st.newTmp, count := upd st.count s (st.count s + 1) }, .ok) := by
  have htmp := hinv.tmp s
  rcases hinv.ring s with ⟨hr, hn⟩ | ⟨r, hr, hn, hok⟩
  · have hok0 : RingOK Ring.empty (st.count s) := hn ▸ RingOK.empty
    have hw1 := V2.write_ok (V2.mk (upd st.rings s (some Ring.empty)) st.newTmp (upd st.count s (st.count s + 1)))
      s _ Ring.empty _ (by simp) hok0.addKey htmp
    have hw2 := V2.write_ok (V2.mk (upd st.rings s
        (some ⟨Ring.empty.keys ++ [⟨st.count s + 1, .preActive, some (st.count s + 1)⟩], Ring.empty.current⟩))
        st.newTmp (upd st.count s (st.count s + 1)))
      s _ _ _ (by simp) hok0.setCurrent htmp
    simp only [upd_upd] at hw1 hw2
    simp only [V2.step, V2.openRW, hr, V2.push_ok st s _ htmp, Option.map_some, hok0.nextSeq, hw1, upd_same, hw2]
    simp
  · have hw1 := V2.write_ok (V2.mk st.rings st.newTmp (upd st.count s (st.count s + 1)))
      s _ r _ hr hok.addKey htmp
    have hw2 := V2.write_ok (V2.mk (upd st.rings s
        (some ⟨r.keys ++ [⟨st.count s + 1, .preActive, some (st.count s + 1)⟩], r.current⟩))
        st.newTmp (upd st.count s (st.count s + 1)))
      s _ _ _ (by simp) hok.setCurrent htmp
    simp only [upd_upd] at hw1 hw2
    simp only [V2.step, V2.openRW_some st s r hr, hok.nextSeq, hw1, upd_same, hw2]
    simp [hr]

theorem V2.Inv.gen {st : V2} (hinv : st.Inv) (s : Slot) : (st.step (.gen s)).1.Inv := by
  rw [V2.step_gen st s hinv]
  refine ⟨hinv.tmp, ?_⟩
  intro s'
  by_cases hs : s' = s
  · subst hs
    refine Or.inr ⟨((st.rings s').getD Ring.empty).added (st.count s'), by simp, by simp, ?_⟩
    simp only [upd_same]
    rcases hinv.ring s' with ⟨hr, hn⟩ | ⟨r, hr, hn, hok⟩
    · rw [hr, hn]; exact RingOK.empty.added
    · rw [hr]; exact hok.added
  · simpa [upd, hs] using hinv.ring s'

theorem V2.abs_gen {st : V2} (hinv : st.Inv) (s : Slot) :
    (st.step (.gen s)).1.abs = upd st.abs s (st.abs s).generate := by
  rw [V2.step_gen st s hinv]
  funext s'
  by_cases hs : s' = s
  · subst hs
    simp only [V2.abs, upd_same]
    rcases hinv.ring s' with ⟨hr, hn⟩ | ⟨r, hr, hn, hok⟩
    · rw [hr, hn]; rfl
    · rw [hr]; exact Ring.abs_added r _ hok.len
  · simp [V2.abs, upd, hs]

theorem V2.Inv.openForRead {st : V2} (hinv : st.Inv) (s : Slot)
    (h : (s.kind = .pp ∨ s.kind = .ps) → st.count s ≠ 0) :
    st.openForRead s = (st.rings s).map fun r => (st, r) := by
  unfold V2.openForRead
  have hrw : (s.kind = .pp ∨ s.kind = .ps) → st.openRW s = (st.rings s).map fun r => (st, r) := by
    intro hk
    rcases hinv.ring s with ⟨_, hn⟩ | ⟨r, hr, _, _⟩
    · exact absurd hn (h hk)
    · simp [V2.openRW_some st s r hr, hr]
  cases hk : s.kind <;> simp only [] <;> first | rfl | exact hrw (by simp [hk])

theorem V2.abs_isEmpty {st : V2} (hinv : st.Inv) (s : Slot) : (st.abs s).isEmpty = (st.rings s).isNone := by
  rcases hinv.ring s with ⟨hr, _⟩ | ⟨r, hr, hn, hok⟩
  · simp [V2.abs, hr]
  · have : r.keys ≠ [] := by intro h; have := hok.len; rw [h] at this; simp at this; omega
    simp [V2.abs, hr, Ring.abs, this]

theorem V2.list_abs {st : V2} (hinv : st.Inv) : (st.step .list) = (st, Spec.listing .v2 st.abs) := by
  have h1 : kindsWithRings.any (fun s => st.newTmp s) = false := by
    simp [List.any_eq_false, hinv.tmp]
  have h2 : kindsWithRings.any (fun s => (st.rings s).any (·.current.isNone)) = false := by
    rw [List.any_eq_false]
    intro s _
    rcases hinv.ring s with ⟨hr, _⟩ | ⟨r, hr, hn, hok⟩
    · simp [hr]
    · simp [hr, hok.cur, hn]
  have hf : kindsWithRings.filter (st.abs.hasFile ∘ privFile) = kindsWithRings.filter (fun s => (st.rings s).isSome) := by
    apply List.filter_congr
    intro s _
    simp [Spec.hasFile, privFile, V2.abs_isEmpty hinv]
  simp only [V2.step, h1, h2, Bool.false_eq_true, if_false, Spec.listing, Fmt.files, List.filter_map, List.map_map, hf]
  rfl

/-- the rotated listing of the back end against the specification's, slot list by slot list: no
`rotatedActive` fails, and the non-empty ones are the specification's with the same lengths -/
theorem listRot_aux (st : V2) (hinv : st.Inv) (L : List Slot) :
    ((L.filterMap fun s => (st.rings s).map fun r => (s, r.rotatedActive)).any (·.2.isNone) = false) ∧
    (((L.filterMap fun s => (st.rings s).map fun r => (s, r.rotatedActive)).filterMap
        fun (x : Slot × Option (List Nat)) => x.2.map fun l => ((x.1, false), l.length)).filter (·.2 ≠ 0)) =
      (((L.map privFile).filter fun f => st.abs.hasFile f && !(st.abs f.slot).rotated.isEmpty).map fun f =>
        ((f.slot, f.pub), (st.abs f.slot).rotated.length)) := by
  induction L with
  | nil => exact ⟨rfl, rfl⟩
  | cons s L ih =>
    rcases hinv.ring s with ⟨hr, _⟩ | ⟨r, hr, hn, hok⟩
    · have he : (st.abs s).isEmpty = true := by rw [V2.abs_isEmpty hinv, hr]; rfl
      have hP : (st.abs.hasFile (privFile s) && !(st.abs (privFile s).slot).rotated.isEmpty) = false := by
        simp [Spec.hasFile, privFile, he]
      simp only [List.filterMap_cons, hr, Option.map_none, List.map_cons, List.filter_cons, hP, Bool.false_eq_true, if_false]
      exact ih
    · have he : (st.abs s).isEmpty = false := by rw [V2.abs_isEmpty hinv, hr]; rfl
      have hrot : (st.abs s).rotated = (r.keys.dropLast.filter Key2.alive).map (·.seq) := by
        simp only [V2.abs, hr]; exact hok.rotated_abs
      have hslot : (privFile s).slot = s := rfl
      have hpub : (privFile s).pub = false := rfl
      have hact := hok.rotatedActive
      generalize (r.keys.dropLast.filter Key2.alive).map (·.seq) = rot at hrot hact
      have hhas : st.abs.hasFile (privFile s) = true := by simp [Spec.hasFile, hpub, hslot, he]
      by_cases hl : rot = []
      · subst hl
        simp only [List.filterMap_cons, hr, Option.map_some, hact, List.any_cons, Option.isNone_some, Bool.false_or,
          ih.1, List.map_cons, List.filter_cons, hslot, hrot, List.isEmpty_nil, Bool.not_true, Bool.and_false,
          Bool.false_eq_true, if_false, List.length_nil, ne_eq, not_true_eq_false, decide_false, true_and]
        exact ih.2
      · have hlen : rot.length ≠ 0 := by
          intro h; exact hl (List.eq_nil_of_length_eq_zero h)
        have hie : rot.isEmpty = false := by simpa [List.isEmpty_iff] using hl
        simp only [List.filterMap_cons, hr, Option.map_some, hact, List.any_cons, Option.isNone_some, Bool.false_or,
          ih.1, List.map_cons, List.filter_cons, hslot, hrot, hhas, hie, Bool.not_false, Bool.and_true, if_true, ne_eq, hlen,
          not_false_eq_true, decide_true, true_and, hpub]
        rw [ih.2]

theorem V2.listRot_abs {st : V2} (hinv : st.Inv) : (st.step .listRot) = (st, Spec.rotListing .v2 st.abs) := by
  have h1 : kindsWithRings.any (fun s => st.newTmp s) = false := by
    simp [List.any_eq_false, hinv.tmp]
  obtain ⟨h2, h3⟩ := listRot_aux st hinv kindsWithRings
  simp only [V2.step, h1, Bool.false_eq_true, if_false, h2, Spec.rotListing, Fmt.files]
  rw [← h3]

theorem RingOK.init_seq_ne {r : Ring} {n : Nat} (h : RingOK r n) {k : Key2} (hk : k ∈ r.keys.dropLast) : k.seq ≠ n := by
  by_cases hn : n = 0
  · have := h.seq_bound (List.dropLast_subset _ hk); omega
  · obtain ⟨init, last, hkeys, hseq, _, _⟩ := h.split hn
    have hd := h.distinct
    simp only [Ring.Distinct, hkeys, List.pairwise_append] at hd
    rw [hkeys, List.dropLast_concat] at hk
    have := hd.2.2 k hk last (by simp)
    rwa [hseq] at this

theorem V2.abs_of_ring {st : V2} {s : Slot} {r : Ring} (hr : st.rings s = some r) : st.abs s = r.abs := by
  simp [V2.abs, hr]

theorem V2.abs_of_none {st : V2} {s : Slot} (hr : st.rings s = none) : st.abs s = [] := by
  simp [V2.abs, hr]

theorem transition_pre_destroyed : transitionValid .preActive .destroyed = true := by decide +kernel

local macro "triv" : tactic => `(tactic| first | rfl | trivial)

/-- destroy-rotated on the back end, for a listed index -/
theorem V2.step_drot (st : V2) (s : Slot) (i : Nat) (hinv : st.Inv) (hc : s.kind.canDestroy = true) (hn : st.count s ≠ 0)
    (hi : 2 ≤ i) :
    (st.step (.drot s i)).1.Inv ∧ (st.step (.drot s i)).1.abs = (Spec.step st.abs (.drot s i)).1 ∧
    (st.step (.drot s i)).2 = (Spec.step st.abs (.drot s i)).2 ∧ (st.step (.drot s i)).1.count = st.count := by
  rcases hinv.ring s with ⟨_, h0⟩ | ⟨r, hr, _, hok⟩
  · exact absurd h0 hn
  · have hoff : Generated.KeyNames.v2DestroyIndexOffset = 2 := rfl
    have hrot : (st.abs s).rotated = (r.keys.dropLast.filter Key2.alive).map (·.seq) := by
      rw [V2.abs_of_ring hr]; exact hok.rotated_abs
    have hi2 : (i < 2) = False := by simp; omega
    simp only [V2.step, hc, not_true_eq_false, if_false, V2.openRW_some st s r hr, hok.rotatedActive, hoff, Spec.step,
      SpecSlot.destroyRotated, SpecSlot.listedAt, hi, if_true, hrot, hi2, false_or]
    by_cases hlen : i - 1 > ((r.keys.dropLast.filter Key2.alive).map (·.seq)).length
    · -- beyond the listing: both sides refuse
      have hnone : ((r.keys.dropLast.filter Key2.alive).map (·.seq))[i - 2]? = none := by
        apply List.getElem?_eq_none; omega
      simp only [hlen, if_true, hnone, Option.map_none]
      exact ⟨hinv, by triv, by triv, by triv⟩
    · -- a listed key `q`: it is alive and not the last, hence pre-active and not current (`RingOK`), so the two
      -- destroy transactions apply and `RingOK` survives (`RingOK.destroyed`)
      have hlt : i - 2 < ((r.keys.dropLast.filter Key2.alive).map (·.seq)).length := by omega
      have hget := List.getElem?_eq_getElem hlt
      have hmem := List.getElem_mem hlt
      generalize ((r.keys.dropLast.filter Key2.alive).map (·.seq))[i - 2] = q at hget hmem
      obtain ⟨k, hk, hkq⟩ := List.mem_map.1 hmem
      obtain ⟨hkd, hka⟩ := List.mem_filter.1 hk
      have hkmem : k ∈ r.keys := List.dropLast_subset _ hkd
      have hfind : r.find q = some k := by rw [← hkq]; exact hok.find_mem hkmem
      have hst : k.state = .preActive := by
        rcases hok.st k hkmem with ⟨h1, _⟩ | ⟨h1, _⟩
        · exact h1
        · simp [Key2.alive, h1] at hka
      have hqn : q ≠ st.count s := by rw [← hkq]; exact hok.init_seq_ne hkd
      have hw := V2.write_ok st s _ r _ hr (Ring.destroy_txs r q k hfind) (hinv.tmp s)
      simp only [hlen, if_false, hget, hfind, hst, transition_pre_destroyed, not_true_eq_false, Option.map_some]
      rw [hst] at hw
      simp only [hw]
      refine ⟨⟨hinv.tmp, ?_⟩, ?_, by triv, by triv⟩
      · intro s'
        by_cases hs : s' = s
        · subst hs
          exact Or.inr ⟨r.destroyed q, by simp, hn, hok.destroyed q hqn⟩
        · simpa [upd, hs] using hinv.ring s'
      · funext s'
        by_cases hs : s' = s
        · subst hs
          simp only [V2.abs, upd_same, hr]
          exact Ring.abs_destroyed r q
        · simp [V2.abs, upd, hs]

/-- **Per-step simulation (v2).** From a state satisfying the invariant, every operation other than
destroy-current that does not open a never-generated ring read-write, with destroy-rotated called
with a listed index, keeps the invariant, commutes with the abstraction function and shows exactly
the observation the specification prescribes. -/
theorem V2.step_sim (st : V2) (o : Op) (hinv : st.Inv) (ho : o.isDcur = false)
    (hrw : ∀ s, o.opensRW = some s → st.count s ≠ 0) (hidx : o.idxOk = true) :
    (st.step o).1.Inv ∧ (st.step o).1.abs = (Spec.stepApi .v2 st.abs o).1 ∧
    (st.step o).2 = (Spec.stepApi .v2 st.abs o).2 ∧ (st.step o).1.count = countStep st.count o := by
  cases o with
  | gen s =>
    refine ⟨hinv.gen s, ?_, ?_, ?_⟩
    · rw [V2.abs_gen hinv]; rfl
    · rw [V2.step_gen st s hinv]; rfl
    · rw [V2.step_gen st s hinv]; rfl
  | cur s =>
    have hopen := hinv.openForRead s (fun hk => hrw s (by simp [Op.opensRW, hk]))
    simp only [V2.step, hopen, Spec.stepApi]
    rcases hinv.ring s with ⟨hr, _⟩ | ⟨r, hr, hn, hok⟩
    · simp only [hr, Option.map_none, V2.abs_of_none hr]
      exact ⟨hinv, by triv, by triv, by triv⟩
    · simp only [hr, Option.map_some, V2.abs_of_ring hr, hok.material_current, hok.current_abs, hn, if_false]
      refine ⟨hinv, by triv, ?_, by triv⟩
      by_cases hk : s.kind = .pp <;> simp [hk]
  | pub s =>
    simp only [V2.step, Spec.stepApi]
    by_cases hp : s.kind.isPair = true
    · have hopen := hinv.openForRead s (fun hk => by
        rcases hk with hk | hk
        · exact hrw s (by simp [Op.opensRW, hk])
        · simp [hk, Kind.isPair] at hp)
      simp only [hp, not_true_eq_false, if_false, if_true, hopen]
      rcases hinv.ring s with ⟨hr, _⟩ | ⟨r, hr, hn, hok⟩
      · simp only [hr, Option.map_none, V2.abs_of_none hr]
        exact ⟨hinv, by triv, by triv, by triv⟩
      · simp only [hr, Option.map_some, V2.abs_of_ring hr, hok.material_current, hok.current_abs, hn, if_false]
        exact ⟨hinv, by triv, by triv, by triv⟩
    · simp only [hp, not_false_eq_true, if_true, Bool.false_eq_true, if_false]
      exact ⟨hinv, by triv, by triv, by triv⟩
  | all s =>
    simp only [V2.step, Spec.stepApi]
    by_cases ha : s.kind.hasAll = true
    · have hopen := hinv.openForRead s (fun hk => hrw s (by simp [Op.opensRW, hk]))
      simp only [ha, not_true_eq_false, if_false, if_true, hopen, Spec.step]
      rcases hinv.ring s with ⟨hr, _⟩ | ⟨r, hr, hn, hok⟩
      · simp only [hr, Option.map_none, V2.abs_of_none hr]
        exact ⟨hinv, by triv, by triv, by triv⟩
      · have hsurv := hok.survivors hn
        have hne : r.abs.survivors ≠ [] := by rw [hsurv]; simp
        rw [Ring.survivors_abs] at hne
        simp only [hr, Option.map_some, V2.abs_of_ring hr, hok.allMaterial, Ring.survivors_abs, SpecSlot.allNewestFirst, hne,
          if_false, List.reverse_eq_nil_iff, false_and]
        exact ⟨hinv, by triv, by triv, by triv⟩
    · simp only [ha, not_false_eq_true, if_true, Bool.false_eq_true, if_false]
      exact ⟨hinv, by triv, by triv, by triv⟩
  | list =>
    rw [V2.list_abs hinv]
    exact ⟨hinv, by triv, by triv, by triv⟩
  | listRot =>
    rw [V2.listRot_abs hinv]
    exact ⟨hinv, by triv, by triv, by triv⟩
  | dcur s => simp [Op.isDcur] at ho
  | drot s i =>
    by_cases hc : s.kind.canDestroy = true
    · have hi : 2 ≤ i := by simpa [Op.idxOk] using hidx
      have := V2.step_drot st s i hinv hc (hrw s (by simp [Op.opensRW, hc])) hi
      simpa [Spec.stepApi, hc, countStep] using this
    · simp only [V2.step, Spec.stepApi, hc, not_false_eq_true, if_true, Bool.false_eq_true, if_false]
      exact ⟨hinv, by triv, by triv, by triv⟩
  | reset | reopen => exact ⟨hinv, by triv, by triv, by triv⟩

/-- Every operation that opens a ring read-write comes after a generation of its slot
(`seen` = slots generated so far). -/
def genFirst (seen : Slot → Bool) : List Op → Bool
  | [] => true
  | o :: os =>
    (match o.opensRW with | some s => seen s | none => true) &&
    genFirst (match o with | .gen s => upd seen s true | _ => seen) os

theorem V2.run_sim (ops : List Op) (st : V2) (seen : Slot → Bool) (hinv : st.Inv)
    (hseen : ∀ s, seen s = true → st.count s ≠ 0)
    (hops : ∀ o ∈ ops, o.isDcur = false ∧ o.idxOk = true) (hgf : genFirst seen ops = true) :
    (st.run ops).1.Inv ∧ (st.run ops).1.abs = (Spec.runApi .v2 st.abs ops).1 ∧ (st.run ops).2 = (Spec.runApi .v2 st.abs ops).2 := by
  induction ops generalizing st seen with
  | nil => exact ⟨hinv, rfl, rfl⟩
  | cons o os ih =>
    simp only [genFirst, Bool.and_eq_true] at hgf
    have hrw : ∀ s, o.opensRW = some s → st.count s ≠ 0 := by
      intro s hs
      rw [hs] at hgf
      exact hseen s hgf.1
    obtain ⟨h1, h2, h3, h4⟩ := V2.step_sim st o hinv (hops o (by simp)).1 hrw (hops o (by simp)).2
    have hcount : ∀ s, (match o with | .gen s => upd seen s true | _ => seen) s = true → (st.step o).1.count s ≠ 0 := by
      intro s hs
      rw [h4]
      cases o with
      | gen s0 =>
        simp only [countStep]
        by_cases hss : s = s0
        · subst hss; simp
        · simp only [upd, hss, if_false] at hs ⊢; exact hseen s hs
      | _ => exact hseen s hs
    obtain ⟨i1, i2, i3⟩ := ih (st.step o).1 _ h1 hcount (fun o' ho' => hops o' (by simp [ho'])) hgf.2
    simp only [V2.run, Spec.runApi]
    rw [← h2, ← h3]
    exact ⟨i1, i2, by rw [i3]⟩

end AcraModel.Keystore
