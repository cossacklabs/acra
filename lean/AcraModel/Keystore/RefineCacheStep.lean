import AcraModel.Keystore.RefineCache
/-!
# v1 key cache: a coherent cache is invisible

`V1.Coh`: every cache entry is what a load from the storage would put there now (an entry for a
history file: if that file still exists). An empty cache is coherent; reads, listings,
destroy-rotated and resets keep coherence, and from a coherent state every observation equals the one
of the store without cache (`V1.step_coh`). Generate and destroy-current do not keep it (the cached
current symmetric key, the cached public key and the cached list of history names are not refreshed).
Observations of write operations never depend on the cache (`V1.step_obs_write`).
-/
namespace AcraModel.Keystore

/-- coherence of one entry with the storage -/
def Good (fs : FS) : CKey → CVal → Prop
  | .relOld f t, v => ∀ e, (fs.old f).find? (·.1 = t) = some e → ∃ g, e.2.decrypt = some g ∧ v = .key g
  | k, v => Fresh fs k v

def V1.Coh (st : V1) : Prop := ∀ k v, st.look k = some v → Good st.fs k v

theorem Fresh.good {fs : FS} {k : CKey} {v : CVal} (h : Fresh fs k v) : Good fs k v := by
  cases k with
  | relOld f t =>
    obtain ⟨_, g, hg, hv⟩ := h
    intro e he
    simp only [FS.readName, he, Option.map_some, Option.bind_some] at hg
    exact ⟨g, hg, hv⟩
  | _ => exact h

theorem V1.Coh.evol {st st' : V1} (hc : st.Coh) (he : Evol (Fresh st.fs) st st') (hfs : st'.fs = st.fs) : st'.Coh := by
  intro k v hv
  rw [hfs]
  rcases he k v hv with h | h
  · exact hc k v h
  · exact h.good

theorem V1.Coh.of_nocache {st : V1} (h : st.cache = none) : st.Coh := by
  intro k v hv
  simp [V1.look, h] at hv

theorem V1.Coh.clear (st : V1) : st.clear.Coh := by
  intro k v hv; rw [V1.clear_look] at hv; cases hv

theorem V1.readKey_coh (st : V1) (f : FileId) (name : Option Nat) (m : Bool) (hc : st.Coh) (hf : f.pub = false)
    (hex : ∀ t, name = some t → ∃ e, (st.fs.old f).find? (·.1 = t) = some e) :
    (st.readKey f name m).2 = (st.fs.readName f name).bind Content.decrypt := by
  rw [V1.readKey_result]
  cases hl : st.look (ckeyOf f name) with
  | none => rfl
  | some v =>
    have hg := hc _ _ hl
    cases name with
    | none =>
      simp only [ckeyOf, Good, Fresh, hf, Bool.false_eq_true, if_false] at hg
      obtain ⟨g, hg, rfl⟩ := hg
      simp [FS.readName, hg]
    | some t =>
      obtain ⟨e, he⟩ := hex t rfl
      obtain ⟨g, hg', rfl⟩ := hg e he
      simp [FS.readName, he, hg']

/-- read-all under a property `I` of the store that every single read keeps and under which a single
read returns what the storage holds: `I` still holds and the result is the one without cache -/
theorem V1.readAllAux_inv {I : V1 → Prop} (f : FileId) (m : Bool) (names : List (Option Nat))
    (hread : ∀ st nm, I st → nm ∈ names →
      I (st.readKey f nm m).1 ∧ (st.readKey f nm m).2 = (st.fs.readName f nm).bind Content.decrypt)
    (st : V1) (acc : List Nat) (hi : I st) :
    I (V1.readAllAux f m st names acc).1 ∧ (V1.readAllAux f m st names acc).2 = pureAll st.fs f names acc := by
  induction names generalizing st acc with
  | nil => exact ⟨hi, rfl⟩
  | cons nm nms ih =>
    obtain ⟨h1, h2⟩ := hread st nm hi (by simp)
    have h3 := V1.readKey_fs st f nm m
    simp only [V1.readAllAux, pureAll]
    generalize st.readKey f nm m = p at h1 h2 h3
    obtain ⟨st', r⟩ := p
    simp only at h1 h2 h3
    subst h2
    cases (st.fs.readName f nm).bind Content.decrypt with
    | none => exact ⟨h1, rfl⟩
    | some g =>
      simp only
      rw [← h3]
      exact ih (fun st nm hi hn => hread st nm hi (by simp [hn])) st' (g :: acc) h1

theorem V1.readAllAux_coh (f : FileId) (m : Bool) (hf : f.pub = false) (names : List (Option Nat)) (st : V1) (acc : List Nat)
    (hc : st.Coh) (hex : ∀ nm ∈ names, ∀ t, nm = some t → ∃ e, (st.fs.old f).find? (·.1 = t) = some e) :
    (V1.readAllAux f m st names acc).2 = pureAll st.fs f names acc := by
  refine (V1.readAllAux_inv (I := fun st' => st'.fs = st.fs ∧ st'.Coh) f m names ?_ st acc ⟨rfl, hc⟩).2
  rintro st' nm ⟨hfs, hc'⟩ hn
  exact ⟨⟨(V1.readKey_fs st' f nm m).trans hfs, hc'.evol (V1.readKey_evol st' f nm m hf) (V1.readKey_fs st' f nm m)⟩,
    V1.readKey_coh st' f nm m hc' hf (by rw [hfs]; exact hex nm hn)⟩

theorem hist_exists (fs : FS) (f : FileId) : ∀ nm ∈ historicalNames fs f, ∀ t, nm = some t →
    ∃ e, (fs.old f).find? (·.1 = t) = some e := by
  intro nm hnm t ht
  subst ht
  simp only [historicalNames, List.mem_cons, List.mem_reverse, List.mem_map] at hnm
  rcases hnm with h | ⟨e, he, hte⟩
  · cases h
  · have : ((fs.old f).find? (·.1 = t)).isSome = true := by
      rw [List.find?_isSome]
      exact ⟨e, he, by simpa using hte⟩
    exact Option.isSome_iff_exists.1 this

theorem V1.readAll_coh (st : V1) (s : Slot) (hc : st.Coh) (ha : s.kind.hasAll = true) :
    (st.readAll s).2 = pureAll st.fs (privFile s) (historicalNames st.fs (privFile s)) [] := by
  obtain ⟨st1, he, h3, -, h2⟩ := V1.readAll_names st s ha fun v hl => (hc _ _ hl).2.2
  rw [he, ← h3]
  exact V1.readAllAux_coh (privFile s) (!s.kind.isPair) rfl _ st1 [] (hc.evol h2 h3) (hist_exists st1.fs (privFile s))

theorem V1.poisonPair_coh (st : V1) (s : Slot) (hc : st.Coh) :
    (st.poisonPair s).2 = (match (st.fs.cur (privFile s)).bind Content.decrypt, st.fs.cur (pubFile s) with
      | some g, some pc => some (g, pc.raw)
      | _, _ => none) := by
  unfold V1.poisonPair
  obtain ⟨st1, ea, a2, -, a3⟩ := V1.cget_spec st (.rel (privFile s))
  obtain ⟨st2, eb, b2, -, -⟩ := V1.cget_spec st1 (.rel (pubFile s))
  rw [ea]; dsimp only; rw [eb, a3]; dsimp only
  rw [b2.trans a2]
  have hfile : ((match (st.fs.cur (privFile s)).bind Content.decrypt, st.fs.cur (pubFile s) with
        | some g, some pc => ((st2.cadd (.rel (privFile s)) (.key g)).cadd (.rel (pubFile s)) (.key pc.raw), some (g, pc.raw))
        | _, _ => (st2, none)) : V1 × Option (Nat × Nat)).2 =
      (match (st.fs.cur (privFile s)).bind Content.decrypt, st.fs.cur (pubFile s) with
        | some g, some pc => some (g, pc.raw)
        | _, _ => none) := by
    cases (st.fs.cur (privFile s)).bind Content.decrypt <;> cases st.fs.cur (pubFile s) <;> rfl
  cases ha : st.look (.rel (privFile s)) with
  | none => exact hfile
  | some va =>
    cases hb : st.look (.rel (pubFile s)) with
    | none => exact hfile
    | some vb =>
      have ga := hc _ _ ha
      have gb := hc _ _ hb
      simp only [Good, Fresh, privFile, Bool.false_eq_true, if_false] at ga
      simp only [Good, Fresh, pubFile, if_true] at gb
      obtain ⟨g, hg, rfl⟩ := ga
      obtain ⟨pc, hp, rfl⟩ := gb
      simp only [privFile] at hg ⊢
      simp only [pubFile] at hp ⊢
      simp [hg, hp]

theorem V1.storagePub_coh (st : V1) (s : Slot) (hc : st.Coh) :
    (st.storagePub s).2 = (st.fs.cur (pubFile s)).map Content.raw := by
  unfold V1.storagePub
  obtain ⟨st1, ea, a2, -, -⟩ := V1.cget_spec st (.absPub (pubFile s))
  rw [ea]
  cases ha : st.look (.absPub (pubFile s)) with
  | none => simp only [a2]; cases st.fs.cur (pubFile s) <;> rfl
  | some va =>
    obtain ⟨pc, hp, rfl⟩ := hc _ _ ha
    simp [hp]

/-- operations that keep the cache coherent with the storage: everything except generate/rotate and
destroy-current -/
def Op.keepsCoh : Op → Bool
  | .gen _ | .dcur _ => false
  | _ => true

/-- operations whose observation is computed from the cache: the key readers -/
def Op.isRead : Op → Bool
  | .cur _ | .pub _ | .all _ => true
  | _ => false

/-- key readers only forget entries or add values just loaded; they never touch the storage -/
theorem V1.step_read_evol (st : V1) (o : Op) (ho : o.isRead = true) :
    Evol (Fresh st.fs) st (st.step o).1 := by
  cases o with
  | cur s =>
    simp only [V1.step]
    cases hk : s.kind
    case pp => exact V1.poisonPair_evol st s
    all_goals exact V1.readKey_evol st _ _ _ rfl
  | pub s =>
    simp only [V1.step]
    cases hk : s.kind
    case sp => exact V1.storagePub_evol st s
    case pp => exact V1.poisonPair_evol st s
    all_goals exact Evol.refl _ _
  | all s =>
    simp only [V1.step]
    by_cases ha : s.kind.hasAll = true
    · simp only [ha, not_true_eq_false, if_false]; exact V1.readAll_evol st s ha
    · simp only [ha, not_false_eq_true, if_true]; exact Evol.refl _ _
  | _ => simp [Op.isRead] at ho

theorem V1.step_read_fs (st : V1) (o : Op) (ho : o.isRead = true) :
    (st.step o).1.fs = st.fs ∧ (st.step o).1.count = st.count := by
  have h := V1.step_fs st o
  cases o <;> first | exact h | simp [Op.isRead] at ho

/-- `destroyRotatedKeyByIndex` either changes nothing (and then does not report success) or removes
the history files of one name -/
theorem drotFileCalls_effect (fs : FS) (f : FileId) (i : Nat) :
    ((drotFileCalls fs f i).2 = false → (applyAll fs (drotFileCalls fs f i).1).1 = fs) ∧
    ((drotFileCalls fs f i).2 = true → ∃ t, applyAll fs (drotFileCalls fs f i).1 =
      ({ fs with old := upd fs.old f ((fs.old f).filter (·.1 ≠ t)) }, true)) := by
  unfold drotFileCalls
  by_cases hdir : fs.oldDir f = true
  · by_cases hr : i < 2 ∨ i > (fs.old f).length + 1
    · simp [hdir, hr, applyAll, applyCall]
    · cases hg : (fs.old f)[i - Generated.KeyNames.v1DestroyIndexOffset]? with
      | none => simp [hdir, hr, hg, applyAll, applyCall]
      | some e =>
        obtain ⟨t, c⟩ := e
        simp only [hdir, not_true_eq_false, if_false, hr, hg, Bool.true_eq_false, false_imp_iff, true_and, forall_const]
        exact ⟨t, by simp [applyAll, applyCall, hdir]⟩
  · simp [hdir, applyAll, applyCall]

/-- removing the history files of one name invalidates no cache entry except the list of names of that file -/
theorem Good.removeOld {fs : FS} {f : FileId} {t : Nat} {k : CKey} {v : CVal} (h : Good fs k v) (hk : k ≠ .names f) :
    Good { fs with old := upd fs.old f ((fs.old f).filter (·.1 ≠ t)) } k v := by
  cases k with
  | rel f' => exact h
  | absPub f' => exact h
  | names f' =>
    have hne : f' ≠ f := fun e => hk (e ▸ rfl)
    simp only [Good, Fresh, historicalNames] at h ⊢
    simpa [upd, hne] using h
  | relOld f' t' =>
    intro e he
    by_cases hf : f' = f
    · subst hf
      simp only [upd_same] at he
      have het : e.1 = t' := by simpa using List.find?_some he
      have hne : t' ≠ t := by
        have := (List.mem_filter.1 (List.mem_of_find?_eq_some he)).2
        rw [← het]; simpa using this
      rw [find_filter_ne _ hne] at he
      exact h e he
    · simp only [upd, hf, if_false] at he
      exact h e he

/-- destroy-rotated on one file as the cache sees it: nothing happened, or the history files of one name
are gone, a cached list of names of `f` is the new directory's and every other entry is untouched or forgotten -/
theorem V1.drotFile_look (st : V1) (f : FileId) (i : Nat) :
    ((st.drotFile f i).1.fs = st.fs ∧ ∀ k, (st.drotFile f i).1.look k = st.look k) ∨
    ∃ t, (st.drotFile f i).1.fs = { st.fs with old := upd st.fs.old f ((st.fs.old f).filter (·.1 ≠ t)) } ∧
      ∀ k v, (st.drotFile f i).1.look k = some v →
        (k = .names f ∧ v = .paths (historicalNames (st.drotFile f i).1.fs f) ∧ ∃ v0, st.look (.names f) = some v0) ∨
        (k ≠ .names f ∧ st.look k = some v) := by
  obtain ⟨hfail, hok⟩ := drotFileCalls_effect st.fs f i
  unfold V1.drotFile
  dsimp only
  cases hres : (drotFileCalls st.fs f i).2 with
  | false => exact Or.inl ⟨by simpa using hfail hres, fun _ => rfl⟩
  | true =>
    obtain ⟨t, ht⟩ := hok hres
    simp only [ht, and_self, if_true, V1.refreshNames_fs]
    exact Or.inr ⟨t, rfl, fun k v hv => V1.look_refresh_cases _ f k v hv⟩

/-- a property of cache entries relative to the storage that survives the removal of history files
(entries other than lists of names) and is inherited by a refreshed list of names survives destroy-rotated -/
theorem V1.drotFile_keeps {P : FS → CKey → CVal → Prop} (st : V1) (f : FileId) (i : Nat)
    (hrm : ∀ t k v, P st.fs k v → k ≠ .names f → P { st.fs with old := upd st.fs.old f ((st.fs.old f).filter (·.1 ≠ t)) } k v)
    (hnm : ∀ fs' v0, P st.fs (.names f) v0 → P fs' (.names f) (.paths (historicalNames fs' f)))
    (hc : ∀ k v, st.look k = some v → P st.fs k v) :
    ∀ k v, (st.drotFile f i).1.look k = some v → P (st.drotFile f i).1.fs k v := by
  intro k v hv
  rcases V1.drotFile_look st f i with ⟨hfs, hl⟩ | ⟨t, hfs, hl⟩
  · rw [hfs]; exact hc k v (hl k ▸ hv)
  · rcases hl k v hv with ⟨rfl, rfl, v0, hv0⟩ | ⟨hk, hv'⟩
    · exact hnm _ v0 (hc _ _ hv0)
    · rw [hfs]; exact hrm t k v (hc k v hv') hk

/-- destroy-rotated on one file keeps the cache coherent: the list of names is refreshed when cached,
entries of the removed file are never consulted again -/
theorem V1.drotFile_coh (st : V1) (f : FileId) (i : Nat) (hc : st.Coh) : (st.drotFile f i).1.Coh :=
  V1.drotFile_keeps (P := Good) st f i (fun _ _ _ h hk => h.removeOld hk) (fun _ _ h => ⟨h.1, h.2.1, rfl⟩) hc

/-- **Observations of write operations and listings never depend on the cache.** -/
theorem V1.step_obs_write (st su : V1) (o : Op) (hfs : st.fs = su.fs) (hcnt : st.count = su.count) (ho : o.isRead = false) :
    (st.step o).2 = (su.step o).2 := by
  cases o with
  | cur s | pub s | all s => simp [Op.isRead] at ho
  | gen s =>
    simp only [V1.step, hfs, hcnt]
    cases (applyAll su.fs (genCalls su.fs s (su.count s + 1))).2
    · rfl
    · cases s.kind <;> rfl
  | list => simp [V1.step, V1.list, hfs]
  | listRot => simp [V1.step, V1.listRot, hfs]
  | dcur s =>
    simp only [V1.step]
    by_cases hcd : s.kind.canDestroy = true <;> simp [hcd]
  | drot s i =>
    simp only [V1.step]
    by_cases hcd : s.kind.canDestroy = true
    · simp only [hcd, not_true_eq_false, if_false]
      have f1 := V1.drotFile_fs st (privFile s) i
      have g1 := V1.drotFile_fs su (privFile s) i
      generalize st.drotFile (privFile s) i = p1 at f1 ⊢
      generalize su.drotFile (privFile s) i = q1 at g1 ⊢
      obtain ⟨st1, ok1⟩ := p1
      obtain ⟨su1, ok1'⟩ := q1
      simp only at f1 g1
      have hok : ok1 = ok1' := by rw [f1.2.2, g1.2.2, hfs]
      subst hok
      cases ok1
      · rfl
      · simp only [not_true_eq_false, if_false]
        cases hp : s.kind.isPair
        · rfl
        · simp only [if_true]
          have f2 := V1.drotFile_fs st1 (pubFile s) i
          have g2 := V1.drotFile_fs su1 (pubFile s) i
          have hfs1 : st1.fs = su1.fs := by rw [f1.1, g1.1, hfs]
          rw [f2.2.2, g2.2.2, hfs1]
    · simp [hcd]
  | reset | reopen => rfl

/-- **One operation from a coherent state** (any cache size): coherence is kept and the observation
is the one of the store without cache on the same storage. -/
theorem V1.step_coh (st : V1) (o : Op) (hc : st.Coh) (ho : o.keepsCoh = true) :
    (st.step o).1.Coh ∧ (st.step o).2 = (V1.step ⟨st.fs, none, st.count⟩ o).2 := by
  have hn : (⟨st.fs, none, st.count⟩ : V1).cache = none := rfl
  -- readers only add values just loaded
  have hread : o.isRead = true → (st.step o).1.Coh := fun hr =>
    hc.evol (V1.step_read_evol st o hr) (V1.step_read_fs st o hr).1
  cases o with
  | gen s | dcur s => simp [Op.keepsCoh] at ho
  | cur s =>
    refine ⟨hread rfl, ?_⟩
    simp only [V1.step]
    cases hk : s.kind <;> simp only [V1.readKey_nocache _ _ _ _ hn, V1.poisonPair_nocache _ _ hn]
    case pp =>
      rw [V1.poisonPair_coh st s hc]
      cases (st.fs.cur (privFile s)).bind Content.decrypt <;> cases st.fs.cur (pubFile s) <;> rfl
    all_goals rw [V1.readKey_coh st _ none _ hc rfl (by intro t ht; cases ht)]
  | pub s =>
    refine ⟨hread rfl, ?_⟩
    simp only [V1.step]
    cases hk : s.kind <;> simp only [V1.storagePub_nocache _ _ hn, V1.poisonPair_nocache _ _ hn]
    case sp => rw [V1.storagePub_coh st s hc]
    case pp =>
      rw [V1.poisonPair_coh st s hc]
      cases (st.fs.cur (privFile s)).bind Content.decrypt <;> cases st.fs.cur (pubFile s) <;> rfl
  | all s =>
    refine ⟨hread rfl, ?_⟩
    simp only [V1.step]
    by_cases ha : s.kind.hasAll = true
    · simp only [ha, not_true_eq_false, if_false, V1.readAll_pure _ s hn, V1.readAll_coh st s hc ha]
    · simp [ha]
  | list | listRot => exact ⟨hc, rfl⟩
  | drot s i =>
    exact ⟨V1.step_drot_ind st s i hc fun st f h => V1.drotFile_coh st f i h, V1.step_obs_write st _ _ rfl rfl rfl⟩
  | reset | reopen => exact ⟨V1.Coh.clear st, rfl⟩

/-- the storage and the counters of a run do not depend on the cache -/
theorem V1.run_fs (ops : List Op) (st su : V1) (hfs : st.fs = su.fs) (hcnt : st.count = su.count) :
    (st.run ops).1.fs = (su.run ops).1.fs ∧ (st.run ops).1.count = (su.run ops).1.count := by
  induction ops generalizing st su with
  | nil => exact ⟨hfs, hcnt⟩
  | cons o os ih =>
    simp only [V1.run]
    apply ih
    · rw [(V1.step_fs st o).1, (V1.step_fs su o).1, hfs, hcnt]
    · rw [(V1.step_fs st o).2, (V1.step_fs su o).2, hcnt]

/-- two coherent stores on the same storage show the same, as long as nothing is generated and no
current key destroyed -/
theorem V1.run_coh (ops : List Op) (st su : V1) (hfs : st.fs = su.fs) (hcnt : st.count = su.count)
    (hc : st.Coh) (hcu : su.Coh) (hops : ∀ o ∈ ops, o.keepsCoh = true) :
    (st.run ops).2 = (su.run ops).2 := by
  induction ops generalizing st su with
  | nil => rfl
  | cons o os ih =>
    obtain ⟨c1, o1⟩ := V1.step_coh st o hc (hops o (by simp))
    obtain ⟨c2, o2⟩ := V1.step_coh su o hcu (hops o (by simp))
    simp only [V1.run]
    rw [o1, o2, hfs, hcnt]
    congr 1
    apply ih _ _ _ _ c1 c2 (fun o' ho' => hops o' (by simp [ho']))
    · rw [(V1.step_fs st o).1, (V1.step_fs su o).1, hfs, hcnt]
    · rw [(V1.step_fs st o).2, (V1.step_fs su o).2, hcnt]

end AcraModel.Keystore
