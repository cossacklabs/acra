import AcraModel.Keystore.RefineV1
/-!
# v1 without cache: readers in closed form and the per-step simulation `V1.step ⊑ Spec.stepApi .v1`
-/
namespace AcraModel.Keystore

theorem V1.cadd_nocache (st : V1) (k : CKey) (v : CVal) (h : st.cache = none) : st.cadd k v = st := by
  cases st; simp only at h; subst h; rfl

theorem V1.cget_nocache (st : V1) (k : CKey) (h : st.cache = none) : st.cget k = (st, none) := by
  cases st; simp only at h; subst h; rfl

theorem V1.clear_nocache (st : V1) (h : st.cache = none) : st.clear = st := by
  cases st; simp only at h; subst h; rfl

theorem V1.readKey_nocache (st : V1) (f : FileId) (name : Option Nat) (m : Bool) (h : st.cache = none) :
    st.readKey f name m = (st, (st.fs.readName f name).bind Content.decrypt) := by
  unfold V1.readKey
  simp only [V1.cget_nocache st _ h]
  cases hr : (st.fs.readName f name).bind Content.decrypt with
  | none => rfl
  | some g => simp [V1.cadd_nocache st _ _ h]

theorem V1.refreshNames_nocache (st : V1) (f : FileId) (h : st.cache = none) : st.refreshNames f = st := by
  unfold V1.refreshNames
  simp [V1.cget_nocache st _ h]

theorem V1.getNames_nocache (st : V1) (f : FileId) (h : st.cache = none) : st.getNames f = (st, historicalNames st.fs f) := by
  unfold V1.getNames
  simp [V1.cget_nocache st _ h, V1.loadNames, V1.cadd_nocache st _ _ h]

/-- read-all without any cache effect: read the names in order, stop at the first failure -/
def pureAll (fs : FS) (f : FileId) : List (Option Nat) → List Nat → Option (List Nat)
  | [], acc => some acc.reverse
  | n :: ns, acc => match (fs.readName f n).bind Content.decrypt with
    | some g => pureAll fs f ns (g :: acc)
    | none => none

theorem V1.readAllAux_pure (f : FileId) (m : Bool) (names : List (Option Nat)) (st : V1) (acc : List Nat) (h : st.cache = none) :
    V1.readAllAux f m st names acc = (st, pureAll st.fs f names acc) := by
  induction names generalizing acc with
  | nil => rfl
  | cons nm nms ih =>
    simp only [V1.readAllAux, pureAll, V1.readKey_nocache st _ _ _ h]
    cases (st.fs.readName f nm).bind Content.decrypt with
    | none => rfl
    | some g => exact ih (g :: acc)

theorem V1.readAll_pure (st : V1) (s : Slot) (h : st.cache = none) :
    st.readAll s = (st, pureAll st.fs (privFile s) (historicalNames st.fs (privFile s)) []) := by
  unfold V1.readAll
  simp only [V1.getNames_nocache st _ h]
  exact V1.readAllAux_pure _ _ _ st [] h

/-- read-all of the history names: the generations of the history directory, in the order of the names -/
theorem pureAll_hist {fs : FS} {f : FileId} {n : Nat} (hp : FileOK fs f n) (es : List (Nat × Content))
    (hsub : ∀ e ∈ es, e ∈ fs.old f) (acc : List Nat) :
    pureAll fs f (es.map fun e => some e.1) acc = some (acc.reverse ++ es.map (·.2.raw)) := by
  induction es generalizing acc with
  | nil => simp [pureAll]
  | cons e es ih =>
    have he := hsub e (by simp)
    simp only [List.map_cons, pureAll, FS.readName, find_of_pairwise_ne (key := Prod.fst) hp.distinct he, Option.map_some, Option.bind_some]
    rw [hp.full e he]
    simp only [Content.decrypt]
    rw [ih (fun e' he' => hsub e' (by simp [he']))]
    simp [Content.raw]

/-- read-all on a store without cache, under the invariant: the current generation, then the
history newest first; an error when nothing was generated -/
theorem V1.readAll_nocache (st : V1) (s : Slot) (h : st.cache = none) (hi : FSInv st.fs st.count) :
    st.readAll s = (st, if st.count s = 0 then none else some (st.count s :: (st.fs.oldIds (privFile s)).reverse)) := by
  have hp := hi.priv s
  rw [V1.readAll_pure st s h]
  congr 1
  simp only [historicalNames, pureAll, FS.readName, hp.cur]
  by_cases hn : st.count s = 0
  · simp [hn]
  · simp only [hn, if_false, Option.bind_some, Content.decrypt]
    rw [← List.map_reverse, pureAll_hist hp _ (fun e he => List.mem_reverse.1 he)]
    simp [FS.oldIds]

/-- invariant of the v1 store without cache in runs without destroy-current -/
def V1.Inv (st : V1) : Prop := st.cache = none ∧ FSInv st.fs st.count

theorem V1.Inv.init : (V1.init (-1)).Inv := ⟨rfl, FSInv.init⟩

theorem V1.ext' {a b : V1} (h1 : a.fs = b.fs) (h2 : a.cache = b.cache) (h3 : a.count = b.count) : a = b := by
  cases a; cases b; simp_all

theorem file_cases (f : FileId) : f = privFile f.slot ∨ f = pubFile f.slot := by
  obtain ⟨s, p⟩ := f
  cases p
  · exact Or.inl rfl
  · exact Or.inr rfl

theorem cur_isSome_abs {fs : FS} {count : Slot → Nat} (h : FSInv fs count) (f : FileId) :
    (fs.cur f).isSome = (absFS fs count).hasFile f := by
  obtain ⟨s, p⟩ := f
  cases p
  · have := (h.priv s).cur
    simp only [privFile] at this
    simp only [Spec.hasFile, abs_isEmpty, this]
    by_cases hn : count s = 0 <;> simp [hn]
  · have := (h.pub s).cur
    simp only [pubFile] at this
    simp only [Spec.hasFile, abs_isEmpty, this]
    cases hp : s.kind.isPair
    · simp
    · by_cases hn : count s = 0 <;> simp [hn]

theorem V1.list_abs (st : V1) (hi : FSInv st.fs st.count) : st.list = Spec.listing .v1 (absFS st.fs st.count) := by
  unfold V1.list Spec.listing
  simp only [hi.tmps, ne_eq, not_true_eq_false, if_false, Fmt.files]
  congr 2
  apply List.filter_congr
  intro f _
  exact cur_isSome_abs hi f

/-- file `f` is in the rotated listing of the store iff it is in the specification's, and then with the same
number of rotated keys -/
theorem oldlen_abs {fs : FS} {count : Slot → Nat} (h : FSInv fs count) (f : FileId) :
    (decide (fs.oldDir f = true ∧ fs.old f ≠ []) = ((absFS fs count).hasFile f && !(absFS fs count f.slot).rotated.isEmpty)) ∧
    (fs.oldDir f = true ∧ fs.old f ≠ [] → (fs.old f).length = (absFS fs count f.slot).rotated.length) := by
  obtain ⟨s, p⟩ := f
  have hrot := rotated_abs h s
  have hp := h.priv s
  cases p
  · change (decide (fs.oldDir (privFile s) = true ∧ fs.old (privFile s) ≠ []) = _) ∧ (fs.oldDir (privFile s) = true ∧ fs.old (privFile s) ≠ [] → _)
    simp only [hrot, Spec.hasFile, abs_isEmpty, FS.oldIds, List.length_map, implies_true, and_true, privFile, Bool.not_false,
      Bool.true_or, Bool.and_true]
    by_cases hnil : fs.old (privFile s) = []
    · simp only [privFile] at hnil; simp [hnil]
    · have hd := hp.dir hnil
      have hn := hp.pos_of_old hnil
      simp only [privFile] at hnil hd
      simp [hnil, hd, hn]
  · have hq := h.pub s
    cases hpair : s.kind.isPair
    · simp only [hpair, Bool.false_eq_true, if_false] at hq
      have hnil := hq.old_nil
      simp only [pubFile] at hnil
      simp [hnil, Spec.hasFile, hpair]
    · have hlen := h.len s hpair
      have hdir := hq.dir
      simp only [privFile, pubFile] at hlen hdir hrot
      simp only [hrot, Spec.hasFile, abs_isEmpty, FS.oldIds, List.length_map, hpair, Bool.not_true, Bool.false_or,
        Bool.and_true]
      refine ⟨?_, fun _ => hlen⟩
      by_cases hnil : fs.old ⟨s, true⟩ = []
      · have : fs.old ⟨s, false⟩ = [] := by
          apply List.eq_nil_of_length_eq_zero; rw [← hlen, hnil]; rfl
        simp [hnil, this]
      · have hd := hdir hnil
        have hnil' : fs.old ⟨s, false⟩ ≠ [] := by
          intro hh; apply hnil; apply List.eq_nil_of_length_eq_zero; rw [hlen, hh]; rfl
        have hn := hp.pos_of_old hnil'
        simp [hnil, hd, hn, hnil']

theorem V1.listRot_abs (st : V1) (hi : FSInv st.fs st.count) : st.listRot = Spec.rotListing .v1 (absFS st.fs st.count) := by
  unfold V1.listRot Spec.rotListing
  simp only [Fmt.files]
  congr 1
  rw [List.filter_congr (fun f _ => (oldlen_abs hi f).1)]
  apply List.map_congr_left
  intro f hf
  have hf := (List.mem_filter.1 hf).2
  rw [← (oldlen_abs hi f).1] at hf
  rw [(oldlen_abs hi f).2 (by simpa using hf)]

theorem V1.poisonPair_nocache (st : V1) (s : Slot) (h : st.cache = none) :
    st.poisonPair s = (st, match (st.fs.cur (privFile s)).bind Content.decrypt, st.fs.cur (pubFile s) with
      | some g, some pc => some (g, pc.raw)
      | _, _ => none) := by
  unfold V1.poisonPair
  simp only [V1.cget_nocache st _ h]
  split <;> simp_all [V1.cadd_nocache st _ _ h]

theorem V1.storagePub_nocache (st : V1) (s : Slot) (h : st.cache = none) :
    st.storagePub s = (st, (st.fs.cur (pubFile s)).map Content.raw) := by
  unfold V1.storagePub
  simp only [V1.cget_nocache st _ h]
  cases st.fs.cur (pubFile s) <;> simp [V1.cadd_nocache st _ _ h]

theorem V1.drotFile_nocache (st : V1) (f : FileId) (i : Nat) (h : st.cache = none) (hd : st.fs.OldDistinct f) :
    st.drotFile f i = ({ st with fs := (st.fs.drotted f i).1 }, (st.fs.drotted f i).2) := by
  obtain ⟨e1, e2⟩ := applyAll_drotFileCalls st.fs f i hd
  unfold V1.drotFile
  simp only
  rw [← e1, ← e2]
  cases h1 : (drotFileCalls st.fs f i).2 <;> cases h2 : (applyAll st.fs (drotFileCalls st.fs f i).1).2 <;>
    simp [V1.refreshNames_nocache _ _ (show ({ st with fs := (applyAll st.fs (drotFileCalls st.fs f i).1).1 } : V1).cache = none from h)]

/-- a store opened without cache never has one -/
theorem V1.step_cache_none (st : V1) (o : Op) (h : st.cache = none) : (st.step o).1.cache = none := by
  cases o with
  | gen s =>
    simp only [V1.step]
    split
    · exact h
    · have h1 : ({ st with fs := (applyAll st.fs (genCalls st.fs s (st.count s + 1))).1,
                           count := upd st.count s (st.count s + 1) } : V1).cache = none := h
      cases s.kind <;> simp only [V1.cadd_nocache _ _ _ h1, V1.refreshNames_nocache _ _ h1] <;> exact h1
  | cur s | pub s =>
    simp only [V1.step]
    cases s.kind <;>
      simp only [V1.readKey_nocache _ _ _ _ h, V1.storagePub_nocache _ _ h, V1.poisonPair_nocache _ _ h] <;> exact h
  | all s =>
    simp only [V1.step]
    split
    · exact h
    · simp only [V1.readAll_pure _ _ h]; exact h
  | list | listRot => exact h
  | dcur s =>
    simp only [V1.step]
    split
    · exact h
    · cases s.kind <;> simp only [V1.cadd_nocache _ _ _ h] <;> exact h
  | drot s i =>
    refine V1.step_drot_ind (P := fun st => st.cache = none) st s i h fun st f h => ?_
    unfold V1.drotFile
    dsimp only
    have h1 : ({ st with fs := (applyAll st.fs (drotFileCalls st.fs f i).1).1 } : V1).cache = none := h
    split
    · rw [V1.refreshNames_nocache _ _ h1]; exact h1
    · exact h1
  | reset | reopen => simp only [V1.step, V1.clear_nocache _ h]; exact h

theorem V1.run_cache_none (ops : List Op) (st : V1) (h : st.cache = none) : (st.run ops).1.cache = none := by
  induction ops generalizing st with
  | nil => exact h
  | cons o os ih => simp only [V1.run]; exact ih _ (V1.step_cache_none st o h)

/-- **Per-step simulation (v1 without cache).** From a state satisfying the invariant, every
operation other than destroy-current keeps the invariant, commutes with the abstraction function, and
shows exactly the observation the specification prescribes. -/
theorem V1.step_sim (st : V1) (o : Op) (hinv : st.Inv) (ho : o.isDcur = false) :
    (st.step o).1.Inv ∧ (st.step o).1.abs = (Spec.stepApi .v1 st.abs o).1 ∧
    (st.step o).2 = (Spec.stepApi .v1 st.abs o).2 := by
  obtain ⟨hc, hi⟩ := hinv
  have hfs := V1.step_fs st o
  suffices h : absFS (fsStep st.fs st.count o) (countStep st.count o) = (Spec.stepApi .v1 st.abs o).1 ∧
      (st.step o).2 = (Spec.stepApi .v1 st.abs o).2 by
    refine ⟨⟨V1.step_cache_none st o hc, V1.step_fsInv st o hi ho⟩, ?_, h.2⟩
    unfold V1.abs; rw [hfs.1, hfs.2]; exact h.1
  cases o with
  | gen s =>
    have hstep : st.step (.gen s) = (⟨st.fs.generated s (st.count s + 1), none, upd st.count s (st.count s + 1)⟩, .ok) := by
      obtain ⟨fs, cache, count⟩ := st
      simp only at hc; subst hc
      simp only [V1.step, applyAll_genCalls fs s _ hi.tmps]
      cases s.kind <;> simp [V1.cadd, V1.refreshNames, V1.cget]
    rw [hstep, fsStep_gen hi]
    refine ⟨?_, rfl⟩
    simp only [countStep, Spec.stepApi, Spec.step, V1.abs]
    exact abs_generated hi s
  | cur s | pub s =>
    have hcur := current_abs hi s
    have hp := (hi.priv s).cur
    have hq := (hi.pub s).cur
    simp only [V1.step, fsStep, countStep, Spec.stepApi, V1.abs, hcur]
    -- by kind: the poison pair reads both files (`poisonPair`), the storage public key `storagePub`, every other
    -- key `readKey`; without cache each is a read of the current file, which `hp`/`hq` give
    cases hk : s.kind <;> simp only [hk, Kind.isPair, if_true] at hq <;>
      simp only [V1.readKey_nocache st _ _ _ hc, V1.storagePub_nocache st s hc, V1.poisonPair_nocache st s hc, FS.readName,
        hp, hq, Kind.isPair] <;>
      refine ⟨trivial, ?_⟩ <;>
      by_cases hn : st.count s = 0 <;> simp [hn, Content.decrypt, Content.raw]
  | all s =>
    simp only [V1.step, fsStep, countStep, Spec.stepApi, V1.abs]
    by_cases ha : s.kind.hasAll = true
    · simp only [ha, not_true_eq_false, if_false, if_true, V1.readAll_nocache st s hc hi, Spec.step, survivors_abs hi s]
      refine ⟨trivial, ?_⟩
      by_cases hn : st.count s = 0
      · simp [hn]
      · simp [hn, allNewestFirst_abs hi s hn]
    · simp [ha]
  | list =>
    simp only [V1.step, fsStep, countStep, Spec.stepApi, V1.abs]
    exact ⟨trivial, V1.list_abs st hi⟩
  | listRot =>
    simp only [V1.step, fsStep, countStep, Spec.stepApi, V1.abs]
    exact ⟨trivial, V1.listRot_abs st hi⟩
  | dcur s => simp [Op.isDcur] at ho
  | drot s i =>
    rw [fsStep_drot hi]
    simp only [V1.step, countStep, Spec.stepApi, V1.abs]
    by_cases hcd : s.kind.canDestroy = true
    · simp only [hcd, not_true_eq_false, if_false, if_true, Spec.step, SpecSlot.destroyRotated, listedAt_abs hi s i]
      rw [V1.drotFile_nocache st _ i hc (hi.priv s).distinct]
      cases hok : (st.fs.drotted (privFile s) i).2
      · simp [hc, FS.slotDrotted, hcd, hok]
      · have hok' := (FS.drotted_ok_iff _ _ _).1 hok
        have hlt : i - 2 < (st.fs.oldIds (privFile s)).length := by simp only [FS.oldIds, List.length_map]; omega
        have hg : (st.fs.oldIds (privFile s))[i - 2]? = some (st.fs.oldIds (privFile s))[i - 2] := List.getElem?_eq_getElem hlt
        generalize (st.fs.oldIds (privFile s))[i - 2] = g at hg
        simp only [not_true_eq_false, if_false, if_true, hg, Option.map_some]
        rw [abs_slotDrotted hi s i g hcd hok hg]
        cases hp : s.kind.isPair
        · simp [hc]
        · simp only [if_true]
          have hpubd := ((hi.pub s).drotted_other (f := privFile s) i (pub_ne_priv _ _)).distinct
          rw [V1.drotFile_nocache { st with fs := (st.fs.drotted (privFile s) i).1 } (pubFile s) i hc hpubd]
          simp [hi.drotted_pub_ok s i hp hok]
    · simp [hcd, FS.slotDrotted]
  | reset | reopen =>
    simp only [V1.step, fsStep, countStep, Spec.stepApi, V1.abs, V1.clear_nocache st hc]
    exact ⟨trivial, trivial⟩

theorem V1.run_sim (ops : List Op) (st : V1) (hinv : st.Inv) (hops : ∀ o ∈ ops, o.isDcur = false) :
    (st.run ops).1.Inv ∧ (st.run ops).1.abs = (Spec.runApi .v1 st.abs ops).1 ∧ (st.run ops).2 = (Spec.runApi .v1 st.abs ops).2 := by
  induction ops generalizing st with
  | nil => exact ⟨hinv, rfl, rfl⟩
  | cons o os ih =>
    obtain ⟨h1, h2, h3⟩ := V1.step_sim st o hinv (hops o (by simp))
    obtain ⟨i1, i2, i3⟩ := ih (st.step o).1 h1 (fun o' ho' => hops o' (by simp [ho']))
    simp only [V1.run, Spec.runApi]
    rw [← h2, ← h3]
    exact ⟨i1, i2, by rw [i3]⟩

end AcraModel.Keystore
