import AcraModel.Keystore.V1Cache
import AcraModel.Keystore.V2Store
/-!
# The specification lifted to the whole operation alphabet, and list lemmas for the refinement proofs

`Spec.step` gives observations only for the operations with specification-level content (generate,
read current, read all, destroy). The refinement theorems of C06 compare *every* observation of a
run, so `Spec.stepApi` says what the API of a format shows of a specification state for the other
operations too (public key, the two listings) and refuses the operations Acra's API does not have
(read-all of HMAC / audit-log keys, destruction of the audit-log key) – exactly like both stores.
The state transition of `Spec.stepApi` is the one of `Spec.step` (`Spec.stepApi_state`).
-/
namespace AcraModel.Keystore

inductive Fmt | v1 | v2
deriving DecidableEq, Repr

def Op.isDcur : Op → Bool
  | .dcur _ => true
  | _ => false

/-- generation counters after an operation: only generate/rotate counts -/
def countStep (count : Slot → Nat) : Op → Slot → Nat
  | .gen s => upd count s (count s + 1)
  | _ => count

/-- operations Acra's API offers (both formats) -/
def Op.inApi : Op → Bool
  | .all s => s.kind.hasAll
  | .dcur s | .drot s _ => s.kind.canDestroy
  | _ => true

/-- the key files a listing of the format walks over: v1 lists private and public files, v2 one ring per slot -/
def Fmt.files : Fmt → List FileId
  | .v1 => allFilesOf nClients
  | .v2 => kindsWithRings.map privFile

/-- a generated slot has its private/symmetric file, and a public file when it is a key pair -/
def Spec.hasFile (st : Spec) (f : FileId) : Bool := !(st f.slot).isEmpty && (!f.pub || f.slot.kind.isPair)

/-- `ListKeys` of a specification state -/
def Spec.listing (fmt : Fmt) (st : Spec) : Obs :=
  .files ((fmt.files.filter st.hasFile).map fun f => (f.slot, f.pub))

/-- `ListRotatedKeys` of a specification state: per file with rotated keys, how many (they are numbered from 2) -/
def Spec.rotListing (fmt : Fmt) (st : Spec) : Obs :=
  .rotated ((fmt.files.filter fun f => st.hasFile f && !(st f.slot).rotated.isEmpty).map fun f =>
    ((f.slot, f.pub), (st f.slot).rotated.length))

/-- One step of the specification over the whole alphabet. State: as `Spec.step` (nothing for
operations outside the API). Observations: `Spec.step`'s for generate / current / all / destroy; the
poison pair shows private and public half of the same generation; the public key is the one of the
current generation (pairs only); listings as above. -/
def Spec.stepApi (fmt : Fmt) (st : Spec) : Op → Spec × Obs
  | .gen s => Spec.step st (.gen s)
  | .cur s => (st, match (st s).current with
      | some g => if s.kind = .pp then .pair g g else .key g
      | none => .err)
  | .pub s => (st, if s.kind.isPair then (match (st s).current with | some g => .key g | none => .err) else .err)
  | .all s => if s.kind.hasAll then Spec.step st (.all s) else (st, .err)
  | .drot s i => if s.kind.canDestroy then Spec.step st (.drot s i) else (st, .err)
  | .dcur s => if s.kind.canDestroy then Spec.step st (.dcur s) else (st, .err)
  | .list => (st, Spec.listing fmt st)
  | .listRot => (st, Spec.rotListing fmt st)
  | .reset => (st, .ok)
  | .reopen => (st, .ok)

def Spec.runApi (fmt : Fmt) (st : Spec) : List Op → Spec × List Obs
  | [] => (st, [])
  | o :: os => let (st', x) := Spec.stepApi fmt st o; let (st'', xs) := Spec.runApi fmt st' os; (st'', x :: xs)

/-- On the operations of the API the lifted step moves the state exactly like `Spec.step`. -/
theorem Spec.stepApi_state (fmt : Fmt) (st : Spec) (o : Op) (h : o.inApi = true) :
    (Spec.stepApi fmt st o).1 = (Spec.step st o).1 := by
  cases o with
  | all s => have h : s.kind.hasAll = true := h; simp [Spec.stepApi, h]
  | drot s i => have h : s.kind.canDestroy = true := h; simp [Spec.stepApi, h]
  | dcur s => have h : s.kind.canDestroy = true := h; simp [Spec.stepApi, h]
  | _ => simp [Spec.stepApi, Spec.step]

/-- `Spec.stepApi` shows exactly `Spec.step`'s observation for generate, read current (the poison pair shows
`pair g g` for `key g`), read all and the destructions. -/
theorem Spec.stepApi_obs (fmt : Fmt) (st : Spec) (o : Op) (h : o.inApi = true) :
    match o with
    | .gen _ | .all _ | .drot _ _ | .dcur _ => (Spec.stepApi fmt st o).2 = (Spec.step st o).2
    | .cur s => if s.kind = .pp then
          (Spec.stepApi fmt st o).2 = (match (Spec.step st o).2 with | .key g => .pair g g | x => x)
        else (Spec.stepApi fmt st o).2 = (Spec.step st o).2
    | _ => True := by
  cases o with
  | cur s =>
    by_cases hk : s.kind = .pp
    · simp only [hk, if_true, Spec.stepApi, Spec.step]
      cases (st s).current <;> rfl
    · simp only [hk, if_false, Spec.stepApi, Spec.step]
      cases (st s).current <;> rfl
  | all s => have h : s.kind.hasAll = true := h; simp [Spec.stepApi, h]
  | drot s i => have h : s.kind.canDestroy = true := h; simp [Spec.stepApi, h]
  | dcur s => have h : s.kind.canDestroy = true := h; simp [Spec.stepApi, h]
  | _ => simp [Spec.stepApi]

/-- strictly increasing lists with the same members are equal -/
theorem eq_of_sorted_of_mem_iff : ∀ (l1 l2 : List Nat), l1.Pairwise (· < ·) → l2.Pairwise (· < ·) →
    (∀ x, x ∈ l1 ↔ x ∈ l2) → l1 = l2
  | [], [], _, _, _ => rfl
  | [], b :: bs, _, _, h => by have := (h b).2 (by simp); simp at this
  | a :: as, [], _, _, h => by have := (h a).1 (by simp); simp at this
  | a :: as, b :: bs, h1, h2, h => by
    rw [List.pairwise_cons] at h1 h2
    have hab : a = b := by
      have ha := (h a).1 (by simp)
      have hb := (h b).2 (by simp)
      simp only [List.mem_cons] at ha hb
      rcases ha with ha | ha
      · exact ha
      · rcases hb with hb | hb
        · exact hb.symm
        · have := h1.1 b hb; have := h2.1 a ha; omega
    subst hab
    congr 1
    apply eq_of_sorted_of_mem_iff as bs h1.2 h2.2
    intro x
    constructor
    · intro hx
      have := (h x).1 (by simp [hx])
      simp only [List.mem_cons] at this
      rcases this with rfl | h'
      · have := h1.1 x hx; omega
      · exact h'
    · intro hx
      have := (h x).2 (by simp [hx])
      simp only [List.mem_cons] at this
      rcases this with rfl | h'
      · have := h2.1 x hx; omega
      · exact h'

/-- removing by key from a list whose keys are pairwise distinct erases the position that holds the key -/
theorem filter_key_ne_eq_eraseIdx {α β} [DecidableEq β] {key : α → β} (l : List α) (j : Nat) (e : α)
    (hd : l.Pairwise (fun a b => key a ≠ key b)) (hj : l[j]? = some e) :
    l.filter (fun a => decide (key a ≠ key e)) = l.eraseIdx j := by
  induction l generalizing j with
  | nil => rw [List.getElem?_nil] at hj; cases hj
  | cons x xs ih =>
    rw [List.pairwise_cons] at hd
    cases j with
    | zero =>
      obtain rfl : x = e := by simpa only [List.getElem?_cons_zero, Option.some.injEq] using hj
      have hrest : xs.filter (fun a => decide (key a ≠ key x)) = xs :=
        List.filter_eq_self.2 fun a ha => decide_eq_true (hd.1 a ha).symm
      rw [List.filter_cons, if_neg (by simp only [ne_eq, not_true_eq_false, decide_false, Bool.false_eq_true, not_false_eq_true]), List.eraseIdx_cons_zero, hrest]
    | succ j =>
      have hj' : xs[j]? = some e := by simpa only [List.getElem?_cons_succ] using hj
      have hx : key x ≠ key e := hd.1 _ (List.mem_of_getElem? hj')
      rw [List.filter_cons, if_pos (decide_eq_true hx), List.eraseIdx_cons_succ, ih j hd.2 hj']

/-- in a list without repetitions, erasing position `j` removes exactly the element at `j` -/
theorem mem_eraseIdx_of_nodup {α} [DecidableEq α] (l : List α) (j : Nat) (g : α) (hd : l.Pairwise (· ≠ ·)) (hj : l[j]? = some g)
    (x : α) : x ∈ l.eraseIdx j ↔ (x ∈ l ∧ x ≠ g) := by
  rw [← filter_key_ne_eq_eraseIdx (key := id) l j g hd hj, List.mem_filter]
  simp

/-- in a list whose keys are pairwise distinct, looking a member up by its key finds it -/
theorem find_of_pairwise_ne {α} {key : α → Nat} {l : List α} (hd : l.Pairwise (fun a b => key a ≠ key b)) {e : α} (he : e ∈ l) :
    l.find? (key · = key e) = some e := by
  induction l with
  | nil => simp at he
  | cons x xs ih =>
    rw [List.pairwise_cons] at hd
    rcases List.mem_cons.1 he with rfl | he
    · simp
    · simp [List.find?, hd.1 e he, ih hd.2 he]

theorem map_eraseIdx' {α β} (f : α → β) (l : List α) (j : Nat) : (l.eraseIdx j).map f = (l.map f).eraseIdx j := by
  induction l generalizing j with
  | nil => rfl
  | cons a as ih => cases j <;> simp [ih]

/-- survivors of a history `1..n` whose `alive` flags are given by a predicate -/
theorem survivors_range (n : Nat) (p : Nat → Bool) :
    SpecSlot.survivors ((List.range n).map fun i => (⟨i + 1, p (i + 1)⟩ : Gen)) =
      ((List.range n).map (· + 1)).filter p := by
  simp only [SpecSlot.survivors, List.filter_map, List.map_map]
  rfl

theorem range_succ_sorted (n : Nat) : ((List.range n).map (· + 1)).Pairwise (· < ·) := by
  rw [List.pairwise_map]
  exact List.pairwise_lt_range.imp (by intro a b h; omega)

/-- the survivors of `1..n` under membership in a strictly increasing list of ids within `1..n` are that list -/
theorem survivors_of_sorted (n : Nat) (p : Nat → Bool) (ids : List Nat) (hs : ids.Pairwise (· < ·))
    (hb : ∀ g ∈ ids, 0 < g ∧ g ≤ n) (hp : ∀ g, 0 < g → g ≤ n → (p g = true ↔ g ∈ ids)) :
    SpecSlot.survivors ((List.range n).map fun i => (⟨i + 1, p (i + 1)⟩ : Gen)) = ids := by
  rw [survivors_range]
  apply eq_of_sorted_of_mem_iff _ _ ((range_succ_sorted n).filter _) hs
  intro x
  simp only [List.mem_filter, List.mem_map, List.mem_range]
  constructor
  · rintro ⟨⟨i, hi, rfl⟩, hx⟩
    exact (hp (i + 1) (by omega) (by omega)).1 hx
  · intro hx
    have := hb x hx
    exact ⟨⟨x - 1, by omega, by omega⟩, (hp x this.1 this.2).2 hx⟩

end AcraModel.Keystore
