import AcraModel.Keystore.RefineSpec
/-!
# v1: the write operations in closed form; the storage of a run does not depend on the cache

The storage state and the generation counters of the v1 store evolve independently of the key cache
(`V1.step_fs`): every write operation computes its storage calls from the storage alone.
-/
namespace AcraModel.Keystore

/-- `Remove(<f>.old/<t>)` removes by name; the names being distinct, that erases position `j`. -/
theorem filter_ne_eq_eraseIdx (l : List (Nat × Content)) (j : Nat) (t : Nat) (c : Content)
    (hd : l.Pairwise (fun a b => a.1 ≠ b.1)) (hj : l[j]? = some (t, c)) :
    l.filter (fun e => decide (e.1 ≠ t)) = l.eraseIdx j :=
  filter_key_ne_eq_eraseIdx (key := Prod.fst) l j (t, c) hd hj

/-- history file names (times) of a key file are pairwise distinct -/
def FS.OldDistinct (fs : FS) (f : FileId) : Prop := (fs.old f).Pairwise (fun a b => a.1 ≠ b.1)

theorem applyAll_append (fs : FS) (a b : List Call) :
    applyAll fs (a ++ b) = if (applyAll fs a).2 then applyAll (applyAll fs a).1 b else ((applyAll fs a).1, false) := by
  induction a generalizing fs with
  | nil => simp [applyAll]
  | cons c cs ih =>
    cases h : applyCall fs c with
    | none => simp [applyAll, h]
    | some fs' => simp only [List.cons_append, applyAll, h]; exact ih fs'

/-- the store after a completed `WriteKeyFile(<f>, c)` -/
def FS.written (fs : FS) (f : FileId) (c : Content) : FS :=
  match fs.cur f with
  | none => { fs with cur := upd fs.cur f (some c), tmps := [], nextTmp := fs.nextTmp + 1 }
  | some c0 => { fs with cur := upd fs.cur f (some c), oldDir := upd fs.oldDir f true,
                         old := upd fs.old f (fs.old f ++ [(fs.clock, c0)]), clock := fs.clock + 1,
                         tmps := [], nextTmp := fs.nextTmp + 1 }

theorem applyAll_writeKeyFile (fs : FS) (f : FileId) (c : Content) (ht : fs.tmps = []) :
    applyAll fs (writeKeyFileCalls fs f c) = (fs.written f c, true) := by
  unfold writeKeyFileCalls FS.written
  cases h : fs.cur f with
  | none => simp [h, applyAll, applyCall, FS.tmpContent, ht]
  | some c0 => simp [h, applyAll, applyCall, FS.tmpContent, ht]

theorem FS.written_tmps (fs : FS) (f : FileId) (c : Content) : (fs.written f c).tmps = [] := by
  unfold FS.written; split <;> rfl

theorem FS.written_cur (fs : FS) (f : FileId) (c : Content) : (fs.written f c).cur = upd fs.cur f (some c) := by
  unfold FS.written; split <;> rfl

theorem FS.written_clock (fs : FS) (f : FileId) (c : Content) : fs.clock ≤ (fs.written f c).clock := by
  unfold FS.written; split <;> simp

theorem FS.written_old_other (fs : FS) (f f' : FileId) (c : Content) (h : f' ≠ f) : (fs.written f c).old f' = fs.old f' := by
  unfold FS.written; split <;> simp [upd, h]

theorem FS.written_oldDir_other (fs : FS) (f f' : FileId) (c : Content) (h : f' ≠ f) : (fs.written f c).oldDir f' = fs.oldDir f' := by
  unfold FS.written; split <;> simp [upd, h]

theorem FS.written_old_none (fs : FS) (f : FileId) (c : Content) (h : fs.cur f = none) : (fs.written f c).old f = fs.old f := by
  unfold FS.written; simp [h]

theorem FS.written_old_some (fs : FS) (f : FileId) (c c0 : Content) (h : fs.cur f = some c0) :
    (fs.written f c).old f = fs.old f ++ [(fs.clock, c0)] ∧ (fs.written f c).oldDir f = true ∧
    (fs.written f c).clock = fs.clock + 1 := by
  unfold FS.written; simp [h]

theorem FS.written_oldDir_none (fs : FS) (f : FileId) (c : Content) (h : fs.cur f = none) : (fs.written f c).oldDir f = fs.oldDir f := by
  unfold FS.written; simp [h]

/-- the store after a completed generate/rotate of slot `s` -/
def FS.generated (fs : FS) (s : Slot) (g : Nat) : FS :=
  if s.kind.isPair then (fs.written (privFile s) (.full g)).written (pubFile s) (.full g)
  else fs.written (privFile s) (.full g)

theorem applyAll_genCalls (fs : FS) (s : Slot) (g : Nat) (ht : fs.tmps = []) :
    applyAll fs (genCalls fs s g) = (fs.generated s g, true) := by
  unfold genCalls FS.generated
  cases hp : s.kind.isPair
  · simp [applyAll_writeKeyFile fs _ _ ht]
  · simp only [if_true]
    rw [show ([Call.mkdirAll (privFile s), Call.mkdirAll (pubFile s)] ++ writeKeyFileCalls fs (privFile s) (.full g) ++
          writeKeyFileCalls (applyAll fs (writeKeyFileCalls fs (privFile s) (.full g))).1 (pubFile s) (.full g)) =
        Call.mkdirAll (privFile s) :: Call.mkdirAll (pubFile s) :: (writeKeyFileCalls fs (privFile s) (.full g) ++
          writeKeyFileCalls (applyAll fs (writeKeyFileCalls fs (privFile s) (.full g))).1 (pubFile s) (.full g)) from by simp]
    simp only [applyAll, applyCall]
    rw [applyAll_append, applyAll_writeKeyFile fs _ _ ht]
    simp only [if_true]
    exact applyAll_writeKeyFile _ _ _ (FS.written_tmps _ _ _)

/-- the store after `destroyRotatedKeyByIndex(<f>, i)` and whether it reported success -/
def FS.drotted (fs : FS) (f : FileId) (i : Nat) : FS × Bool :=
  if fs.oldDir f = true ∧ 2 ≤ i ∧ i ≤ (fs.old f).length + 1 then
    ({ fs with old := upd fs.old f ((fs.old f).eraseIdx (i - 2)) }, true)
  else (fs, false)

theorem applyAll_drotFileCalls (fs : FS) (f : FileId) (i : Nat) (hd : fs.OldDistinct f) :
    (applyAll fs (drotFileCalls fs f i).1).1 = (fs.drotted f i).1 ∧
    ((drotFileCalls fs f i).2 && (applyAll fs (drotFileCalls fs f i).1).2) = (fs.drotted f i).2 := by
  unfold drotFileCalls FS.drotted
  by_cases hdir : fs.oldDir f = true
  · by_cases hr : 2 ≤ i ∧ i ≤ (fs.old f).length + 1
    · have hlt : i - 2 < (fs.old f).length := by omega
      have hget : (fs.old f)[i - 2]? = some (fs.old f)[i - 2] := List.getElem?_eq_getElem hlt
      generalize (fs.old f)[i - 2] = e at hget
      obtain ⟨t, c⟩ := e
      have hcond : ¬ (i < 2 ∨ i > (fs.old f).length + 1) := by omega
      have hoff : Generated.KeyNames.v1DestroyIndexOffset = 2 := rfl
      simp only [hdir, not_true_eq_false, if_false, hcond, hoff, hget, hr, and_self, if_true]
      simp only [applyAll, applyCall, hdir, if_true, Bool.and_self, and_true]
      rw [filter_ne_eq_eraseIdx _ _ _ _ hd hget]
    · have hcond : (i < 2 ∨ i > (fs.old f).length + 1) := by omega
      simp [hdir, hcond, hr, applyAll, applyCall]
  · simp [hdir, applyAll, applyCall]

/-- v1 `destroyRotatedKeyByIndex` on one file: for an index the listing shows (`2 ≤ i ≤ len+1`) the
history afterwards is the history before without entry `i-2` – the one `ListRotatedKeys` numbers `i` –,
no current file and no other history changes. -/
theorem v1_drotFile_exact (fs : FS) (f : FileId) (i : Nat) (hdir : fs.oldDir f = true) (h2 : 2 ≤ i)
    (hi : i ≤ (fs.old f).length + 1) (hd : fs.OldDistinct f) :
    (drotFileCalls fs f i).2 = true ∧
    (applyAll fs (drotFileCalls fs f i).1).2 = true ∧
    (applyAll fs (drotFileCalls fs f i).1).1.old f = (fs.old f).eraseIdx (i - 2) ∧
    (applyAll fs (drotFileCalls fs f i).1).1.cur = fs.cur ∧
    ∀ f', f' ≠ f → (applyAll fs (drotFileCalls fs f i).1).1.old f' = fs.old f' := by
  obtain ⟨e1, e2⟩ := applyAll_drotFileCalls fs f i hd
  rw [FS.drotted, if_pos ⟨hdir, h2, hi⟩] at e1 e2
  rw [e1]
  exact ⟨(Bool.and_eq_true_iff.1 e2).1, (Bool.and_eq_true_iff.1 e2).2, upd_same _ _ _, rfl, fun f' hf' => upd_other _ _ _ _ hf'⟩

@[simp] theorem V1.cadd_fs (st : V1) (k : CKey) (v : CVal) : (st.cadd k v).fs = st.fs := rfl
@[simp] theorem V1.cadd_count (st : V1) (k : CKey) (v : CVal) : (st.cadd k v).count = st.count := rfl
@[simp] theorem V1.clear_fs (st : V1) : st.clear.fs = st.fs := rfl
@[simp] theorem V1.clear_count (st : V1) : st.clear.count = st.count := rfl

@[simp] theorem V1.cget_fs (st : V1) (k : CKey) : (st.cget k).1.fs = st.fs := by
  unfold V1.cget; split <;> rfl
@[simp] theorem V1.cget_count (st : V1) (k : CKey) : (st.cget k).1.count = st.count := by
  unfold V1.cget; split <;> rfl

@[simp] theorem V1.loadNames_fs (st : V1) (f : FileId) : (st.loadNames f).1.fs = st.fs := rfl
@[simp] theorem V1.loadNames_count (st : V1) (f : FileId) : (st.loadNames f).1.count = st.count := rfl

theorem V1.refreshNames_fs_count (st : V1) (f : FileId) :
    (st.refreshNames f).fs = st.fs ∧ (st.refreshNames f).count = st.count := by
  unfold V1.refreshNames
  have h1 := V1.cget_fs st (.names f)
  have h2 := V1.cget_count st (.names f)
  split <;> simp_all
@[simp] theorem V1.refreshNames_fs (st : V1) (f : FileId) : (st.refreshNames f).fs = st.fs := (V1.refreshNames_fs_count st f).1
@[simp] theorem V1.refreshNames_count (st : V1) (f : FileId) : (st.refreshNames f).count = st.count :=
  (V1.refreshNames_fs_count st f).2

theorem V1.getNames_fs_count (st : V1) (f : FileId) :
    (st.getNames f).1.fs = st.fs ∧ (st.getNames f).1.count = st.count := by
  unfold V1.getNames
  have h1 := V1.cget_fs st (.names f)
  have h2 := V1.cget_count st (.names f)
  split <;> simp_all
@[simp] theorem V1.getNames_fs (st : V1) (f : FileId) : (st.getNames f).1.fs = st.fs := (V1.getNames_fs_count st f).1
@[simp] theorem V1.getNames_count (st : V1) (f : FileId) : (st.getNames f).1.count = st.count := (V1.getNames_fs_count st f).2

theorem V1.readKey_fs_count (st : V1) (f : FileId) (n : Option Nat) (m : Bool) :
    (st.readKey f n m).1.fs = st.fs ∧ (st.readKey f n m).1.count = st.count := by
  unfold V1.readKey
  have h1 := V1.cget_fs st (ckeyOf f n)
  have h2 := V1.cget_count st (ckeyOf f n)
  simp only
  split <;> (try split) <;> (try split) <;> simp_all
@[simp] theorem V1.readKey_fs (st : V1) (f : FileId) (n : Option Nat) (m : Bool) : (st.readKey f n m).1.fs = st.fs :=
  (V1.readKey_fs_count st f n m).1
@[simp] theorem V1.readKey_count (st : V1) (f : FileId) (n : Option Nat) (m : Bool) : (st.readKey f n m).1.count = st.count :=
  (V1.readKey_fs_count st f n m).2

theorem V1.readAllAux_fs (f : FileId) (m : Bool) (st : V1) (ns : List (Option Nat)) (acc : List Nat) :
    (V1.readAllAux f m st ns acc).1.fs = st.fs ∧ (V1.readAllAux f m st ns acc).1.count = st.count := by
  induction ns generalizing st acc with
  | nil => exact ⟨rfl, rfl⟩
  | cons n ns ih =>
    simp only [V1.readAllAux]
    have h1 := V1.readKey_fs st f n m
    have h2 := V1.readKey_count st f n m
    generalize st.readKey f n m = p at h1 h2
    obtain ⟨st', r⟩ := p
    cases r with
    | none => exact ⟨h1, h2⟩
    | some g =>
      simp only
      have := ih st' (g :: acc)
      exact ⟨this.1.trans h1, this.2.trans h2⟩

@[simp] theorem V1.readAll_fs (st : V1) (s : Slot) : (st.readAll s).1.fs = st.fs := by
  unfold V1.readAll
  simp only
  rw [(V1.readAllAux_fs _ _ _ _ _).1]; simp
@[simp] theorem V1.readAll_count (st : V1) (s : Slot) : (st.readAll s).1.count = st.count := by
  unfold V1.readAll
  simp only
  rw [(V1.readAllAux_fs _ _ _ _ _).2]; simp

theorem V1.poisonPair_fs_count (st : V1) (s : Slot) :
    (st.poisonPair s).1.fs = st.fs ∧ (st.poisonPair s).1.count = st.count := by
  unfold V1.poisonPair
  simp only
  split <;> (try split) <;> simp
@[simp] theorem V1.poisonPair_fs (st : V1) (s : Slot) : (st.poisonPair s).1.fs = st.fs := (V1.poisonPair_fs_count st s).1
@[simp] theorem V1.poisonPair_count (st : V1) (s : Slot) : (st.poisonPair s).1.count = st.count := (V1.poisonPair_fs_count st s).2

theorem V1.storagePub_fs_count (st : V1) (s : Slot) :
    (st.storagePub s).1.fs = st.fs ∧ (st.storagePub s).1.count = st.count := by
  unfold V1.storagePub
  have h1 := V1.cget_fs st (.absPub (pubFile s))
  have h2 := V1.cget_count st (.absPub (pubFile s))
  split <;> (try split) <;> simp_all
@[simp] theorem V1.storagePub_fs (st : V1) (s : Slot) : (st.storagePub s).1.fs = st.fs := (V1.storagePub_fs_count st s).1
@[simp] theorem V1.storagePub_count (st : V1) (s : Slot) : (st.storagePub s).1.count = st.count := (V1.storagePub_fs_count st s).2

theorem V1.drotFile_fs (st : V1) (f : FileId) (i : Nat) :
    (st.drotFile f i).1.fs = (applyAll st.fs (drotFileCalls st.fs f i).1).1 ∧ (st.drotFile f i).1.count = st.count ∧
    (st.drotFile f i).2 = ((drotFileCalls st.fs f i).2 && (applyAll st.fs (drotFileCalls st.fs f i).1).2) := by
  unfold V1.drotFile
  simp only
  split <;> simp_all

/-- destroy-rotated of a slot is `drotFile` on its one or two files: what that keeps, the operation keeps -/
theorem V1.step_drot_ind {P : V1 → Prop} (st : V1) (s : Slot) (i : Nat) (h0 : P st)
    (h : ∀ st f, P st → P (st.drotFile f i).1) : P (st.step (.drot s i)).1 := by
  simp only [V1.step]
  by_cases hc : ¬ s.kind.canDestroy = true
  · rw [if_pos hc]; exact h0
  · rw [if_neg hc]
    have h1 := h st (privFile s) h0
    generalize st.drotFile (privFile s) i = p1 at h1 ⊢
    obtain ⟨st1, ok1⟩ := p1
    dsimp only
    by_cases hok : ¬ ok1 = true
    · rw [if_pos hok]; exact h1
    · rw [if_neg hok]
      by_cases hp : s.kind.isPair = true
      · rw [if_pos hp]; exact h st1 (pubFile s) h1
      · rw [if_neg hp]; exact h1

/-- storage after one operation, computed from storage and counters alone (the counters: `countStep`) -/
def fsStep (fs : FS) (count : Slot → Nat) : Op → FS
  | .gen s => (applyAll fs (genCalls fs s (count s + 1))).1
  | .dcur s => if s.kind.canDestroy then (applyAll fs (dcurCalls s)).1 else fs
  | .drot s i =>
    if ¬ s.kind.canDestroy then fs else
    let r1 := drotFileCalls fs (privFile s) i
    let a1 := applyAll fs r1.1
    if ¬ (r1.2 && a1.2) then a1.1 else
    if s.kind.isPair then (applyAll a1.1 (drotFileCalls a1.1 (pubFile s) i).1).1 else a1.1
  | _ => fs

/-- **The storage never depends on the cache.** -/
theorem V1.step_fs (st : V1) (o : Op) : (st.step o).1.fs = fsStep st.fs st.count o ∧ (st.step o).1.count = countStep st.count o := by
  cases o with
  | gen s =>
    simp only [V1.step, fsStep, countStep]
    split
    · exact ⟨rfl, rfl⟩
    · split <;> simp
  | cur s | pub s | all s =>
    simp only [V1.step, fsStep, countStep]
    split <;> simp
  | list | listRot | reset | reopen => exact ⟨rfl, rfl⟩
  | dcur s =>
    simp only [V1.step, fsStep, countStep]
    by_cases hc : s.kind.canDestroy = true
    · simp only [hc, not_true_eq_false, if_false, if_true]
      cases hk : s.kind <;> simp
    · simp [hc]
  | drot s i =>
    simp only [V1.step, fsStep, countStep]
    by_cases hc : s.kind.canDestroy = true
    · simp only [hc, not_true_eq_false, if_false]
      have h1 := V1.drotFile_fs st (privFile s) i
      generalize st.drotFile (privFile s) i = p1 at h1
      obtain ⟨st1, ok1⟩ := p1
      simp only at h1
      obtain ⟨h1a, h1b, h1c⟩ := h1
      rw [← h1c, ← h1a]
      cases ok1
      · simp [h1b]
      · simp only [not_true_eq_false, if_false, Bool.not_eq_true]
        cases hp : s.kind.isPair
        · simp [h1b]
        · simp only [if_true]
          have h2 := V1.drotFile_fs st1 (pubFile s) i
          generalize st1.drotFile (pubFile s) i = p2 at h2
          obtain ⟨st2, ok2⟩ := p2
          simp only at h2
          exact ⟨h2.1, h2.2.1.trans h1b⟩
    · simp [hc]

end AcraModel.Keystore
