import AcraModel.Keystore.RefineV1Step
/-!
# v1 key cache: what a lookup sees, and how every reader may change it

The LRU (any capacity, `0` = unbounded) is abstracted to the partial map `V1.look`. Every cache
primitive either leaves an entry alone, forgets it (eviction, `Clear`) or sets it to a value just
loaded from the storage – `Evol F st st'`: every entry of `st'` was already in `st` or satisfies `F`.
-/
namespace AcraModel.Keystore

def LRU.look (c : LRU) (k : CKey) : Option CVal := (c.items.find? (·.1 = k)).map (·.2)

/-- what a cache lookup of `k` would return (`none`: miss, or no cache at all) -/
def V1.look (st : V1) (k : CKey) : Option CVal := match st.cache with
  | none => none
  | some c => c.look k

theorem find_filter_ne {α β} [DecidableEq α] (l : List (α × β)) {k k' : α} (h : k' ≠ k) :
    (l.filter (·.1 ≠ k)).find? (·.1 = k') = l.find? (·.1 = k') := by
  rw [List.find?_filter]
  congr 1
  funext x
  by_cases hx : x.1 = k' <;> simp [hx, h]

theorem find_dropLast {α} (p : α → Bool) (l : List α) : l.dropLast.find? p = l.find? p ∨ l.dropLast.find? p = none := by
  rcases List.eq_nil_or_concat l with rfl | ⟨l', a, rfl⟩
  · exact Or.inl rfl
  · rw [List.concat_eq_append, List.dropLast_concat, List.find?_append]
    cases h : l'.find? p with
    | none => exact Or.inr rfl
    | some x => exact Or.inl (by simp)

theorem LRU.get_snd (c : LRU) (k : CKey) : (c.get k).2 = c.look k := by
  unfold LRU.get LRU.look
  cases c.items.find? (·.1 = k) <;> rfl

theorem LRU.get_look (c : LRU) (k k' : CKey) : (c.get k).1.look k' = c.look k' := by
  unfold LRU.get LRU.look
  cases h : c.items.find? (·.1 = k) with
  | none => rfl
  | some e =>
    have hek : e.1 = k := by simpa using List.find?_some h
    simp only
    by_cases hk : k' = k
    · subst hk; simp [List.find?_cons, hek, h]
    · have : ¬ e.1 = k' := fun e' => hk (e' ▸ hek ▸ rfl)
      simp only [List.find?_cons, this, decide_false]
      rw [find_filter_ne _ hk]

theorem LRU.add_look_same (c : LRU) (k : CKey) (v : CVal) : (c.add k v).look k = some v := by
  unfold LRU.add LRU.look
  split
  · simp
  · simp only
    split
    · rename_i hlen
      cases hi : c.items with
      | nil => simp [hi] at hlen
      | cons x xs => simp [List.dropLast]
    · simp

theorem LRU.add_look_other (c : LRU) (k k' : CKey) (v : CVal) (h : k' ≠ k) :
    (c.add k v).look k' = c.look k' ∨ (c.add k v).look k' = none := by
  have hk : ¬ k = k' := fun e => h e.symm
  unfold LRU.add LRU.look
  split
  · left
    simp only [List.find?_cons, hk, decide_false]
    rw [find_filter_ne _ h]
  · simp only
    split
    · rename_i hlen
      cases hi : c.items with
      | nil => simp [hi] at hlen
      | cons x xs =>
        have : ((k, v) :: x :: xs).dropLast = (k, v) :: (x :: xs).dropLast := rfl
        rw [this]
        simp only [List.find?_cons, hk, decide_false]
        rcases find_dropLast (fun e : CKey × CVal => decide (e.1 = k')) (x :: xs) with h1 | h1
        · left; rw [h1]; simp [List.find?_cons]
        · right; rw [h1]; rfl
    · left; simp [List.find?_cons, hk]

theorem V1.cget_snd (st : V1) (k : CKey) : (st.cget k).2 = st.look k := by
  obtain ⟨fs, cache, count⟩ := st
  cases cache with
  | none => rfl
  | some c => exact LRU.get_snd c k

theorem V1.cget_look (st : V1) (k k' : CKey) : (st.cget k).1.look k' = st.look k' := by
  obtain ⟨fs, cache, count⟩ := st
  cases cache with
  | none => rfl
  | some c => exact LRU.get_look c k k'

/-- a cache lookup returns what `look` sees and changes neither storage, counters nor what lookups see -/
theorem V1.cget_spec (st : V1) (k : CKey) :
    ∃ st', st.cget k = (st', st.look k) ∧ st'.fs = st.fs ∧ st'.count = st.count ∧ ∀ k', st'.look k' = st.look k' :=
  ⟨(st.cget k).1, by rw [← V1.cget_snd], V1.cget_fs st k, V1.cget_count st k, V1.cget_look st k⟩

theorem V1.cadd_look_same (st : V1) (k : CKey) (v : CVal) :
    (st.cadd k v).look k = some v ∨ (st.cadd k v).look k = none := by
  obtain ⟨fs, cache, count⟩ := st
  cases cache with
  | none => exact Or.inr rfl
  | some c => exact Or.inl (LRU.add_look_same c k v)

theorem V1.cadd_look_other (st : V1) (k k' : CKey) (v : CVal) (h : k' ≠ k) :
    (st.cadd k v).look k' = st.look k' ∨ (st.cadd k v).look k' = none := by
  obtain ⟨fs, cache, count⟩ := st
  cases cache with
  | none => exact Or.inl rfl
  | some c => exact LRU.add_look_other c k k' v h

theorem V1.look_cadd_cases (st : V1) (k k' : CKey) (v v' : CVal) (h : (st.cadd k v).look k' = some v') :
    (k' = k ∧ v' = v) ∨ (k' ≠ k ∧ st.look k' = some v') := by
  by_cases hk : k' = k
  · subst hk
    rcases V1.cadd_look_same st k' v with h1 | h1 <;> rw [h1] at h <;> cases h
    exact Or.inl ⟨rfl, rfl⟩
  · rcases V1.cadd_look_other st k k' v hk with h1 | h1 <;> rw [h1] at h
    · exact Or.inr ⟨hk, h⟩
    · cases h

theorem V1.clear_look (st : V1) (k : CKey) : st.clear.look k = none := by
  obtain ⟨fs, cache, count⟩ := st
  cases cache with
  | none => rfl
  | some c => rfl

theorem V1.look_setFs (st : V1) (fs : FS) (k : CKey) : ({ st with fs := fs } : V1).look k = st.look k := rfl

/-- every entry of `st'` was in `st` with the same value, or satisfies `F` -/
def Evol (F : CKey → CVal → Prop) (st st' : V1) : Prop :=
  ∀ k v, st'.look k = some v → st.look k = some v ∨ F k v

theorem Evol.refl (F : CKey → CVal → Prop) (st : V1) : Evol F st st := fun _ _ h => Or.inl h

theorem Evol.of_look {F : CKey → CVal → Prop} {st st' : V1} (h : ∀ k, st'.look k = st.look k) : Evol F st st' :=
  fun k v hv => Or.inl (h k ▸ hv)

theorem Evol.trans {F : CKey → CVal → Prop} {a b c : V1} (h1 : Evol F a b) (h2 : Evol F b c) : Evol F a c := by
  intro k v hv
  rcases h2 k v hv with h | h
  · exact h1 k v h
  · exact Or.inr h

theorem Evol.mono {F G : CKey → CVal → Prop} {a b : V1} (h : Evol F a b) (hfg : ∀ k v, F k v → G k v) : Evol G a b := by
  intro k v hv
  rcases h k v hv with h | h
  · exact Or.inl h
  · exact Or.inr (hfg k v h)

theorem Evol.cget (F : CKey → CVal → Prop) (st : V1) (k : CKey) : Evol F st (st.cget k).1 :=
  Evol.of_look (V1.cget_look st k)

theorem Evol.cadd {F : CKey → CVal → Prop} (st : V1) (k : CKey) (v : CVal) (hf : F k v) : Evol F st (st.cadd k v) := by
  intro k' v' hv
  rcases V1.look_cadd_cases st k k' v v' hv with ⟨rfl, rfl⟩ | ⟨_, h⟩
  · exact Or.inr hf
  · exact Or.inl h

theorem Evol.clear (F : CKey → CVal → Prop) (st : V1) : Evol F st st.clear := by
  intro k v hv; rw [V1.clear_look] at hv; cases hv

/-- what a load from the storage puts into the cache under key `k` -/
def Fresh (fs : FS) : CKey → CVal → Prop
  | .rel f, v => if f.pub then ∃ pc, fs.cur f = some pc ∧ v = .key pc.raw
      else ∃ g, (fs.cur f).bind Content.decrypt = some g ∧ v = .key g
  | .relOld f t, v => f.pub = false ∧ ∃ g, (fs.readName f (some t)).bind Content.decrypt = some g ∧ v = .key g
  | .absPub f, v => ∃ pc, fs.cur f = some pc ∧ v = .key pc.raw
  | .names f, v => f.pub = false ∧ f.slot.kind.hasAll = true ∧ v = .paths (historicalNames fs f)

/-- result of the shared read pattern in terms of what the lookup sees -/
theorem V1.readKey_result (st : V1) (f : FileId) (name : Option Nat) (m : Bool) :
    (st.readKey f name m).2 = match st.look (ckeyOf f name) with
      | some (.key g) => some g
      | some .nil => if m then (st.fs.readName f name).bind Content.decrypt else none
      | some (.paths _) => none
      | none => (st.fs.readName f name).bind Content.decrypt := by
  unfold V1.readKey
  dsimp only
  obtain ⟨st', he, h2, -, -⟩ := V1.cget_spec st (ckeyOf f name)
  rw [he]
  cases hl : st.look (ckeyOf f name) with
  | none =>
    simp only [h2]
    cases (st.fs.readName f name).bind Content.decrypt <;> rfl
  | some v =>
    cases v with
    | key g => rfl
    | paths l => rfl
    | nil =>
      cases m
      · rfl
      · simp only [if_true, h2]
        cases (st.fs.readName f name).bind Content.decrypt <;> rfl

theorem V1.readKey_evol (st : V1) (f : FileId) (name : Option Nat) (m : Bool) (hf : f.pub = false) :
    Evol (Fresh st.fs) st (st.readKey f name m).1 := by
  unfold V1.readKey
  dsimp only
  obtain ⟨st', he, h2, -, hl⟩ := V1.cget_spec st (ckeyOf f name)
  have h1 : Evol (Fresh st.fs) st st' := Evol.of_look hl
  rw [he]
  generalize st.look (ckeyOf f name) = r
  have hload : ∀ (st' : V1), st'.fs = st.fs → Evol (Fresh st.fs) st st' →
      Evol (Fresh st.fs) st (match (st'.fs.readName f name).bind Content.decrypt with
        | some g => (st'.cadd (ckeyOf f name) (.key g), some g)
        | none => (st', none)).1 := by
    intro st' hfs hev
    cases hr : (st'.fs.readName f name).bind Content.decrypt with
    | none => exact hev
    | some g =>
      refine hev.trans (Evol.cadd _ _ _ ?_)
      rw [hfs] at hr
      cases name with
      | none => simpa [ckeyOf, Fresh, hf, FS.readName] using hr
      | some t => exact ⟨hf, g, hr, rfl⟩
  cases r with
  | none => exact hload st' h2 h1
  | some v =>
    cases v with
    | key g => exact h1
    | paths l => exact h1
    | nil =>
      cases m
      · exact h1
      · exact hload st' h2 h1

theorem V1.loadNames_evol (st : V1) (f : FileId) (hf : f.pub = false) (ha : f.slot.kind.hasAll = true) :
    Evol (Fresh st.fs) st (st.loadNames f).1 :=
  Evol.cadd _ _ _ ⟨hf, ha, rfl⟩

theorem V1.getNames_evol (st : V1) (f : FileId) (hf : f.pub = false) (ha : f.slot.kind.hasAll = true) :
    Evol (Fresh st.fs) st (st.getNames f).1 := by
  unfold V1.getNames
  obtain ⟨st', he, h2, -, hl⟩ := V1.cget_spec st (.names f)
  have h1 : Evol (Fresh st.fs) st st' := Evol.of_look hl
  rw [he]
  generalize st.look (.names f) = r
  have hl := V1.loadNames_evol st' f hf ha
  rw [h2] at hl
  split
  · rename_i heq; cases heq; exact h1
  · rename_i heq; cases heq; exact h1.trans hl

theorem V1.getNames_result (st : V1) (f : FileId) :
    (st.getNames f).2 = match st.look (.names f) with
      | some (.paths l) => l
      | _ => historicalNames st.fs f := by
  unfold V1.getNames
  obtain ⟨st', he, h2, -, -⟩ := V1.cget_spec st (.names f)
  rw [he]
  cases hl : st.look (.names f) with
  | none => simp [V1.loadNames, h2]
  | some v => cases v <;> simp [V1.loadNames, h2]

/-- read-all, when a cached list of names can only be the directory's: the names of the storage are read
one by one, from a store that differs from `st` only by values just loaded -/
theorem V1.readAll_names (st : V1) (s : Slot) (ha : s.kind.hasAll = true)
    (hn : ∀ v, st.look (.names (privFile s)) = some v → v = .paths (historicalNames st.fs (privFile s))) :
    ∃ st1, st.readAll s = V1.readAllAux (privFile s) (!s.kind.isPair) st1 (historicalNames st.fs (privFile s)) [] ∧
      st1.fs = st.fs ∧ st1.count = st.count ∧ Evol (Fresh st.fs) st st1 := by
  refine ⟨(st.getNames (privFile s)).1, ?_, V1.getNames_fs _ _, V1.getNames_count _ _, V1.getNames_evol st _ rfl ha⟩
  have h : (st.getNames (privFile s)).2 = historicalNames st.fs (privFile s) := by
    rw [V1.getNames_result]
    cases hl : st.look (.names (privFile s)) with
    | none => rfl
    | some v => rw [hn v hl]
  unfold V1.readAll
  rw [← h]

theorem V1.readAllAux_evol (f : FileId) (m : Bool) (hf : f.pub = false) (names : List (Option Nat)) (st : V1) (acc : List Nat) :
    Evol (Fresh st.fs) st (V1.readAllAux f m st names acc).1 := by
  induction names generalizing st acc with
  | nil => exact Evol.refl _ _
  | cons nm nms ih =>
    have h2 := V1.readKey_evol st f nm m hf
    have h3 := V1.readKey_fs st f nm m
    simp only [V1.readAllAux]
    generalize st.readKey f nm m = p at h2 h3 ⊢
    obtain ⟨st', r⟩ := p
    simp only at h2 h3
    cases r with
    | none => exact h2
    | some g =>
      have := ih st' (g :: acc)
      rw [h3] at this
      exact h2.trans this

theorem V1.readAll_evol (st : V1) (s : Slot) (ha : s.kind.hasAll = true) : Evol (Fresh st.fs) st (st.readAll s).1 := by
  unfold V1.readAll
  have h2 := V1.getNames_evol st (privFile s) rfl ha
  have h3 := V1.getNames_fs st (privFile s)
  dsimp only
  generalize st.getNames (privFile s) = p at h2 h3 ⊢
  obtain ⟨st1, names⟩ := p
  simp only at h2 h3
  have := V1.readAllAux_evol (privFile s) (!s.kind.isPair) rfl names st1 []
  rw [h3] at this
  exact h2.trans this

theorem V1.poisonPair_evol (st : V1) (s : Slot) : Evol (Fresh st.fs) st (st.poisonPair s).1 := by
  unfold V1.poisonPair
  obtain ⟨st1, ea, a2, -, a3⟩ := V1.cget_spec st (.rel (privFile s))
  obtain ⟨st2, eb, b2, -, b3⟩ := V1.cget_spec st1 (.rel (pubFile s))
  have h12 : Evol (Fresh st.fs) st st2 := Evol.of_look fun k => (b3 k).trans (a3 k)
  have hfs2 : st2.fs = st.fs := b2.trans a2
  rw [ea]; dsimp only; rw [eb]; dsimp only
  generalize st.look (.rel (privFile s)) = a
  generalize st1.look (.rel (pubFile s)) = b
  have hfile : Evol (Fresh st.fs) st
      ((match (st2.fs.cur (privFile s)).bind Content.decrypt, st2.fs.cur (pubFile s) with
        | some g, some pc => ((st2.cadd (.rel (privFile s)) (.key g)).cadd (.rel (pubFile s)) (.key pc.raw), some (g, pc.raw))
        | _, _ => (st2, none)) : V1 × Option (Nat × Nat)).1 := by
    rw [hfs2]
    cases hg : (st.fs.cur (privFile s)).bind Content.decrypt with
    | none => exact h12
    | some g =>
      cases hp : st.fs.cur (pubFile s) with
      | none => exact h12
      | some pc =>
        refine (h12.trans (Evol.cadd _ _ _ ?_)).trans (Evol.cadd _ _ _ ?_)
        · simpa [Fresh, privFile] using hg
        · simp only [Fresh, pubFile, if_true]; exact ⟨pc, hp, rfl⟩
  cases a with
  | none => exact hfile
  | some va =>
    cases b with
    | none => exact hfile
    | some vb => exact h12

theorem V1.storagePub_evol (st : V1) (s : Slot) : Evol (Fresh st.fs) st (st.storagePub s).1 := by
  unfold V1.storagePub
  obtain ⟨st1, ea, a2, -, a3⟩ := V1.cget_spec st (.absPub (pubFile s))
  have a1 : Evol (Fresh st.fs) st st1 := Evol.of_look a3
  rw [ea]
  generalize st.look (.absPub (pubFile s)) = a
  cases a with
  | none =>
    simp only [a2]
    cases hp : st.fs.cur (pubFile s) with
    | none => exact a1
    | some pc => exact a1.trans (Evol.cadd _ _ _ ⟨pc, hp, rfl⟩)
  | some va => cases va <;> exact a1

/-- `refreshCachedHistoricalPrivateKeyFilenames`: a cached list of names becomes the one of the storage;
every other entry is untouched or forgotten -/
theorem V1.look_refresh_cases (st : V1) (f : FileId) (k : CKey) (v : CVal) (h : (st.refreshNames f).look k = some v) :
    (k = .names f ∧ v = .paths (historicalNames st.fs f) ∧ ∃ v0, st.look (.names f) = some v0) ∨
    (k ≠ .names f ∧ st.look k = some v) := by
  unfold V1.refreshNames at h
  obtain ⟨st', he, h2, -, h3⟩ := V1.cget_spec st (.names f)
  replace h3 := h3 k
  rw [he] at h
  cases hl : st.look (.names f) with
  | none =>
    rw [hl] at h
    refine Or.inr ⟨?_, h3 ▸ h⟩
    rintro rfl
    rw [h3, hl] at h; cases h
  | some v0 =>
    rw [hl] at h
    rcases V1.look_cadd_cases st' _ k _ v h with ⟨rfl, rfl⟩ | ⟨hk, h'⟩
    · exact Or.inl ⟨rfl, by rw [h2], v0, rfl⟩
    · exact Or.inr ⟨hk, h3 ▸ h'⟩

end AcraModel.Keystore
