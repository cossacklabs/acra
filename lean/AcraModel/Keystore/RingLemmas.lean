import AcraModel.Keystore.V2Store
/-! Key rings and their transactions: what `Apply` and `Rollback` do to sequence numbers, keys and `current`. -/
namespace AcraModel.Keystore

def Ring.Distinct (r : Ring) : Prop := r.keys.Pairwise (fun a b => a.seq ≠ b.seq)

theorem map_setKey_id (keys : List Key2) (q : Nat) (k0 : Key2) (f : Key2 → Key2)
    (hd : keys.Pairwise (fun a b => a.seq ≠ b.seq)) (hfind : keys.find? (·.seq = q) = some k0) (hf : f k0 = k0) :
    keys.map (fun k => if k.seq = q then f k else k) = keys := by
  induction keys with
  | nil => rfl
  | cons k ks ih =>
    rw [List.pairwise_cons] at hd
    by_cases hk : k.seq = q
    · have : k = k0 := by simpa [List.find?, hk] using hfind
      subst this
      have hrest : ks.map (fun k' => if k'.seq = q then f k' else k') = ks := by
        have : ∀ k' ∈ ks, (fun k' => if k'.seq = q then f k' else k') k' = id k' := by
          intro k' hk'
          have := hd.1 k' hk'
          simp [hk ▸ this.symm]
        rw [List.map_congr_left this, List.map_id]
      simp [hk, hf, hrest]
    · have hfind' : ks.find? (·.seq = q) = some k0 := by simpa [List.find?, hk] using hfind
      simp [hk, ih hd.2 hfind']

/-- looking a sequence number up commutes with a map that keeps sequence numbers -/
theorem find_map_seq (keys : List Key2) (g : Key2 → Key2) (hseq : ∀ k, (g k).seq = k.seq) (q : Nat) :
    (keys.map g).find? (·.seq = q) = (keys.find? (·.seq = q)).map g := by
  rw [List.find?_map]
  congr 2
  funext k
  simp only [Function.comp_apply, hseq]

theorem setKey_seq (q : Nat) (f : Key2 → Key2) (hseq : ∀ k, (f k).seq = k.seq) (k : Key2) :
    (if k.seq = q then f k else k).seq = k.seq := by
  split
  · exact hseq k
  · rfl

theorem find_setKey (keys : List Key2) (q : Nat) (k0 : Key2) (f : Key2 → Key2) (hseq : ∀ k, (f k).seq = k.seq)
    (hfind : keys.find? (·.seq = q) = some k0) :
    (keys.map (fun k => if k.seq = q then f k else k)).find? (·.seq = q) = some (f k0) := by
  have hk0 : k0.seq = q := by simpa using List.find?_some hfind
  rw [find_map_seq _ _ (setKey_seq q f hseq), hfind, Option.map_some, if_pos hk0]

theorem map_map_setKey (keys : List Key2) (q : Nat) (f g : Key2 → Key2) (hseq : ∀ k, (f k).seq = k.seq) :
    (keys.map (fun k => if k.seq = q then f k else k)).map (fun k => if k.seq = q then g k else k) =
    keys.map (fun k => if k.seq = q then g (f k) else k) := by
  rw [List.map_map]
  apply List.map_congr_left
  intro k _
  by_cases hk : k.seq = q <;> simp [hk, hseq]

/-- what a successful `Apply` found in the ring and what it returned, transaction by transaction -/
theorem Tx.apply_some {r r' : Ring} {tx : Tx} (h : tx.apply r = some r') :
    (∃ k, tx = .addKey k ∧ r.find k.seq = none ∧ r' = { r with keys := r.keys ++ [k] }) ∨
    (∃ old n, tx = .setCurrent old (some n) ∧ r.current = old ∧ r' = { r with current := some n }) ∨
    (∃ q new k0, tx = .changeState q k0.state new ∧ r.find q = some k0 ∧
      r' = r.setKey q fun k => { k with state := new }) ∨
    (∃ q b k0, tx = .destroyData q b ∧ r.find q = some k0 ∧ r' = r.setKey q fun k => { k with data := none }) := by
  cases tx with
  | addKey k =>
    simp only [Tx.apply] at h
    split at h
    · cases h
    · rename_i hnone
      cases h
      exact .inl ⟨k, rfl, by simpa using hnone, rfl⟩
  | setCurrent old new =>
    simp only [Tx.apply] at h
    split at h
    · cases h
    · rename_i hcur
      have hcur : r.current = old := by simpa using hcur
      refine .inr (.inl ?_)
      split at h
      · split at h
        · cases h; exact ⟨_, _, rfl, hcur, rfl⟩
        · cases h
      · split at h
        · cases h; exact ⟨_, _, rfl, hcur, rfl⟩
        · cases h
      · cases h
  | changeState q old new =>
    simp only [Tx.apply] at h
    cases hf : r.find q with
    | none => simp [hf] at h
    | some k0 =>
      simp only [hf] at h
      split at h
      · rename_i hst
        cases h
        exact .inr (.inr (.inl ⟨q, new, k0, by rw [hst], hf, rfl⟩))
      · cases h
  | destroyData q b =>
    simp only [Tx.apply] at h
    cases hf : r.find q with
    | none => simp [hf] at h
    | some k0 =>
      simp only [hf] at h
      cases h
      exact .inr (.inr (.inr ⟨q, b, k0, rfl, hf, rfl⟩))

/-- two updates of the key numbered `q` that together give back the key found there leave the ring as it was:
no other key has that number -/
theorem Ring.setKey_setKey_id {r : Ring} {q : Nat} {k0 : Key2} (f g : Key2 → Key2) (hd : r.Distinct)
    (hf : r.find q = some k0) (hseq : ∀ k, (f k).seq = k.seq) (hid : g (f k0) = k0) :
    (r.setKey q f).setKey q g = r := by
  simp only [Ring.setKey]
  rw [map_map_setKey _ _ _ _ hseq, map_setKey_id r.keys q k0 _ hd hf hid]

/-- `Rollback ∘ Apply = id` for every transaction of `keyRingTX.go` (on rings with distinct sequence
numbers; `destroyData` carries the backup `Apply` takes, i.e. the data the key had). -/
theorem rollback_apply (r r' : Ring) (tx : Tx) (hd : r.Distinct) (h : tx.apply r = some r')
    (hbackup : ∀ q b, tx = .destroyData q b → (r.find q).map (·.data) = some b) :
    tx.rollback r' = r := by
  rcases Tx.apply_some h with ⟨k, rfl, -, rfl⟩ | ⟨old, n, rfl, rfl, rfl⟩ | ⟨q, new, k0, rfl, hf, rfl⟩ |
    ⟨q, b, k0, rfl, hf, rfl⟩
  · simp [Tx.rollback]
  · rfl
  · exact Ring.setKey_setKey_id _ _ hd hf (fun _ => rfl) rfl
  · obtain rfl : k0.data = b := by simpa [hf] using hbackup q b rfl
    exact Ring.setKey_setKey_id _ _ hd hf (fun _ => rfl) rfl

theorem pairwise_setKey (keys : List Key2) (q : Nat) (f : Key2 → Key2) (hseq : ∀ k, (f k).seq = k.seq)
    (hd : keys.Pairwise (fun a b => a.seq ≠ b.seq)) :
    (keys.map (fun k => if k.seq = q then f k else k)).Pairwise (fun a b => a.seq ≠ b.seq) := by
  rw [List.pairwise_map]
  simpa only [setKey_seq q f hseq] using hd

/-- A key can only be added under a sequence number the ring does not have yet, and no transaction
renumbers a key. -/
theorem ring_inv (r r' : Ring) (tx : Tx) (hd : r.Distinct) (h : tx.apply r = some r') : r'.Distinct := by
  rcases Tx.apply_some h with ⟨k, rfl, hnone, rfl⟩ | ⟨old, n, rfl, -, rfl⟩ | ⟨q, new, k0, rfl, -, rfl⟩ |
    ⟨q, b, k0, rfl, -, rfl⟩
  · simp only [Ring.Distinct]
    rw [List.pairwise_append]
    refine ⟨hd, by simp, ?_⟩
    intro a ha b hb heq
    obtain rfl : b = k := by simpa using hb
    have := List.find?_eq_none.1 hnone a ha
    simp [heq] at this
  · exact hd
  · exact pairwise_setKey _ _ _ (fun _ => rfl) hd
  · exact pairwise_setKey _ _ _ (fun _ => rfl) hd

/-- the ring after `DestroyKey(q)` -/
def Ring.destroyed (r : Ring) (q : Nat) : Ring :=
  (r.setKey q fun k => { k with data := none }).setKey q fun k => { k with state := .destroyed }

theorem Ring.destroy_txs (r : Ring) (q : Nat) (k : Key2) (hf : r.find q = some k) :
    applyTxs r [.destroyData q k.data, .changeState q k.state .destroyed] = some (r.destroyed q) := by
  have h1 : (Tx.destroyData q k.data).apply r = some (r.setKey q fun k => { k with data := none }) := by
    simp [Tx.apply, hf]
  have hf2 : (r.setKey q fun k => { k with data := none }).find q = some { k with data := none } := by
    simp only [Ring.find, Ring.setKey]
    exact find_setKey r.keys q k _ (by intro k; rfl) hf
  have h2 : (Tx.changeState q k.state .destroyed).apply (r.setKey q fun k => { k with data := none }) =
      some (r.destroyed q) := by
    simp [Tx.apply, hf2, Ring.destroyed]
  simp only [applyTxs, h1, h2]

/-- v2 destroy of one key (the transaction pair of `DestroyKey`): the chosen key loses its material
and becomes `destroyed`; every other key and the `current` pointer are untouched. -/
theorem v2_destroy_exact (r : Ring) (q : Nat) (k : Key2) (hf : r.find q = some k) :
    ∃ r', applyTxs r [.destroyData q k.data, .changeState q k.state .destroyed] = some r' ∧
      r'.material q = none ∧ r'.current = r.current ∧
      ∀ q', q' ≠ q → r'.find q' = r.find q' := by
  refine ⟨r.destroyed q, Ring.destroy_txs r q k hf, ?_, rfl, ?_⟩
  · have h1 := find_setKey r.keys q k (fun k => { k with data := none }) (fun _ => rfl) hf
    have h2 := find_setKey _ q _ (fun k => { k with state := .destroyed }) (fun _ => rfl) h1
    simp only [Ring.material, Ring.destroyed, Ring.find, Ring.setKey, h2]
    rfl
  · intro q' hq'
    simp only [Ring.destroyed, Ring.find, Ring.setKey]
    rw [find_map_seq _ _ (setKey_seq q _ (by intro k; rfl)), find_map_seq _ _ (setKey_seq q _ (by intro k; rfl))]
    cases hfq : r.keys.find? (·.seq = q') with
    | none => rfl
    | some k' =>
      have : k'.seq = q' := by simpa using List.find?_some hfq
      simp [this, hq']

end AcraModel.Keystore
