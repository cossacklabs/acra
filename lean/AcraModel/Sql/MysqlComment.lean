import AcraModel.Basic.Bytes
import AcraModel.Generated.SqlComment
/-!
# `sqlparser.ExtractMysqlComment` (C14) – `sqlparser/comments.go`

The tokenizer of Acra's own SQL parser (`Tokenizer.scanMySQLSpecificComment`, `sqlparser/token.go`)
hands every complete MySQL version comment `/*!NNNNN text */` of a client statement to
`ExtractMysqlComment`, which cuts off `/*!` and `*/`, splits the (at most five) leading version digits
from the inner SQL and trims the latter. The model follows the function line by line on ASCII input
(`strings.IndexFunc` walks runes; for bytes `< 0x80` rune index = byte index, `unicode.IsDigit` = `0..9`,
`unicode.IsSpace` = TAB, LF, VT, FF, CR, space). Non-ASCII comments are covered by the harness's oracle only.

The two slice offsets, the digit bound and the presence of the guard for "nothing follows the digits"
are regenerated from the source (`Generated/SqlComment.lean`).
-/
namespace AcraModel.Sql.MysqlComment
open AcraModel Generated

def isDigit (b : UInt8) : Bool := decide (48 ≤ b.toNat ∧ b.toNat ≤ 57)

def isSpace (b : UInt8) : Bool := decide (b.toNat = 32 ∨ (9 ≤ b.toNat ∧ b.toNat ≤ 13))

/-- `strings.IndexFunc(sql, func(c) { digitCount++; return !unicode.IsDigit(c) || digitCount == K })`:
`n` characters were consumed before `rest`; `none` is Go's `-1`. -/
def endOfVersion (k : Nat) : Bytes → Nat → Option Nat
  | [], _ => none
  | b :: rest, n => if !isDigit b || n + 1 == k then some n else endOfVersion k rest (n + 1)

def trimLeft : Bytes → Bytes
  | [] => []
  | b :: r => if isSpace b then trimLeft r else b :: r

/-- `strings.TrimFunc(s, unicode.IsSpace)` -/
def trim (s : Bytes) : Bytes := (trimLeft (trimLeft s).reverse).reverse

/-- `ExtractMysqlComment` with the guard switched on or off (`guard = false` is the pinned tree, where
`sql[0:endOfVersionIndex]` is evaluated with `endOfVersionIndex = -1`). -/
def extractWith (guard : Bool) (c : Bytes) : Out (Bytes × Bytes) := do
  let sql ← goSlice c SqlComment.cutFront (c.length - SqlComment.cutBack)
  let e ← match endOfVersion SqlComment.versionDigitBound sql 0 with
    | some i => Out.ok i
    | none => if guard then Out.ok sql.length else Out.panic
  let version ← goSlice sql 0 e
  let inner ← goSliceFrom sql e
  pure (version, trim inner)

/-- `ExtractMysqlComment` with the guard of the source (regenerated `noTextGuard`) -/
def extract (c : Bytes) : Out (Bytes × Bytes) := extractWith SqlComment.noTextGuard c

theorem endOfVersion_lt (k : Nat) : ∀ (s : Bytes) (n i : Nat), endOfVersion k s n = some i → n ≤ i ∧ i < n + s.length
  | [], _, _, h => by simp [endOfVersion] at h
  | b :: rest, n, i, h => by
    unfold endOfVersion at h
    split at h
    · cases h; simp
    · have := endOfVersion_lt k rest (n + 1) i h
      simp only [List.length_cons]; omega

theorem extractWith_guard_no_panic (c : Bytes) (h : SqlComment.cutFront + SqlComment.cutBack ≤ c.length) :
    extractWith true c ≠ .panic := by
  unfold extractWith
  rw [show goSlice c SqlComment.cutFront (c.length - SqlComment.cutBack) = .ok _ from if_pos ⟨by omega, by omega⟩]
  simp only [bind, Out.bind, pure]
  generalize hs : (c.take (c.length - SqlComment.cutBack)).drop SqlComment.cutFront = sql
  cases he : endOfVersion SqlComment.versionDigitBound sql 0 with
  | none => simp [goSlice, goSliceFrom]
  | some i =>
    have := endOfVersion_lt _ sql 0 i he
    simp [goSlice, goSliceFrom, show i ≤ sql.length by omega]

end AcraModel.Sql.MysqlComment
