import AcraModel.Sql.LogSites
/-!
# The checks of the regenerated log-site tables

`Props/C16` states these as separate `fact_*` theorems; the checks that walk the same table are evaluated together,
because the kernel decodes the table's strings once per evaluation.
-/
namespace AcraModel.Sql.LogSites
open AcraModel.Generated.LogSites

theorem siteIdents_checked :
    (siteIdents.all fun r => r.2.2.all fun i =>
      !valueIdents.contains i || exemptions.any fun e => e.1 == r.1 && e.2.1 == r.2.1 && e.2.2.1 == i) = true ∧
    (exemptions.all fun e => siteIdents.any fun r => r.1 == e.1 && r.2.1 == e.2.1 && r.2.2.contains e.2.2.1) = true ∧
    (siteIdents.filter fun r => r.2.2.contains "queryWithHiddenValues").map (fun r => (r.1, r.2.1)) =
      [("acra-censor/acra-censor_implementation.go", "AcraCensor.logAllowedQuery"),
       ("acra-censor/acra-censor_implementation.go", "AcraCensor.logDeniedQuery"),
       ("decryptor/postgresql/pg_decryptor.go", "PgProxy.handleQueryPacket"),
       ("decryptor/mysql/response_proxy.go", "Handler.ProxyClientConnection")] := by decide +kernel

theorem conversions_checked :
    (conversions.all fun c =>
      !escaping c.2.2.2.2 || nonValueConversions.any fun n => n.1 == c.1 && n.2.1 == c.2.1) = true ∧
    (nonValueConversions.all fun n => conversions.any fun c => c.1 == n.1 && c.2.1 == n.2.1 && escaping c.2.2.2.2) = true := by
  decide +kernel

end AcraModel.Sql.LogSites
