import AcraModel.Sql.Expr
/-! `producibleB` (the executable check the driver uses) is sound for `Producible`. -/
namespace AcraModel.Sql.Expr

mutual
theorem producible_of_producibleB : (e : Expr) → producibleB e = true → Producible e
  | .val ty v, h => by simp only [producibleB, decide_eq_true_eq] at h; exact .val h
  | .null, _ => .null
  | .bool _, _ => .bool
  | .col _, _ => .col
  | .func _ args, h => by
    simp only [producibleB] at h
    exact .func (producibleArgs_of_B args h)
  | .paren e, h => by
    simp only [producibleB] at h
    exact .paren (producible_of_producibleB e h)
  | .or l r, h => by
    simp only [producibleB, Bool.and_eq_true, decide_eq_true_eq] at h
    exact .or (producible_of_producibleB l h.1.1.1) (producible_of_producibleB r h.1.1.2) h.1.2 h.2
  | .and l r, h => by
    simp only [producibleB, Bool.and_eq_true, decide_eq_true_eq] at h
    exact .and (producible_of_producibleB l h.1.1.1) (producible_of_producibleB r h.1.1.2) h.1.2 h.2
  | .not e, h => by
    simp only [producibleB, Bool.and_eq_true, decide_eq_true_eq] at h
    exact .not (producible_of_producibleB e h.1) h.2
  | .is _ e, h => by
    simp only [producibleB, Bool.and_eq_true, decide_eq_true_eq] at h
    exact .is (producible_of_producibleB e h.1) h.2
  | .cmp _ l r, h => by
    simp only [producibleB, Bool.and_eq_true, decide_eq_true_eq] at h
    exact .cmp (producible_of_producibleB l h.1.1.1) (producible_of_producibleB r h.1.1.2) h.1.2 h.2
  | .range _ l lo hi, h => by
    simp only [producibleB, Bool.and_eq_true, decide_eq_true_eq] at h
    exact .range (producible_of_producibleB l h.1.1.1.1.1) (producible_of_producibleB lo h.1.1.1.1.2)
      (producible_of_producibleB hi h.1.1.1.2) h.1.1.2 h.1.2 h.2
  | .bin _ l r, h => by
    simp only [producibleB, Bool.and_eq_true, decide_eq_true_eq] at h
    exact .bin (producible_of_producibleB l h.1.1.1) (producible_of_producibleB r h.1.1.2) h.1.2 h.2
  | .un op e, h => by
    simp only [producibleB, Bool.and_eq_true, decide_eq_true_eq, Bool.or_eq_true, Bool.not_eq_true'] at h
    refine .un (producible_of_producibleB e h.1.1) h.1.2 ?_
    intro hf
    rcases h.2 with h2 | h2
    · rw [hf] at h2; exact absurd h2 (by decide)
    · exact h2
theorem producibleArgs_of_B : (as : List Expr) → producibleArgsB as = true → ∀ a, a ∈ as → Producible a
  | [], _, a, ha => by simp at ha
  | e :: es, h, a, ha => by
    simp only [producibleArgsB, Bool.and_eq_true] at h
    simp only [List.mem_cons] at ha
    rcases ha with ha | ha
    · exact ha ▸ producible_of_producibleB e h.1
    · exact producibleArgs_of_B es h.2 a ha
end

end AcraModel.Sql.Expr
