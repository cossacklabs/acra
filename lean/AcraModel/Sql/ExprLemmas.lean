import AcraModel.Sql.Expr
/-!
# Lemmas about the expression fragment (C13): tokens of printed trees, the rules of the parser forwards and backwards

The property theorems are in `Props/C13.lean`; `ExprRoundTrip.lean` has the main induction.
-/
namespace AcraModel.Sql.Expr
open AcraModel

/-! ## what the proofs use of the regenerated tables -/

theorem lOr_eq : lOr = 3 := by decide +kernel
theorem lAnd_eq : lAnd = 4 := by decide +kernel
theorem lNot_eq : lNot = 5 := by decide +kernel
theorem lCmp_eq : lCmp = 7 := by decide +kernel
theorem lUnary_eq : lUnary = 14 := by decide +kernel

theorem Sym.mem_all (s : Sym) : s ∈ Sym.all := by cases s <;> decide +kernel
theorem BinOp.mem_all (o : BinOp) : o ∈ BinOp.all := by cases o <;> decide

/-- every `BinaryExpr` operator has its rule in the grammar, at one of the levels 8 … 13 -/
theorem binop_table : ∀ o ∈ BinOp.all, o.sym.binop = some o ∧ 8 ≤ o.level ∧ o.level ≤ 13 := by decide +kernel

theorem binop_level_range (o : BinOp) : 8 ≤ o.level ∧ o.level ≤ 13 := (binop_table o o.mem_all).2

theorem binop_sym_binop (o : BinOp) : o.sym.binop = some o := (binop_table o o.mem_all).1

theorem bin2_sym (b : Bin2) : b.sym.bin2 = some b := by
  cases b with
  | or => rfl
  | and => rfl
  | bin o =>
    have h : o.sym ≠ .or_ ∧ o.sym ≠ .and_ := by cases o <;> decide
    simp only [Bin2.sym, Sym.bin2, h.1, h.2, if_false, binop_sym_binop, Option.map_some]

theorem bin2At_self (b : Bin2) : bin2At b.level b.sym = some b := by
  unfold bin2At; rw [bin2_sym]; simp

theorem bin2_level_range (b : Bin2) : 3 ≤ b.level ∧ b.level ≤ 13 ∧ b.level ≠ 5 ∧ b.level ≠ 7 ∧ b.level ≠ 6 := by
  cases b with
  | or => simp only [Bin2.level, lOr_eq]; omega
  | and => simp only [Bin2.level, lAnd_eq]; omega
  | bin o => have := binop_level_range o; simp only [Bin2.level]; omega

/-- the level at which a token continues an expression that is complete so far (0: it does not) -/
def contLevel (s : Sym) : Nat :=
  if s = .lp then lUnary
  else if s = .is_ ∨ s = .not_ ∨ s = .between ∨ s.cmpop.isSome then lCmp
  else match s.bin2 with
    | some b => b.level
    | none => 0

/-- the next token does not continue an expression at level `L` or above -/
def Stops (L : Nat) (rest : List Tok) : Prop := ∀ s, rest.head? = some (.sym s) → contLevel s < L

/-- the next token neither starts the tail of a condition nor continues a `value_expression` -/
def StopsC (rest : List Tok) : Prop :=
  ∀ s, rest.head? = some (.sym s) → contLevel s ≤ lCmp ∧ s ≠ .not_ ∧ s ≠ .between ∧ s.cmpop = none

theorem Stops.mono {L L' : Nat} {rest : List Tok} (h : Stops L rest) (hle : L ≤ L') : Stops L' rest :=
  fun s hs => Nat.lt_of_lt_of_le (h s hs) hle

theorem stops_nil (L : Nat) : Stops L [] := fun _ h => by simp at h
theorem stops_lit (L : Nat) (ty v r) : Stops L (.lit ty v :: r) := fun _ h => by simp at h
theorem stops_rp (L : Nat) (hL : 1 ≤ L) (r) : Stops L (.sym .rp :: r) := by
  intro s h; simp at h; subst h; exact Nat.lt_of_lt_of_le (by decide +kernel) hL
theorem stops_comma (L : Nat) (hL : 1 ≤ L) (r) : Stops L (.sym .comma :: r) := by
  intro s h; simp at h; subst h; exact Nat.lt_of_lt_of_le (by decide +kernel) hL

theorem stops_sym {L : Nat} {s : Sym} {r : List Tok} (h : contLevel s < L) : Stops L (.sym s :: r) := by
  intro s' hs; simp at hs; subst hs; exact h

/-- a binary operator continues an expression at its own level -/
theorem contLevel_of_bin2 : ∀ s ∈ Sym.all, ∀ b, s.bin2 = some b → contLevel s = b.level := by decide +kernel

theorem contLevel_bin2 (b : Bin2) : contLevel b.sym = b.level := contLevel_of_bin2 _ (Sym.mem_all _) b (bin2_sym b)

/-- below the level of the comparisons no token starts the tail of a condition -/
theorem cmpop_none_below : ∀ s ∈ Sym.all, contLevel s < lCmp → s ≠ .not_ ∧ s ≠ .between ∧ s.cmpop = none := by
  decide +kernel

theorem stopsC_of_stops {rest : List Tok} (h : Stops lCmp rest) : StopsC rest :=
  fun s hs => ⟨Nat.le_of_lt (h s hs), cmpop_none_below s s.mem_all (h s hs)⟩

theorem stopsC_is (r : List Tok) : StopsC (.sym .is_ :: r) := by
  intro s hs; simp at hs; subst hs; decide +kernel

theorem StopsC.stops {rest : List Tok} (h : StopsC rest) : Stops (lCmp + 1) rest :=
  fun s hs => Nat.lt_add_one_of_le (h s hs).1

theorem tokens_append (a b : List Lex) : tokens (a ++ b) = tokens a ++ tokens b := by
  simp [tokens, List.flatMap_append]

theorem tokens_cons (a : Lex) (b : List Lex) : tokens (a :: b) = lexToks a ++ tokens b := by
  simp [tokens, tokens.lexTok]

@[simp] theorem tokens_nil : tokens [] = [] := rfl

theorem tokens_symsLex (ss : List Sym) : tokens (symsLex ss) = ss.map .sym := by
  induction ss with
  | nil => rfl
  | cons s ss ih =>
    cases ss with
    | nil => simp [symsLex, tokens_cons, lexToks]
    | cons s' ss' =>
      rw [symsLex, tokens_cons, tokens_cons, ih]
      · simp [lexToks]
      · simp

def toks (t : Expr) : List Tok := tokens (format t)
def toksArgs (as : List Expr) : List Tok := tokens (formatArgs as)
def tlen (t : Expr) : Nat := (toks t).length

theorem toks_val (ty : Nat) (v : Bytes) :
    toks (.val ty v) =
      match v with
      | c :: w => if rawTy ty && c == minusByte then [.sym .minus, .lit ty w] else [.lit ty v]
      | [] => [.lit ty v] := by
  cases v <;> simp [toks, format, tokens_cons, lexToks]

theorem toks_null : toks .null = [.sym .null] := by simp [toks, format, tokens_cons, lexToks]
theorem toks_bool (b : Bool) : toks (.bool b) = [.sym (if b then .true_ else .false_)] := by
  simp [toks, format, tokens_cons, lexToks]
theorem toks_col (n : Bytes) : toks (.col n) = [.id n] := by simp [toks, format, tokens_cons, lexToks]
theorem toks_paren (e : Expr) : toks (.paren e) = .sym .lp :: (toks e ++ [.sym .rp]) := by
  simp [toks, format, tokens_cons, tokens_append, lexToks]
theorem toks_func (n : Bytes) (as : List Expr) :
    toks (.func n as) = .id n :: .sym .lp :: (toksArgs as ++ [.sym .rp]) := by
  simp [toks, toksArgs, format, tokens_cons, tokens_append, lexToks]
theorem toks_and (l r : Expr) : toks (.and l r) = toks l ++ .sym .and_ :: toks r := by
  simp [toks, format, tokens_cons, tokens_append, lexToks]
theorem toks_or (l r : Expr) : toks (.or l r) = toks l ++ .sym .or_ :: toks r := by
  simp [toks, format, tokens_cons, tokens_append, lexToks]
theorem toks_bin (o : BinOp) (l r : Expr) : toks (.bin o l r) = toks l ++ .sym o.sym :: toks r := by
  simp [toks, format, tokens_cons, tokens_append, lexToks]
theorem toks_not (e : Expr) : toks (.not e) = .sym .not_ :: toks e := by
  simp [toks, format, tokens_cons, tokens_append, lexToks]
theorem toks_is (op : IsOp) (e : Expr) : toks (.is op e) = toks e ++ .sym .is_ :: op.syms.map .sym := by
  simp [toks, format, tokens_cons, tokens_append, lexToks, tokens_symsLex]
theorem toks_cmp (op : CmpOp) (l r : Expr) : toks (.cmp op l r) = toks l ++ (op.syms.map .sym ++ toks r) := by
  simp [toks, format, tokens_cons, tokens_append, lexToks, tokens_symsLex]
theorem toks_range (neg : Bool) (l lo hi : Expr) :
    toks (.range neg l lo hi) =
      toks l ++ ((if neg then [.sym .not_] else []) ++ .sym .between :: (toks lo ++ .sym .and_ :: toks hi)) := by
  cases neg <;> simp [toks, format, tokens_cons, tokens_append, lexToks]
theorem toks_un (op : UnOp) (e : Expr) : toks (.un op e) = .sym op.sym :: toks e := by
  cases op <;> cases h : e.isUn <;>
    simp [toks, format, UnOp.lex, tokens_cons, tokens_append, lexToks, h]

theorem toks_mk (b : Bin2) (l r : Expr) : toks (b.mk l r) = toks l ++ .sym b.sym :: toks r := by
  cases b with
  | or => exact toks_or l r
  | and => exact toks_and l r
  | bin o => exact toks_bin o l r

theorem toksArgs_nil : toksArgs [] = [] := by simp [toksArgs, formatArgs]
theorem toksArgs_one (e : Expr) : toksArgs [e] = toks e := by simp [toksArgs, toks, formatArgs]
theorem toksArgs_cons2 (e e' : Expr) (es : List Expr) :
    toksArgs (e :: e' :: es) = toks e ++ .sym .comma :: toksArgs (e' :: es) := by
  simp [toksArgs, toks, formatArgs, tokens_cons, tokens_append, lexToks]

theorem tlen_pos (t : Expr) : 1 ≤ tlen t := by
  unfold tlen
  cases t with
  | val ty v => rw [toks_val]; cases v <;> dsimp only <;> (try split) <;> simp
  | cmp op l r => rw [toks_cmp]; cases op <;> simp [CmpOp.syms] <;> omega
  | _ =>
    simp [toks_null, toks_bool, toks_col, toks_func, toks_paren, toks_and, toks_or, toks_not, toks_is, toks_range,
      toks_bin, toks_un] <;> omega

/-! ## the parser, one step at a time -/

/-- from fuel `b` on, the parser in mode `m` reads `ts` with result `r` -/
def Parses (m : Mode) (ts : List Tok) (r : PRes) (b : Nat) : Prop := ∀ n, b ≤ n → parse n m ts = some r

theorem Parses.mono {m ts r b b'} (h : Parses m ts r b) (hle : b ≤ b') : Parses m ts r b' :=
  fun n hn => h n (Nat.le_trans hle hn)

theorem Parses.pos {m ts r b} (h : Parses m ts r b) : 1 ≤ b := by
  cases b with
  | zero => have := h 0 (Nat.le_refl _); simp [parse] at this
  | succ k => omega

theorem parses_of_step {m ts r b} (h : ∀ n, b ≤ n → step (parse n) m ts = some r) : Parses m ts r (b + 1) := by
  intro n hn
  cases n with
  | zero => omega
  | succ k => exact h k (by omega)

theorem R_rest_stop (L : Nat) (lhs : Expr) (ts : List Tok)
    (h : ∀ s, ts.head? = some (.sym s) → bin2At L s = none) : Parses (.rest L lhs) ts (lhs, ts) 1 := by
  apply parses_of_step (b := 0)
  intro n _
  cases ts with
  | nil => simp [step]
  | cons t ts' =>
    cases t with
    | sym s => simp [step, h s rfl]
    | lit ty v => simp [step]
    | id nm => simp [step]

theorem R_rest_go {L : Nat} {lhs : Expr} {s : Sym} {b : Bin2} {ts' r1 : List Tok} {r : Expr} {res : PRes} {b1 b2 : Nat}
    (hb : bin2At L s = some b) (h1 : Parses (.lvl (L + 1)) ts' (r, r1) b1)
    (h2 : Parses (.rest L (b.mk lhs r)) r1 res b2) : Parses (.rest L lhs) (.sym s :: ts') res (max b1 b2 + 1) := by
  apply parses_of_step
  intro n hn
  simp [step, hb, h1 n (by omega), h2 n (by omega)]

/-- levels handled by the generic left-associative loop -/
def Generic (M : Nat) : Prop := M ≠ lNot ∧ M ≠ lCmp ∧ M < lUnary

theorem R_lvl_generic {L : Nat} {ts r1 : List Tok} {l : Expr} {res : PRes} {b1 b2 : Nat} (hg : Generic L)
    (h1 : Parses (.lvl (L + 1)) ts (l, r1) b1) (h2 : Parses (.rest L l) r1 res b2) :
    Parses (.lvl L) ts res (max b1 b2 + 1) := by
  apply parses_of_step
  intro n hn
  obtain ⟨g1, g2, g3⟩ := hg
  simp [step, g1, g2, Nat.not_le.mpr g3, h1 n (by omega), h2 n (by omega)]

theorem R_not {ts' r : List Tok} {e : Expr} {b : Nat} (h : Parses (.lvl lNot) ts' (e, r) b) :
    Parses (.lvl lNot) (.sym .not_ :: ts') (.not e, r) (b + 1) := by
  apply parses_of_step
  intro n hn
  simp [step, h n hn]

theorem R_not_pass {ts : List Tok} {res : PRes} {b : Nat} (hh : ts.head? ≠ some (.sym .not_))
    (h : Parses (.lvl (lNot + 1)) ts res b) : Parses (.lvl lNot) ts res (b + 1) := by
  apply parses_of_step
  intro n hn
  simp only [step, if_true]
  split
  · exact absurd rfl hh
  · exact h n hn

theorem R_cmp {ts r1 r2 : List Tok} {v c : Expr} {res : PRes} {b1 b2 b3 : Nat}
    (h1 : Parses (.lvl (lCmp + 1)) ts (v, r1) b1)
    (h2 : ∀ n, b2 ≤ n → cmpTail (parse n) v r1 = some (c, r2))
    (h3 : Parses (.isLoop c) r2 res b3) : Parses (.lvl lCmp) ts res (max b1 (max b2 b3) + 1) := by
  apply parses_of_step
  intro n hn
  have e1 : lCmp ≠ lNot := by rw [lCmp_eq, lNot_eq]; decide
  simp [step, e1, h1 n (by omega), h2 n (by omega), h3 n (by omega)]

theorem R_isLoop_stop (e : Expr) (ts : List Tok) (h : ts.head? ≠ some (.sym .is_)) :
    Parses (.isLoop e) ts (e, ts) 1 := by
  apply parses_of_step (b := 0)
  intro n _
  simp only [step]
  split
  · exact absurd rfl h
  · rfl

theorem isSuffix_syms (op : IsOp) (r : List Tok) : isSuffix (op.syms.map .sym ++ r) = some (op, r) := by
  cases op <;> rfl

theorem R_isLoop_go {e : Expr} {op : IsOp} {r : List Tok} {res : PRes} {b : Nat}
    (h : Parses (.isLoop (.is op e)) r res b) :
    Parses (.isLoop e) (.sym .is_ :: (op.syms.map .sym ++ r)) res (b + 1) := by
  apply parses_of_step
  intro n hn
  simp [step, isSuffix_syms, h n hn]

theorem R_unary_lvl {L : Nat} (hL : lUnary ≤ L) (p : Mode → List Tok → Option PRes) (ts : List Tok) :
    step p (.lvl L) ts = unaryOrPrim p ts := by
  have h1 : L ≠ lNot := by have := lNot_eq; have := lUnary_eq; omega
  have h2 : L ≠ lCmp := by have := lCmp_eq; have := lUnary_eq; omega
  simp [step, h1, h2, hL]

theorem parses_unary {ts : List Tok} {res : PRes} {b : Nat} (h : ∀ n, b ≤ n → unaryOrPrim (parse n) ts = some res) :
    Parses (.lvl lUnary) ts res (b + 1) :=
  parses_of_step fun n hn => (R_unary_lvl (Nat.le_refl _) _ _).trans (h n hn)

/-- what `mkUnary` builds: the operator node, or – under a folding operator – the `IntVal` operand itself, with its
sign taken away or put in front -/
theorem mkUnary_cases (u : UnOp) (e : Expr) :
    (mkUnary u e = .un u e ∧ (u.folds = true → e.isIntVal = false)) ∨
    ∃ v, e = .val tyInt v ∧ u.folds = true ∧
      (mkUnary u e = e ∨ (∃ w, v = minusByte :: w ∧ mkUnary u e = .val tyInt w) ∨
        (v.head? ≠ some minusByte ∧ mkUnary u e = .val tyInt (minusByte :: v))) := by
  cases e with
  | val ty v =>
    by_cases hc : (u.folds && ty == tyInt) = true
    · simp only [mkUnary, hc, if_true]
      rw [Bool.and_eq_true, beq_iff_eq] at hc
      obtain ⟨hf, rfl⟩ := hc
      refine .inr ⟨v, rfl, hf, ?_⟩
      split
      · cases v with
        | nil => exact .inr (.inr ⟨by simp, rfl⟩)
        | cons c w =>
          dsimp only
          split
          · next hcm => exact .inr (.inl ⟨w, by rw [beq_iff_eq.mp hcm], rfl⟩)
          · next hcm => exact .inr (.inr ⟨fun h => hcm (by simpa using h), rfl⟩)
      · exact .inl rfl
    · exact .inl ⟨by simp only [mkUnary, hc, Bool.false_eq_true, if_false], fun hf => by simpa [Expr.isIntVal, hf] using hc⟩
  | _ => exact .inl ⟨rfl, fun _ => rfl⟩

theorem unaryOrPrim_un {p : Mode → List Tok → Option PRes} {s : Sym} {u : UnOp} {ts r : List Tok} {x : Expr}
    (hu : s.unop = some u) (h : p (.lvl lUnary) ts = some (x, r)) :
    unaryOrPrim p (.sym s :: ts) = some (mkUnary u x, r) := by
  simp [unaryOrPrim, hu, h]

theorem unaryOrPrim_col (p : Mode → List Tok → Option PRes) (n : Bytes) {rest : List Tok}
    (h : rest.head? ≠ some (.sym .lp)) : unaryOrPrim p (.id n :: rest) = some (.col n, rest) := by
  unfold unaryOrPrim
  split <;> first | rfl | simp_all

theorem unaryOrPrim_call (p : Mode → List Tok → Option PRes) (n : Bytes) {ts : List Tok}
    (h : ts.head? ≠ some (.sym .rp)) : unaryOrPrim p (.id n :: .sym .lp :: ts) = p (.args n []) ts := by
  unfold unaryOrPrim
  split <;> try simp_all
  next _ _ _ h1 heq => exact absurd heq.2.symm (h1 _)


theorem cmpTail_one {p : Mode → List Tok → Option PRes} {s : Sym} {c : CmpOp} {l x : Expr} {ts r1 : List Tok}
    (hc : s.cmpop = some c) (hn : s ≠ .not_) (hb : s ≠ .between) (h : p (.lvl (lCmp + 1)) ts = some (x, r1)) :
    cmpTail p l (.sym s :: ts) = some (.cmp c l x, r1) := by
  simp [cmpTail, hn, hb, hc, h]

theorem cmpTail_cmp (p : Mode → List Tok → Option PRes) (op : CmpOp) (l x : Expr) (ts r1 : List Tok)
    (h : p (.lvl (lCmp + 1)) ts = some (x, r1)) :
    cmpTail p l (op.syms.map .sym ++ ts) = some (.cmp op l x, r1) := by
  cases op
  case notLike | notRegexp => simp [cmpTail, CmpOp.syms, h]
  all_goals exact cmpTail_one (by decide +kernel) (by decide) (by decide) h

theorem rangeTail_ok (p : Mode → List Tok → Option PRes) (neg : Bool) (l lo hi : Expr) (ts r2 r3 : List Tok)
    (h1 : p (.lvl (lCmp + 1)) ts = some (lo, .sym .and_ :: r2))
    (h2 : p (.lvl (lCmp + 1)) r2 = some (hi, r3)) :
    rangeTail p neg l ts = some (.range neg l lo hi, r3) := by
  simp [rangeTail, h1, h2]

theorem cmpTail_range (p : Mode → List Tok → Option PRes) (neg : Bool) (l lo hi : Expr) (ts r2 r3 : List Tok)
    (h1 : p (.lvl (lCmp + 1)) ts = some (lo, .sym .and_ :: r2))
    (h2 : p (.lvl (lCmp + 1)) r2 = some (hi, r3)) :
    cmpTail p l ((if neg then [.sym .not_] else []) ++ .sym .between :: ts) = some (.range neg l lo hi, r3) := by
  cases neg <;> simp [cmpTail, rangeTail_ok p _ l lo hi ts r2 r3 h1 h2]

theorem cmpTail_stop (p : Mode → List Tok → Option PRes) (v : Expr) (ts : List Tok) (h : StopsC ts) :
    cmpTail p v ts = some (v, ts) := by
  cases ts with
  | nil => simp [cmpTail]
  | cons t ts' =>
    cases t with
    | sym s =>
      obtain ⟨_, h1, h2, h3⟩ := h s rfl
      simp [cmpTail, h1, h2, h3]
    | lit ty v => simp [cmpTail]
    | id nm => simp [cmpTail]

/-! ## the rules read backwards: what a successful step has read -/

section
variable {p : Mode → List Tok → Option PRes}

theorem rangeTail_inv {neg : Bool} {v : Expr} {ts : List Tok} {res : PRes} (h : rangeTail p neg v ts = some res) :
    ∃ lo r2 hi r, p (.lvl (lCmp + 1)) ts = some (lo, .sym .and_ :: r2) ∧ p (.lvl (lCmp + 1)) r2 = some (hi, r) ∧
      res = (.range neg v lo hi, r) := by
  simp only [rangeTail, Option.bind_eq_bind, Option.bind_eq_some_iff] at h
  obtain ⟨⟨lo, r1⟩, h1, h⟩ := h
  split at h
  · next heq =>
    simp only [Option.bind_eq_bind, Option.bind_eq_some_iff, Option.some.injEq] at h
    obtain ⟨⟨hi, r⟩, h2, rfl⟩ := h
    exact ⟨lo, _, hi, r, heq ▸ h1, h2, rfl⟩
  · exact absurd h (by simp)

theorem cmpOne_inv {op : CmpOp} {v : Expr} {ts : List Tok} {res : PRes}
    (h : (do let (x, r1) ← p (.lvl (lCmp + 1)) ts; some (Expr.cmp op v x, r1)) = some res) :
    ∃ x r, p (.lvl (lCmp + 1)) ts = some (x, r) ∧ res = (.cmp op v x, r) := by
  simp only [Option.bind_eq_bind, Option.bind_eq_some_iff, Option.some.injEq] at h
  obtain ⟨⟨x, r⟩, h1, rfl⟩ := h
  exact ⟨x, r, h1, rfl⟩

/-- what `cmpTail` can have read: nothing, a comparison operator (one or two keyword tokens) and its right operand, or
`[NOT] BETWEEN` and the rest of a range condition -/
theorem cmpTail_inv {v : Expr} {ts : List Tok} {res : PRes} (h : cmpTail p v ts = some res) :
    res = (v, ts) ∨ ∃ (pre : List Sym) (ts' : List Tok), ts = pre.map .sym ++ ts' ∧
      ((∃ op x r, p (.lvl (lCmp + 1)) ts' = some (x, r) ∧ res = (.cmp op v x, r)) ∨
        ∃ neg, rangeTail p neg v ts' = some res) := by
  unfold cmpTail at h
  split at h
  · next s ts' =>
    split at h
    · next hs =>
      subst hs
      split at h
      · exact .inr ⟨[.not_, .like], _, rfl, .inl ⟨_, cmpOne_inv h⟩⟩
      · exact .inr ⟨[.not_, .regexp], _, rfl, .inl ⟨_, cmpOne_inv h⟩⟩
      · exact .inr ⟨[.not_, .between], _, rfl, .inr ⟨true, h⟩⟩
      · exact absurd h (by simp)
    · split at h
      · exact .inr ⟨[s], _, rfl, .inr ⟨false, h⟩⟩
      · split at h
        · exact .inr ⟨[s], _, rfl, .inl ⟨_, cmpOne_inv h⟩⟩
        · exact .inl (Option.some.inj h).symm
  · exact .inl (Option.some.inj h).symm

theorem unaryOrPrim_inv {ts : List Tok} {res : PRes} (h : unaryOrPrim p ts = some res) :
    (∃ s u x r ts', ts = .sym s :: ts' ∧ p (.lvl lUnary) ts' = some (x, r) ∧ res = (mkUnary u x, r)) ∨
    (∃ x r ts', ts = .sym .lp :: ts' ∧ p (.lvl lOr) ts' = some (x, .sym .rp :: r) ∧ res = (.paren x, r)) ∨
    (∃ s r, ts = .sym s :: r ∧ (res = (.null, r) ∨ ∃ b, res = (.bool b, r))) ∨
    (∃ ty v r, ts = .lit ty v :: r ∧ res = (.val ty v, r)) ∨
    (∃ n r, ts = .id n :: .sym .lp :: .sym .rp :: r ∧ res = (.func n [], r)) ∨
    (∃ n ts', ts = .id n :: .sym .lp :: ts' ∧ p (.args n []) ts' = some res) ∨
    (∃ n r, ts = .id n :: r ∧ res = (.col n, r)) := by
  unfold unaryOrPrim at h
  split at h
  · next s ts' =>
    split at h
    · next u _ =>
      simp only [Option.bind_eq_bind, Option.bind_eq_some_iff, Option.some.injEq] at h
      obtain ⟨⟨x, r⟩, h1, rfl⟩ := h
      exact .inl ⟨s, u, x, r, ts', rfl, h1, rfl⟩
    · split at h
      · next hs =>
        subst hs
        simp only [Option.bind_eq_bind, Option.bind_eq_some_iff] at h
        obtain ⟨⟨x, r1⟩, h1, h⟩ := h
        split at h
        · next heq => exact .inr (.inl ⟨x, _, ts', rfl, heq ▸ h1, (Option.some.inj h).symm⟩)
        · exact absurd h (by simp)
      · split at h
        · exact .inr (.inr (.inl ⟨s, ts', rfl, .inl (Option.some.inj h).symm⟩))
        · split at h
          · exact .inr (.inr (.inl ⟨s, ts', rfl, .inr ⟨_, (Option.some.inj h).symm⟩⟩))
          · split at h
            · exact .inr (.inr (.inl ⟨s, ts', rfl, .inr ⟨_, (Option.some.inj h).symm⟩⟩))
            · exact absurd h (by simp)
  · exact .inr (.inr (.inr (.inl ⟨_, _, _, rfl, (Option.some.inj h).symm⟩)))
  · exact .inr (.inr (.inr (.inr (.inl ⟨_, _, rfl, (Option.some.inj h).symm⟩))))
  · exact .inr (.inr (.inr (.inr (.inr (.inl ⟨_, _, rfl, h⟩)))))
  · exact .inr (.inr (.inr (.inr (.inr (.inr ⟨_, _, rfl, (Option.some.inj h).symm⟩)))))
  · exact absurd h (by simp)

theorem bin2At_level {L : Nat} {s : Sym} {b : Bin2} (h : bin2At L s = some b) : b.level = L := by
  unfold bin2At at h
  split at h
  · split at h
    · next hl => exact Option.some.inj h ▸ hl
    · exact absurd h (by simp)
  · exact absurd h (by simp)

theorem lv_mk (b : Bin2) (l r : Expr) : lv (b.mk l r) = b.level := by cases b <;> rfl

theorem producible_mk {b : Bin2} {l r : Expr} (pl : Producible l) (pr : Producible r) (hl : b.level ≤ lv l)
    (hr : b.level + 1 ≤ lv r) : Producible (b.mk l r) := by
  cases b with
  | or => exact .or pl pr hl hr
  | and => exact .and pl pr hl hr
  | bin o => exact .bin pl pr hl hr

theorem step_lvl_inv {L : Nat} {ts : List Tok} {res : PRes} (h : step p (.lvl L) ts = some res) :
    (L = lNot ∧ ((∃ ts' x r, ts = .sym .not_ :: ts' ∧ p (.lvl lNot) ts' = some (x, r) ∧ res = (.not x, r)) ∨
      p (.lvl (lNot + 1)) ts = some res)) ∨
    (L = lCmp ∧ ∃ v r1 c r2, p (.lvl (lCmp + 1)) ts = some (v, r1) ∧ cmpTail p v r1 = some (c, r2) ∧
      p (.isLoop c) r2 = some res) ∨
    (lUnary ≤ L ∧ unaryOrPrim p ts = some res) ∨
    (L ≠ lNot ∧ L ≠ lCmp ∧ L < lUnary ∧ ∃ l r1, p (.lvl (L + 1)) ts = some (l, r1) ∧ p (.rest L l) r1 = some res) := by
  simp only [step] at h
  split at h
  · next h5 =>
    subst h5
    refine .inl ⟨rfl, ?_⟩
    split at h
    · simp only [Option.bind_eq_bind, Option.bind_eq_some_iff, Option.some.injEq] at h
      obtain ⟨⟨x, r⟩, h1, rfl⟩ := h
      exact .inl ⟨_, x, r, rfl, h1, rfl⟩
    · exact .inr h
  · split at h
    · next h7 =>
      subst h7
      simp only [Option.bind_eq_bind, Option.bind_eq_some_iff] at h
      obtain ⟨⟨v, r1⟩, h1, ⟨c, r2⟩, h2, h3⟩ := h
      exact .inr (.inl ⟨rfl, v, r1, c, r2, h1, h2, h3⟩)
    · split at h
      · next h14 => exact .inr (.inr (.inl ⟨h14, h⟩))
      · next h5 h7 h14 =>
        simp only [Option.bind_eq_bind, Option.bind_eq_some_iff] at h
        obtain ⟨⟨l, r1⟩, h1, h2⟩ := h
        exact .inr (.inr (.inr ⟨h5, h7, Nat.lt_of_not_le h14, l, r1, h1, h2⟩))

theorem step_rest_inv {L : Nat} {lhs : Expr} {ts : List Tok} {res : PRes} (h : step p (.rest L lhs) ts = some res) :
    res = (lhs, ts) ∨ ∃ s b ts' x r1, ts = .sym s :: ts' ∧ bin2At L s = some b ∧ p (.lvl (L + 1)) ts' = some (x, r1) ∧
      p (.rest L (b.mk lhs x)) r1 = some res := by
  simp only [step] at h
  split at h
  · next s ts' =>
    split at h
    · next b hb =>
      simp only [Option.bind_eq_bind, Option.bind_eq_some_iff] at h
      obtain ⟨⟨x, r1⟩, h1, h2⟩ := h
      exact .inr ⟨s, b, ts', x, r1, rfl, hb, h1, h2⟩
    · exact .inl (Option.some.inj h).symm
  · exact .inl (Option.some.inj h).symm

theorem step_isLoop_inv {e : Expr} {ts : List Tok} {res : PRes} (h : step p (.isLoop e) ts = some res) :
    res = (e, ts) ∨ ∃ ts' op r1, ts = .sym .is_ :: ts' ∧ isSuffix ts' = some (op, r1) ∧
      p (.isLoop (.is op e)) r1 = some res := by
  simp only [step] at h
  split at h
  · next ts' =>
    split at h
    · next op r1 h1 => exact .inr ⟨ts', op, r1, rfl, h1, h⟩
    · exact absurd h (by simp)
  · exact .inl (Option.some.inj h).symm

theorem step_args_inv {n : Bytes} {acc : List Expr} {ts : List Tok} {res : PRes} (h : step p (.args n acc) ts = some res) :
    ∃ x r2, (p (.lvl lOr) ts = some (x, .sym .comma :: r2) ∧ p (.args n (x :: acc)) r2 = some res) ∨
      (p (.lvl lOr) ts = some (x, .sym .rp :: r2) ∧ res = (.func n (x :: acc).reverse, r2)) := by
  simp only [step, Option.bind_eq_bind, Option.bind_eq_some_iff] at h
  obtain ⟨⟨x, r1⟩, h1, h⟩ := h
  split at h
  · next heq => exact ⟨x, _, .inl ⟨heq ▸ h1, h⟩⟩
  · next heq => exact ⟨x, _, .inr ⟨heq ▸ h1, (Option.some.inj h).symm⟩⟩
  · exact absurd h (by simp)

end

end AcraModel.Sql.Expr
