import AcraModel.Sql.Shape
/-!
Helper lemmas for the redaction model (C16): literals of trees, decimal names, the pigeonhole
argument behind `newName`, and the two traversal facts: `walk` keeps a tree covered (`walk_covered`), and the masking
walk leaves a covered tree without literals (`maskWalk_lits`).
The property theorems themselves are in `Props/C16.lean`.
-/
namespace AcraModel.Sql
open AcraModel

theorem litsList_append (a b : List Tree) : litsList (a ++ b) = litsList a ++ litsList b := by
  induction a with
  | nil => simp [litsList]
  | cons x xs ih => simp [litsList, ih, List.append_assoc]

theorem litsList_drop_nil (l : List Tree) (n : Nat) (h : litsList l = []) : litsList (l.drop n) = [] := by
  have := litsList_append (l.take n) (l.drop n)
  rw [List.take_append_drop, h] at this
  exact (List.append_eq_nil_iff.mp this.symm).2

theorem sqlVal?_kind {k : String} {ks : List Tree} {r : Nat × Bytes} (h : sqlVal? (.node k ks) = some r) : k = "SQLVal" := by
  unfold sqlVal? at h
  split at h
  · next heq => cases heq; rfl
  · cases h

theorem sqlVal?_of_ne {k : String} {ks : List Tree} (h : k ≠ "SQLVal") : sqlVal? (.node k ks) = none := by
  cases hs : sqlVal? (.node k ks) with
  | none => rfl
  | some r => exact absurd (sqlVal?_kind hs) h

theorem isLiteral_false_of_kind {k : String} {ks : List Tree} (h : k ≠ "SQLVal") : isLiteral (.node k ks) = false := by
  rw [isLiteral, sqlVal?_of_ne h]

theorem lits_node_not_literal {k : String} {ks : List Tree} (h : isLiteral (.node k ks) = false) :
    lits (.node k ks) = litsList ks := by
  rw [lits, h]; simp

theorem lits_node_of_ne {k : String} {ks : List Tree} (h : k ≠ "SQLVal") : lits (.node k ks) = litsList ks :=
  lits_node_not_literal (isLiteral_false_of_kind h)

def digitsVal (b : Bytes) : Nat := b.foldl (fun a c => a * 10 + (c.toNat - 48)) 0

theorem digitsVal_append_single (l : Bytes) (d : UInt8) : digitsVal (l ++ [d]) = digitsVal l * 10 + (d.toNat - 48) := by
  simp [digitsVal, List.foldl_append]

theorem digitsVal_decDigits (fuel n : Nat) (h : n < fuel) : digitsVal (decDigits fuel n) = n := by
  induction fuel generalizing n with
  | zero => omega
  | succ f ih =>
    unfold decDigits
    by_cases h10 : n < 10
    · simp only [h10, if_true]
      simp [digitsVal]
      omega
    · simp only [h10, if_false]
      rw [digitsVal_append_single, ih (n / 10) (by omega), digit_toNat (d := n % 10) (by omega), Nat.add_sub_cancel_left]
      omega

theorem natDec_inj {a b : Nat} (h : natDec a = natDec b) : a = b := by
  have ha := digitsVal_decDigits (a + 1) a (by omega)
  have hb := digitsVal_decDigits (b + 1) b (by omega)
  unfold natDec at h
  rw [h] at ha
  omega

theorem nameOf_inj (pfx : Bytes) {a b : Nat} (h : nameOf pfx a = nameOf pfx b) : a = b := by
  unfold nameOf at h
  exact natDec_inj (List.append_cancel_left h)

theorem exists_free (pfx : Bytes) (reserved : List Bytes) (c : Nat) :
    ∃ j, j < reserved.length + 1 ∧ nameOf pfx (c + j) ∉ reserved := by
  apply Classical.byContradiction
  intro hno
  have hall : ∀ j, j < reserved.length + 1 → nameOf pfx (c + j) ∈ reserved :=
    fun j hj => Classical.byContradiction fun hn => hno ⟨j, hj, hn⟩
  let L := (List.range (reserved.length + 1)).map (fun j => nameOf pfx (c + j))
  have hnd : L.Nodup :=
    List.pairwise_map.mpr ((List.nodup_range (n := reserved.length + 1)).imp fun hxy e => hxy (by have := nameOf_inj pfx e; omega))
  have := hnd.length_le_of_subset (l₂ := reserved) fun x hx => by
    obtain ⟨j, hj, rfl⟩ := List.mem_map.mp hx
    exact hall j (List.mem_range.mp hj)
  simp [L] at this
  omega

theorem newNameAux_fresh (pfx : Bytes) (reserved : List Bytes) :
    ∀ (fuel c : Nat), (∃ j, j < fuel ∧ nameOf pfx (c + j) ∉ reserved) →
      (newNameAux pfx reserved fuel c).1 ∉ reserved ∧
      (newNameAux pfx reserved fuel c).1 = nameOf pfx (newNameAux pfx reserved fuel c).2 ∧
      c ≤ (newNameAux pfx reserved fuel c).2 := by
  intro fuel
  induction fuel with
  | zero => intro c ⟨j, hj, _⟩; omega
  | succ f ih =>
    intro c ⟨j, hj, hfree⟩
    unfold newNameAux
    split <;> rename_i hc
    · cases j with
      | zero => exact absurd (List.contains_iff_mem.mp hc) hfree
      | succ j =>
        have := ih (c + 1) ⟨j, by omega, by rw [Nat.add_right_comm]; exact hfree⟩
        exact ⟨this.1, this.2.1, by omega⟩
    · exact ⟨fun hm => hc (List.contains_iff_mem.mpr hm), rfl, Nat.le_refl _⟩

/-! ## covered trees

`covered t`: every literal of `t` sits where the traversal goes – below every node, a child that
`walkSubtree` does not visit holds no literal, and an `SQLVal` holds none besides itself (its `unknown`
operand). On real ASTs this is what `fact_walk_covers_children` (regenerated table) plus the grammar
give; the harness checks it on every parsed statement. -/

mutual
def covered : Tree → Bool
  | .atom _ => true
  | .node k ks => if k == "SQLVal" then (litsList ks).isEmpty else coveredKids (walkSpec k) 0 ks
def coveredKids (spec : WalkSpec) (i : Nat) : List Tree → Bool
  | [] => true
  | c :: cs => (if spec.visits i then covered c else (lits c).isEmpty) && coveredKids spec (i + 1) cs
end

/-- literals of a child list, not counting position `skip` (counted from `i`) -/
def litsExcept (skip : Option Nat) (i : Nat) : List Tree → List Bytes
  | [] => []
  | c :: cs => (if skip == some i then [] else lits c) ++ litsExcept skip (i + 1) cs

theorem litsExcept_none (i : Nat) (l : List Tree) : litsExcept none i l = litsList l := by
  induction l generalizing i with
  | nil => rfl
  | cons c cs ih => simp [litsExcept, litsList, ih]

theorem litsExcept_of_lt {i m : Nat} (h : i < m) (l : List Tree) : litsExcept (some i) m l = litsList l := by
  induction l generalizing m with
  | nil => rfl
  | cons d ds ih => simp [litsExcept, litsList, ih (Nat.lt_succ_of_lt h), Nat.ne_of_lt h]

theorem litsList_set (l : List Tree) (j i : Nat) (la : Tree) (hla : lits la = []) :
    litsList (l.set j la) = litsExcept (some (i + j)) i l := by
  induction l generalizing j i with
  | nil => rfl
  | cons c cs ih =>
    cases j with
    | zero => simp [litsList, litsExcept, hla, litsExcept_of_lt (Nat.lt_succ_self i)]
    | succ j' =>
      have : litsList (cs.set j' la) = litsExcept (some (i + (j' + 1))) (i + 1) cs := by
        rw [ih j' (i + 1), Nat.add_right_comm]; rfl
      simp [litsList, litsExcept, this]

/-- inclusion of one list of kinds in another, in the form the table facts are evaluated in -/
theorem contains_of_all {a b : List Nat} (h : a.all (fun x => b.contains x) = true) (ty : Nat)
    (hty : a.contains ty = true) : b.contains ty = true :=
  List.all_eq_true.mp h ty (by simpa using hty)

/-- What the traversal proofs need from the regenerated tables (proved in `Props/C16.lean`). -/
structure TableFacts : Prop where
  /-- every literal `ValType` is one that `maskLiterals` replaces -/
  lit_masked : ∀ ty, literalKinds.contains ty = true → maskedKinds.contains ty = true
  /-- the placeholder type `ValArg` is not a literal type -/
  valarg_not_lit : literalKinds.contains valArgNo = false
  /-- the decimal rendering of the `ValArg` number reads back -/
  valarg_dec : decVal (natDec valArgNo) = some valArgNo
  /-- a list argument is a leaf for the traversal -/
  listarg_leaf : walkSpec "ListArg" = .idx []

theorem sqlVal?_mk (ty : Nat) (v : Bytes) (rest : List Tree) :
    sqlVal? (mkSqlVal ty v rest) = (decVal (natDec ty)).map fun n => (n, v) := by
  simp [mkSqlVal, sqlVal?]

theorem lits_mkValArg (F : TableFacts) (v : Bytes) (rest : List Tree) :
    lits (mkSqlVal valArgNo v rest) = litsList rest := by
  have hs := sqlVal?_mk valArgNo v rest
  rw [F.valarg_dec] at hs
  have hl : isLiteral (mkSqlVal valArgNo v rest) = false := by
    unfold isLiteral; rw [hs]; simpa using F.valarg_not_lit
  unfold mkSqlVal at hl ⊢
  rw [lits_node_not_literal hl]
  simp [litsList, lits]

theorem covered_mkSqlVal (ty : Nat) (v : Bytes) (rest : List Tree) (h : litsList rest = []) :
    covered (mkSqlVal ty v rest) = true := by
  simp [mkSqlVal, covered, litsList, lits, h]

theorem isLiteral_false_of_not_masked (F : TableFacts) (t : Tree) (h : isMasked t = false) :
    isLiteral t = false := by
  unfold isLiteral
  unfold isMasked at h
  split
  · next ty v hs =>
    simp only [hs] at h
    exact Bool.eq_false_iff.mpr fun hl => by rw [F.lit_masked _ hl] at h; cases h
  · rfl

theorem maskVal_lits (F : TableFacts) (pfx : Bytes) (k : String) (ks : List Tree) (s : St)
    (h : litsList ks = []) : lits (maskVal pfx (.node k ks) s).1 = [] := by
  unfold maskVal
  split <;> rename_i hc
  · rw [lits_mkValArg F]
    exact litsList_drop_nil ks 2 h
  · rw [lits_node_not_literal (isLiteral_false_of_not_masked F _ (by simpa using hc)), h]

mutual
theorem maskWalk_lits (F : TableFacts) (pfx : Bytes) :
    ∀ (t : Tree) (s : St), covered t = true → lits (maskWalk pfx t s).1 = []
  | .atom b, s, _ => by simp [maskWalk, lits]
  | .node k ks, s, h => by
    rw [covered] at h
    rw [maskWalk.eq_2]
    split <;> rename_i hk
    · exact maskVal_lits F pfx k ks s (by simpa [hk] using h)
    · rw [if_neg hk] at h
      rw [lits_node_of_ne (by simpa using hk)]
      exact maskKids_lits F pfx (walkSpec k) 0 ks s h
theorem maskKids_lits (F : TableFacts) (pfx : Bytes) (spec : WalkSpec) :
    ∀ (i : Nat) (ks : List Tree) (s : St), coveredKids spec i ks = true →
      litsList (maskKids pfx spec i ks s).1 = []
  | _, [], _, _ => by simp [maskKids, litsList]
  | i, c :: cs, s, h => by
    rw [coveredKids, Bool.and_eq_true] at h
    obtain ⟨h1, h2⟩ := h
    rw [maskKids.eq_2]
    simp only [litsList]
    rw [maskKids_lits F pfx spec (i + 1) cs _ h2, List.append_nil]
    by_cases hv : spec.visits i = true
    · rw [if_pos hv] at h1 ⊢; exact maskWalk_lits F pfx c s h1
    · rw [if_neg hv] at h1 ⊢; simpa using h1
end

/-- `maskLiterals`, `convertSQLVal` and `convertSQLValDedup` on one `SQLVal`: it is left as it is, or – when its kind qualifies –
a placeholder takes the place of its type and value -/
theorem maskVal_cases (pfx : Bytes) (t : Tree) (s : St) :
    (maskVal pfx t s).1 = t ∨ (isMasked t = true ∧ ∃ v, (maskVal pfx t s).1 = mkSqlVal valArgNo v (t.kids.drop 2)) := by
  unfold maskVal
  split
  · next h => exact .inr ⟨h, _, rfl⟩
  · exact .inl rfl

theorem convert_cases (valid : Validator) (pfx : Bytes) (t : Tree) (s : St) :
    (convert valid pfx t s).1 = t ∨
      (isConvertible valid t = true ∧ ∃ v, (convert valid pfx t s).1 = mkSqlVal valArgNo v (t.kids.drop 2)) := by
  unfold convert
  split
  · next h => exact .inr ⟨h, _, rfl⟩
  · exact .inl rfl

theorem convertDedup_cases (valid : Validator) (pfx : Bytes) (t : Tree) (s : St) :
    (convertDedup valid pfx t s).1 = t ∨
      (isConvertible valid t = true ∧ ∃ v, (convertDedup valid pfx t s).1 = mkSqlVal valArgNo v (t.kids.drop 2)) := by
  unfold convertDedup
  split
  · exact .inl rfl
  · split
    · exact convert_cases valid pfx t s
    · split
      · exact .inl rfl
      · next hc =>
        refine .inr ⟨by simpa using hc, ?_⟩
        simp only []
        split <;> exact ⟨_, rfl⟩

/-- an `SQLVal` with no literal below it stays covered under such a rewriting -/
theorem covered_of_cases {k : String} {ks : List Tree} {r : Tree} {c : Prop} (hk : (k == "SQLVal") = true)
    (h : litsList ks = []) (hr : r = .node k ks ∨ (c ∧ ∃ v, r = mkSqlVal valArgNo v (ks.drop 2))) : covered r = true := by
  rcases hr with rfl | ⟨-, v, rfl⟩
  · simp [covered, hk, h]
  · exact covered_mkSqlVal _ _ _ (litsList_drop_nil ks 2 h)

/-- when `walk` replaces a child of a node: the node is an IN / NOT IN comparison with a tuple of convertible values on the
right, and a list argument takes the place of the tuple -/
theorem cmp_some {valid : Validator} {pfx : Bytes} {k : String} {ks : List Tree} {s s1 : St} {i : Nat} {la : Tree}
    (h : (if (k == "ComparisonExpr") = true then convertComparison valid pfx ks s else (none, s)) = (some (i, la), s1)) :
    k = "ComparisonExpr" ∧ i = cmpRightIdx ∧ (∃ n, la = .node "ListArg" [.atom n]) ∧
      isInOp (ks.getD cmpOpIdx (.atom [])) = true ∧
      ∃ items, ks.getD cmpRightIdx (.atom []) = .node "ValTuple" items ∧ items.all (isConvertible valid) = true := by
  split at h <;> rename_i hk
  · unfold convertComparison at h
    simp only at h
    split at h
    · cases h
    · next hop =>
      split at h
      · next items hr =>
        split at h
        · next hall =>
          -- `cases h` would evaluate `cmpRightIdx`
          simp only [Prod.mk.injEq, Option.some.injEq] at h
          exact ⟨by simpa using hk, h.1.1.symm, ⟨_, h.1.2.symm⟩,
            (by decide : ∀ a b : Bool, ¬(!a && !b) = true → (a || b) = true) _ _ hop, items, hr, hall⟩
        · cases h
      · cases h
  · cases h

theorem listArg_props (F : TableFacts) (n : Bytes) :
    covered (.node "ListArg" [.atom n]) = true ∧ lits (.node "ListArg" [.atom n]) = [] := by
  constructor
  · rw [covered]
    simp only [show ("ListArg" == "SQLVal") = false by decide, Bool.false_eq_true, if_false]
    rw [F.listarg_leaf]
    simp [coveredKids, WalkSpec.visits, lits]
  · simp [lits, isLiteral, sqlVal?, litsList]

theorem coveredKids_set (spec : WalkSpec) (la : Tree) (hc : covered la = true) (hl : lits la = []) :
    ∀ (i j : Nat) (l : List Tree), coveredKids spec i l = true → coveredKids spec i (l.set j la) = true
  | _, _, [], _ => by simp [coveredKids]
  | i, 0, c :: cs, h => by
    rw [coveredKids, Bool.and_eq_true] at h
    rw [List.set_cons_zero, coveredKids, Bool.and_eq_true]
    refine ⟨?_, h.2⟩
    split <;> simp [hc, hl]
  | i, j + 1, c :: cs, h => by
    rw [coveredKids, Bool.and_eq_true] at h
    rw [List.set_cons_succ, coveredKids, Bool.and_eq_true]
    exact ⟨h.1, coveredKids_set spec la hc hl (i + 1) j cs h.2⟩

mutual
theorem walk_covered (F : TableFacts) (valid : Validator) (pfx : Bytes) (sel : Bool) :
    ∀ (t : Tree) (s : St), covered t = true → covered (walk valid pfx sel t s).1 = true
  | .atom b, s, _ => by simp [walk, covered]
  | .node k ks, s, h => by
    rw [covered] at h
    rw [walk.eq_2]
    split <;> rename_i hk
    · have hks : litsList ks = [] := by simpa [hk] using h
      split
      · exact covered_of_cases hk hks (convertDedup_cases valid pfx _ s)
      · exact covered_of_cases hk hks (convert_cases valid pfx _ s)
    · rw [if_neg hk] at h
      generalize hc : (if (k == "ComparisonExpr") = true then convertComparison valid pfx ks s else (none, s)) = c
      obtain ⟨co, s1⟩ := c
      have hkids := walkKids_covered F valid pfx (sel || k == "Select") (walkSpec k) (co.map (·.1)) 0 ks s1 h
      rw [covered, if_neg hk]
      cases co with
      | none => exact hkids
      | some p =>
        obtain ⟨i, la⟩ := p
        obtain ⟨-, -, ⟨n, rfl⟩, -⟩ := cmp_some hc
        exact coveredKids_set _ _ (listArg_props F n).1 (listArg_props F n).2 0 _ _ hkids
theorem walkKids_covered (F : TableFacts) (valid : Validator) (pfx : Bytes) (sel : Bool) (spec : WalkSpec) (skip : Option Nat) :
    ∀ (i : Nat) (ks : List Tree) (s : St), coveredKids spec i ks = true →
      coveredKids spec i (walkKids valid pfx sel spec skip i ks s).1 = true
  | _, [], _, _ => by simp [walkKids, coveredKids]
  | i, c :: cs, s, h => by
    rw [coveredKids, Bool.and_eq_true] at h
    rw [walkKids.eq_2, coveredKids, Bool.and_eq_true]
    refine ⟨?_, walkKids_covered F valid pfx sel spec skip (i + 1) cs _ h.2⟩
    by_cases hv : spec.visits i = true
    · by_cases hsk : (skip != some i) = true
      · simp only [hv, hsk, Bool.and_self, if_true]
        exact walk_covered F valid pfx sel c s (by simpa [hv] using h.1)
      · simp only [hv, hsk, Bool.and_false, Bool.false_eq_true, if_false]
        simpa [hv] using h.1
    · simp only [hv, Bool.false_and, Bool.false_eq_true, if_false]
      simpa [hv] using h.1
end

end AcraModel.Sql
