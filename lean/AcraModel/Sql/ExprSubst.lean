import AcraModel.Sql.ExprLemmas
/-!
# Substitution of `SQLVal` leaves preserves producibility, and changes the printed text only at those leaves (C13)
-/
namespace AcraModel.Sql.Expr
open AcraModel

/-- a substitution of values that keeps literals well-formed and never turns a non-`IntVal` into an `IntVal`
(the rules for unary `+`/`-` fold an `IntVal` operand into the literal, so an `IntVal` must not appear under them) -/
structure SubstOk (σ : Nat → Bytes → Nat × Bytes) : Prop where
  lit : ∀ ty v, LitOk ty v → LitOk (σ ty v).1 (σ ty v).2
  int : ∀ ty v, (σ ty v).1 = tyInt → ty = tyInt

theorem lv_subst (σ : Nat → Bytes → Nat × Bytes) (t : Expr) : lv (subst σ t) = lv t := by
  cases t <;> simp [subst, lv]

theorem isIntVal_subst {σ : Nat → Bytes → Nat × Bytes} (h : SubstOk σ) (t : Expr) :
    t.isIntVal = false → (subst σ t).isIntVal = false := by
  cases t with
  | val ty v =>
    intro hh
    simp only [subst, Expr.isIntVal] at hh ⊢
    cases hb : ((σ ty v).1 == tyInt) with
    | false => rfl
    | true =>
      have := h.int ty v (beq_iff_eq.mp hb)
      rw [this] at hh; simp at hh
  | _ => intro _; simp [subst, Expr.isIntVal]

mutual
theorem producible_subst_aux {σ : Nat → Bytes → Nat × Bytes} (h : SubstOk σ) :
    (t : Expr) → Producible t → Producible (subst σ t)
  | .val ty v, .val hok => by rw [subst]; exact .val (h.lit ty v hok)
  | .null, _ => by rw [subst]; exact .null
  | .bool b, _ => by rw [subst]; exact .bool
  | .col n, _ => by rw [subst]; exact .col
  | .func n as, .func ha => by rw [subst]; exact .func (producible_substArgs h as ha)
  | .paren e, .paren pe => by rw [subst]; exact .paren (producible_subst_aux h e pe)
  | .and l r, .and pl pr hl hr => by
    rw [subst]
    exact .and (producible_subst_aux h l pl) (producible_subst_aux h r pr) (lv_subst σ l ▸ hl) (lv_subst σ r ▸ hr)
  | .or l r, .or pl pr hl hr => by
    rw [subst]
    exact .or (producible_subst_aux h l pl) (producible_subst_aux h r pr) (lv_subst σ l ▸ hl) (lv_subst σ r ▸ hr)
  | .not e, .not pe hl => by rw [subst]; exact .not (producible_subst_aux h e pe) (lv_subst σ e ▸ hl)
  | .is op e, .is pe hl => by rw [subst]; exact .is (producible_subst_aux h e pe) (lv_subst σ e ▸ hl)
  | .cmp op l r, .cmp pl pr hl hr => by
    rw [subst]
    exact .cmp (producible_subst_aux h l pl) (producible_subst_aux h r pr) (lv_subst σ l ▸ hl) (lv_subst σ r ▸ hr)
  | .range n l lo hi, .range pl plo phi hl hlo hhi => by
    rw [subst]
    exact .range (producible_subst_aux h l pl) (producible_subst_aux h lo plo) (producible_subst_aux h hi phi)
      (lv_subst σ l ▸ hl) (lv_subst σ lo ▸ hlo) (lv_subst σ hi ▸ hhi)
  | .bin o l r, .bin pl pr hl hr => by
    rw [subst]
    exact .bin (producible_subst_aux h l pl) (producible_subst_aux h r pr) (lv_subst σ l ▸ hl) (lv_subst σ r ▸ hr)
  | .un o e, .un pe hl hf => by
    rw [subst]
    exact .un (producible_subst_aux h e pe) (lv_subst σ e ▸ hl) (fun hh => isIntVal_subst h e (hf hh))
theorem producible_substArgs {σ : Nat → Bytes → Nat × Bytes} (h : SubstOk σ) :
    (as : List Expr) → (∀ a, a ∈ as → Producible a) → ∀ a, a ∈ substArgs σ as → Producible a
  | [], _ => by intro a ha; simp [substArgs] at ha
  | e :: es, hall => by
    intro a ha
    rw [substArgs] at ha
    simp only [List.mem_cons] at ha
    rcases ha with rfl | ha
    · exact producible_subst_aux h e (hall e (by simp))
    · exact producible_substArgs h es (fun x hx => hall x (by simp [hx])) a ha
end

/-- replace the literal lexemes, keep every other lexeme -/
def substLex (σ : Nat → Bytes → Nat × Bytes) : Lex → Lex
  | .lit ty v => .lit (σ ty v).1 (σ ty v).2
  | l => l

theorem isUn_subst (σ : Nat → Bytes → Nat × Bytes) (e : Expr) : (subst σ e).isUn = e.isUn := by
  cases e <;> simp [subst, Expr.isUn]

theorem map_symsLex (σ : Nat → Bytes → Nat × Bytes) (ss : List Sym) : (symsLex ss).map (substLex σ) = symsLex ss := by
  induction ss with
  | nil => rfl
  | cons s ss ih =>
    cases ss with
    | nil => simp [symsLex, substLex]
    | cons s' ss' => rw [symsLex, List.map_cons, List.map_cons, ih]; simp [substLex]; simp

theorem map_unLex (σ : Nat → Bytes → Nat × Bytes) (o : UnOp) : o.lex.map (substLex σ) = o.lex := by
  cases o <;> simp [UnOp.lex, substLex]

mutual
theorem format_subst (σ : Nat → Bytes → Nat × Bytes) : (t : Expr) → format (subst σ t) = (format t).map (substLex σ)
  | .val ty v => by simp [subst, format, substLex]
  | .null => by simp [subst, format, substLex]
  | .bool b => by simp [subst, format, substLex]
  | .col n => by simp [subst, format, substLex]
  | .func n as => by simp [subst, format, substLex, formatArgs_subst σ as]
  | .paren e => by simp [subst, format, substLex, format_subst σ e]
  | .and l r => by simp [subst, format, substLex, format_subst σ l, format_subst σ r]
  | .or l r => by simp [subst, format, substLex, format_subst σ l, format_subst σ r]
  | .not e => by simp [subst, format, substLex, format_subst σ e]
  | .is op e => by simp [subst, format, substLex, format_subst σ e, map_symsLex]
  | .cmp op l r => by simp [subst, format, substLex, format_subst σ l, format_subst σ r, map_symsLex]
  | .range n l lo hi => by
    cases n <;> simp [subst, format, substLex, format_subst σ l, format_subst σ lo, format_subst σ hi]
  | .bin o l r => by simp [subst, format, substLex, format_subst σ l, format_subst σ r]
  | .un o e => by
    cases h : e.isUn <;> simp [subst, format, substLex, format_subst σ e, map_unLex, isUn_subst, h]
theorem formatArgs_subst (σ : Nat → Bytes → Nat × Bytes) :
    (as : List Expr) → formatArgs (substArgs σ as) = (formatArgs as).map (substLex σ)
  | [] => by simp [substArgs, formatArgs]
  | [e] => by simp [substArgs, formatArgs, format_subst σ e]
  | e :: e' :: es => by
    have := formatArgs_subst σ (e' :: es)
    simp only [substArgs] at this ⊢
    simp [formatArgs, format_subst σ e, this, substLex]
end

end AcraModel.Sql.Expr
