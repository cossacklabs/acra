import AcraModel.Sql.ExprSound
/-!
# Token conservation of the expression fragment (C13)

`lexemes ts` – the value-carrying tokens of a token list (literals and identifiers; keywords, operators and punctuation
carry nothing beyond what the tree node itself records). `parse_keeps_lexemes`: whatever the expression parser accepts,
the printed form of the tree it returns has exactly the value-carrying tokens of the input, in the same order – no
literal and no identifier is lost, duplicated, reordered or invented between the text received and the text sent on.

The proof follows the rules of `step` read backwards (`ExprLemmas.lean`), like `ExprSound.lean`: `Keeps p` – every result of `p` satisfies the conservation
invariant of its mode; `step` preserves it (given soundness, which the sign folding of `mkUnary` needs: an `IntVal` has
at most one `-`).
-/
namespace AcraModel.Sql.Expr
open AcraModel

def Tok.carriesValue : Tok → Bool
  | .sym _ => false
  | _ => true

/-- the value-carrying tokens: literals and identifiers -/
def lexemes (ts : List Tok) : List Tok := ts.filter Tok.carriesValue

theorem lexemes_append (a b : List Tok) : lexemes (a ++ b) = lexemes a ++ lexemes b := by
  simp [lexemes, List.filter_append]

@[simp] theorem lexemes_nil : lexemes [] = [] := rfl
@[simp] theorem lexemes_sym (s : Sym) (ts : List Tok) : lexemes (.sym s :: ts) = lexemes ts := by
  simp [lexemes, List.filter_cons, Tok.carriesValue]
@[simp] theorem lexemes_lit (ty : Nat) (v : Bytes) (ts : List Tok) : lexemes (.lit ty v :: ts) = .lit ty v :: lexemes ts := by
  simp [lexemes, List.filter_cons, Tok.carriesValue]
@[simp] theorem lexemes_id (n : Bytes) (ts : List Tok) : lexemes (.id n :: ts) = .id n :: lexemes ts := by
  simp [lexemes, List.filter_cons, Tok.carriesValue]

theorem lexemes_syms (ss : List Sym) : lexemes (ss.map .sym) = [] := by
  induction ss with
  | nil => rfl
  | cons s ss ih => simp [ih]

/-- the value-carrying tokens of the printed tree -/
def leaves (e : Expr) : List Tok := lexemes (toks e)

theorem leaves_not (e : Expr) : leaves (.not e) = leaves e := by simp [leaves, toks_not]
theorem leaves_paren (e : Expr) : leaves (.paren e) = leaves e := by simp [leaves, toks_paren, lexemes_append]
theorem leaves_is (op : IsOp) (e : Expr) : leaves (.is op e) = leaves e := by
  simp [leaves, toks_is, lexemes_append, lexemes_syms]
theorem leaves_cmp (op : CmpOp) (l r : Expr) : leaves (.cmp op l r) = leaves l ++ leaves r := by
  simp [leaves, toks_cmp, lexemes_append, lexemes_syms]
theorem leaves_range (neg : Bool) (l lo hi : Expr) : leaves (.range neg l lo hi) = leaves l ++ (leaves lo ++ leaves hi) := by
  cases neg <;> simp [leaves, toks_range, lexemes_append]
theorem leaves_mk (b : Bin2) (l r : Expr) : leaves (b.mk l r) = leaves l ++ leaves r := by
  simp [leaves, toks_mk, lexemes_append]
theorem leaves_un (op : UnOp) (e : Expr) : leaves (.un op e) = leaves e := by simp [leaves, toks_un]
theorem leaves_null : leaves .null = [] := by simp [leaves, toks_null]
theorem leaves_bool (b : Bool) : leaves (.bool b) = [] := by simp [leaves, toks_bool]
theorem leaves_col (n : Bytes) : leaves (.col n) = [.id n] := by simp [leaves, toks_col]

/-- the arguments of a call, one after the other -/
def leavesArgs : List Expr → List Tok
  | [] => []
  | e :: es => leaves e ++ leavesArgs es

theorem lexemes_toksArgs : (as : List Expr) → lexemes (toksArgs as) = leavesArgs as
  | [] => by simp [toksArgs_nil, leavesArgs]
  | [e] => by simp [toksArgs_one, leavesArgs, leaves]
  | e :: e' :: es => by
    rw [toksArgs_cons2, lexemes_append, lexemes_sym, lexemes_toksArgs (e' :: es)]
    simp [leavesArgs, leaves]

theorem leaves_func (n : Bytes) (as : List Expr) : leaves (.func n as) = .id n :: leavesArgs as := by
  simp [leaves, toks_func, lexemes_append, lexemes_toksArgs]

theorem leavesArgs_append (a b : List Expr) : leavesArgs (a ++ b) = leavesArgs a ++ leavesArgs b := by
  induction a with
  | nil => rfl
  | cons e es ih => simp [leavesArgs, ih, List.append_assoc]

/-- a value is printed as one value-carrying token: its bytes, without the sign if it is a signed number -/
theorem leaves_val (ty : Nat) (v : Bytes) :
    leaves (.val ty v) = [.lit ty (if rawTy ty = true ∧ v.head? = some minusByte then v.tail else v)] := by
  unfold leaves
  rw [toks_val]
  cases v with
  | nil => simp
  | cons c w => by_cases hr : rawTy ty = true <;> by_cases hc : c = minusByte <;> simp [hr, hc]

theorem leaves_val_of_tokOk {ty : Nat} {v : Bytes} (h : TokOk (.lit ty v)) : leaves (.val ty v) = [.lit ty v] := by
  rw [leaves_val, if_neg fun hh => (h hh.1).2 hh.2]

/-- sign folding keeps the value-carrying tokens: `- 1` ↦ `-1`, `- -1` ↦ `1`, `+ 1` ↦ `1` all print the literal `1` -/
theorem leaves_mkUnary (u : UnOp) {e : Expr} (hp : Producible e) : leaves (mkUnary u e) = leaves e := by
  rcases mkUnary_cases u e with ⟨h, _⟩ | ⟨v, rfl, _, h | ⟨w, rfl, h⟩ | ⟨hv, h⟩⟩ <;> rw [h]
  · exact leaves_un u e
  · cases hp with
    | val hok =>
      have hw2 := ((hok (by decide)).2 rfl).2.2
      rw [leaves_val, leaves_val, if_neg fun hh => hw2 hh.2, if_pos ⟨by decide, rfl⟩]; rfl
  · rw [leaves_val, leaves_val, if_pos ⟨by decide, rfl⟩, if_neg fun hh => hv hh.2]; rfl

def KInv (m : Mode) (ts : List Tok) (r : PRes) : Prop :=
  match m with
  | .lvl _ => lexemes ts = leaves r.1 ++ lexemes r.2
  | .rest _ lhs => leaves lhs ++ lexemes ts = leaves r.1 ++ lexemes r.2
  | .isLoop e0 => leaves e0 ++ lexemes ts = leaves r.1 ++ lexemes r.2
  | .args n acc => .id n :: (leavesArgs acc.reverse ++ lexemes ts) = leaves r.1 ++ lexemes r.2

def Keeps (p : Mode → List Tok → Option PRes) : Prop :=
  ∀ m ts r, AllOk ts → p m ts = some r → KInv m ts r

theorem isSuffix_lexemes {ts r : List Tok} {op : IsOp} (h : isSuffix ts = some (op, r)) : lexemes ts = lexemes r := by
  unfold isSuffix at h
  split at h <;> first
    | (simp at h; obtain ⟨_, rfl⟩ := h; simp)
    | simp at h

section
variable {p : Mode → List Tok → Option PRes}

theorem rangeTail_keeps (hs : Sound p) (hk : Keeps p) {neg : Bool} {v c : Expr} {ts r : List Tok}
    (hok : AllOk ts) (h : rangeTail p neg v ts = some (c, r)) :
    leaves v ++ lexemes ts = leaves c ++ lexemes r := by
  obtain ⟨lo, r2, hi, _, h1, h2, ⟨⟩⟩ := rangeTail_inv h
  have k1 : lexemes ts = leaves lo ++ lexemes (.sym .and_ :: r2) := hk _ _ _ hok h1
  have k2 : lexemes r2 = leaves hi ++ lexemes r := hk _ _ _ (hs _ _ _ hok h1).2.tail h2
  rw [k1, lexemes_sym, k2, leaves_range, List.append_assoc, List.append_assoc]

theorem cmpTail_keeps (hs : Sound p) (hk : Keeps p) {v c : Expr} {ts r : List Tok}
    (hok : AllOk ts) (h : cmpTail p v ts = some (c, r)) :
    leaves v ++ lexemes ts = leaves c ++ lexemes r := by
  rcases cmpTail_inv h with ⟨⟨⟩⟩ | ⟨pre, ts', rfl, ⟨op, x, _, h1, ⟨⟩⟩ | ⟨neg, h1⟩⟩
  · rfl
  · have k1 : lexemes ts' = leaves x ++ lexemes r := hk _ _ _ (fun t ht => hok t (List.mem_append_right _ ht)) h1
    rw [lexemes_append, lexemes_syms, List.nil_append, k1, leaves_cmp, List.append_assoc]
  · rw [lexemes_append, lexemes_syms, List.nil_append]
    exact rangeTail_keeps hs hk (fun t ht => hok t (List.mem_append_right _ ht)) h1

theorem unaryOrPrim_keeps (hs : Sound p) (hk : Keeps p) {ts r : List Tok} {e : Expr} (hok : AllOk ts)
    (h : unaryOrPrim p ts = some (e, r)) : lexemes ts = leaves e ++ lexemes r := by
  rcases unaryOrPrim_inv h with ⟨s, u, x, _, ts', rfl, h1, ⟨⟩⟩ | ⟨x, _, ts', rfl, h1, ⟨⟩⟩ | ⟨s, _, rfl, he⟩ |
    ⟨ty, v, _, rfl, ⟨⟩⟩ | ⟨n, _, rfl, ⟨⟩⟩ | ⟨n, ts', rfl, h1⟩ | ⟨n, _, rfl, ⟨⟩⟩
  · obtain ⟨⟨px, _⟩, _⟩ := hs _ _ _ hok.tail h1
    have k1 : lexemes ts' = leaves x ++ lexemes r := hk _ _ _ hok.tail h1
    rw [lexemes_sym, k1, leaves_mkUnary u px]
  · have k1 : lexemes ts' = leaves x ++ lexemes (.sym .rp :: r) := hk _ _ _ hok.tail h1
    rw [lexemes_sym, k1, leaves_paren, lexemes_sym]
  · rcases he with ⟨⟨⟩⟩ | ⟨b, ⟨⟩⟩
    · simp [leaves_null]
    · simp [leaves_bool]
  · rw [lexemes_lit, leaves_val_of_tokOk hok.head]; rfl
  · simp [leaves_func, leavesArgs]
  · simpa [KInv, leavesArgs] using hk _ _ _ hok.tail.tail h1
  · simp [leaves_col]

theorem step_keeps (hs : Sound p) (hk : Keeps p) : Keeps (step p) := by
  intro m ts res hok h
  cases m with
  | lvl L =>
    show lexemes ts = leaves res.1 ++ lexemes res.2
    rcases step_lvl_inv h with ⟨rfl, ⟨ts', x, r, rfl, h1, rfl⟩ | h1⟩ | ⟨rfl, v, r1, c, r2, h1, h2, h3⟩ | ⟨_, h1⟩ |
      ⟨_, _, _, l, r1, h1, h2⟩
    · have k1 : lexemes ts' = leaves x ++ lexemes r := hk _ _ _ hok.tail h1
      rw [lexemes_sym, k1, leaves_not]
    · exact hk _ _ _ hok h1
    · obtain ⟨⟨pv, hv⟩, ok1⟩ := hs _ _ _ hok h1
      have k1 : lexemes ts = leaves v ++ lexemes r1 := hk _ _ _ hok h1
      have k3 : leaves c ++ lexemes r2 = _ := hk _ _ _ (cmpTail_sound hs pv (lvlV_of_inv hv) ok1 h2).2.2 h3
      rw [k1, cmpTail_keeps hs hk ok1 h2, k3]
    · exact unaryOrPrim_keeps hs hk hok h1
    · have k1 : lexemes ts = leaves l ++ lexemes r1 := hk _ _ _ hok h1
      have k2 : leaves l ++ lexemes r1 = _ := hk _ _ _ (hs _ _ _ hok h1).2 h2
      rw [k1, k2]
  | rest L lhs =>
    show leaves lhs ++ lexemes ts = leaves res.1 ++ lexemes res.2
    rcases step_rest_inv h with rfl | ⟨s, b, ts', x, r1, rfl, _, h1, h2⟩
    · rfl
    · have k1 : lexemes ts' = leaves x ++ lexemes r1 := hk _ _ _ hok.tail h1
      have k2 : leaves (b.mk lhs x) ++ lexemes r1 = _ := hk _ _ _ (hs _ _ _ hok.tail h1).2 h2
      rw [lexemes_sym, k1, ← List.append_assoc, ← leaves_mk, k2]
  | isLoop e0 =>
    show leaves e0 ++ lexemes ts = leaves res.1 ++ lexemes res.2
    rcases step_isLoop_inv h with rfl | ⟨ts', op, r1, rfl, h1, h2⟩
    · rfl
    · have k2 : leaves (.is op e0) ++ lexemes r1 = _ := hk _ _ _ (isSuffix_ok hok.tail h1) h2
      rw [lexemes_sym, isSuffix_lexemes h1, ← leaves_is op e0, k2]
  | args nm acc =>
    show Tok.id nm :: (leavesArgs acc.reverse ++ lexemes ts) = leaves res.1 ++ lexemes res.2
    obtain ⟨x, r2, ⟨h1, h2⟩ | ⟨h1, rfl⟩⟩ := step_args_inv h <;>
      have k1 : lexemes ts = leaves x ++ lexemes (.sym _ :: r2) := hk _ _ _ hok h1
    · have k2 : Tok.id nm :: (leavesArgs (x :: acc).reverse ++ lexemes r2) = _ := hk _ _ _ (hs _ _ _ hok h1).2.tail h2
      rw [k1, lexemes_sym, ← k2]
      simp [leavesArgs_append, leavesArgs, List.append_assoc]
    · rw [k1, lexemes_sym, leaves_func]
      simp [leavesArgs_append, leavesArgs, List.append_assoc]

end

theorem parse_keeps : ∀ n, Keeps (parse n)
  | 0 => fun _ _ _ _ h => by simp [parse] at h
  | n + 1 => step_keeps (parse_sound n) (parse_keeps n)

theorem parseExprFuel_keeps {n : Nat} {ts : List Tok} {t : Expr} (hok : AllOk ts)
    (h : parseExprFuel n ts = some t) : lexemes (tokens (format t)) = lexemes ts := by
  unfold parseExprFuel at h
  cases h1 : parse n (.lvl lOr) ts with
  | none => simp [h1] at h
  | some q =>
    obtain ⟨e, r⟩ := q
    have k : lexemes ts = leaves e ++ lexemes r := parse_keeps n _ _ _ hok h1
    cases r with
    | nil =>
      simp [h1] at h; subst h
      rw [k]; simp [leaves, toks]
    | cons a b => simp [h1] at h

end AcraModel.Sql.Expr
