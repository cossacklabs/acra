import AcraModel.Sql.ExprLemmas
/-!
# The round trip of the expression fragment (C13): main induction

For a producible tree `t`, every level `L ≤ lv t` and every continuation `rest` whose first token does not continue an
expression at level `L` or above, the parser in mode `lvl L` reads `toks t ++ rest` as `(t, rest)` – with an explicit
fuel bound linear in the number of tokens. Strong induction on the size of the tree; for one tree, downwards over the
levels of the regenerated table.
-/
namespace AcraModel.Sql.Expr
open AcraModel

def AtLevel (t : Expr) (L : Nat) : Prop :=
  L ≤ lv t → ∀ rest, Stops L rest →
    ∃ b, b + L ≤ fuelK * tlen t ∧ Parses (.lvl L) (toks t ++ rest) (t, rest) b

/- `BStmt` and `IsStmt` are `AtLevel` in continuation form, for the loop modes that carry `t` as their accumulated left
operand: if `.rest M t` (resp. `.isLoop t`) finishes from `rest` with fuel `b'`, then `lvl M` (resp. `lvl lCmp`) on
`toks t ++ rest` finishes with the same result and fuel `b' + b`. In all three the budget is `b + level ≤ fuelK * tlen t`:
it shrinks with the level, so that going down the level chain costs one unit per level. `All` holds the three together
because their proofs use one another on subtrees. -/
def BStmt (t : Expr) (M : Nat) : Prop :=
  M ≤ lv t → ∀ rest res b', Stops (M + 1) rest → Parses (.rest M t) rest res b' →
    ∃ b, b + M + 1 ≤ fuelK * tlen t ∧ Parses (.lvl M) (toks t ++ rest) res (b' + b)

def IsStmt (t : Expr) : Prop :=
  lCmp ≤ lv t → ∀ rest res b', StopsC rest → Parses (.isLoop t) rest res b' →
    ∃ b, b + lCmp + 1 ≤ fuelK * tlen t ∧ Parses (.lvl lCmp) (toks t ++ rest) res (b' + b)

structure All (t : Expr) : Prop where
  A : ∀ L, lOr ≤ L → L ≤ lUnary → AtLevel t L
  B : ∀ M, Generic M → lOr ≤ M → BStmt t M
  I : IsStmt t

theorem fuelK_eq : fuelK = 20 := rfl

theorem generic_lv_cases {M : Nat} {t : Expr} (hg : Generic M) (h : lv t = M) :
    ∃ bb l r, t = Bin2.mk bb l r ∧ bb.level = M := by
  obtain ⟨g1, g2, g3⟩ := hg
  cases t with
  | or l r => exact ⟨.or, l, r, rfl, h⟩
  | and l r => exact ⟨.and, l, r, rfl, h⟩
  | bin o l r => exact ⟨.bin o, l, r, rfl, h⟩
  | not e => exact absurd h.symm g1
  | is op e => exact absurd h.symm g2
  | cmp op l r => exact absurd h.symm g2
  | range n l lo hi => exact absurd h.symm g2
  | _ => simp only [lv] at h; omega

theorem producible_mk_inv {bb : Bin2} {l r : Expr} (h : Producible (bb.mk l r)) :
    Producible l ∧ Producible r ∧ bb.level ≤ lv l ∧ bb.level + 1 ≤ lv r := by
  cases bb with
  | or => cases h with | or a b c d => exact ⟨a, b, c, d⟩
  | and => cases h with | and a b c d => exact ⟨a, b, c, d⟩
  | bin o => cases h with | bin a b c d => exact ⟨a, b, c, d⟩

theorem sizeOf_mk_left (bb : Bin2) (l r : Expr) : sizeOf l < sizeOf (bb.mk l r) := by
  cases bb <;> simp [Bin2.mk] <;> omega

theorem sizeOf_mk_right (bb : Bin2) (l r : Expr) : sizeOf r < sizeOf (bb.mk l r) := by
  cases bb <;> simp [Bin2.mk] <;> omega

theorem tlen_mk (bb : Bin2) (l r : Expr) : tlen (bb.mk l r) = tlen l + 1 + tlen r := by
  simp [tlen, toks_mk]; omega

theorem bin2At_none_of_cont {L : Nat} {s : Sym} (h : contLevel s < L) : bin2At L s = none := by
  unfold bin2At
  cases hb : s.bin2 with
  | none => rfl
  | some b =>
    have : b.level ≠ L := by have := contLevel_of_bin2 s s.mem_all b hb; omega
    simp [this]

/-- the first token of a printed tree starts an operand (it is neither `)` nor `*`); for a producible tree above the NOT
level it is not NOT -/
theorem toks_head : (t : Expr) →
    ∃ tk tl, toks t = tk :: tl ∧ (tk ≠ .sym .rp ∧ tk ≠ .sym .star) ∧ (Producible t → lNot < lv t → tk ≠ .sym .not_)
  | .val ty v => by
    rw [toks_val]
    cases v with
    | nil => exact ⟨_, _, rfl, by simp, by simp⟩
    | cons c w =>
      dsimp only
      split
      · exact ⟨_, _, rfl, by decide, fun _ _ => by decide⟩
      · exact ⟨_, _, rfl, by simp, by simp⟩
  | .null => ⟨_, _, toks_null, by decide, fun _ _ => by decide⟩
  | .bool b => ⟨_, _, toks_bool b, by cases b <;> decide, fun _ _ => by cases b <;> decide⟩
  | .col n => ⟨_, _, toks_col n, by simp, by simp⟩
  | .func n a => ⟨_, _, toks_func n a, by simp, by simp⟩
  | .paren e => ⟨_, _, toks_paren e, by decide, fun _ _ => by decide⟩
  | .not e => ⟨_, _, toks_not e, by decide, fun _ h => by simp only [lv] at h; omega⟩
  | .un o e => ⟨_, _, toks_un o e, by cases o <;> decide, fun _ _ => by cases o <;> decide⟩
  | .and l r => by
    obtain ⟨tk, tl, h1, h2, _⟩ := toks_head l
    refine ⟨tk, _, by rw [toks_and, h1]; rfl, h2, fun _ h => ?_⟩
    simp only [lv] at h; have := lAnd_eq; have := lNot_eq; omega
  | .or l r => by
    obtain ⟨tk, tl, h1, h2, _⟩ := toks_head l
    refine ⟨tk, _, by rw [toks_or, h1]; rfl, h2, fun _ h => ?_⟩
    simp only [lv] at h; have := lOr_eq; have := lNot_eq; omega
  | .is op e => by
    obtain ⟨tk, tl, h1, h2, h3⟩ := toks_head e
    refine ⟨tk, _, by rw [toks_is, h1]; rfl, h2, fun hp _ => ?_⟩
    cases hp with
    | is pe hl => exact h3 pe (by have := lCmp_eq; have := lNot_eq; omega)
  | .cmp op l r => by
    obtain ⟨tk, tl, h1, h2, h3⟩ := toks_head l
    refine ⟨tk, _, by rw [toks_cmp, h1]; rfl, h2, fun hp _ => ?_⟩
    cases hp with
    | cmp pl _ hl _ => exact h3 pl (by have := lCmp_eq; have := lNot_eq; omega)
  | .range n l lo hi => by
    obtain ⟨tk, tl, h1, h2, h3⟩ := toks_head l
    refine ⟨tk, _, by rw [toks_range, h1]; rfl, h2, fun hp _ => ?_⟩
    cases hp with
    | range pl _ _ hl _ _ => exact h3 pl (by have := lCmp_eq; have := lNot_eq; omega)
  | .bin o l r => by
    obtain ⟨tk, tl, h1, h2, h3⟩ := toks_head l
    refine ⟨tk, _, by rw [toks_bin, h1]; rfl, h2, fun hp _ => ?_⟩
    cases hp with
    | bin pl _ hl _ => exact h3 pl (by have := (binop_level_range o).1; have := lNot_eq; omega)

theorem lem_A_of_B {t : Expr} {M : Nat} (hB : BStmt t M) : AtLevel t M := by
  intro hle rest hst
  have hstop : Parses (.rest M t) rest (t, rest) 1 :=
    R_rest_stop M t rest (fun s hs => bin2At_none_of_cont (hst s hs))
  obtain ⟨b, hb, hP⟩ := hB hle rest (t, rest) 1 (hst.mono (Nat.le_succ _)) hstop
  exact ⟨1 + b, by omega, hP⟩

theorem lem_B (t : Expr) (M : Nat) (hg : Generic M) (hM : lOr ≤ M)
    (ih : ∀ t', sizeOf t' < sizeOf t → Producible t' → All t') (hp : Producible t)
    (hA : M < lv t → AtLevel t (M + 1)) : BStmt t M := by
  intro hle rest res b' hst hrest
  by_cases hlt : M < lv t
  · obtain ⟨b, hb, hP⟩ := hA hlt (by omega) rest hst
    refine ⟨b, by omega, ?_⟩
    exact (R_lvl_generic hg hP hrest).mono (by have := hP.pos; have := hrest.pos; omega)
  · have heq : lv t = M := by omega
    obtain ⟨bb, l, r, rfl, hbl⟩ := generic_lv_cases hg heq
    obtain ⟨pl, pr, hl, hr⟩ := producible_mk_inv hp
    have Al := ih l (sizeOf_mk_left bb l r) pl
    have Ar := ih r (sizeOf_mk_right bb l r) pr
    have hMu : M + 1 ≤ lUnary := hg.2.2
    obtain ⟨br, hbr, hPr⟩ := Ar.A (M + 1) (by omega) hMu (by omega) rest hst
    have hb2 : bin2At M bb.sym = some bb := by rw [← hbl]; exact bin2At_self bb
    have h2 := R_rest_go (lhs := l) hb2 hPr hrest
    obtain ⟨bl, hbl', hPl⟩ := Al.B M hg hM (by omega) (.sym bb.sym :: (toks r ++ rest)) res _
      (stops_sym (by rw [contLevel_bin2]; omega)) h2
    refine ⟨br + 1 + bl, ?_, ?_⟩
    · rw [tlen_mk, fuelK_eq] at *; omega
    · rw [toks_mk, List.append_assoc, List.cons_append]
      exact hPl.mono (by omega)

theorem contLevel_cmp_syms : ∀ op ∈ CmpOp.all, ∀ s ∈ op.syms.head?, contLevel s < lCmp + 1 := by decide +kernel

theorem stops_cmp_syms (op : CmpOp) (x : List Tok) : Stops (lCmp + 1) (op.syms.map .sym ++ x) := by
  have h := contLevel_cmp_syms op (by cases op <;> decide)
  cases op <;> exact stops_sym (h _ rfl)

theorem lem_A_of_I {t : Expr} (hI : IsStmt t) : AtLevel t lCmp := by
  intro hle rest hst
  have hne : rest.head? ≠ some (.sym .is_) := by
    intro h; exact absurd (hst _ h) (by decide +kernel)
  obtain ⟨b, hb, hP⟩ := hI hle rest (t, rest) 1 (stopsC_of_stops hst) (R_isLoop_stop t rest hne)
  exact ⟨1 + b, by omega, hP⟩

theorem lem_I (t : Expr)
    (ih : ∀ t', sizeOf t' < sizeOf t → Producible t' → All t') (hp : Producible t)
    (hA : lCmp < lv t → AtLevel t (lCmp + 1)) : IsStmt t := by
  intro hle rest res b' hst hloop
  have e7 := lCmp_eq; have e14 := lUnary_eq; have e3 := lOr_eq
  by_cases hlt : lCmp < lv t
  · obtain ⟨b, hb, hP⟩ := hA hlt (by omega) rest hst.stops
    refine ⟨b, by omega, ?_⟩
    exact (R_cmp (b2 := 0) hP (fun n _ => cmpTail_stop _ _ _ hst) hloop).mono
      (by have := hP.pos; have := hloop.pos; omega)
  · have heq : lv t = lCmp := by omega
    cases t with
    | is op e =>
      cases hp with
      | is pe hl =>
        have Ae := ih e (by simp; omega) pe
        obtain ⟨be, hbe, hPe⟩ := Ae.I hl (.sym .is_ :: (op.syms.map .sym ++ rest)) res _ (stopsC_is _)
          (R_isLoop_go hloop)
        refine ⟨1 + be, ?_, ?_⟩
        · have : tlen (.is op e) = tlen e + 1 + op.syms.length := by simp [tlen, toks_is]; omega
          rw [this, fuelK_eq] at *; omega
        · rw [toks_is, List.append_assoc, List.cons_append]
          exact hPe.mono (by omega)
    | cmp op l r =>
      cases hp with
      | cmp pl pr hl hr =>
        have Al := ih l (by simp; omega) pl
        have Ar := ih r (by simp; omega) pr
        obtain ⟨bl, hbl, hPl⟩ := Al.A (lCmp + 1) (by omega) (by omega) hl (op.syms.map .sym ++ (toks r ++ rest))
          (stops_cmp_syms op _)
        obtain ⟨br, hbr, hPr⟩ := Ar.A (lCmp + 1) (by omega) (by omega) hr rest hst.stops
        refine ⟨bl + br, ?_, ?_⟩
        · have : tlen (.cmp op l r) = tlen l + op.syms.length + tlen r := by simp [tlen, toks_cmp]; omega
          rw [this, fuelK_eq] at *; omega
        · rw [toks_cmp, List.append_assoc, List.append_assoc]
          exact (R_cmp hPl (fun n hn => cmpTail_cmp _ op l r _ _ (hPr n hn)) hloop).mono
            (by have := hPl.pos; have := hPr.pos; have := hloop.pos; omega)
    | range neg l lo hi =>
      cases hp with
      | range pl plo phi hl hlo hhi =>
        have Al := ih l (by simp; omega) pl
        have Alo := ih lo (by simp; omega) plo
        have Ahi := ih hi (by simp; omega) phi
        obtain ⟨bl, hbl, hPl⟩ := Al.A (lCmp + 1) (by omega) (by omega) hl
          ((if neg then [.sym .not_] else []) ++ .sym .between :: (toks lo ++ .sym .and_ :: (toks hi ++ rest)))
          (by cases neg <;> exact stops_sym (by decide))
        obtain ⟨blo, hblo, hPlo⟩ := Alo.A (lCmp + 1) (by omega) (by omega) hlo (.sym .and_ :: (toks hi ++ rest))
          (stops_sym (by decide))
        obtain ⟨bhi, hbhi, hPhi⟩ := Ahi.A (lCmp + 1) (by omega) (by omega) hhi rest hst.stops
        refine ⟨bl + blo + bhi, ?_, ?_⟩
        · have : tlen (.range neg l lo hi) = tlen l + (if neg then 1 else 0) + 1 + tlen lo + 1 + tlen hi := by
            cases neg <;> simp [tlen, toks_range] <;> omega
          rw [this, fuelK_eq] at *; omega
        · have e : toks (.range neg l lo hi) ++ rest = toks l ++ ((if neg then [.sym .not_] else []) ++
              .sym .between :: (toks lo ++ .sym .and_ :: (toks hi ++ rest))) := by
            rw [toks_range]; simp
          rw [e]
          exact (R_cmp (b2 := max blo bhi) hPl
            (fun n hn => cmpTail_range _ neg l lo hi _ _ _ (hPlo n (by omega)) (hPhi n (by omega))) hloop).mono
            (by have := hPl.pos; have := hPlo.pos; have := hPhi.pos; have := hloop.pos; omega)
    | bin o l r => simp only [lv] at heq; have := binop_level_range o; omega
    | _ => simp only [lv] at heq; have := lAnd_eq; have := lNot_eq; omega

theorem lem_A_not (t : Expr)
    (ih : ∀ t', sizeOf t' < sizeOf t → Producible t' → All t') (hp : Producible t)
    (hA : lNot < lv t → AtLevel t (lNot + 1)) : AtLevel t lNot := by
  intro hle rest hst
  have e5 := lNot_eq; have e14 := lUnary_eq; have e3 := lOr_eq; have e7 := lCmp_eq; have e4 := lAnd_eq
  by_cases hlt : lNot < lv t
  · obtain ⟨b, hb, hP⟩ := hA hlt (by omega) rest (hst.mono (Nat.le_succ _))
    obtain ⟨tk, tl, h1, _, h3⟩ := toks_head t
    have hh : (toks t ++ rest).head? ≠ some (.sym .not_) := by
      rw [h1]; simp; exact h3 hp hlt
    exact ⟨b + 1, by omega, R_not_pass hh hP⟩
  · have heq : lv t = lNot := by omega
    cases t with
    | not e =>
      cases hp with
      | not pe hl =>
        have Ae := ih e (by simp) pe
        obtain ⟨be, hbe, hPe⟩ := Ae.A lNot (by omega) (by omega) hl rest hst
        refine ⟨be + 1, ?_, ?_⟩
        · have : tlen (.not e) = tlen e + 1 := by simp [tlen, toks_not]
          rw [this, fuelK_eq] at *; omega
        · rw [toks_not]; exact R_not hPe
    | bin o l r => simp only [lv] at heq; have := binop_level_range o; omega
    | _ => simp only [lv] at heq; omega

theorem lOr_le_lv (t : Expr) : lOr ≤ lv t := by
  have := lOr_eq; have := lAnd_eq; have := lNot_eq; have := lCmp_eq; have := lUnary_eq
  cases t <;> simp only [lv] <;> first | omega | (rename_i o _ _; have := binop_level_range o; omega)

theorem parse_lit (ty : Nat) (w : Bytes) (rest : List Tok) :
    Parses (.lvl lUnary) (.lit ty w :: rest) (.val ty w, rest) 1 :=
  parses_unary (b := 0) fun _ _ => rfl

theorem mkUnary_un {op : UnOp} {e : Expr} (h : op.folds = true → e.isIntVal = false) : mkUnary op e = .un op e := by
  rcases mkUnary_cases op e with ⟨h', _⟩ | ⟨v, rfl, hf, _⟩
  · exact h'
  · exact absurd (h hf) (by simp [Expr.isIntVal])

theorem args_loop (n : Bytes) (rest : List Tok) :
    ∀ (es : List Expr) (e : Expr) (acc : List Expr), (∀ a, a ∈ e :: es → Producible a ∧ All a) →
      ∃ b, b ≤ fuelK * (toksArgs (e :: es)).length ∧
        Parses (.args n acc) (toksArgs (e :: es) ++ .sym .rp :: rest) (.func n (acc.reverse ++ e :: es), rest) b := by
  have e14 := lUnary_eq; have e3 := lOr_eq
  intro es
  induction es with
  | nil =>
    intro e acc h
    obtain ⟨_, Ae⟩ := h e (by simp)
    obtain ⟨be, hbe, hPe⟩ := Ae.A lOr (Nat.le_refl _) (by omega) (lOr_le_lv e) (.sym .rp :: rest)
      (stops_rp _ (by omega) _)
    refine ⟨be + 1, ?_, ?_⟩
    · rw [toksArgs_one]; unfold tlen at hbe; rw [fuelK_eq] at *; omega
    · rw [toksArgs_one]
      apply parses_of_step
      intro k hk
      simp [step, hPe k hk]
  | cons e' es' ih =>
    intro e acc h
    obtain ⟨_, Ae⟩ := h e (by simp)
    obtain ⟨be, hbe, hPe⟩ := Ae.A lOr (Nat.le_refl _) (by omega) (lOr_le_lv e)
      (.sym .comma :: (toksArgs (e' :: es') ++ .sym .rp :: rest)) (stops_comma _ (by omega) _)
    obtain ⟨br, hbr, hPr⟩ := ih e' (e :: acc) (fun a ha => h a (by simp at ha ⊢; right; exact ha))
    refine ⟨be + br + 1, ?_, ?_⟩
    · rw [toksArgs_cons2]; unfold tlen at hbe; rw [fuelK_eq] at *; simp; omega
    · rw [toksArgs_cons2, List.append_assoc, List.cons_append]
      apply parses_of_step
      intro k hk
      have := hPr k (by omega)
      simp only [List.reverse_cons, List.append_assoc, List.singleton_append] at this
      simp [step, hPe k (by omega), this]

/-- a tree that one call of `unaryOrPrim` reads, with no recursive call that needs more fuel than 1 -/
theorem atLevel_leaf {t : Expr}
    (h : ∀ rest, Stops lUnary rest → ∀ n, 1 ≤ n → unaryOrPrim (parse n) (toks t ++ rest) = some (t, rest)) :
    AtLevel t lUnary := fun _ rest hst =>
  ⟨2, by have := tlen_pos t; rw [fuelK_eq, lUnary_eq]; omega, parses_unary (h rest hst)⟩

theorem lem_A_unary (t : Expr)
    (ih : ∀ t', sizeOf t' < sizeOf t → Producible t' → All t') (hp : Producible t) : AtLevel t lUnary := by
  have e14 := lUnary_eq; have e3 := lOr_eq
  cases t with
  | val ty v =>
    cases hp with
    | val hok =>
      refine atLevel_leaf fun rest _ n hn => ?_
      rw [toks_val]
      cases v with
      | nil => rfl
      | cons c w =>
        dsimp only
        split
        · next hc =>
          -- a signed number: the sign is read as the prefix operator and folded back into the literal
          simp only [Bool.and_eq_true, beq_iff_eq] at hc
          obtain ⟨hraw, rfl⟩ := hc
          obtain ⟨hty, hw, hw2⟩ := (hok hraw).2 rfl
          rw [List.cons_append, List.cons_append, List.nil_append,
            unaryOrPrim_un (u := .uminus) (by decide +kernel) (parse_lit ty w rest n hn)]
          cases w with
          | nil => exact absurd rfl hw
          | cons c' w' =>
            have : (c' == minusByte) = false := beq_false_of_ne fun h => hw2 (h ▸ rfl)
            simp [mkUnary, show UnOp.folds .uminus = true by decide +kernel, hty, this]
        · rfl
  | null => exact atLevel_leaf fun _ _ _ _ => by rw [toks_null]; rfl
  | bool b => exact atLevel_leaf fun _ _ _ _ => by rw [toks_bool]; cases b <;> rfl
  | col nm =>
    refine atLevel_leaf fun rest hst _ _ => ?_
    rw [toks_col]
    exact unaryOrPrim_col _ _ fun h => absurd (hst _ h) (by decide +kernel)
  | func nm as =>
    cases hp with
    | func hargs =>
      cases as with
      | nil => exact atLevel_leaf fun _ _ _ _ => by rw [toks_func, toksArgs_nil]; rfl
      | cons e es =>
        intro _ rest _
        have hall : ∀ a, a ∈ e :: es → Producible a ∧ All a := by
          intro a ha
          have hs : sizeOf a < sizeOf (Expr.func nm (e :: es)) := by
            have := List.sizeOf_lt_of_mem ha
            simp only [Expr.func.sizeOf_spec]; omega
          exact ⟨hargs a ha, ih a hs (hargs a ha)⟩
        obtain ⟨b, hb, hP⟩ := args_loop nm rest es e [] hall
        obtain ⟨tk, tl, h1, h2, _⟩ := toks_head e
        have hhead : (toksArgs (e :: es) ++ .sym .rp :: rest).head? ≠ some (.sym .rp) := by
          cases es with
          | nil => rw [toksArgs_one, h1]; simpa using h2.1
          | cons e' es' => rw [toksArgs_cons2, h1]; simpa using h2.1
        refine ⟨b + 1, ?_, ?_⟩
        · unfold tlen; rw [toks_func, fuelK_eq] at *; simp; omega
        · rw [toks_func]
          refine parses_unary fun n hn => ?_
          simp only [List.cons_append, List.append_assoc, List.nil_append]
          rw [unaryOrPrim_call _ _ hhead]
          simpa using hP n hn
  | paren e =>
    cases hp with
    | paren pe =>
      intro _ rest _
      obtain ⟨be, hbe, hPe⟩ := (ih e (by simp) pe).A lOr (Nat.le_refl _) (by omega) (lOr_le_lv e) (.sym .rp :: rest)
        (stops_rp _ (by omega) _)
      refine ⟨be + 1, ?_, ?_⟩
      · have : tlen (.paren e) = tlen e + 2 := by simp [tlen, toks_paren]
        rw [this, fuelK_eq] at *; omega
      · rw [toks_paren]
        exact parses_unary fun n hn => by
          simp [unaryOrPrim, show Sym.unop .lp = none by decide +kernel, hPe n hn]
  | un op e =>
    cases hp with
    | un pe hl hfold =>
      intro _ rest hst
      obtain ⟨be, hbe, hPe⟩ := (ih e (by simp; omega) pe).A lUnary (by omega) (Nat.le_refl _) hl rest hst
      refine ⟨be + 1, ?_, ?_⟩
      · have : tlen (.un op e) = tlen e + 1 := by simp [tlen, toks_un]
        rw [this, fuelK_eq] at *; omega
      · rw [toks_un, ← mkUnary_un hfold]
        exact parses_unary fun n hn => unaryOrPrim_un (by cases op <;> decide +kernel) (hPe n hn)
  | bin o l r => intro hle; simp only [lv] at hle; have := binop_level_range o; omega
  | _ => intro hle; have := lCmp_eq; have := lNot_eq; have := lAnd_eq; simp only [lv] at hle; omega

/-- one level down: by the rule for NOT, by the tail of a condition, or by the generic loop of the level -/
theorem atLevel_down (t : Expr) (ih : ∀ t', sizeOf t' < sizeOf t → Producible t' → All t') (hp : Producible t) {M : Nat}
    (h1 : lOr ≤ M) (h2 : M < lUnary) (hA : AtLevel t (M + 1)) : AtLevel t M := by
  by_cases h5 : M = lNot
  · subst h5; exact lem_A_not t ih hp fun _ => hA
  by_cases h7 : M = lCmp
  · subst h7; exact lem_A_of_I (lem_I t ih hp fun _ => hA)
  exact lem_A_of_B (lem_B t M ⟨h5, h7, h2⟩ h1 ih hp fun _ => hA)

theorem all_of_producible : ∀ (N : Nat) (t : Expr), sizeOf t ≤ N → Producible t → All t := by
  intro N
  induction N with
  | zero =>
    intro t h
    have : 0 < sizeOf t := by cases t <;> simp <;> omega
    omega
  | succ N ihN =>
    intro t hsz hp
    have ih : ∀ t', sizeOf t' < sizeOf t → Producible t' → All t' := fun t' h hp' => ihN t' (by omega) hp'
    have A : ∀ k L, lOr ≤ L → L + k = lUnary → AtLevel t L := by
      intro k
      induction k with
      | zero => intro L _ h; subst h; exact lem_A_unary t ih hp
      | succ k ihk => intro L h1 h; exact atLevel_down t ih hp h1 (by omega) (ihk (L + 1) (by omega) (by omega))
    have e14 := lUnary_eq; have e7 := lCmp_eq; have e3 := lOr_eq
    exact ⟨fun L h1 h2 => A (lUnary - L) L h1 (by omega),
      fun M hg h1 => lem_B t M hg h1 ih hp fun _ => A (lUnary - (M + 1)) _ (by omega) (by have := hg.2.2; omega),
      lem_I t ih hp fun _ => A (lUnary - (lCmp + 1)) _ (by omega) (by omega)⟩

/-- the parser reads the printed form of a producible tree up to a token that does not continue an expression -/
theorem parses_toks {t : Expr} (hp : Producible t) {rest : List Tok} (hst : Stops lOr rest) :
    ∃ b, b ≤ fuelK * tlen t ∧ Parses (.lvl lOr) (toks t ++ rest) (t, rest) b := by
  obtain ⟨b, hb, hP⟩ := (all_of_producible (sizeOf t) t (Nat.le_refl _) hp).A lOr (Nat.le_refl _)
    (by rw [lOr_eq, lUnary_eq]; decide) (lOr_le_lv t) rest hst
  exact ⟨b, by omega, hP⟩

theorem roundtrip_fuel (t : Expr) (hp : Producible t) (n : Nat) (hn : fuelK * tlen t ≤ n) :
    parseExprFuel n (toks t) = some t := by
  obtain ⟨b, hb, hP⟩ := parses_toks hp (stops_nil _)
  have := hP n (by omega)
  rw [List.append_nil] at this
  simp [parseExprFuel, this]

end AcraModel.Sql.Expr
