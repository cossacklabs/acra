import AcraModel.Generated.SqlForms
/-!
# Statement forms: print paths of the statement nodes' `Format` methods (C13)

A small model of "which clauses does `Format` print": a statement is its node kind plus the set of fields that
are filled (non-nil pointer / interface, non-empty list or string, `true`). The tables are regenerated from the
source by factgen (`Generated/SqlForms.lean`):

* `printPaths` – per kind the alternative paths through its `Format` method (every `if`/`switch` branch that prints
  a different skeleton), the conditions under which a path is taken and the receiver fields it prints;
* `productions` – per kind the grammar alternatives of `sql.y` that build the node, with the fields each one assigns
  and whether the assigned value can be nil/empty (`zero`), cannot (`nonzero`) or may be either (`maybe`).

`formatPath s` is the path `Format` takes for `s`; `builtBy p s` says that production `p` can have built `s`.
`tableOK` is the finite check over all (production, path) pairs; `keeps_of_tableOK` lifts it to all statements.
-/
namespace AcraModel.Sql.Forms
open AcraModel.Generated

/-- one condition of a print path: `rel` is `zero` (field is nil/empty/false), `nonzero`, `eq` / `notin` (field
compared with constants), `dialect` (type switch on the buffer's dialect) or `opaque` (anything else) -/
structure Cond where
  field : String
  rel : String
  arg : String
deriving Repr, DecidableEq

structure Path where
  kind : String
  idx : Nat
  conds : List Cond
  printed : List String
deriving Repr, DecidableEq

structure Prod where
  kind : String
  rule : String
  alt : Nat
  top : Bool
  /-- (field, zeroness of the assigned value, text of the value in the action) -/
  fields : List (String × String × String)
deriving Repr, DecidableEq

def paths : List Path :=
  SqlForms.printPaths.map fun r => ⟨r.1, r.2.1, r.2.2.1.map (fun c => ⟨c.1, c.2.1, c.2.2⟩), r.2.2.2.1⟩

def prods : List Prod :=
  SqlForms.productions.map fun r => ⟨r.1, r.2.1, r.2.2.1, r.2.2.2.1, r.2.2.2.2.2⟩

/-- class of a field of a statement node (`node`, `string`, `bool`, `other`; `""` when there is no such field) -/
def fieldClass (kind field : String) : String :=
  match SqlForms.stmtFields.find? (·.1 == kind) with
  | some r => match r.2.find? (·.1 == field) with
    | some f => f.2
    | none => ""
  | none => ""

/-- A statement of the model: the node kind and the fields that are filled. -/
structure Stmt where
  kind : String
  present : List String
  /-- fields that hold one of the constants of `ast.go` (`Limit.Type = LimitTypeLimitAll`, `DDL.Action = CreateStr`) -/
  consts : List (String × String) := []
deriving Repr, DecidableEq

/-- the constants of an `eq` / `notin` condition -/
def argNames (arg : String) : List String :=
  match SqlForms.condArgLists.find? (·.1 == arg) with
  | some r => r.2
  | none => [arg]

/-- Does the condition hold for the statement? Emptiness tests and comparisons of a field with constants are
interpreted (a field whose constant is not known leaves the comparison open); the dialect switch and opaque conditions
are left open (`true`: the path *may* be taken), which only makes the theorems below stronger. -/
def condHolds (s : Stmt) (c : Cond) : Bool :=
  if c.rel == "zero" then !s.present.contains c.field
  else if c.rel == "nonzero" then s.present.contains c.field
  else if c.rel == "eq" then
    match s.consts.lookup c.field with
    | some v => (argNames c.arg).contains v
    | none => true
  else if c.rel == "notin" then
    match s.consts.lookup c.field with
    | some v => !(argNames c.arg).contains v
    | none => true
  else true

def pathApplies (π : Path) (s : Stmt) : Bool := π.kind == s.kind && π.conds.all (condHolds s)

/-- the path `Format` takes (the first one whose conditions hold) -/
def formatPath (s : Stmt) : Option Path := paths.find? (pathApplies · s)

/-- fields the production may fill / always fills -/
def mayFill (p : Prod) : List String := (p.fields.filter (·.2.1 != "zero")).map (·.1)
def mustFill (p : Prod) : List String := (p.fields.filter (·.2.1 == "nonzero")).map (·.1)

/-- the constant the production assigns to the field, if it assigns a plain constant of `ast.go` -/
def constOf (p : Prod) (f : String) : Option String :=
  (p.fields.find? fun x => x.1 == f && SqlForms.constNames.contains x.2.2).map (·.2.2)

/-- the statement can have been built by the production: every filled field is one the production may fill, every
field it always fills is filled, and the fields it sets to a constant hold that constant -/
def builtBy (p : Prod) (s : Stmt) : Bool :=
  p.kind == s.kind && s.present.all (mayFill p).contains && (mustFill p).all s.present.contains &&
  p.fields.all (fun x => !SqlForms.constNames.contains x.2.2 || s.consts.lookup x.1 == some x.2.2)

/-- the field's content survives on the path: it is printed, or it is a flag / discriminator whose value the
path's own condition fixes (a `bool` the path tests – `Insert.Default` ⇒ the skeleton `default values`; a field the
path compares with a constant; `*`: the receiver as a whole is handed to the printer). A string or clause that is
merely *tested* for presence is not kept. -/
def keeps (π : Path) (f : String) : Bool :=
  π.printed.contains f || π.printed.contains "*" ||
  π.conds.any (fun c => c.field == f && (c.rel == "eq" || (c.rel == "nonzero" && fieldClass π.kind f == "bool")))

/-- the field is accounted for on the path: kept, or the path is only taken when the field is empty -/
def represented (π : Path) (f : String) : Bool :=
  keeps π f || π.conds.any (fun c => c.field == f && c.rel == "zero")

/-- the production can build a statement for which the path is taken (judged on the emptiness conditions and the
comparisons with constants) -/
def compatible (p : Prod) (π : Path) : Bool :=
  p.kind == π.kind && π.conds.all (fun c =>
    if c.rel == "zero" then !(mustFill p).contains c.field
    else if c.rel == "nonzero" then (mayFill p).contains c.field
    else if c.rel == "eq" then
      match constOf p c.field with
      | some v => (argNames c.arg).contains v
      | none => true
    else if c.rel == "notin" then
      match constOf p c.field with
      | some v => !(argNames c.arg).contains v
      | none => true
    else true)

/-- Fields that a print path may leave out by design (each with its reason):
* `Order.Direction` – `ORDER BY NULL` and `ORDER BY rand()` are printed without a direction on purpose
  (`Order.Format`; ordering by a constant or a random value has no direction – normalisation 3 of the oracle);
* `ConvertType.Operator` – the spelling of the keyword in front of the character set (`character set`); the grammar
  sets it for every `CHAR` type, it is printed exactly when there is a `Charset` and means nothing without one. -/
def exempt : List (String × String) := [("Order", "Direction"), ("ConvertType", "Operator")]

def pairOK (p : Prod) (π : Path) : Bool :=
  !compatible p π || (mayFill p).all (fun f => represented π f || exempt.contains (π.kind, f))

/-- the node kinds of data-manipulation statements – what C13 quantifies over -/
def dmlKinds : List String := ["Select", "ParenSelect", "Union", "Insert", "Update", "Delete"]

/-- the clause, table and expression nodes that occur inside data-manipulation statements (the remaining clause
nodes of `ast.go` belong to DDL / SHOW: column and index definitions, partition and vindex specifications) -/
def dmlClauseKinds : List String :=
  ["StarExpr", "AliasedExpr", "Nextval", "AliasedTableExpr", "TableName", "ParenTableExpr", "JoinCondition",
   "JoinTableExpr", "IndexHints", "Where", "AndExpr", "OrExpr", "NotExpr", "ParenExpr", "ComparisonExpr", "RangeCond",
   "IsExpr", "ExistsExpr", "ColName", "Subquery", "BinaryExpr", "UnaryExpr", "IntervalExpr", "CollateExpr", "FuncExpr",
   "GroupConcatExpr", "ValuesFuncExpr", "SubstrExpr", "ConvertExpr", "ConvertUsingExpr", "ConvertType", "MatchExpr",
   "CaseExpr", "When", "Order", "Limit", "UpdateExpr"]

/-- the node kinds the obligation is stated for -/
def strictKinds : List String := dmlKinds ++ dmlClauseKinds

/-- the finite check: for every production of a DML statement or clause node and every print path compatible with
it, every field the production may fill is represented on the path (or exempt by design) -/
def tableOKFor (ps : List Prod) (πs : List Path) : Bool :=
  ps.all fun p => !strictKinds.contains p.kind || πs.all fun π => pairOK p π

def tableOK : Bool := tableOKFor prods paths

/-- (kind, path, field): fields a compatible production may fill that the path does not represent – empty for the
DML kinds when `tableOK`; for the other kinds this is the list of reduced print forms (`alter table a`, `show …`). -/
def omissions (ps : List Prod) (πs : List Path) : List (String × Nat × String) :=
  (πs.flatMap fun π =>
    ((ps.filter (compatible · π)).flatMap fun p =>
      (mayFill p).filter (fun f => !represented π f && !exempt.contains (π.kind, f))).eraseDups.map
      fun f => (π.kind, π.idx, f))

/-- the grammar rules of DDL statements, whose actions drop parts of the statement by design (`create index i on t`
is kept as `alter table t`) -/
def ddlRules : List String :=
  ["create_statement", "alter_statement", "alter_object_type", "drop_statement", "rename_statement",
   "non_add_drop_or_rename_operation", "analyze_statement", "other_statement", "show_statement"]

/-- every production of the kind is compatible with at least one path (judged on the emptiness conditions) -/
def coveredFor (ps : List Prod) (πs : List Path) : Bool :=
  ps.all fun p => !strictKinds.contains p.kind || πs.any fun π => compatible p π

theorem builtBy_spec {p : Prod} {s : Stmt} (h : builtBy p s = true) :
    p.kind = s.kind ∧ (∀ f ∈ s.present, f ∈ mayFill p) ∧ ∀ f ∈ mustFill p, f ∈ s.present := by
  simp only [builtBy, Bool.and_eq_true, List.all_eq_true, beq_iff_eq, List.contains_iff_mem] at h
  exact ⟨h.1.1.1, h.1.1.2, h.1.2⟩

theorem lookup_of_constOf {p : Prod} {s : Stmt} {f v : String} (hb : builtBy p s = true) (hc : constOf p f = some v) :
    s.consts.lookup f = some v := by
  have hall := (Bool.and_eq_true _ _ ▸ hb).2
  unfold constOf at hc
  rw [Option.map_eq_some_iff] at hc
  obtain ⟨x, hx, hv⟩ := hc
  have hprop := List.find?_some hx
  rw [Bool.and_eq_true] at hprop
  have h := List.all_eq_true.mp hall x (List.mem_of_find?_eq_some hx)
  rw [hprop.2] at h
  rw [← eq_of_beq hprop.1, ← hv]
  exact eq_of_beq h

theorem pathApplies_spec {π : Path} {s : Stmt} (h : pathApplies π s = true) :
    π.kind = s.kind ∧ ∀ c ∈ π.conds, condHolds s c = true := by
  simpa only [pathApplies, Bool.and_eq_true, List.all_eq_true, beq_iff_eq] using h

theorem compatible_of_applies {p : Prod} {π : Path} {s : Stmt}
    (hb : builtBy p s = true) (ha : pathApplies π s = true) : compatible p π = true := by
  obtain ⟨hk, hmay, hmust⟩ := builtBy_spec hb
  obtain ⟨hk', hc⟩ := pathApplies_spec ha
  unfold compatible
  rw [Bool.and_eq_true, List.all_eq_true]
  refine ⟨?_, ?_⟩
  · rw [hk, hk']; exact beq_self_eq_true _
  · intro c hcm
    have h := hc c hcm
    unfold condHolds at h
    split at h
    · next hz =>
      rw [if_pos hz]
      cases hm : (mustFill p).contains c.field with
      | false => rfl
      | true => rw [List.contains_iff_mem.mpr (hmust _ (List.contains_iff_mem.mp hm))] at h; exact Bool.noConfusion h
    next hz =>
    rw [if_neg hz]
    split at h
    · next hn => rw [if_pos hn]; exact List.contains_iff_mem.mpr (hmay _ (List.contains_iff_mem.mp h))
    next hn =>
    rw [if_neg hn]
    split at h
    · next he =>
      rw [if_pos he]
      cases hco : constOf p c.field with
      | none => rfl
      | some v => rw [lookup_of_constOf hb hco] at h; exact h
    next he =>
    rw [if_neg he]
    split
    · cases hco : constOf p c.field with
      | none => rfl
      | some v => rw [if_pos ‹_›, lookup_of_constOf hb hco] at h; exact h
    · rfl

theorem represented_of_pairOK {p : Prod} {π : Path} (hok : pairOK p π = true) (hc : compatible p π = true) {f : String}
    (hf : f ∈ mayFill p) : represented π f = true ∨ exempt.contains (π.kind, f) = true := by
  simp only [pairOK, hc, Bool.not_true, Bool.false_or, List.all_eq_true, Bool.or_eq_true] at hok
  exact hok f hf

theorem pairOK_of_tableOK {ps : List Prod} {πs : List Path} (hok : tableOKFor ps πs = true) {p : Prod} (hp : p ∈ ps)
    {π : Path} (hπ : π ∈ πs) (hk : p.kind ∈ strictKinds) : pairOK p π = true := by
  have h := List.all_eq_true.mp hok p hp
  rw [List.contains_iff_mem.mpr hk, Bool.not_true, Bool.false_or, List.all_eq_true] at h
  exact h π hπ

/-- **Lifting lemma.** If the pair (production, path) passes the finite check, then for *every* statement the
production can build and for which the path is taken, every filled field is kept by the path (or exempt by design). -/
theorem keeps_of_pairOK {p : Prod} {π : Path} {s : Stmt} (hok : pairOK p π = true)
    (hb : builtBy p s = true) (ha : pathApplies π s = true) :
    ∀ f ∈ s.present, keeps π f = true ∨ exempt.contains (π.kind, f) = true := by
  intro f hf
  rcases represented_of_pairOK hok (compatible_of_applies hb ha) ((builtBy_spec hb).2.1 f hf) with hrep | hex
  · rcases Bool.or_eq_true _ _ ▸ hrep with h | h
    · exact Or.inl h
    · -- the path would only be taken with `f` empty – but `f` is filled
      simp only [List.any_eq_true, Bool.and_eq_true, beq_iff_eq] at h
      obtain ⟨c, hcm, hcf, hcz⟩ := h
      have := (pathApplies_spec ha).2 c hcm
      simp [condHolds, hcz, hcf, hf] at this
  · exact Or.inr hex

theorem keeps_of_tableOK {ps : List Prod} {πs : List Path} (hok : tableOKFor ps πs = true)
    {p : Prod} (hp : p ∈ ps) {π : Path} (hπ : π ∈ πs) {s : Stmt} (hd : s.kind ∈ strictKinds)
    (hb : builtBy p s = true) (ha : pathApplies π s = true) :
    ∀ f ∈ s.present, keeps π f = true ∨ exempt.contains (π.kind, f) = true :=
  keeps_of_pairOK (pairOK_of_tableOK hok hp hπ ((builtBy_spec hb).1 ▸ hd)) hb ha

theorem formatPath_spec {s : Stmt} {π : Path} (h : formatPath s = some π) : π ∈ paths ∧ pathApplies π s = true := by
  unfold formatPath at h
  exact ⟨List.mem_of_find?_eq_some h, by simpa using List.find?_some h⟩

theorem kind_eq_of_compatible {p : Prod} {π : Path} (h : compatible p π = true) : p.kind = π.kind := by
  unfold compatible at h
  exact eq_of_beq (Bool.and_eq_true _ _ ▸ h).1

/-- `omissions` lists exactly the fields on which `pairOK` fails, so under the finite check it holds no strict kind -/
theorem omissions_not_strict {ps : List Prod} {πs : List Path} (hok : tableOKFor ps πs = true) :
    (omissions ps πs).all (fun o => !strictKinds.contains o.1) = true := by
  rw [List.all_eq_true]
  intro o ho
  simp only [omissions, List.mem_flatMap, List.mem_map, List.mem_eraseDups, List.mem_filter] at ho
  obtain ⟨π, hπ, f, ⟨p, ⟨hp, hc⟩, hf, hno⟩, rfl⟩ := ho
  cases hs : strictKinds.contains π.kind with
  | false => rfl
  | true =>
    have h2 := pairOK_of_tableOK hok hp hπ (kind_eq_of_compatible hc ▸ List.contains_iff_mem.mp hs)
    rw [Bool.and_eq_true, Bool.not_eq_true', Bool.not_eq_true'] at hno
    cases represented_of_pairOK h2 hc hf with
    | inl h => rw [hno.1] at h; cases h
    | inr h => rw [hno.2] at h; cases h

end AcraModel.Sql.Forms
