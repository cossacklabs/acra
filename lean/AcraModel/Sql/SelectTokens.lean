import AcraModel.Sql.SelectRoundTrip
import AcraModel.Sql.ExprTokens
/-!
# Token conservation of the SELECT core (C13)

`parseSel_keeps`: whatever token sequence the statement parser accepts, the printed form of the statement it returns has
exactly the value-carrying tokens (literals, identifiers – column names, function names, table names, aliases) of the
input, in the same order. The clause keywords, commas and parentheses are what the tree records structurally
(`select_roundtrip`). Built from `parse_keeps` / `parse_sound` of the expression parser, clause by clause.
-/
namespace AcraModel.Sql.Select
open AcraModel AcraModel.Sql.Expr

/-- the expression tokens of a statement token list -/
def toksOf : List STok → List Tok
  | [] => []
  | .t x :: r => x :: toksOf r
  | .kw _ :: r => toksOf r

/-- the value-carrying tokens of a statement token list -/
def lexS (ts : List STok) : List Tok := lexemes (toksOf ts)

/-- number tokens are unsigned and not empty (what the tokenizer yields) -/
def AllOkS (ts : List STok) : Prop := AllOk (toksOf ts)

theorem toksOf_append (a b : List STok) : toksOf (a ++ b) = toksOf a ++ toksOf b := by
  induction a with
  | nil => rfl
  | cons x xs ih => cases x <;> simp [toksOf, ih]

theorem toksOf_map (xs : List Tok) : toksOf (xs.map .t) = xs := by
  induction xs with
  | nil => rfl
  | cons x xs ih => simp [toksOf, ih]

theorem lexS_append (a b : List STok) : lexS (a ++ b) = lexS a ++ lexS b := by
  simp [lexS, toksOf_append, lexemes_append]

@[simp] theorem lexS_nil : lexS [] = [] := rfl
@[simp] theorem lexS_kw (k : Kw) (r : List STok) : lexS (.kw k :: r) = lexS r := by simp [lexS, toksOf]
@[simp] theorem lexS_sym (s : Sym) (r : List STok) : lexS (.t (.sym s) :: r) = lexS r := by simp [lexS, toksOf]
@[simp] theorem lexS_id (n : Bytes) (r : List STok) : lexS (.t (.id n) :: r) = .id n :: lexS r := by simp [lexS, toksOf]

theorem lexS_tE (e : Expr) : lexS (tE e) = leaves e := by simp [lexS, tE, toksOf_map, leaves]

theorem allOkS_kw {k : Kw} {r : List STok} (h : AllOkS (.kw k :: r)) : AllOkS r := by simpa [AllOkS, toksOf] using h
theorem allOkS_t {x : Tok} {r : List STok} (h : AllOkS (.t x :: r)) : AllOkS r := by
  simp only [AllOkS, toksOf] at h ⊢
  exact h.tail

theorem dropKw_spec {k : Kw} {ts r : List STok} (h : dropKw k ts = some r) : ts = .kw k :: r := by
  cases ts with
  | nil => simp [dropKw] at h
  | cons a t =>
    cases a with
    | t x => simp [dropKw] at h
    | kw k' =>
      simp only [dropKw] at h
      by_cases hk : k' = k
      · simp [hk] at h; rw [hk, h]
      · simp [hk] at h

/-- the expression at the front: its printed form has the value-carrying tokens that were read -/
theorem parseE_keeps {ts r : List STok} {e : Expr} (hok : AllOkS ts) (h : parseE ts = some (e, r)) :
    lexS ts = leaves e ++ lexS r ∧ AllOkS r := by
  unfold parseE at h
  have hsplit : toksOf ts = (takeT ts).1 ++ toksOf (takeT ts).2 := by
    have := takeT_spec ts
    conv => lhs; rw [← this]
    rw [toksOf_append, toksOf_map]
  have hokseg : AllOk (takeT ts).1 := by
    intro tk htk
    exact hok tk (by rw [hsplit]; exact List.mem_append_left _ htk)
  have hokrest : AllOk (toksOf (takeT ts).2) := by
    intro tk htk
    exact hok tk (by rw [hsplit]; exact List.mem_append_right _ htk)
  cases hp : parse (fuelFor (takeT ts).1) (.lvl lOr) (takeT ts).1 with
  | none => simp [hp] at h
  | some q =>
    obtain ⟨e', segRest⟩ := q
    simp only [hp, Option.some.injEq, Prod.mk.injEq] at h
    obtain ⟨rfl, rfl⟩ := h
    have k : lexemes (takeT ts).1 = leaves e' ++ lexemes segRest := parse_keeps _ _ _ _ hokseg hp
    have s := (parse_sound _ _ _ _ hokseg hp).2
    refine ⟨?_, ?_⟩
    · simp only [lexS, hsplit, toksOf_append, toksOf_map, lexemes_append, k, List.append_assoc]
    · simp only [AllOkS, toksOf_append, toksOf_map]
      intro tk htk
      rcases List.mem_append.mp htk with h1 | h1
      · exact s tk h1
      · exact hokrest tk h1

/-- the invariant of a sub-parser: what was read is what the printed result holds, and the rest is still well-formed -/
def Keeps {α : Type} (p : List STok → Option (α × List STok)) (f : α → List STok) : Prop :=
  ∀ ts x r, AllOkS ts → p ts = some (x, r) → lexS ts = lexS (f x) ++ lexS r ∧ AllOkS r

theorem keeps_parseE : Keeps parseE tE := fun _ e _ hok h => lexS_tE e ▸ parseE_keeps hok h

theorem keeps_parseItem : Keeps parseItem stoksItem := by
  intro ts it r hok h
  unfold parseItem at h
  split at h
  · -- `*`
    simp only [Option.some.injEq, Prod.mk.injEq] at h
    obtain ⟨rfl, rfl⟩ := h
    exact ⟨by simp [stoksItem], allOkS_t hok⟩
  · cases hE : parseE ts with
    | none => simp [hE] at h
    | some q =>
      obtain ⟨e, r1⟩ := q
      obtain ⟨k1, ok1⟩ := parseE_keeps hok hE
      rw [hE] at h
      split at h
      · rename_i e' a r' heq
        simp only [Option.some.injEq, Prod.mk.injEq] at heq h
        obtain ⟨rfl, rfl⟩ := heq
        obtain ⟨rfl, rfl⟩ := h
        refine ⟨?_, allOkS_t (allOkS_kw ok1)⟩
        rw [k1]
        simp [stoksItem, lexS_append, lexS_tE]
      · rename_i e' r' _ heq
        simp only [Option.some.injEq, Prod.mk.injEq] at heq h
        obtain ⟨rfl, rfl⟩ := heq
        obtain ⟨rfl, rfl⟩ := h
        refine ⟨?_, ok1⟩
        rw [k1]
        simp [stoksItem, lexS_tE]
      · simp at h

theorem lexS_sepComma {α : Type} (f : α → List STok) : (xs : List α) →
    lexS (sepComma f xs) = (xs.map fun x => lexS (f x)).flatten
  | [] => by simp [sepComma]
  | [x] => by simp [sepComma]
  | x :: y :: zs => by
    have := lexS_sepComma f (y :: zs)
    simp only [sepComma, lexS_append, comma, lexS_sym, this]
    simp

theorem keeps_parseSep {α : Type} {p : List STok → Option (α × List STok)} {f : α → List STok} (hp : Keeps p f) :
    ∀ n, Keeps (parseSep p n) (sepComma f)
  | 0 => fun _ _ _ _ h => by simp [parseSep] at h
  | n + 1 => fun ts xs r hok h => by
    simp only [parseSep] at h
    split at h
    · cases h
    · next x r2 hpx =>
      obtain ⟨k1, ok1⟩ := hp ts x _ hok hpx
      split at h
      · next xs' r' hrec =>
        cases h
        obtain ⟨k2, ok2⟩ := keeps_parseSep hp n r2 _ _ (allOkS_t ok1) hrec
        refine ⟨?_, ok2⟩
        rw [k1, lexS_sym, k2, lexS_sepComma, lexS_sepComma]
        simp [List.append_assoc]
      · cases h
    · next x r1 _ hpx =>
      cases h
      obtain ⟨k1, ok1⟩ := hp ts x _ hok hpx
      exact ⟨by rw [k1]; simp [sepComma], ok1⟩

theorem keeps_parseSepL {α : Type} {p : List STok → Option (α × List STok)} {f : α → List STok} (hp : Keeps p f) :
    Keeps (parseSepL p) (sepComma f) := fun ts => keeps_parseSep hp _ ts

theorem keeps_parseTbl : Keeps parseTbl stoksTbl := by
  intro ts t r hok h
  unfold parseTbl at h
  split at h
  · simp only [Option.some.injEq, Prod.mk.injEq] at h
    obtain ⟨rfl, rfl⟩ := h
    exact ⟨by simp [stoksTbl], allOkS_t (allOkS_kw (allOkS_t hok))⟩
  · simp only [Option.some.injEq, Prod.mk.injEq] at h
    obtain ⟨rfl, rfl⟩ := h
    exact ⟨by simp [stoksTbl], allOkS_t hok⟩
  · simp at h

theorem joinKind_spec {ts r : List STok} {k : JoinKind} (h : joinKind ts = some (k, r)) : ts = k.kws ++ r := by
  unfold joinKind at h
  split at h <;> first
    | (simp only [Option.some.injEq, Prod.mk.injEq] at h; obtain ⟨rfl, rfl⟩ := h; rfl)
    | simp at h

theorem lexS_kws (k : JoinKind) (r : List STok) : lexS (k.kws ++ r) = lexS r := by
  cases k <;> simp [JoinKind.kws]

theorem lexS_kws_nil (k : JoinKind) : lexS k.kws = [] := by cases k <;> simp [JoinKind.kws]

theorem allOkS_kws {k : JoinKind} {r : List STok} (h : AllOkS (k.kws ++ r)) : AllOkS r := by
  cases k <;> simpa [JoinKind.kws, AllOkS, toksOf] using h

theorem keeps_parseJoins : ∀ n, Keeps (parseJoins n) stoksJoins
  | 0 => fun _ _ _ _ h => by simp [parseJoins] at h
  | n + 1 => fun ts js r hok h => by
    simp only [parseJoins] at h
    split at h
    · cases h; exact ⟨by simp [stoksJoins], hok⟩
    · next k r0 hj =>
      obtain rfl := joinKind_spec hj
      split at h
      · cases h
      · next t r1 ht =>
        obtain ⟨k1, ok1⟩ := keeps_parseTbl _ _ _ (allOkS_kws hok) ht
        split at h
        · next r2 hd =>
          obtain rfl := dropKw_spec hd
          split at h
          · split at h
            · next e r3 hE =>
              obtain ⟨k2, ok2⟩ := parseE_keeps (allOkS_kw ok1) hE
              split at h
              · next js' r4 hrec =>
                cases h
                obtain ⟨k3, ok3⟩ := keeps_parseJoins n r3 _ _ ok2 hrec
                refine ⟨?_, ok3⟩
                rw [lexS_kws, k1, lexS_kw, k2, k3]
                simp [stoksJoins, stoksJoin, stoksOn, lexS_append, lexS_kws_nil, lexS_tE, List.append_assoc]
              · cases h
            · cases h
          · cases h
        · split at h
          · split at h
            · next js' r4 hrec =>
              cases h
              obtain ⟨k3, ok3⟩ := keeps_parseJoins n r1 _ _ ok1 hrec
              refine ⟨?_, ok3⟩
              rw [lexS_kws, k1, k3]
              simp [stoksJoins, stoksJoin, stoksOn, lexS_append, lexS_kws_nil, List.append_assoc]
            · cases h
          · cases h

theorem keeps_parseTRef : Keeps parseTRef stoksTRef := by
  intro ts t r hok h
  unfold parseTRef at h
  split at h
  · next b r1 ht =>
    obtain ⟨k1, ok1⟩ := keeps_parseTbl _ _ _ hok ht
    split at h
    · next js r2 hj =>
      cases h
      obtain ⟨k2, ok2⟩ := keeps_parseJoins _ r1 _ _ ok1 hj
      refine ⟨?_, ok2⟩
      rw [k1, k2]
      simp [stoksTRef, lexS_append, List.append_assoc]
    · cases h
  · cases h

theorem lexS_stoksOrd (o : Ord) : lexS (stoksOrd o) = leaves o.e := by
  unfold stoksOrd
  split <;> simp [lexS_append, lexS_tE]

theorem keeps_parseOrd : Keeps parseOrd stoksOrd := by
  intro ts o r hok h
  unfold parseOrd at h
  split at h
  · next e r1 hE =>
    obtain ⟨k1, ok1⟩ := parseE_keeps hok hE
    split at h
    · next r' h1 =>
      cases h
      obtain rfl := dropKw_spec h1
      exact ⟨by rw [k1, lexS_stoksOrd]; simp, allOkS_kw ok1⟩
    · split at h
      · next r' h2 =>
        cases h
        obtain rfl := dropKw_spec h2
        exact ⟨by rw [k1, lexS_stoksOrd]; simp, allOkS_kw ok1⟩
      · cases h
        exact ⟨by rw [k1, lexS_stoksOrd], ok1⟩
  · cases h

theorem keeps_parseOptE (k : Kw) : Keeps (parseOptE k) (stoksWhere k) := by
  intro ts w r hok h
  unfold parseOptE at h
  split at h
  · next r0 hd =>
    obtain rfl := dropKw_spec hd
    split at h
    · next e r1 hE =>
      cases h
      obtain ⟨k1, ok1⟩ := parseE_keeps (allOkS_kw hok) hE
      exact ⟨by rw [lexS_kw, k1]; simp [stoksWhere, lexS_append, lexS_tE], ok1⟩
    · cases h
  · cases h
    exact ⟨by simp [stoksWhere], hok⟩

theorem lexS_stoksList {α : Type} (k : Kw) (f : α → List STok) (xs : List α) :
    lexS (stoksList k f xs) = lexS (sepComma f xs) := by
  cases xs with
  | nil => simp [stoksList, sepComma]
  | cons x xs => simp [stoksList]

theorem keeps_parseOptList {α : Type} (k : Kw) {p : List STok → Option (α × List STok)} {f : α → List STok}
    (hp : Keeps p f) : Keeps (parseOptList k p) (stoksList k f) := by
  intro ts xs r hok h
  unfold parseOptList at h
  split at h
  · next r0 hd =>
    obtain rfl := dropKw_spec hd
    split at h
    · next r1 hb =>
      obtain rfl := dropKw_spec hb
      obtain ⟨k1, ok1⟩ := keeps_parseSepL hp _ _ _ (allOkS_kw (allOkS_kw hok)) h
      exact ⟨by rw [lexS_kw, lexS_kw, k1, lexS_stoksList], ok1⟩
    · cases h
  · cases h
    exact ⟨by simp [stoksList], hok⟩

theorem keeps_parseLim : Keeps parseLim stoksLim := by
  intro ts l r hok h
  unfold parseLim at h
  split at h
  · next r0 hd =>
    obtain rfl := dropKw_spec hd
    split at h
    · next a r1 hE =>
      obtain ⟨k1, ok1⟩ := parseE_keeps (allOkS_kw hok) hE
      split at h
      · next r2 ho =>
        obtain rfl := dropKw_spec ho
        split at h
        · next b r3 hE2 =>
          cases h
          obtain ⟨k2, ok2⟩ := parseE_keeps (allOkS_kw ok1) hE2
          exact ⟨by rw [lexS_kw, k1, lexS_kw, k2]; simp [stoksLim, lexS_append, lexS_tE, List.append_assoc], ok2⟩
        · cases h
      · split at h
        · next r2 =>
          split at h
          · next b r3 hE2 =>
            cases h
            obtain ⟨k2, ok2⟩ := parseE_keeps (allOkS_t ok1) hE2
            exact ⟨by rw [lexS_kw, k1, lexS_sym, k2]; simp [stoksLim, comma, lexS_append, lexS_tE, List.append_assoc], ok2⟩
          · cases h
        · cases h
          exact ⟨by rw [lexS_kw, k1]; simp [stoksLim, lexS_tE], ok1⟩
    · cases h
  · cases h
    exact ⟨by simp [stoksLim], hok⟩

theorem parseSel_keeps {ts : List STok} {s : Sel} (hok : AllOkS ts) (h : parseSel ts = some s) :
    lexS (stoks s) = lexS ts := by
  unfold parseSel at h
  split at h
  · cases h
  next r0 h0 =>
  obtain rfl := dropKw_spec h0
  have ok0 := allOkS_kw hok
  have hD : lexS r0 = lexS (parseDistinct r0).2 ∧ AllOkS (parseDistinct r0).2 ∧
      lexS (if (parseDistinct r0).1 = true then [STok.kw Kw.distinct] else []) = [] := by
    unfold parseDistinct
    split
    · next r hd => obtain rfl := dropKw_spec hd; exact ⟨by simp, allOkS_kw ok0, by simp⟩
    · exact ⟨rfl, ok0, by simp⟩
  obtain ⟨kD, okD, kD2⟩ := hD
  split at h
  · cases h
  next items r2 h1 =>
  obtain ⟨k1, ok1⟩ := keeps_parseSepL keeps_parseItem _ _ _ okD h1
  split at h
  · cases h
  next r3 h2 =>
  obtain rfl := dropKw_spec h2
  split at h
  · cases h
  next from_ r4 h3 =>
  obtain ⟨k3, ok3⟩ := keeps_parseSepL keeps_parseTRef _ _ _ (allOkS_kw ok1) h3
  split at h
  · cases h
  next w r5 h4 =>
  obtain ⟨k4, ok4⟩ := keeps_parseOptE .where_ _ _ _ ok3 h4
  split at h
  · cases h
  next g r6 h5 =>
  obtain ⟨k5, ok5⟩ := keeps_parseOptList .group keeps_parseE _ _ _ ok4 h5
  split at h
  · cases h
  next hv r7 h6 =>
  obtain ⟨k6, ok6⟩ := keeps_parseOptE .having _ _ _ ok5 h6
  split at h
  · cases h
  next o r8 h7 =>
  obtain ⟨k7, ok7⟩ := keeps_parseOptList .order keeps_parseOrd _ _ _ ok6 h7
  split at h
  · next l h8 =>
    cases h
    rw [lexS_kw, kD, k1, lexS_kw, k3, k4, k5, k6, k7, (keeps_parseLim _ _ _ ok7 h8).1]
    simp only [stoks, stoksTail, lexS_kw, lexS_append, kD2, lexS_nil, List.nil_append, List.append_nil]
  · cases h

end AcraModel.Sql.Select
