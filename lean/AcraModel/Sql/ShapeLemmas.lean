import AcraModel.Sql.RedactLemmas
/-!
Helper lemmas for `redact_shape` (C16): neither pass of the redaction changes the shape of a statement.
-/
namespace AcraModel.Sql
open AcraModel

/-- what the shape proofs need from the regenerated tables -/
structure ShapeFacts : Prop where
  masked_lit : ∀ ty, maskedKinds.contains ty = true → literalKinds.contains ty = true
  converted_lit : ∀ ty, convertedKinds.contains ty = true → literalKinds.contains ty = true
  valarg_dec : decVal (natDec valArgNo) = some valArgNo

theorem shapeList_eq_map (l : List Tree) : shapeList l = l.map shape := by
  induction l with
  | nil => rfl
  | cons t ts ih => simp [shapeList, ih]

theorem isValuePos_of_ne {k : String} {ks : List Tree} (h : k ≠ "SQLVal") : isValuePos (.node k ks) = false := by
  rw [isValuePos, sqlVal?_of_ne h]

theorem isValuePos_kind {k : String} {ks : List Tree} (h : isValuePos (.node k ks) = true) : k = "SQLVal" :=
  Decidable.byContradiction fun hne => by rw [isValuePos_of_ne hne] at h; cases h

theorem isValuePos_mkValArg (F : ShapeFacts) (v : Bytes) (rest : List Tree) :
    isValuePos (mkSqlVal valArgNo v rest) = true := by
  unfold isValuePos
  rw [sqlVal?_mk, F.valarg_dec]
  simp

theorem shape_mkValArg (F : ShapeFacts) (v : Bytes) (rest : List Tree) :
    shape (mkSqlVal valArgNo v rest) = .node "?" (shapeList rest) := by
  have h := isValuePos_mkValArg F v rest
  unfold mkSqlVal at h ⊢
  rw [shape, if_pos h]
  simp [shapeList]

theorem shape_value_replaced (F : ShapeFacts) (k : String) (ks : List Tree) (v : Bytes)
    (h : isValuePos (.node k ks) = true) :
    shape (mkSqlVal valArgNo v (ks.drop 2)) = shape (.node k ks) := by
  rw [shape_mkValArg F, shape, if_pos h, shapeList_eq_map, shapeList_eq_map, List.map_drop]

theorem isValuePos_of_kind {t : Tree} {r : Nat × Bytes} (hs : sqlVal? t = some r) (h : literalKinds.contains r.1 = true) :
    isValuePos t = true := by
  unfold isValuePos
  rw [hs]
  exact Bool.or_eq_true_iff.mpr (.inl h)

theorem isValuePos_of_masked (F : ShapeFacts) (t : Tree) (h : isMasked t = true) : isValuePos t = true := by
  unfold isMasked at h
  split at h
  · next hs => exact isValuePos_of_kind hs (F.masked_lit _ h)
  · cases h

theorem isValuePos_of_convertible (F : ShapeFacts) (valid : Validator) (t : Tree) (h : isConvertible valid t = true) :
    isValuePos t = true := by
  unfold isConvertible at h
  split at h
  · next hs => exact isValuePos_of_kind hs (F.converted_lit _ (Bool.and_eq_true_iff.mp h).1)
  · cases h

/-- facts about one node before and after a pass: same shape, same "is a value position", same atom bytes,
same "tuple of values" -/
structure SameLook (a b : Tree) : Prop where
  shape_eq : shape a = shape b
  vpos_eq : isValuePos a = isValuePos b
  atom_eq : a.atomBytes = b.atomBytes
  tuple_eq : tupleAllValues a = tupleAllValues b

theorem SameLook.refl (t : Tree) : SameLook t t := ⟨rfl, rfl, rfl, rfl⟩

theorem tupleAllValues_of_ne {k : String} {ks : List Tree} (h : k ≠ "ValTuple") : tupleAllValues (.node k ks) = false := by
  rw [tupleAllValues]
  intro _ heq
  cases heq
  exact h rfl

theorem tupleAllValues_sqlval (ks : List Tree) : tupleAllValues (.node "SQLVal" ks) = false :=
  tupleAllValues_of_ne (by decide)

theorem sameLook_value_replaced (F : ShapeFacts) (k : String) (ks : List Tree) (v : Bytes)
    (h : isValuePos (.node k ks) = true) : SameLook (mkSqlVal valArgNo v (ks.drop 2)) (.node k ks) := by
  have hk := isValuePos_kind h
  subst hk
  refine ⟨shape_value_replaced F _ ks v h, ?_, rfl, ?_⟩
  · rw [isValuePos_mkValArg F, h]
  · simp [mkSqlVal, tupleAllValues]

theorem sameLook_of_cases (F : ShapeFacts) {k : String} {ks : List Tree} {r : Tree} {c : Prop}
    (hc : c → isValuePos (.node k ks) = true) (hr : r = .node k ks ∨ (c ∧ ∃ v, r = mkSqlVal valArgNo v (ks.drop 2))) :
    SameLook r (.node k ks) := by
  rcases hr with rfl | ⟨h, v, rfl⟩
  · exact SameLook.refl _
  · exact sameLook_value_replaced F k ks v (hc h)

/-- children lists that look the same position by position -/
inductive SameLooks : List Tree → List Tree → Prop where
  | nil : SameLooks [] []
  | cons {a b : Tree} {as bs : List Tree} : SameLook a b → SameLooks as bs → SameLooks (a :: as) (b :: bs)

theorem SameLooks.shapeList_eq {as bs : List Tree} (h : SameLooks as bs) : shapeList as = shapeList bs := by
  induction h with
  | nil => rfl
  | cons h1 _ ih => simp [shapeList, h1.shape_eq, ih]

theorem SameLooks.all_vpos {as bs : List Tree} (h : SameLooks as bs) : as.all isValuePos = bs.all isValuePos := by
  induction h with
  | nil => rfl
  | cons h1 _ ih => simp [List.all_cons, h1.vpos_eq, ih]

theorem SameLooks.getD {as bs : List Tree} (h : SameLooks as bs) (j : Nat) (d : Tree) :
    SameLook (as.getD j d) (bs.getD j d) := by
  induction h generalizing j with
  | nil => simp; exact SameLook.refl d
  | cons h1 _ ih =>
    cases j with
    | zero => simpa using h1
    | succ j' => simpa using ih j'

theorem SameLooks.inTuple_eq {as bs : List Tree} (h : SameLooks as bs) : inTuple as = inTuple bs := by
  unfold inTuple isInOp
  rw [(h.getD cmpOpIdx (.atom [])).atom_eq, (h.getD cmpRightIdx (.atom [])).tuple_eq]

theorem sameLook_node (k : String) (as bs : List Tree) (hk : k ≠ "SQLVal") (h : SameLooks as bs) :
    SameLook (.node k as) (.node k bs) := by
  refine ⟨?_, ?_, rfl, ?_⟩
  · rw [shape, shape, isValuePos_of_ne hk, isValuePos_of_ne hk, h.shapeList_eq, h.inTuple_eq]
  · rw [isValuePos_of_ne hk, isValuePos_of_ne hk]
  · by_cases ht : k = "ValTuple"
    · subst ht; simp [tupleAllValues, h.all_vpos]
    · rw [tupleAllValues_of_ne ht, tupleAllValues_of_ne ht]

mutual
theorem maskWalk_sameLook (F : ShapeFacts) (pfx : Bytes) :
    ∀ (t : Tree) (s : St), SameLook (maskWalk pfx t s).1 t
  | .atom b, s => by rw [maskWalk]; exact SameLook.refl _
  | .node k ks, s => by
    rw [maskWalk.eq_2]
    split <;> rename_i hk
    · exact sameLook_of_cases F (isValuePos_of_masked F _) (maskVal_cases pfx _ s)
    · exact sameLook_node k _ ks (by simpa using hk) (maskKids_sameLooks F pfx (walkSpec k) 0 ks s)
theorem maskKids_sameLooks (F : ShapeFacts) (pfx : Bytes) (spec : WalkSpec) :
    ∀ (i : Nat) (ks : List Tree) (s : St), SameLooks (maskKids pfx spec i ks s).1 ks
  | _, [], _ => by rw [maskKids]; exact SameLooks.nil
  | i, c :: cs, s => by
    rw [maskKids.eq_2]
    refine SameLooks.cons ?_ (maskKids_sameLooks F pfx spec (i + 1) cs _)
    split
    · exact maskWalk_sameLook F pfx c s
    · exact SameLook.refl c
end

theorem shapeList_set (l : List Tree) (j : Nat) (t : Tree) : shapeList (l.set j t) = (shapeList l).set j (shape t) := by
  rw [shapeList_eq_map, shapeList_eq_map, List.map_set]

theorem tupleAllValues_getD_set (l : List Tree) (j : Nat) (n : Bytes) :
    tupleAllValues ((l.set j (.node "ListArg" [.atom n])).getD j (.atom [])) = false := by
  by_cases hj : j < l.length
  · simp [List.getD, List.getElem?_set_self hj, tupleAllValues]
  · have : (l.set j (.node "ListArg" [.atom n])) = l := by
      apply List.set_eq_of_length_le; omega
    rw [this]
    simp [List.getD, List.getElem?_eq_none (by omega : l.length ≤ j), tupleAllValues]

theorem inTuple_set_listArg (l : List Tree) (n : Bytes) : inTuple (l.set cmpRightIdx (.node "ListArg" [.atom n])) = false := by
  unfold inTuple
  rw [tupleAllValues_getD_set]; simp

mutual
theorem walk_sameLook (F : ShapeFacts) (valid : Validator) (pfx : Bytes) (sel : Bool) :
    ∀ (t : Tree) (s : St), SameLook (walk valid pfx sel t s).1 t
  | .atom b, s => by rw [walk]; exact SameLook.refl _
  | .node k ks, s => by
    rw [walk.eq_2]
    split <;> rename_i hk
    · split
      · exact sameLook_of_cases F (isValuePos_of_convertible F valid _) (convertDedup_cases valid pfx _ s)
      · exact sameLook_of_cases F (isValuePos_of_convertible F valid _) (convert_cases valid pfx _ s)
    · have hne : k ≠ "SQLVal" := by simpa using hk
      generalize hc : (if (k == "ComparisonExpr") = true then convertComparison valid pfx ks s else (none, s)) = c
      obtain ⟨co, s1⟩ := c
      have hkids := walkKids_sameLooks F valid pfx (sel || k == "Select") (walkSpec k) (co.map (·.1)) 0 ks s1
      cases co with
      | none => exact sameLook_node k _ ks hne hkids
      | some p =>
        obtain ⟨i, la⟩ := p
        obtain ⟨rfl, rfl, ⟨n, rfl⟩, hop, items, hr, hall⟩ := cmp_some hc
        have hin : inTuple ks = true := by
          unfold inTuple
          rw [hop, hr]
          simpa [tupleAllValues] using fun x hx => isValuePos_of_convertible F valid x (List.all_eq_true.mp hall x hx)
        simp only [Option.map_some] at hkids
        refine ⟨?_, ?_, rfl, ?_⟩
        · rw [shape, shape, isValuePos_of_ne hne, isValuePos_of_ne hne]
          simp only [Bool.false_eq_true, if_false, show ("ComparisonExpr" == "ListArg") = false by decide,
            beq_self_eq_true, Bool.true_and, hin, if_true, Option.map_some]
          rw [inTuple_set_listArg]
          simp only [Bool.false_eq_true, if_false]
          rw [shapeList_set, hkids.shapeList_eq]
          congr 2
        · rw [isValuePos_of_ne hne, isValuePos_of_ne hne]
        · simp [tupleAllValues]
theorem walkKids_sameLooks (F : ShapeFacts) (valid : Validator) (pfx : Bytes) (sel : Bool) (spec : WalkSpec) (skip : Option Nat) :
    ∀ (i : Nat) (ks : List Tree) (s : St), SameLooks (walkKids valid pfx sel spec skip i ks s).1 ks
  | _, [], _ => by rw [walkKids]; exact SameLooks.nil
  | i, c :: cs, s => by
    rw [walkKids.eq_2]
    refine SameLooks.cons ?_ (walkKids_sameLooks F valid pfx sel spec skip (i + 1) cs _)
    split
    · exact walk_sameLook F valid pfx sel c s
    · exact SameLook.refl c
end

end AcraModel.Sql
