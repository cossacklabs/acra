import AcraModel.Basic.Bytes
import AcraModel.Generated.SqlGrammar
/-!
# What the grammar actions keep of what the parser reads (C13)

`Generated/SqlGrammar.lean` (factgen `sqlgrammar.go`) lists every alternative of `sqlparser/sql.y` that is reachable
from the DML statements with the class of each right-hand-side symbol and the positions whose value FLOWS into `$$`
(data-flow analysis of the action). This file is the model on top of that table:

* a derivation tree `Deriv` (what the goyacc parser recognises): token leaves with their lexeme, rule nodes with the
  alternative taken;
* `read d` – the lexemes of the lexeme-carrying tokens (identifiers, literals, placeholders, comments) of the text,
  left to right;
* `kept d` – the lexemes that are in the semantic value the actions build: a node keeps what the kids at the positions
  flowing into `$$` keep. (Abstraction: an action whose `$$` depends on `$n` keeps all of `$n`; that the real actions
  do is what the token-conservation oracle of the harness checks on the real parser.)
* `tableOK` – the finite check over the regenerated table: every lexeme-carrying token and every non-terminal with a
  semantic value flows into `$$` or is in the pinned exemption list; a non-terminal without a value derives no lexeme.

`kept_eq_read` lifts the finite check to ALL derivation trees: nothing that is read is lost, apart from what stands
at an exempt position.
-/
namespace AcraModel.Sql.Grammar
open AcraModel AcraModel.Generated

inductive Cls | lex | kw | sem | void
  deriving DecidableEq, Repr

def Cls.ofString (s : String) : Cls :=
  if s == "lex" then .lex else if s == "sem" then .sem else if s == "void" then .void else .kw

structure GSym where
  name : String
  cls : Cls
  deriving DecidableEq, Repr

structure GAlt where
  rule : String
  idx : Nat
  prodNo : Nat
  rhs : List GSym
  /-- positions (from 1) whose value flows into `$$` -/
  flow : List Nat
  /-- positions the action mentions at all -/
  mentions : List Nat
  deriving DecidableEq, Repr

def alts : List GAlt :=
  SqlGrammar.grammarAlts.map fun r =>
    ⟨r.1, r.2.1, r.2.2.1, r.2.2.2.1.map (fun s => ⟨s.1, .ofString s.2⟩), r.2.2.2.2.1, r.2.2.2.2.2⟩

def isLexTok (n : String) : Bool := SqlGrammar.lexTokens.contains n

/-- the non-terminals that derive keywords and punctuation only (regenerated; `lexFreeClosed` re-checks the list) -/
def lexFree (n : String) : Bool := SqlGrammar.lexFreeRules.contains n

abbrev Lexeme := String × Bytes

/-- a derivation tree of the grammar -/
inductive Deriv
  | tok (name : String) (lexeme : Bytes)
  | node (rule : String) (alt : Nat) (kids : List Deriv)
  deriving Repr

def Deriv.head : Deriv → String
  | .tok n _ => n
  | .node r _ _ => r

mutual
/-- the lexemes of the text: the lexeme-carrying token leaves, left to right -/
def Deriv.read : Deriv → List Lexeme
  | .tok n l => if isLexTok n then [(n, l)] else []
  | .node _ _ kids => readList kids
def readList : List Deriv → List Lexeme
  | [] => []
  | d :: ds => d.read ++ readList ds
end

def findAlt (tbl : List GAlt) (r : String) (a : Nat) : Option GAlt := tbl.find? fun A => A.rule == r && A.idx == a

mutual
/-- the lexemes in the semantic value the actions build -/
def Deriv.kept (tbl : List GAlt) : Deriv → List Lexeme
  | .tok n l => if isLexTok n then [(n, l)] else []
  | .node r a kids =>
    match findAlt tbl r a with
    | some A => keptList tbl A.flow 1 kids
    | none => []
def keptList (tbl : List GAlt) (flow : List Nat) : Nat → List Deriv → List Lexeme
  | _, [] => []
  | i, d :: ds => (if flow.contains i then d.kept tbl else []) ++ keptList tbl flow (i + 1) ds
end

/-- a kid fits a right-hand-side symbol: a token leaf for a token, a node of the rule for a non-terminal -/
def kidMatch (d : Deriv) (s : GSym) : Bool :=
  match d with
  | .tok n _ => n == s.name && (s.cls == .lex || s.cls == .kw)
  | .node r _ _ => r == s.name && (s.cls == .sem || s.cls == .void)

def kidsMatch : List Deriv → List GSym → Bool
  | [], [] => true
  | d :: ds, s :: ss => kidMatch d s && kidsMatch ds ss
  | _, _ => false

mutual
/-- the tree is a derivation of the table: every node takes an alternative of its rule and its kids fit the
right-hand side -/
def Deriv.wf (tbl : List GAlt) : Deriv → Bool
  | .tok _ _ => true
  | .node r a kids =>
    (match findAlt tbl r a with
      | some A => kidsMatch kids A.rhs
      | none => false) && wfList tbl kids
def wfList (tbl : List GAlt) : List Deriv → Bool
  | [] => true
  | d :: ds => d.wf tbl && wfList tbl ds
end

abbrev Exempt := List (String × Nat × Nat)

mutual
/-- nothing with a lexeme stands at an exempt position -/
def Deriv.exemptEmpty (ex : Exempt) : Deriv → Bool
  | .tok _ _ => true
  | .node r a kids => exemptEmptyList ex r a 1 kids
def exemptEmptyList (ex : Exempt) (r : String) (a : Nat) : Nat → List Deriv → Bool
  | _, [] => true
  | i, d :: ds => (!ex.contains (r, a, i) || d.read.isEmpty) && d.exemptEmpty ex && exemptEmptyList ex r a (i + 1) ds
end

/-- one right-hand-side symbol at position `i` of alternative `A` -/
def symOK (ex : Exempt) (A : GAlt) (i : Nat) (s : GSym) : Bool :=
  match s.cls with
  | .lex => isLexTok s.name && (A.flow.contains i || ex.contains (A.rule, A.idx, i))
  | .sem => A.flow.contains i || ex.contains (A.rule, A.idx, i)
  | .void => lexFree s.name
  | .kw => !isLexTok s.name

def symsOK (ex : Exempt) (A : GAlt) : Nat → List GSym → Bool
  | _, [] => true
  | i, s :: ss => symOK ex A i s && symsOK ex A (i + 1) ss

def altOK (ex : Exempt) (A : GAlt) : Bool := symsOK ex A 1 A.rhs

/-- **every operand is used**: in every alternative reachable from the DML statements each lexeme-carrying token and
each non-terminal with a semantic value flows into `$$` (or is exempt), and a non-terminal without a value derives
no lexeme -/
def tableOKFor (ex : Exempt) (tbl : List GAlt) : Bool := tbl.all (altOK ex)

/-- a symbol of a lexeme-free rule: a keyword / punctuation token or another lexeme-free rule -/
def lexFreeSym (s : GSym) : Bool :=
  match s.cls with
  | .kw => !isLexTok s.name
  | .lex => false
  | _ => lexFree s.name

/-- the regenerated list of lexeme-free rules is closed: every alternative of such a rule consists of keyword tokens
and lexeme-free rules (and no lexeme-carrying token bears the name of such a rule) -/
def lexFreeClosedFor (tbl : List GAlt) : Bool :=
  (tbl.all fun A => !lexFree A.rule || A.rhs.all lexFreeSym) && SqlGrammar.lexTokens.all fun t => !lexFree t

theorem findAlt_spec {tbl : List GAlt} {r : String} {a : Nat} {A : GAlt} (h : findAlt tbl r a = some A) :
    A ∈ tbl ∧ A.rule = r ∧ A.idx = a := by
  have hp := List.find?_some h
  simp only [Bool.and_eq_true, beq_iff_eq] at hp
  exact ⟨List.mem_of_find?_eq_some h, hp⟩

theorem wf_node {tbl : List GAlt} {r : String} {a : Nat} {kids : List Deriv} (hw : (Deriv.node r a kids).wf tbl = true) :
    ∃ A, findAlt tbl r a = some A ∧ kidsMatch kids A.rhs = true ∧ wfList tbl kids = true := by
  simp only [Deriv.wf, Bool.and_eq_true] at hw
  split at hw
  · exact ⟨_, ‹_›, hw⟩
  · exact absurd hw.1 (by decide)

/-- the finite check on one symbol, by its class -/
theorem symOK_cases {ex : Exempt} {A : GAlt} {i : Nat} {s : GSym} (h : symOK ex A i s = true) :
    (s.cls = .lex ∨ s.cls = .sem) ∧ (A.flow.contains i = true ∨ ex.contains (A.rule, A.idx, i) = true) ∨
      (s.cls = .void ∨ s.cls = .kw) ∧ lexFreeSym s = true := by
  unfold symOK at h
  unfold lexFreeSym
  cases hc : s.cls <;> simp only [hc, Bool.and_eq_true, Bool.or_eq_true] at h
  · exact .inl ⟨.inl rfl, h.2⟩
  · exact .inr ⟨.inr rfl, h⟩
  · exact .inl ⟨.inr rfl, h⟩
  · exact .inr ⟨.inl rfl, h⟩

/-- a kid at a lexeme-free symbol is a keyword leaf or a node of a lexeme-free rule; `ih` is `lexfree_read` at the kid -/
theorem read_of_lexFreeSym {d : Deriv} {s : GSym} (ih : lexFree d.head = true → d.read = [])
    (hm : kidMatch d s = true) (hs : lexFreeSym s = true) : d.read = [] := by
  unfold kidMatch at hm
  unfold lexFreeSym at hs
  cases d with
  | tok n l =>
    cases hc : s.cls <;> simp [hc] at hm hs
    simp [Deriv.read, hm, hs]
  | node r a kids =>
    cases hc : s.cls <;> simp [hc] at hm hs <;> exact ih (hm ▸ hs)

mutual
/-- a derivation from a lexeme-free rule reads no lexeme -/
theorem lexfree_read {tbl : List GAlt} (hc : lexFreeClosedFor tbl = true) :
    (d : Deriv) → d.wf tbl = true → lexFree d.head = true → d.read = []
  | .tok n l, _, hf => by
    simp only [lexFreeClosedFor, Bool.and_eq_true, List.all_eq_true] at hc
    cases hl : isLexTok n with
    | false => simp only [Deriv.read, hl]; rfl
    | true =>
      have := hc.2 n (List.contains_iff_mem.mp hl)
      rw [show lexFree n = true from hf] at this
      exact absurd this (by decide)
  | .node r a kids, hw, hf => by
    obtain ⟨A, hA, hm, hw⟩ := wf_node hw
    obtain ⟨hA1, hA2, _⟩ := findAlt_spec hA
    have hcl := (List.all_eq_true.mp (Bool.and_eq_true_iff.mp hc).1) A hA1
    rw [hA2, show lexFree r = true from hf] at hcl
    exact lexfree_readList hc kids A.rhs hm hw hcl
theorem lexfree_readList {tbl : List GAlt} (hc : lexFreeClosedFor tbl = true) :
    (kids : List Deriv) → (syms : List GSym) → kidsMatch kids syms = true → wfList tbl kids = true →
      syms.all lexFreeSym = true → readList kids = []
  | [], _, _, _, _ => rfl
  | d :: ds, [], hm, _, _ => by simp [kidsMatch] at hm
  | d :: ds, s :: ss, hm, hw, hs => by
    simp only [kidsMatch, wfList, List.all_cons, Bool.and_eq_true] at hm hw hs
    rw [readList, lexfree_readList hc ds ss hm.2 hw.2 hs.2, List.append_nil]
    exact read_of_lexFreeSym (lexfree_read hc d hw.1) hm.1 hs.1
end

mutual
/-- **Nothing that is read is lost.** If the finite check holds for the table, then for EVERY derivation tree of the
table in which nothing with a lexeme stands at an exempt position, the lexemes kept in the semantic value are exactly
the lexemes read, in the same order. -/
theorem kept_eq_read {ex : Exempt} {tbl : List GAlt} (hok : tableOKFor ex tbl = true) (hc : lexFreeClosedFor tbl = true) :
    (d : Deriv) → d.wf tbl = true → d.exemptEmpty ex = true → d.kept tbl = d.read
  | .tok n l, _, _ => by simp only [Deriv.kept, Deriv.read]
  | .node r a kids, hw, he => by
    obtain ⟨A, hA, hm, hw⟩ := wf_node hw
    obtain ⟨hA1, hA2, hA3⟩ := findAlt_spec hA
    simp only [Deriv.kept, Deriv.read, hA]
    rw [Deriv.exemptEmpty, ← hA2, ← hA3] at he
    exact keptList_eq hok hc A 1 kids A.rhs hm hw (List.all_eq_true.mp hok A hA1) he
theorem keptList_eq {ex : Exempt} {tbl : List GAlt} (hok : tableOKFor ex tbl = true) (hc : lexFreeClosedFor tbl = true)
    (A : GAlt) : (i : Nat) → (kids : List Deriv) → (syms : List GSym) → kidsMatch kids syms = true →
      wfList tbl kids = true → symsOK ex A i syms = true → exemptEmptyList ex A.rule A.idx i kids = true →
      keptList tbl A.flow i kids = readList kids
  | _, [], _, _, _, _, _ => by simp only [keptList, readList]
  | _, d :: ds, [], hm, _, _, _ => by simp [kidsMatch] at hm
  | i, d :: ds, s :: ss, hm, hw, hs, he => by
    simp only [kidsMatch, wfList, symsOK, exemptEmptyList, Bool.and_eq_true] at hm hw hs he
    rw [keptList, readList, keptList_eq hok hc A (i + 1) ds ss hm.2 hw.2 hs.2 he.2]
    congr 1
    cases hf : A.flow.contains i with
    | true => exact kept_eq_read hok hc d hw.1 he.1.2
    | false =>
      -- the kid does not flow into `$$`: it stands at an exempt position or at a lexeme-free symbol
      symm
      rcases symOK_cases hs.1 with ⟨_, hx | hx⟩ | ⟨_, hl⟩
      · cases hf.symm.trans hx
      · have := he.1.1
        rwa [hx, Bool.not_true, Bool.false_or, List.isEmpty_iff] at this
      · exact read_of_lexFreeSym (lexfree_read hc d hw.1) hm.1 hl
end

/-- the finite check says, position by position: a symbol with a semantic value flows into `$$` or is exempt -/
theorem symsOK_spec {ex : Exempt} {A : GAlt} : (i : Nat) → (syms : List GSym) → symsOK ex A i syms = true →
    ∀ (k : Nat) (s : GSym), syms[k]? = some s → (s.cls = .lex ∨ s.cls = .sem) →
      A.flow.contains (i + k) = true ∨ ex.contains (A.rule, A.idx, i + k) = true
  | _, [], _, k, s, hk, _ => by simp at hk
  | i, t :: ts, h, k, s, hk, hcls => by
    simp only [symsOK, Bool.and_eq_true] at h
    cases k with
    | zero =>
      cases Option.some.inj hk
      rcases symOK_cases h.1 with ⟨_, hx⟩ | ⟨hv, _⟩
      · exact hx
      · rcases hcls with hl | hl <;> rcases hv with hv | hv <;> cases hl.symm.trans hv
    | succ k =>
      rw [show i + (k + 1) = i + 1 + k by omega]
      exact symsOK_spec (i + 1) ts h.2 k s hk hcls

/-! ## the pinned exemptions and the check on the regenerated table -/

/-- Right-hand-side symbols with a semantic value that an action may ignore (rule, alternative, position), each with
its reason. A new entry of `SqlGrammar.unusedSemantic` that is not listed here fails `Props.C13.grammar_uses_every_operand`.
* `select_statement` 3, position 6 (`for_from`): `SELECT … NEXT n VALUES FOR|FROM t` – the keyword FOR / FROM, a noise
  word (the rule derives keywords only; the statement is printed with `for`… both spellings mean the same);
* `ins_column_list` 2, position 1 and 4, position 3 (`column_id '.' column_id`): the table qualifier of a column in the
  column list of an INSERT (`insert into t (t.a) …`). MySQL accepts it only when it names the target table; Acra keeps
  the column and prints `insert into t(a)`. The qualifier IS a lexeme that is dropped – the token-conservation oracle of
  the harness has the matching exemption (`insert-column-qualifier`). -/
def exempt : Exempt := [("select_statement", 3, 6), ("ins_column_list", 2, 1), ("ins_column_list", 4, 3)]

def tableOK : Bool := tableOKFor exempt alts
def lexFreeClosed : Bool := lexFreeClosedFor alts

/-- the alternative of the regenerated table -/
def altOf (r : String) (a : Nat) : Option GAlt := findAlt alts r a

/-- the unused semantic symbols as the finite check of THIS file sees them (must agree with factgen's list) -/
def unusedOf (tbl : List GAlt) : List (String × Nat × Nat × String) :=
  tbl.flatMap fun A =>
    (A.rhs.zipIdx.filter fun (s, i) => (s.cls == .lex || s.cls == .sem) && !A.flow.contains (i + 1)).map
      fun (s, i) => (A.rule, A.idx, i + 1, s.name)

/-- the table with position `pos` of alternative (`rule`, `alt`) removed from the flow (what a seeded change does) -/
def withoutFlow (rule : String) (alt pos : Nat) (tbl : List GAlt) : List GAlt :=
  tbl.map fun A => if A.rule == rule && A.idx == alt then { A with flow := A.flow.filter (· != pos) } else A

end AcraModel.Sql.Grammar
