import AcraModel.Sql.Forms
/-!
# The finite checks of `Sql/Forms.lean` on the regenerated tables

Nothing the model driver runs imports this file: a table that fails the check must not keep the driver from building.
-/
namespace AcraModel.Sql.Forms

/-- `tableOKFor` and `coveredFor` in one pass, kind by kind: the productions of a strict kind against the paths of that
kind (on the paths of another kind `compatible` is false) -/
def checkedFor (ps : List Prod) (πs : List Path) : Bool :=
  strictKinds.all fun k =>
    let qs := πs.filter (·.kind == k)
    (ps.filter (·.kind == k)).all fun p => qs.all (pairOK p) && qs.any (compatible p)

theorem of_checkedFor {ps : List Prod} {πs : List Path} (h : checkedFor ps πs = true) :
    tableOKFor ps πs = true ∧ coveredFor ps πs = true := by
  simp only [checkedFor, List.all_filter, List.any_filter, List.all_eq_true, List.any_eq_true, Bool.or_eq_true,
    Bool.and_eq_true, Bool.not_eq_true', beq_eq_false_iff_ne, beq_iff_eq] at h
  simp only [tableOKFor, coveredFor, List.all_eq_true, List.any_eq_true, Bool.or_eq_true, Bool.not_eq_true']
  refine ⟨fun p hp => ?_, fun p hp => ?_⟩ <;> cases hs : strictKinds.contains p.kind
  · exact Or.inl rfl
  · refine Or.inr fun π hπ => ?_
    have hq := (((h p.kind (List.contains_iff_mem.mp hs)) p hp).resolve_left (fun hk => hk rfl)).1 π hπ
    refine hq.elim (fun hk => ?_) id
    cases hc : compatible p π with
    | false => simp only [pairOK, hc, Bool.not_false, Bool.true_or]
    | true => exact absurd (kind_eq_of_compatible hc).symm hk
  · exact Or.inl rfl
  · obtain ⟨π, hπ, _, hc⟩ := (((h p.kind (List.contains_iff_mem.mp hs)) p hp).resolve_left (fun hk => hk rfl)).2
    exact Or.inr ⟨π, hπ, hc⟩

theorem prods_paths_checked : checkedFor prods paths = true := by decide +kernel

end AcraModel.Sql.Forms
