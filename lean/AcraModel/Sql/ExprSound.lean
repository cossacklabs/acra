import AcraModel.Sql.ExprLemmas
/-!
# Everything the expression parser returns is producible (C13)

`Sound p`: each result of `p` satisfies the invariant of its mode; `step` preserves soundness, hence `parse n` is sound
for every `n`. The literal tokens must be what the tokenizer yields: a number token is not empty and has no sign.
-/
namespace AcraModel.Sql.Expr
open AcraModel

/-- a literal token as the tokenizer produces it: a number (a value that is printed as it is) is unsigned and not empty -/
def TokOk : Tok → Prop
  | .lit ty v => rawTy ty = true → v ≠ [] ∧ v.head? ≠ some minusByte
  | _ => True

def AllOk (ts : List Tok) : Prop := ∀ tk, tk ∈ ts → TokOk tk

theorem AllOk.tail {tk : Tok} {ts : List Tok} (h : AllOk (tk :: ts)) : AllOk ts :=
  fun x hx => h x (List.mem_cons_of_mem _ hx)

theorem AllOk.head {tk : Tok} {ts : List Tok} (h : AllOk (tk :: ts)) : TokOk tk := h tk (by simp)

def Inv (m : Mode) (r : PRes) : Prop :=
  match m with
  | .lvl L => Producible r.1 ∧ min L lUnary ≤ lv r.1
  | .rest L lhs => Producible lhs → L ≤ lv lhs → Producible r.1 ∧ L ≤ lv r.1
  | .isLoop e0 => Producible e0 → lCmp ≤ lv e0 → Producible r.1 ∧ lCmp ≤ lv r.1
  | .args _ acc => (∀ a, a ∈ acc → Producible a) → Producible r.1 ∧ lUnary ≤ lv r.1

def Sound (p : Mode → List Tok → Option PRes) : Prop :=
  ∀ m ts r, AllOk ts → p m ts = some r → Inv m r ∧ AllOk r.2

theorem litOk_of_tokOk {ty : Nat} {v : Bytes} (h : TokOk (.lit ty v)) : LitOk ty v := by
  intro hraw
  obtain ⟨h1, h2⟩ := h hraw
  exact ⟨h1, fun hh => absurd hh h2⟩

theorem mkUnary_inv (u : UnOp) {e : Expr} (hp : Producible e) (hl : lUnary ≤ lv e) :
    Producible (mkUnary u e) ∧ lUnary ≤ lv (mkUnary u e) := by
  rcases mkUnary_cases u e with ⟨h, hf⟩ | ⟨v, rfl, _, h | ⟨w, rfl, h⟩ | ⟨hv, h⟩⟩ <;> rw [h]
  · exact ⟨.un hp hl hf, Nat.le_refl _⟩
  · exact ⟨hp, hl⟩
  · -- `-w` ↦ `w`: what stands behind the one sign of an `IntVal` is unsigned and not empty
    cases hp with
    | val hok =>
      obtain ⟨_, hw, hw2⟩ := (hok (by decide)).2 rfl
      exact ⟨.val fun _ => ⟨hw, fun hh => absurd hh hw2⟩, Nat.le_refl _⟩
  · cases hp with
    | val hok => exact ⟨.val fun _ => ⟨by simp, fun _ => ⟨rfl, (hok (by decide)).1, hv⟩⟩, Nat.le_refl _⟩

theorem lvlV_of_inv {x : Expr} (h : min (lCmp + 1) lUnary ≤ lv x) : lCmp + 1 ≤ lv x := by
  have := lCmp_eq; have := lUnary_eq; omega

section
variable {p : Mode → List Tok → Option PRes}

theorem rangeTail_sound (hp : Sound p) {neg : Bool} {v c : Expr} {ts r : List Tok} (hv : Producible v)
    (hlv : lCmp + 1 ≤ lv v) (hok : AllOk ts) (h : rangeTail p neg v ts = some (c, r)) :
    Producible c ∧ lCmp ≤ lv c ∧ AllOk r := by
  obtain ⟨lo, r2, hi, _, h1, h2, ⟨⟩⟩ := rangeTail_inv h
  obtain ⟨⟨plo, hlo⟩, ok1⟩ := hp _ _ _ hok h1
  obtain ⟨⟨phi, hhi⟩, ok3⟩ := hp _ _ _ ok1.tail h2
  exact ⟨.range hv plo phi hlv (lvlV_of_inv hlo) (lvlV_of_inv hhi), Nat.le_refl _, ok3⟩

theorem cmpTail_sound (hp : Sound p) {v c : Expr} {ts r : List Tok} (hv : Producible v)
    (hlv : lCmp + 1 ≤ lv v) (hok : AllOk ts) (h : cmpTail p v ts = some (c, r)) :
    Producible c ∧ lCmp ≤ lv c ∧ AllOk r := by
  rcases cmpTail_inv h with ⟨⟨⟩⟩ | ⟨pre, ts', rfl, ⟨op, x, _, h1, ⟨⟩⟩ | ⟨neg, h1⟩⟩
  · exact ⟨hv, Nat.le_of_succ_le hlv, hok⟩
  · obtain ⟨⟨px, hx⟩, ok1⟩ := hp _ _ _ (fun t ht => hok t (List.mem_append_right _ ht)) h1
    exact ⟨.cmp hv px hlv (lvlV_of_inv hx), Nat.le_refl _, ok1⟩
  · exact rangeTail_sound hp hv hlv (fun t ht => hok t (List.mem_append_right _ ht)) h1

theorem unaryOrPrim_sound (hp : Sound p) {ts r : List Tok} {e : Expr} (hok : AllOk ts)
    (h : unaryOrPrim p ts = some (e, r)) : Producible e ∧ lUnary ≤ lv e ∧ AllOk r := by
  rcases unaryOrPrim_inv h with ⟨s, u, x, _, ts', rfl, h1, ⟨⟩⟩ | ⟨x, _, ts', rfl, h1, ⟨⟩⟩ | ⟨s, _, rfl, he⟩ |
    ⟨ty, v, _, rfl, ⟨⟩⟩ | ⟨n, _, rfl, ⟨⟩⟩ | ⟨n, ts', rfl, h1⟩ | ⟨n, _, rfl, ⟨⟩⟩
  · obtain ⟨⟨px, hx⟩, ok1⟩ := hp _ _ _ hok.tail h1
    have := mkUnary_inv u px (by simpa using hx)
    exact ⟨this.1, this.2, ok1⟩
  · obtain ⟨⟨px, _⟩, ok1⟩ := hp _ _ _ hok.tail h1
    exact ⟨.paren px, Nat.le_refl _, ok1.tail⟩
  · rcases he with ⟨⟨⟩⟩ | ⟨b, ⟨⟩⟩
    · exact ⟨.null, Nat.le_refl _, hok.tail⟩
    · exact ⟨.bool, Nat.le_refl _, hok.tail⟩
  · exact ⟨.val (litOk_of_tokOk hok.head), Nat.le_refl _, hok.tail⟩
  · exact ⟨.func (by simp), Nat.le_refl _, hok.tail.tail.tail⟩
  · obtain ⟨i1, ok1⟩ := hp _ _ _ hok.tail.tail h1
    have := i1 (by simp)
    exact ⟨this.1, this.2, ok1⟩
  · exact ⟨.col, Nat.le_refl _, hok.tail⟩

theorem isSuffix_ok {ts r : List Tok} {op : IsOp} (hok : AllOk ts) (h : isSuffix ts = some (op, r)) : AllOk r := by
  unfold isSuffix at h
  split at h <;> first
    | (simp at h; obtain ⟨_, rfl⟩ := h; first | exact hok.tail | exact hok.tail.tail)
    | simp at h

theorem step_sound (hp : Sound p) : Sound (step p) := by
  have e3 := lOr_eq; have e14 := lUnary_eq; have e7 := lCmp_eq; have e5 := lNot_eq; have e4 := lAnd_eq
  intro m ts res hok h
  cases m with
  | lvl L =>
    rcases step_lvl_inv h with ⟨rfl, ⟨ts', x, r, rfl, h1, rfl⟩ | h1⟩ | ⟨rfl, v, r1, c, r2, h1, h2, h3⟩ | ⟨h14, h1⟩ |
      ⟨h5, h7, h14, l, r1, h1, h2⟩
    · obtain ⟨⟨px, hx⟩, ok1⟩ := hp _ _ _ hok.tail h1
      exact ⟨⟨.not px (by simp only at hx; omega), by simp only [lv]; omega⟩, ok1⟩
    · obtain ⟨⟨pe, hl⟩, ok⟩ := hp _ _ _ hok h1
      exact ⟨⟨pe, by omega⟩, ok⟩
    · obtain ⟨⟨pv, hv⟩, ok1⟩ := hp _ _ _ hok h1
      obtain ⟨pc, hc, ok2⟩ := cmpTail_sound hp pv (lvlV_of_inv hv) ok1 h2
      obtain ⟨i3, ok3⟩ := hp _ _ _ ok2 h3
      have := i3 pc hc
      exact ⟨⟨this.1, by omega⟩, ok3⟩
    · obtain ⟨pe, hl, ok⟩ := unaryOrPrim_sound hp hok h1
      exact ⟨⟨pe, by omega⟩, ok⟩
    · obtain ⟨⟨pl, hl⟩, ok1⟩ := hp _ _ _ hok h1
      obtain ⟨i2, ok2⟩ := hp _ _ _ ok1 h2
      have := i2 pl (by simp only at hl; omega)
      exact ⟨⟨this.1, by omega⟩, ok2⟩
  | rest L lhs =>
    rcases step_rest_inv h with rfl | ⟨s, b, ts', x, r1, rfl, hb, h1, h2⟩
    · exact ⟨fun pl hl => ⟨pl, hl⟩, hok⟩
    · obtain rfl := bin2At_level hb
      obtain ⟨⟨px, hx⟩, ok1⟩ := hp _ _ _ hok.tail h1
      obtain ⟨i2, ok2⟩ := hp _ _ _ ok1 h2
      have hr := bin2_level_range b
      exact ⟨fun pl hl => i2 (producible_mk pl px hl (by simp only at hx; omega)) (Nat.le_of_eq (lv_mk b lhs x).symm), ok2⟩
  | isLoop e0 =>
    rcases step_isLoop_inv h with rfl | ⟨ts', op, r1, rfl, h1, h2⟩
    · exact ⟨fun pl hl => ⟨pl, hl⟩, hok⟩
    · obtain ⟨i2, ok2⟩ := hp _ _ _ (isSuffix_ok hok.tail h1) h2
      exact ⟨fun pe hl => i2 (.is pe hl) (Nat.le_refl _), ok2⟩
  | args nm acc =>
    obtain ⟨x, r2, ⟨h1, h2⟩ | ⟨h1, rfl⟩⟩ := step_args_inv h <;> obtain ⟨⟨px, _⟩, ok1⟩ := hp _ _ _ hok h1
    · obtain ⟨i2, ok2⟩ := hp _ _ _ ok1.tail h2
      refine ⟨fun hacc => i2 fun a ha => ?_, ok2⟩
      rcases List.mem_cons.mp ha with rfl | ha
      · exact px
      · exact hacc a ha
    · refine ⟨fun hacc => ⟨.func fun a ha => ?_, Nat.le_refl _⟩, ok1.tail⟩
      rcases List.mem_cons.mp (List.mem_reverse.mp ha) with rfl | ha
      · exact px
      · exact hacc a ha

end

theorem parse_sound : ∀ n, Sound (parse n)
  | 0 => fun _ _ _ _ h => by simp [parse] at h
  | n + 1 => step_sound (parse_sound n)

theorem parseExprFuel_producible {n : Nat} {ts : List Tok} {t : Expr} (hok : AllOk ts)
    (h : parseExprFuel n ts = some t) : Producible t := by
  unfold parseExprFuel at h
  cases h1 : parse n (.lvl lOr) ts with
  | none => simp [h1] at h
  | some q =>
    obtain ⟨e, r⟩ := q
    have := (parse_sound n _ _ _ hok h1).1.1
    cases r with
    | nil => simp [h1] at h; subst h; exact this
    | cons a b => simp [h1] at h

end AcraModel.Sql.Expr
