/-!
# Which text reaches which log call (C16)

Model of the query-logging path: the proxies' debug logging of `HandleRawSQLQuery`'s result
(`decryptor/postgresql/pg_decryptor.go:handleQueryPacket`, `decryptor/mysql/response_proxy.go`) followed by
`AcraCensor.HandleQuery` with its `logAllowedQuery` / `logDeniedQuery`
(`acra-censor/acra-censor_implementation.go`) and the handlers' own messages.

Statement text is tracked *symbolically* by provenance (`Txt`): the raw client statement, the normalised
statement (literals still inside), the redacted statement, or nothing. A log entry is a message kind plus
the provenance of the statement text it prints, if any. The harness maps every captured entry of the
real code to the same shape and compares.
-/
namespace AcraModel.Sql.LogModel

/-- provenance of a piece of statement text -/
inductive Txt where
  | raw | normalized | redacted
deriving DecidableEq, Repr

/-- kinds of messages on the path (constant text apart from the payload) -/
inductive Msg where
  | proxyNewQuery          -- debug "New query" / "Query command" with field sql=<payload>
  | proxyParsingError      -- debug "Parsing error on query: <payload>"
  | failedToParse          -- warning "Failed to parse input query" (ignore_parse_error)
  | unparsedDenied         -- error "Unparsed query has been denied"
  | allowedShown           -- info "Allowed query: '<payload>'"
  | allowedHidden          -- info "Allowed query can't be shown in plaintext"
  | deniedShown            -- error "Denied query: '<payload>'"
  | deniedHidden           -- error "Denied query can't be shown in plaintext"
  | deniedBy               -- debug "Denied query by <handler type>"
  | debugState             -- debug "parsedQuery: %T, queryWithHiddenValues: <payload>"
  | handlerOwn             -- a handler's own constant message (allowall / denyall / deny … blocked)
  | censorBlocked          -- error "AcraCensor blocked query" (proxy)
deriving DecidableEq, Repr

structure Entry where
  msg : Msg
  payload : Option Txt
deriving DecidableEq, Repr

/-- outcome of a security handler's `CheckQuery` -/
inductive Decision where
  | continue | allow | deny
deriving DecidableEq, Repr

inductive Handler where
  | capture                              -- QueryCaptureHandler: writes the redacted text to its file, never logs it
  | ignore (hit : Bool)              -- QueryIgnoreHandler
  | security (d : Decision) (logs : Bool) -- allow / deny / allowall / denyall; `logs`: prints its own message
deriving DecidableEq, Repr

structure Config where
  handlers : List Handler
  ignoreParseError : Bool
  hasUnparsedWriter : Bool
  debug : Bool                           -- log level debug (the proxies log the statement only then)
deriving Repr

/-- result of `HandleRawSQLQuery`: parsed (redacted text empty only for the empty statement) or syntax error -/
inductive Parse where
  | ok (redactedEmpty : Bool)
  | fail
deriving DecidableEq, Repr

/-- `logAllowedQuery(queryWithHiddenValues, parsedQuery)` -/
def logAllowed : Parse → List Entry
  | .ok false => [⟨.allowedShown, some .redacted⟩]
  | .fail => [⟨.allowedHidden, none⟩]
  | .ok true => [⟨.debugState, some .redacted⟩]   -- parsed but empty text: prints the (empty) redacted text

/-- `logDeniedQuery(queryWithHiddenValues, handler, parsedQuery)` -/
def logDenied : Parse → List Entry
  | .ok false => [⟨.deniedShown, some .redacted⟩, ⟨.deniedBy, none⟩]
  | .fail => [⟨.deniedHidden, none⟩, ⟨.deniedBy, none⟩]
  | .ok true => [⟨.debugState, some .redacted⟩]

/-- the handler loop of `HandleQuery`; `true` = denied -/
def runHandlers (p : Parse) : List Handler → List Entry × Bool
  | [] => (logAllowed p, false)
  | .capture :: hs => runHandlers p hs
  | .ignore true :: _ => (logAllowed p, false)
  | .ignore false :: hs => runHandlers p hs
  | .security d logs :: hs =>
    let own : List Entry := if logs then [⟨.handlerOwn, none⟩] else []
    match d with
    | .deny => (own ++ logDenied p, true)
    | .allow => (own ++ logAllowed p, false)
    | .continue => let r := runHandlers p hs; (own ++ r.1, r.2)

/-- `AcraCensor.HandleQuery` -/
def handleQuery (c : Config) (p : Parse) : List Entry × Bool :=
  if c.handlers.isEmpty && !c.hasUnparsedWriter then ([], false) else
  match p with
  | .fail =>
    if c.ignoreParseError then
      let r := runHandlers p c.handlers
      (⟨.failedToParse, none⟩ :: r.1, r.2)
    else ([⟨.unparsedDenied, none⟩], true)
  | _ => runHandlers p c.handlers

/-- messages printed with `Debug…` (they exist only at debug level) -/
def Msg.isDebug : Msg → Bool
  | .proxyNewQuery | .proxyParsingError | .deniedBy | .debugState => true
  | _ => false

/-- the proxies' block, every call regardless of the level -/
def proxyQueryAll (c : Config) (p : Parse) : List Entry × Bool :=
  let dbg : List Entry :=
    if c.debug then
      match p with
      | .fail => [⟨.proxyParsingError, none⟩]      -- HandleRawSQLQuery returns "" on a syntax error
      | .ok _ => [⟨.proxyNewQuery, some .redacted⟩]
    else []
  let r := handleQuery c p
  (dbg ++ r.1 ++ (if r.2 then [⟨.censorBlocked, none⟩] else []), r.2)

/-- the proxies' block: debug logging of the redacted text, then the censor, then "blocked" – what the
configured level lets through -/
def proxyQuery (c : Config) (p : Parse) : List Entry × Bool :=
  let r := proxyQueryAll c p
  (r.1.filter (fun e => c.debug || !e.msg.isDebug), r.2)

theorem mem_proxyQuery {c : Config} {p : Parse} {e : Entry} (h : e ∈ (proxyQuery c p).1) :
    e ∈ (proxyQueryAll c p).1 := by
  unfold proxyQuery at h
  exact (List.mem_filter.mp h).1

theorem logAllowed_payload (p : Parse) : ∀ e ∈ logAllowed p, e.payload = none ∨ e.payload = some .redacted := by
  rcases p with (_ | _) | _ <;> simp [logAllowed]

theorem logDenied_payload (p : Parse) : ∀ e ∈ logDenied p, e.payload = none ∨ e.payload = some .redacted := by
  rcases p with (_ | _) | _ <;> simp [logDenied]

theorem logAllowed_fail : ∀ e ∈ logAllowed .fail, e.payload = none := by simp [logAllowed]
theorem logDenied_fail : ∀ e ∈ logDenied .fail, e.payload = none := by simp [logDenied]

theorem mem_runHandlers {p : Parse} {e : Entry} :
    ∀ {hs : List Handler}, e ∈ (runHandlers p hs).1 → e.payload = none ∨ e ∈ logAllowed p ∨ e ∈ logDenied p
  | [], h | .ignore true :: _, h => .inr (.inl h)
  | .capture :: hs, h | .ignore false :: hs, h => mem_runHandlers (hs := hs) h
  | .security d logs :: hs, h => by
    have own {l : List Entry} (h : e ∈ (if logs = true then [(⟨.handlerOwn, none⟩ : Entry)] else []) ++ l) :
        e.payload = none ∨ e ∈ l := by
      refine (List.mem_append.mp h).imp_left ?_
      cases logs
      · exact nofun
      · exact fun h => by rw [List.mem_singleton.mp h]
    cases d
    · exact (own h).elim .inl (mem_runHandlers (hs := hs))
    · exact (own h).imp_right .inl
    · exact (own h).imp_right .inr

/-- every entry on the path is a constant message, an entry of `logAllowedQuery` / `logDeniedQuery`, or the proxies' debug
line for a statement that parsed -/
theorem mem_proxyQueryAll {c : Config} {p : Parse} {e : Entry} (h : e ∈ (proxyQueryAll c p).1) :
    (e.payload = some .redacted ∧ p ≠ .fail) ∨ e.payload = none ∨ e ∈ logAllowed p ∨ e ∈ logDenied p := by
  unfold proxyQueryAll at h
  simp only [List.mem_append] at h
  rcases h with (hd | hq) | hb
  · split at hd
    · cases p with
      | fail => exact .inr (.inl (by rw [List.mem_singleton.mp hd]))
      | ok b => exact .inl ⟨by rw [List.mem_singleton.mp hd], nofun⟩
    · cases hd
  · unfold handleQuery at hq
    split at hq
    · cases hq
    · split at hq
      · split at hq
        · rcases List.mem_cons.mp hq with h | h
          · exact .inr (.inl (by rw [h]))
          · exact .inr (mem_runHandlers h)
        · exact .inr (.inl (by rw [List.mem_singleton.mp hq]))
      · exact .inr (mem_runHandlers hq)
  · split at hb
    · exact .inr (.inl (by rw [List.mem_singleton.mp hb]))
    · cases hb

end AcraModel.Sql.LogModel
