import AcraModel.Sql.Tokenizer
/-!
# Lemmas about the scanners of `Sql/Tokenizer.lean`

For every scanner: it never panics, the suffix it leaves is no longer than the one it got, and the payload it
returns is no longer than what it consumed (plus the constant prefix it writes). `scanSuffix_spec` collects this
for one `Scan`; `scanCore_spec` restates it for frames in terms of the measure `weight` – these
are the facts the termination proofs of `scan`, `lex` and `tokenize` (`Sql/TokenizerLoop.lean`) rest on.
-/
namespace AcraModel.Sql.Tokenizer
open AcraModel

/-- Facts about the regenerated tables that the proofs use (`Props.C14.fact_tok_tables`). -/
structure TableFacts : Prop where
  /-- `digitVal(eofChar)` is not below any base in use: `scanMantissa` never calls `consumeNext` at end of input -/
  eof_digit : ¬ digitValN G.eofChar < 16
  /-- every `isDigit` character is a decimal digit for `scanMantissa(10)` or the `0` of the `0x` test: `scanNumber`
  called on a digit consumes it -/
  digit_val : ∀ n ∈ G.digitChars, G.digitVals.getD n 16 < 10
  /-- `ExtractMysqlComment` handles the comment that holds only version digits -/
  version_handled : G.versionOnlyHandled = true
  comment_lo : G.versionCommentLo = 3
  comment_hi : G.versionCommentHi = 2

theorem tableFacts : TableFacts where
  eof_digit := by decide +kernel
  digit_val := by decide +kernel
  version_handled := rfl
  comment_lo := rfl
  comment_hi := rfl

theorem isDigit_digitVal (c : UInt8) (h : isDigit c = true) : digitVal c < 10 := by
  unfold isDigit at h
  have hm : c.toNat ∈ G.digitChars := by simpa using h
  exact tableFacts.digit_val _ hm

theorem skipBlank_length (s : Bytes) : (skipBlank s).length ≤ s.length := by
  fun_induction skipBlank s <;> simp_all <;> omega

theorem skipStatement_length (s : Bytes) : (skipStatement s).length ≤ s.length := by
  fun_induction skipStatement s <;> simp_all <;> omega

theorem mantissa_spec (base : Nat) (hb : ¬ digitValN G.eofChar < base) :
    ∀ s, ∃ m r, scanMantissa base s = .ok (m, r) ∧ m ++ r = s
  | [] => ⟨[], [], by simp [scanMantissa, hb], rfl⟩
  | c :: t => by
    obtain ⟨m, r, h, e⟩ := mantissa_spec base hb t
    by_cases hc : digitVal c < base
    · exact ⟨c :: m, r, by simp [scanMantissa, hc, h], by simp [e]⟩
    · exact ⟨[], c :: t, by simp [scanMantissa, hc], rfl⟩

theorem base_ok {base : Nat} (h : base ≤ 16) : ¬ digitValN G.eofChar < base := by
  have := tableFacts.eof_digit; omega

theorem lineLoop_spec : ∀ s, ∃ b r, lineLoop s = .ok (b, r) ∧ b ++ r = s
  | [] => ⟨[], [], rfl, rfl⟩
  | c :: t => by
    obtain ⟨b, r, h, e⟩ := lineLoop_spec t
    by_cases hc : c = 10
    · exact ⟨[c], t, by simp [lineLoop, hc, consume1], rfl⟩
    · exact ⟨c :: b, r, by simp [lineLoop, hc, consume1, h], by simp [e]⟩

theorem blockLoop_spec : ∀ s, ∃ ok b r, blockLoop s = .ok (ok, b, r) ∧ b ++ r = s ∧ (ok = true → 2 ≤ b.length)
  | [] => ⟨false, [], [], rfl, rfl, by simp⟩
  | c :: t => by
    obtain ⟨ok, b, r, h, e, hl⟩ := blockLoop_spec t
    by_cases hc : (c == 42 && headIs (fun x => x == 47) t) = true
    · cases t with
      | nil => simp [headIs] at hc
      | cons c2 t2 =>
        exact ⟨true, [c, c2], t2, by simp [blockLoop, consume1, hc], rfl, by simp⟩
    · refine ⟨ok, c :: b, r, ?_, by simp [e], fun h => by have := hl h; simp; omega⟩
      simp only [blockLoop, consume1, hc]
      simp [h]

/-- a scanner result: no panic, the suffix left is at most `a` long, payload + suffix left at most `b` -/
def Bnd (a b : Nat) (x : Out (Token × Bytes)) : Prop :=
  ∃ t r, x = .ok (t, r) ∧ r.length ≤ a ∧ t.val.length + r.length ≤ b

theorem Bnd_ok_iff {a b : Nat} {t : Token} {r : Bytes} :
    Bnd a b (.ok (t, r)) ↔ r.length ≤ a ∧ t.val.length + r.length ≤ b :=
  ⟨fun ⟨_, _, e, h⟩ => by cases e; exact h, fun h => ⟨_, _, rfl, h⟩⟩

theorem Bnd.mono {a b a' b' : Nat} {x : Out (Token × Bytes)} (h : Bnd a b x) (ha : a ≤ a') (hb : b ≤ b') : Bnd a' b' x := by
  obtain ⟨t, r, e, h1, h2⟩ := h
  exact ⟨t, r, e, by omega, by omega⟩

/-- exact form: the payload is `pre` followed by exactly the bytes consumed -/
def NumSpec (pre s : Bytes) (x : Out (Token × Bytes)) : Prop :=
  ∃ t r c, x = .ok (t, r) ∧ t.val = pre ++ c ∧ c ++ r = s

theorem NumSpec.bnd {pre s : Bytes} {x : Out (Token × Bytes)} (h : NumSpec pre s x) : Bnd s.length (s.length + pre.length) x := by
  obtain ⟨t, r, c, e, hv, hc⟩ := h
  refine ⟨t, r, e, ?_, ?_⟩
  · rw [← hc]; simp
  · rw [hv, ← hc]; simp; omega

theorem numberExit_val (n : String) (buf s : Bytes) : (numberExit n buf s).1.val = buf := by
  unfold numberExit; split <;> rfl

theorem numberExit_rest (n : String) (buf s : Bytes) : (numberExit n buf s).2 = s := by
  unfold numberExit; split <;> rfl

theorem numberExit_spec (n : String) (buf s : Bytes) : NumSpec buf s (.ok (numberExit n buf s)) :=
  ⟨(numberExit n buf s).1, (numberExit n buf s).2, [], rfl, by simp [numberExit_val], by simp [numberExit_rest]⟩

theorem headIs_cons {p : UInt8 → Bool} {s : Bytes} (h : headIs p s = true) : ∃ c t, s = c :: t ∧ p c = true := by
  cases s with
  | nil => simp [headIs] at h
  | cons c t => exact ⟨c, t, rfl, by simpa [headIs] using h⟩

/-- a scanner that continues after `k` more bytes were written and consumed -/
theorem NumSpec.extend {buf k s : Bytes} {x : Out (Token × Bytes)} (h : NumSpec (buf ++ k) s x) : NumSpec buf (k ++ s) x := by
  obtain ⟨t, r, c, e, hv, hc⟩ := h
  exact ⟨t, r, k ++ c, e, by simp [hv], by simp [hc]⟩

theorem numberExponent_spec (n : String) (buf s : Bytes) : NumSpec buf s (numberExponent n buf s) := by
  unfold numberExponent
  split
  · next h =>
    obtain ⟨c0, t0, rfl, _⟩ := headIs_cons h
    simp only [consume1]
    by_cases h2 : headIs (fun c => c == 43 || c == 45) t0 = true
    · obtain ⟨c1, t1, rfl, _⟩ := headIs_cons h2
      simp only [h2, if_true]
      obtain ⟨m, r, hm, rfl⟩ := mantissa_spec 10 (base_ok (by decide)) t1
      simp only [hm]
      have := (numberExit_spec "FLOAT" (buf ++ [c0] ++ [c1] ++ m) r).extend.extend.extend
      simpa using this
    · simp only [h2]
      obtain ⟨m, r, hm, rfl⟩ := mantissa_spec 10 (base_ok (by decide)) t0
      simp only [Bool.false_eq_true, if_false, hm]
      have := (numberExit_spec "FLOAT" (buf ++ [c0] ++ [] ++ m) r).extend.extend.extend
      simpa using this
  · exact numberExit_spec n buf s

theorem numberDecimal_of_mantissa (buf m r s : Bytes) (hm : scanMantissa 10 s = .ok (m, r)) :
    NumSpec (buf ++ m) r (numberDecimal buf s) := by
  unfold numberDecimal
  simp only [hm]
  split
  · next h =>
    obtain ⟨c0, t0, rfl, _⟩ := headIs_cons h
    simp only [consume1]
    obtain ⟨m2, r2, hm2, rfl⟩ := mantissa_spec 10 (base_ok (by decide)) t0
    simp only [hm2]
    have := (numberExponent_spec "FLOAT" (buf ++ m ++ [c0] ++ m2) r2).extend.extend
    simpa using this
  · exact numberExponent_spec "INTEGRAL" (buf ++ m) r

theorem numberDecimal_spec (buf s : Bytes) : NumSpec buf s (numberDecimal buf s) := by
  obtain ⟨m, r, hm, rfl⟩ := mantissa_spec 10 (base_ok (by decide)) s
  exact (numberDecimal_of_mantissa buf m r _ hm).extend

theorem numberDecimal_first (buf : Bytes) (c0 : UInt8) (t0 : Bytes) (hd : digitVal c0 < 10) :
    NumSpec (buf ++ [c0]) t0 (numberDecimal buf (c0 :: t0)) := by
  obtain ⟨m, r, hm, rfl⟩ := mantissa_spec 10 (base_ok (by decide)) t0
  have := numberDecimal_of_mantissa buf (c0 :: m) r (c0 :: (m ++ r)) (by simp [scanMantissa, hd, hm])
  exact NumSpec.extend (k := m) (by simpa using this)

theorem scanNumber_zero (c : UInt8) (t : Bytes) (h : headIs (fun c => c == 48) (c :: t) = true) :
    NumSpec [c] t (scanNumber false (c :: t)) := by
  unfold scanNumber
  simp only [Bool.false_eq_true, if_false, h, if_true, consume1]
  split
  · next h2 =>
    obtain ⟨c1, t1, rfl, _⟩ := headIs_cons h2
    obtain ⟨m, r, hm, rfl⟩ := mantissa_spec 16 (base_ok (by decide)) t1
    simp only [hm]
    have := (numberExit_spec "HEXNUM" ([c] ++ [c1] ++ m) r).extend.extend
    simpa using this
  · exact numberDecimal_spec [c] t

theorem scanNumber_spec (b : Bool) (s : Bytes) : NumSpec (if b then [46] else []) s (scanNumber b s) := by
  cases b with
  | true =>
    unfold scanNumber
    simp only [if_true]
    obtain ⟨m, r, hm, rfl⟩ := mantissa_spec 10 (base_ok (by decide)) s
    simp only [hm]
    have := (numberExponent_spec "FLOAT" ([46] ++ m) r).extend
    simpa using this
  | false =>
    by_cases h : headIs (fun c => c == 48) s = true
    · obtain ⟨c0, t0, rfl, _⟩ := headIs_cons h
      exact NumSpec.extend (buf := []) (k := [c0]) (scanNumber_zero c0 t0 h)
    · unfold scanNumber
      simp only [Bool.false_eq_true, if_false, h]
      exact numberDecimal_spec [] s

theorem scanNumber_digit (c : UInt8) (t : Bytes) (hd : isDigit c = true) : NumSpec [c] t (scanNumber false (c :: t)) := by
  by_cases h : headIs (fun c => c == 48) (c :: t) = true
  · exact scanNumber_zero c t h
  · unfold scanNumber
    simp only [Bool.false_eq_true, if_false, h]
    exact numberDecimal_first [] c t (isDigit_digitVal c hd)

theorem consR_ofBool (c : UInt8) (x : Bool × Bytes × Bytes) :
    Literal.consR c (if x.1 then some x.2 else none) = if (consB c x).1 then some (consB c x).2 else none := by
  rcases x with ⟨_ | _, v, r⟩ <;> rfl

/-- the C13 literal codec model (`Literal.scanString`, value or `none`) is the tokenizer's loop with the buffer of an
unterminated string forgotten -/
theorem literalScanString_eq_scanStr (delim : UInt8) (first : Bool) (s : Bytes) :
    Literal.scanString delim first s = if (scanStr delim first s).1 then some (scanStr delim first s).2 else none := by
  fun_induction scanStr delim first s <;> simp [Literal.scanString, Literal.consR, ← consR_ofBool, *]

theorem scanStr_of_literal (delim : UInt8) (first : Bool) (s v r : Bytes)
    (h : Literal.scanString delim first s = some (v, r)) : scanStr delim first s = (true, v, r) := by
  rw [literalScanString_eq_scanStr] at h
  split at h
  · next hb => exact Prod.ext hb (Option.some.inj h)
  · cases h

/-- a `Bnd` goal about a scanner's result: the result is taken apart, lengths of payloads and of the lists in the hypotheses
are computed, the rest is linear arithmetic -/
macro "bnd" : tactic =>
  `(tactic| (simp only [Bnd_ok_iff, tokNamed, tokChar, List.length_append, List.length_cons, List.length_nil, List.length_map,
    List.length_tail] at *; omega))

@[simp] theorem consB_val (c : UInt8) (x : Bool × Bytes × Bytes) : (consB c x).2.1 = c :: x.2.1 := rfl
@[simp] theorem consB_rest (c : UInt8) (x : Bool × Bytes × Bytes) : (consB c x).2.2 = x.2.2 := rfl
@[simp] theorem consB_ok (c : UInt8) (x : Bool × Bytes × Bytes) : (consB c x).1 = x.1 := rfl

theorem scanStr_bound (delim : UInt8) (first : Bool) (s : Bytes) :
    (scanStr delim first s).2.1.length + (scanStr delim first s).2.2.length ≤ s.length := by
  fun_induction scanStr delim first s <;> simp_all <;> omega

theorem scanString_bnd (delim : UInt8) (typ : TokType) (s : Bytes) : Bnd s.length s.length (.ok (scanString delim typ s)) := by
  have h := scanStr_bound delim true s
  unfold scanString
  split <;> (rename_i hx; rw [hx] at h; bnd)

theorem litIdentLoop_bound (d : Dialect) (s : Bytes) :
    (litIdentLoop d s).2.1.length + (litIdentLoop d s).2.2.length ≤ s.length := by
  fun_induction litIdentLoop d s <;> simp_all <;> omega

theorem scanLiteralIdentifier_bnd (d : Dialect) (s : Bytes) : Bnd s.length s.length (.ok (scanLiteralIdentifier d s)) := by
  have h := litIdentLoop_bound d s
  unfold scanLiteralIdentifier
  split <;> (rename_i hx; rw [hx] at h)
  · bnd
  · split
    · bnd
    · split <;> bnd

theorem take_drop_while_length (p : UInt8 → Bool) (s : Bytes) : (s.takeWhile p).length + (s.dropWhile p).length = s.length := by
  rw [← List.length_append, List.takeWhile_append_dropWhile]

theorem scanIdentifier_bnd (d : Dialect) (ch : UInt8) (sv : Bool) (t : Bytes) :
    Bnd t.length (t.length + 1) (.ok (scanIdentifier d ch sv t)) := by
  unfold scanIdentifier
  have h := take_drop_while_length (fun c => isLetter c || isDigit c || (sv && isCarat d c)) t
  simp only
  split
  · bnd
  · split <;> bnd

theorem bindVarTail_bnd (name : String) (buf t1 : Bytes) : Bnd t1.length (t1.length + buf.length) (.ok (bindVarTail name buf t1)) := by
  unfold bindVarTail
  have h := take_drop_while_length (fun c => isLetter c || isDigit c || c == 46) t1
  split <;> bnd

theorem scanBindVar_bnd (c : UInt8) (t : Bytes) : Bnd t.length (t.length + 1) (.ok (scanBindVar (c :: t))) := by
  cases t with
  | nil => exact (bindVarTail_bnd "VALUE_ARG" [c] []).mono (by simp) (by simp)
  | cons c2 t2 =>
    simp only [scanBindVar]
    split
    · exact (bindVarTail_bnd "LIST_ARG" [c, c2] t2).mono (by simp) (by simp)
    · exact (bindVarTail_bnd "VALUE_ARG" [c] (c2 :: t2)).mono (by simp) (by simp)

theorem scanHex_bnd (s : Bytes) : Bnd s.length s.length (scanHex s) := by
  unfold scanHex
  obtain ⟨m, r, hm, rfl⟩ := mantissa_spec 16 (base_ok (by decide)) s
  simp only [hm]
  cases r with
  | nil => bnd
  | cons c t =>
    simp only
    split
    · split <;> bnd
    · bnd

theorem scanBitLiteral_bnd (s : Bytes) : Bnd s.length s.length (scanBitLiteral s) := by
  unfold scanBitLiteral
  obtain ⟨m, r, hm, rfl⟩ := mantissa_spec 2 (base_ok (by decide)) s
  simp only [hm]
  cases r with
  | nil => bnd
  | cons c t =>
    simp only
    split <;> bnd

theorem scanDollarParameter_bnd (t : Bytes) : Bnd t.length (t.length + 1) (scanDollarParameter t) := by
  unfold scanDollarParameter
  obtain ⟨tk, r, c, e, hv, rfl⟩ := scanNumber_spec false t
  have := congrArg List.length hv
  rw [if_neg Bool.false_ne_true] at this
  simp only [e]
  split <;> bnd

theorem scanCommentType1_bnd (pre s : Bytes) : Bnd s.length (s.length + pre.length) (scanCommentType1 pre s) := by
  unfold scanCommentType1
  obtain ⟨b, r, h, rfl⟩ := lineLoop_spec s
  simp only [h]
  bnd

theorem scanCommentType2_bnd (s : Bytes) : Bnd s.length (s.length + 2) (scanCommentType2 s) := by
  unfold scanCommentType2
  obtain ⟨ok, b, r, h, rfl, _⟩ := blockLoop_spec s
  simp only [h]
  cases ok <;> bnd

theorem decodeRune_width (b : UInt8) (r : Bytes) : (Wire.Bytea.decodeRune (b :: r)).2 ≤ (b :: r).length := by
  have one {c : Nat} : (c, 1).2 ≤ (b :: r).length := Nat.succ_le_succ (Nat.zero_le _)
  have ite {c : Prop} [Decidable c] {x y : Nat × Nat} (hx : x.2 ≤ (b :: r).length) (hy : y.2 ≤ (b :: r).length) :
      (if c then x else y).2 ≤ (b :: r).length := by split <;> assumption
  unfold Wire.Bytea.decodeRune
  -- a width above 1 is returned only where the `match` has found that many bytes
  refine ite one (ite ?_ (ite ?_ (ite ?_ one))) <;> split
  iterate 3
    · exact ite (by simp) one
    · exact one

theorem versionEnd_le : ∀ (k : Nat) (s : Bytes) (i j : Nat), versionEnd k s i = some j → j ≤ i + s.length
  | 0, _, _, _, h => by simp [versionEnd] at h
  | _ + 1, [], _, _, h => by simp [versionEnd] at h
  | k + 1, b :: r, i, j, h => by
    rcases hd : Wire.Bytea.decodeRune (b :: r) with ⟨c, w⟩
    have hw := decodeRune_width b r
    rw [hd] at hw
    simp only [versionEnd, hd] at h
    split at h
    · cases h; omega
    · have := versionEnd_le k _ _ _ h
      simp only [List.length_drop, List.length_cons] at this hw ⊢
      omega

theorem trimLeftSpace_length (s : Bytes) : (trimLeftSpace s).length ≤ s.length := by
  fun_induction trimLeftSpace s <;> simp_all <;> omega

theorem trimRightSpace_length (s : Bytes) : (trimRightSpace s).length ≤ s.length := by
  unfold trimRightSpace
  split
  · split <;> (simp only [List.length_take]; omega)
  · simp

theorem trimSpace_length (s : Bytes) : (trimSpace s).length ≤ s.length :=
  Nat.le_trans (trimRightSpace_length _) (trimLeftSpace_length s)

theorem extractMysqlComment_spec (buffer : Bytes) (h : 5 ≤ buffer.length) :
    ∃ v sql, extractMysqlComment buffer = .ok (v, sql) ∧ sql.length + 5 ≤ buffer.length := by
  unfold extractMysqlComment
  rw [show G.versionCommentLo = 3 from rfl, show G.versionCommentHi = 2 from rfl, show G.versionOnlyHandled = true from rfl,
    if_neg (by omega), show goSlice buffer 3 (buffer.length - 2) = .ok _ from if_pos ⟨by omega, by omega⟩]
  simp only
  generalize hsql : (buffer.take (buffer.length - 2)).drop 3 = sql
  have hsl : sql.length + 5 = buffer.length := by
    rw [← hsql]; simp only [List.length_drop, List.length_take]; omega
  have key : ∀ e, e ≤ sql.length →
      goSlice sql 0 e = .ok ((sql.take e).drop 0) ∧ goSliceFrom sql e = .ok (sql.drop e) ∧
        (trimSpace (sql.drop e)).length + 5 ≤ buffer.length := fun e he =>
    ⟨if_pos ⟨Nat.zero_le _, he⟩, if_pos he, by have := trimSpace_length (sql.drop e); rw [List.length_drop] at this; omega⟩
  cases hv : versionEnd G.versionDigitLimit sql 0 with
  | none =>
    obtain ⟨g1, g2, g3⟩ := key sql.length (Nat.le_refl _)
    simp only [if_true, g1, g2]
    exact ⟨_, _, rfl, g3⟩
  | some i =>
    obtain ⟨g1, g2, g3⟩ := key i (by have := versionEnd_le _ _ _ _ hv; omega)
    simp only [g1, g2]
    exact ⟨_, _, rfl, g3⟩

/-- what one `Scan` guarantees relative to the length `N` of the suffix it started from: no panic; the suffix left is
not longer, and strictly shorter unless the token is end-of-input; the payload is no longer than what was consumed –
except for the `?` placeholder, whose payload `:v<n>` is 1 + (digits of n) longer than the `?`; a version comment
hands a nested tokenizer an inner text at least 5 bytes shorter than what was consumed. -/
def SOk (N pv : Nat) (x : Out SRes) : Prop :=
  ∃ res, x = .ok res ∧
    match res with
    | .tok t r pv' =>
      r.length ≤ N ∧ (t.typ ≠ .eof → r.length < N) ∧
      ((pv' = pv ∧ t.val.length + r.length ≤ N) ∨
       (pv' = pv + 1 ∧ t.typ = .named "VALUE_ARG" ∧ r.length < N ∧ t.val.length + r.length ≤ N + 1 + (decimal pv').length))
    | .special sql r => sql.length + r.length + 5 ≤ N

theorem SOk_lift {N pv a b : Nat} {x : Out (Token × Bytes)} (h : Bnd a b x) (ha : a < N) (hb : b ≤ N) :
    SOk N pv (liftTok pv x) := by
  obtain ⟨t, r, e, h1, h2⟩ := h
  subst e
  exact ⟨_, rfl, by omega, fun _ => by omega, .inl ⟨rfl, by omega⟩⟩

theorem SOk_tok {N pv : Nat} (t : Token) (r : Bytes) (h1 : r.length < N) (h2 : t.val.length + r.length ≤ N) :
    SOk N pv (.ok (.tok t r pv)) :=
  ⟨_, rfl, by omega, fun _ => h1, .inl ⟨rfl, h2⟩⟩

theorem SOk_eof {N pv : Nat} (r : Bytes) (h : r.length ≤ N) : SOk N pv (.ok (.tok tokEof r pv)) :=
  ⟨_, rfl, h, fun hne => absurd rfl hne, .inl ⟨rfl, by simpa [tokEof] using h⟩⟩

theorem tail_length_of_head {t : Bytes} {c : UInt8} (h : (t.head? == some c) = true) : t.tail.length + 1 = t.length := by
  cases t with
  | nil => simp at h
  | cons a b => simp

theorem scanOperator_bnd (ch : UInt8) (t : Bytes) (r : Token × Bytes) (h : scanOperator ch t = some r) :
    Bnd t.length t.length (.ok r) := by
  have ite {c : Prop} [Decidable c] {a b : Token × Bytes} (ha : Bnd t.length t.length (.ok a))
      (hb : Bnd t.length t.length (.ok b)) : Bnd t.length t.length (.ok (if c then a else b)) := by
    split <;> assumption
  have oite {c : Prop} [Decidable c] {a : Token × Bytes} {o : Option (Token × Bytes)} (ha : Bnd t.length t.length (.ok a))
      (ho : o = some r → Bnd t.length t.length (.ok r)) : (if c then some a else o) = some r → Bnd t.length t.length (.ok r) := by
    split
    · exact fun e => Option.some.inj e ▸ ha
    · exact ho
  have onone : (none : Option (Token × Bytes)) = some r → Bnd t.length t.length (.ok r) := fun e => nomatch e
  have k0 : Bnd t.length t.length (.ok (tokChar ch, t)) := by bnd
  have k1 (n : String) : Bnd t.length t.length (.ok (tokNamed n [], t.tail)) := by bnd
  have k2 (n : String) : Bnd t.length t.length (.ok (tokNamed n [], t.tail.tail)) := by bnd
  unfold scanOperator at h
  simp only at h
  exact oite (ite (k1 _) k0) (oite (ite (k1 _) k0) (oite (ite (k1 _) (ite (k1 _) (ite (ite (k2 _) (k1 _)) k0)))
    (oite (ite (k1 _) (ite (k1 _) k0)) (oite (ite (k1 _) k0) onone)))) h
theorem scanMySQLSpecificComment_spec (N pv : Nat) (s : Bytes) (hs : s ≠ []) (hN : s.length + 2 ≤ N) :
    SOk N pv (scanMySQLSpecificComment pv s) := by
  obtain ⟨c, t, rfl⟩ := List.exists_cons_of_ne_nil hs
  obtain ⟨ok, b, r, h, rfl, hl⟩ := blockLoop_spec t
  unfold scanMySQLSpecificComment
  simp only [List.tail_cons, h]
  simp only [List.length_cons, List.length_append] at hN
  cases ok with
  | false => exact SOk_tok _ _ (by omega) (by simp [tokNamed]; omega)
  | true =>
    have hb := hl rfl
    obtain ⟨v, sql, hx, hsql⟩ := extractMysqlComment_spec ([47, 42, 33] ++ b) (by simp; omega)
    simp only [hx]
    refine ⟨_, rfl, ?_⟩
    simp at hsql ⊢
    omega

/-- `split` is very slow on the chains of byte comparisons of `scanDispatch` and `scanOperator`: closure under `if` is a
lemma, and the proofs below follow the `if` chains as terms -/
theorem SOk_ite {N pv : Nat} {c : Prop} [Decidable c] {x y : Out SRes} (hx : c → SOk N pv x) (hy : ¬c → SOk N pv y) :
    SOk N pv (if c then x else y) := by
  split
  · exact hx ‹_›
  · exact hy ‹_›

theorem scanDispatch_spec (d : Dialect) (multi : Bool) (pv N : Nat) (ch : UInt8) (t : Bytes) (hN : t.length + 1 ≤ N) :
    SOk N pv (scanDispatch d multi pv ch t) := by
  have ht1 : t.tail.length ≤ t.length := by simp
  have ht2 : t.tail.tail.length ≤ t.length := by simp; omega
  have chr : SOk N pv (.ok (.tok (tokChar ch) t pv)) := SOk_tok _ _ (by omega) (by simp [tokChar]; omega)
  have c1 {pre : Bytes} (hp : pre.length ≤ 1) : SOk N pv (liftTok pv (scanCommentType1 pre t)) :=
    SOk_lift (scanCommentType1_bnd _ _) (by omega) (by omega)
  have c2 {pre : Bytes} (hp : pre.length ≤ 2) {c : UInt8} (h : (t.head? == some c) = true) :
      SOk N pv (liftTok pv (scanCommentType1 pre t.tail)) := by
    have := tail_length_of_head h; exact SOk_lift (scanCommentType1_bnd _ _) (by omega) (by omega)
  unfold scanDispatch
  refine SOk_ite (fun _ => ?_) fun _ => SOk_ite (fun c2 => ?_) fun _ => SOk_ite (fun _ => ?_) fun _ => SOk_ite (fun _ => ?_) fun _ =>
    SOk_ite (fun _ => chr) fun _ => SOk_ite (fun _ => ?_) fun _ => SOk_ite (fun _ => ?_) fun _ => SOk_ite (fun _ => ?_) fun _ =>
    SOk_ite (fun _ => c1 (Nat.le_refl _)) fun _ => SOk_ite (fun _ => ?_) fun _ => SOk_ite (fun _ => ?_) fun _ => ?_
  · exact SOk_ite (fun _ => SOk_lift (scanHex_bnd _) (by omega) (by omega)) fun _ =>
      SOk_ite (fun _ => SOk_lift (scanBitLiteral_bnd _) (by omega) (by omega)) fun _ =>
      SOk_ite (fun _ => SOk_lift (scanString_bnd _ _ _) (by omega) (by omega)) fun _ =>
      SOk_lift (scanIdentifier_bnd _ _ _ _) (by omega) (by omega)
  · exact SOk_lift (NumSpec.bnd (scanNumber_digit ch t c2)) (by omega) (by simp; omega)
  · exact SOk_lift (scanBindVar_bnd ch t) (by omega) (by omega)
  · exact SOk_eof _ (by simpa using hN)
  · refine ⟨_, rfl, by omega, fun _ => by omega, .inr ⟨rfl, rfl, by omega, ?_⟩⟩
    simp [tokNamed]; omega
  · exact SOk_ite (fun _ => SOk_lift (NumSpec.bnd (scanNumber_spec true t)) (by omega) (by simp; omega)) fun _ => chr
  · refine SOk_ite (c2 (Nat.le_refl _)) fun _ => SOk_ite (fun b => ?_) fun _ => chr
    have := tail_length_of_head b
    refine SOk_ite (fun c => ?_) fun _ => SOk_lift (scanCommentType2_bnd _) (by omega) (by omega)
    have h4 := tail_length_of_head c
    exact scanMySQLSpecificComment_spec _ _ _ (by intro h0; rw [h0] at c; simp at c) (by omega)
  · refine SOk_ite (c2 (Nat.le_refl _)) fun _ => SOk_ite (fun _ => SOk_ite (fun _ => ?_) fun _ => ?_) fun _ => chr <;>
      exact SOk_tok _ _ (by omega) (by simp [tokNamed]; omega)
  · exact SOk_lift (scanDollarParameter_bnd t) (by omega) (by omega)
  · cases hop : scanOperator ch t with
    | some r => exact SOk_lift (scanOperator_bnd ch t r hop) (by omega) (by omega)
    | none =>
      exact SOk_ite (fun _ => SOk_lift (scanLiteralIdentifier_bnd _ _) (by omega) (by omega)) fun _ =>
        SOk_ite (fun _ => SOk_lift (scanString_bnd _ _ _) (by omega) (by omega)) fun _ =>
        SOk_tok _ _ (by omega) (by simp [tokNamed]; omega)
theorem scanSuffix_spec (d : Dialect) (multi : Bool) (pv : Nat) (s0 : Bytes) :
    SOk s0.length pv (scanSuffix d multi pv s0) := by
  unfold scanSuffix
  have hsb := skipBlank_length s0
  split
  · exact SOk_eof [] (by simp)
  · next ch t hs =>
    rw [hs] at hsb
    exact scanDispatch_spec d multi pv _ ch t (by simpa using hsb)

theorem start_length (f : Frame) : f.start.length ≤ f.buf.length + 1 - max f.pos 1 := by
  unfold Frame.start
  split
  · next h => simp [h]
  · next h =>
    have hd : (f.buf.drop (f.pos - 1)).length = f.buf.length - (f.pos - 1) := List.length_drop ..
    split
    · next c t hs =>
      rw [hs] at hd
      split <;> (simp only [List.length_cons] at hd ⊢; omega)
    · simp

@[simp] theorem weight_posVar (f : Frame) (pv : Nat) : weight { f with posVar := pv } = weight f := rfl

theorem weight_ge_start (f : Frame) : f.start.length + 1 ≤ weight f := by
  have := start_length f
  unfold weight; omega

theorem weight_atRest (f : Frame) (rest : Bytes) (h : rest.length ≤ f.start.length) : weight (f.atRest rest) = rest.length + 1 := by
  have := start_length f
  unfold weight Frame.atRest
  simp only
  omega

/-- what `scanCore` guarantees, in terms of the measure -/
def COk (f : Frame) (x : Out CoreRes) : Prop :=
  ∃ res, x = .ok res ∧
    match res with
    | .tok t f' =>
      f'.buf = f.buf ∧ weight f' ≤ weight f ∧ (t.typ ≠ .eof → weight f' < weight f) ∧
      ((f'.posVar = f.posVar ∧ t.val.length + weight f' ≤ weight f) ∨
       (f'.posVar = f.posVar + 1 ∧ t.typ = .named "VALUE_ARG" ∧ weight f' < weight f ∧
        t.val.length + weight f' ≤ weight f + 1 + (decimal f'.posVar).length))
    | .special sql f' => f'.buf = f.buf ∧ f'.posVar = f.posVar ∧ sql.length + weight f' + 5 ≤ weight f

theorem scanCore_spec (f : Frame) : COk f (scanCore f) := by
  unfold scanCore
  have hw := weight_ge_start f
  split
  · -- ForceEOF
    have hl := skipStatement_length f.start
    refine ⟨_, rfl, rfl, ?_, fun h => absurd rfl h, .inl ⟨rfl, ?_⟩⟩
    · rw [weight_atRest f _ hl]; omega
    · rw [weight_atRest f _ hl]; simp [tokEof]; omega
  · obtain ⟨res, e, h⟩ := scanSuffix_spec f.dialect f.multi f.posVar f.start
    rw [e]
    cases res with
    | tok t r pv' =>
      simp only at h ⊢
      obtain ⟨h1, h2, h3⟩ := h
      refine ⟨_, rfl, rfl, ?_⟩
      rw [weight_posVar, weight_atRest f _ h1]
      exact ⟨by omega, fun hne => by have := h2 hne; omega,
        h3.imp (fun ⟨e1, e2⟩ => ⟨e1, by omega⟩) fun ⟨e1, e2, e3, e4⟩ => ⟨e1, e2, by omega, by simp only; omega⟩⟩
    | special sql r =>
      simp only at h ⊢
      have hr : r.length ≤ f.start.length := by omega
      exact ⟨_, rfl, rfl, rfl, by rw [weight_atRest f _ hr]; omega⟩

theorem weight_newFrame (dd : Dialect) (sql : Bytes) : weight (newFrame dd sql) = sql.length + 1 := by
  simp [weight, newFrame]

theorem weight_pos (f : Frame) : 0 < weight f := by unfold weight; omega

end AcraModel.Sql.Tokenizer
