import AcraModel.Sql.ExprRoundTrip
/-!
# The SELECT core of Acra's SQL parser and printer (C13)

Model of the statement level around the expression fragment (`Sql/Expr.lean`): rule `select_statement` / `base_select`
of `sqlparser/sql.y` restricted to

    SELECT [DISTINCT] item, … FROM table-reference, … [WHERE e] [GROUP BY e, …] [HAVING e] [ORDER BY e ASC|DESC, …]
           [LIMIT n | LIMIT n OFFSET m | LIMIT m, n]

    item            :=  *  |  e [AS alias]
    table-reference :=  t [AS alias]  { (JOIN | STRAIGHT_JOIN | LEFT JOIN | RIGHT JOIN | NATURAL JOIN) t [AS alias] [ON e] }

and of the `Format` methods of `Select`, `SelectExprs`, `AliasedExpr`, `StarExpr`, `TableExprs`, `AliasedTableExpr`,
`JoinTableExpr`, `JoinCondition`, `Where`, `GroupBy`, `OrderBy`, `Order`, `Limit` (`ast_methods.go`).

* `Sel` – the tree (`Select` node with its clause nodes; join chains are left-deep, as the `%left JOIN …` declaration
  makes the goyacc parser build them);
* `stoks` – the token sequence of the printed statement: clause keywords (`Kw`) and the tokens of the expressions
  (`Expr.toks`); `tokText` is the text of one token;
* `parseSel` – the parser: clause by clause, expressions by the precedence-climbing parser of `Sql/Expr.lean`.

`parseSel_stoks` (the round trip) is in `SelectRoundTrip.lean`, the property theorem `select_roundtrip` in `Props/C13.lean`.
-/
namespace AcraModel.Sql.Select
open AcraModel AcraModel.Sql.Expr

/-- clause keywords (everything the expression fragment does not know) -/
inductive Kw
  | select | distinct | from_ | where_ | group | by_ | having | order | limit | offset | as_
  | join | left | right | natural | straightJoin | on_ | asc | desc
  deriving DecidableEq, Repr

def Kw.text : Kw → String
  | .select => "select" | .distinct => "distinct" | .from_ => "from" | .where_ => "where" | .group => "group"
  | .by_ => "by" | .having => "having" | .order => "order" | .limit => "limit" | .offset => "offset" | .as_ => "as"
  | .join => "join" | .left => "left" | .right => "right" | .natural => "natural" | .straightJoin => "straight_join"
  | .on_ => "on" | .asc => "asc" | .desc => "desc"

def Kw.all : List Kw :=
  [.select, .distinct, .from_, .where_, .group, .by_, .having, .order, .limit, .offset, .as_, .join, .left, .right,
   .natural, .straightJoin, .on_, .asc, .desc]

/-- statement tokens: a clause keyword or a token of the expression fragment -/
inductive STok
  | kw (k : Kw)
  | t (x : Tok)
  deriving DecidableEq, Repr

/-! ## trees -/

/-- `SelectExpr`: `StarExpr` or `AliasedExpr` -/
inductive Item
  | star
  | expr (e : Expr) (as_ : Option Bytes)
  deriving Repr

/-- `JoinTableExpr.Join` -/
inductive JoinKind | inner | straight | left | right | natural
  deriving DecidableEq, Repr

/-- `AliasedTableExpr` over a `TableName` -/
structure Tbl where
  name : Bytes
  as_ : Option Bytes
  deriving Repr, DecidableEq

/-- one step of a join chain: `JoinTableExpr{LeftExpr: <what came before>, Join, RightExpr, Condition.On}` -/
structure Join where
  k : JoinKind
  r : Tbl
  on : Option Expr
  deriving Repr

/-- `TableExpr`: a table followed by a chain of joins. The `%left JOIN STRAIGHT_JOIN LEFT RIGHT …` declaration makes the
goyacc parser build the chain left-deep (`((a join b) join c)`), and `JoinTableExpr.Format` prints it flat; the model
keeps the chain as a list (the harness converts a left-deep `JoinTableExpr` tree whose right operands are plain tables
and reports any other shape as outside the fragment). -/
structure TRef where
  base : Tbl
  joins : List Join
  deriving Repr

/-- `Order` -/
structure Ord where
  e : Expr
  desc : Bool
  deriving Repr

/-- `Limit` with its `Type` -/
inductive Lim
  | none
  | count (n : Expr)
  | countOffset (n off : Expr)
  | comma (off n : Expr)
  deriving Repr

/-- `Select` -/
structure Sel where
  distinct : Bool
  items : List Item
  from_ : List TRef
  where_ : Option Expr
  groupBy : List Expr
  having : Option Expr
  orderBy : List Ord
  limit : Lim
  deriving Repr

/-! ## printer: the tokens of the printed statement -/

def comma : STok := .t (.sym .comma)

/-- the tokens of a printed expression -/
def tE (e : Expr) : List STok := (toks e).map .t

def stoksItem : Item → List STok
  | .star => [.t (.sym .star)]
  | .expr e none => tE e
  | .expr e (some a) => tE e ++ [.kw .as_, .t (.id a)]

def stoksTbl (t : Tbl) : List STok :=
  match t.as_ with
  | none => [.t (.id t.name)]
  | some a => [.t (.id t.name), .kw .as_, .t (.id a)]

/-- the keywords of a join (`ast.go`: `JoinStr`, `StraightJoinStr`, `LeftJoinStr`, `RightJoinStr`, `NaturalJoinStr`) -/
def JoinKind.kws : JoinKind → List STok
  | .inner => [.kw .join]
  | .straight => [.kw .straightJoin]
  | .left => [.kw .left, .kw .join]
  | .right => [.kw .right, .kw .join]
  | .natural => [.kw .natural, .kw .join]

def stoksOn : Option Expr → List STok
  | none => []
  | some e => .kw .on_ :: tE e

def stoksJoin (j : Join) : List STok := j.k.kws ++ (stoksTbl j.r ++ stoksOn j.on)

def stoksJoins : List Join → List STok
  | [] => []
  | j :: js => stoksJoin j ++ stoksJoins js

def stoksTRef (t : TRef) : List STok := stoksTbl t.base ++ stoksJoins t.joins

def isRand (n : Bytes) : Bool :=
  n.map (fun c => if 65 ≤ c.toNat ∧ c.toNat ≤ 90 then c + 32 else c) == [114, 97, 110, 100]

/-- `Order.Format` prints `ORDER BY NULL` and `ORDER BY rand()` without the direction -/
def Ord.noDir (o : Ord) : Bool :=
  match o.e with
  | .null => true
  | .func n _ => isRand n
  | _ => false

def stoksOrd (o : Ord) : List STok :=
  if o.noDir then tE o.e else tE o.e ++ [.kw (if o.desc then .desc else .asc)]

/-- `a, b, c` -/
def sepComma {α : Type} (f : α → List STok) : List α → List STok
  | [] => []
  | [x] => f x
  | x :: y :: zs => f x ++ comma :: sepComma f (y :: zs)

def stoksLim : Lim → List STok
  | .none => []
  | .count n => .kw .limit :: tE n
  | .countOffset n off => .kw .limit :: (tE n ++ .kw .offset :: tE off)
  | .comma off n => .kw .limit :: (tE off ++ comma :: tE n)

def stoksWhere (k : Kw) : Option Expr → List STok
  | none => []
  | some e => .kw k :: tE e

def stoksList {α : Type} (k : Kw) (f : α → List STok) : List α → List STok
  | [] => []
  | xs => .kw k :: .kw .by_ :: sepComma f xs

/-- the clauses after the FROM list -/
def stoksTail (s : Sel) : List STok :=
  stoksWhere .where_ s.where_ ++ (stoksList .group tE s.groupBy ++ (stoksWhere .having s.having ++
    (stoksList .order stoksOrd s.orderBy ++ stoksLim s.limit)))

/-- `Select.Format`: `select [distinct ]items from tables[ where …][ group by …][ having …][ order by …][ limit …]` -/
def stoks (s : Sel) : List STok :=
  .kw .select :: ((if s.distinct then [.kw .distinct] else []) ++ (sepComma stoksItem s.items ++
    (.kw .from_ :: (sepComma stoksTRef s.from_ ++ stoksTail s))))

/-! ## the text (for the correspondence with the real printer) -/

def tokText : Tok → Bytes
  | .sym s => s.text.toUTF8.toList
  | .lit ty v => litText ty v
  | .id n => n

/-! ## parser -/

/-- the maximal prefix of expression tokens -/
def takeT : List STok → List Tok × List STok
  | .t x :: r => ((takeT r).1.cons x, (takeT r).2)
  | r => ([], r)

/-- one expression from the front of the token list -/
def parseE (ts : List STok) : Option (Expr × List STok) :=
  match parse (fuelFor (takeT ts).1) (.lvl lOr) (takeT ts).1 with
  | some (e, segRest) => some (e, segRest.map .t ++ (takeT ts).2)
  | none => none

def parseItem (ts : List STok) : Option (Item × List STok) :=
  match ts with
  | .t (.sym .star) :: r => some (.star, r)
  | _ =>
    match parseE ts with
    | some (e, .kw .as_ :: .t (.id a) :: r) => some (.expr e (some a), r)
    | some (e, r) => some (.expr e none, r)
    | none => none

/-- a comma-separated list of at least one element (`n`: fuel, one per element) -/
def parseSep {α : Type} (p : List STok → Option (α × List STok)) : Nat → List STok → Option (List α × List STok)
  | 0, _ => none
  | n + 1, ts =>
    match p ts with
    | none => none
    | some (x, .t (.sym .comma) :: r) =>
      match parseSep p n r with
      | some (xs, r') => some (x :: xs, r')
      | none => none
    | some (x, r) => some ([x], r)

/-- … with fuel from the length of the input (every element has at least one token) -/
def parseSepL {α : Type} (p : List STok → Option (α × List STok)) (ts : List STok) : Option (List α × List STok) :=
  parseSep p (ts.length + 1) ts

/-- `<k> rest` ↦ `rest` -/
def dropKw (k : Kw) : List STok → Option (List STok)
  | .kw k' :: r => if k' = k then some r else none
  | _ => none

def parseTbl : List STok → Option (Tbl × List STok)
  | .t (.id n) :: .kw .as_ :: .t (.id a) :: r => some (⟨n, some a⟩, r)
  | .t (.id n) :: r => some (⟨n, none⟩, r)
  | _ => none

def joinKind : List STok → Option (JoinKind × List STok)
  | .kw .join :: r => some (.inner, r)
  | .kw .straightJoin :: r => some (.straight, r)
  | .kw .left :: .kw .join :: r => some (.left, r)
  | .kw .right :: .kw .join :: r => some (.right, r)
  | .kw .natural :: .kw .join :: r => some (.natural, r)
  | _ => none

/-- does the grammar want / allow a join condition: `join_condition` (mandatory) for outer joins, `join_condition_opt` /
`on_expression_opt` for inner and straight joins, none for natural joins -/
def JoinKind.onOk (k : JoinKind) (on : Bool) : Bool :=
  match k with
  | .inner => true
  | .straight => true
  | .left => on
  | .right => on
  | .natural => !on

/-- the join chain after a table reference (left associative: `%left JOIN STRAIGHT_JOIN LEFT RIGHT …`; `n`: fuel, one
per join) -/
def parseJoins : Nat → List STok → Option (List Join × List STok)
  | 0, _ => none
  | n + 1, ts =>
    match joinKind ts with
    | none => some ([], ts)
    | some (k, r) =>
      match parseTbl r with
      | none => none
      | some (t, r1) =>
        match dropKw .on_ r1 with
        | some r2 =>
          if k.onOk true then
            match parseE r2 with
            | some (e, r3) =>
              match parseJoins n r3 with
              | some (js, r4) => some (⟨k, t, some e⟩ :: js, r4)
              | none => none
            | none => none
          else none
        | none =>
          if k.onOk false then
            match parseJoins n r1 with
            | some (js, r4) => some (⟨k, t, none⟩ :: js, r4)
            | none => none
          else none

def parseTRef (ts : List STok) : Option (TRef × List STok) :=
  match parseTbl ts with
  | some (t, r) =>
    match parseJoins (r.length + 1) r with
    | some (js, r') => some (⟨t, js⟩, r')
    | none => none
  | none => none

def parseOrd (ts : List STok) : Option (Ord × List STok) :=
  match parseE ts with
  | some (e, r) =>
    match dropKw .asc r with
    | some r' => some (⟨e, false⟩, r')
    | none =>
      match dropKw .desc r with
      | some r' => some (⟨e, true⟩, r')
      | none => some (⟨e, false⟩, r) -- rule `asc_desc_opt`: no direction means ASC
  | none => none

/-- `[ <k> e ]` -/
def parseOptE (k : Kw) (ts : List STok) : Option (Option Expr × List STok) :=
  match dropKw k ts with
  | some r =>
    match parseE r with
    | some (e, r') => some (some e, r')
    | none => none
  | none => some (none, ts)

/-- `[ <k> by x, … ]` -/
def parseOptList {α : Type} (k : Kw) (p : List STok → Option (α × List STok)) (ts : List STok) :
    Option (List α × List STok) :=
  match dropKw k ts with
  | some r =>
    match dropKw .by_ r with
    | some r' => parseSepL p r'
    | none => none
  | none => some ([], ts)

def parseLim (ts : List STok) : Option (Lim × List STok) :=
  match dropKw .limit ts with
  | some r =>
    match parseE r with
    | some (a, r1) =>
      match dropKw .offset r1 with
      | some r2 =>
        match parseE r2 with
        | some (b, r3) => some (.countOffset a b, r3)
        | none => none
      | none =>
        match r1 with
        | .t (.sym .comma) :: r2 =>
          match parseE r2 with
          | some (b, r3) => some (.comma a b, r3)
          | none => none
        | _ => some (.count a, r1)
    | none => none
  | none => some (.none, ts)

/-- `[ DISTINCT ]` -/
def parseDistinct (ts : List STok) : Bool × List STok :=
  match dropKw .distinct ts with
  | some r => (true, r)
  | none => (false, ts)

/-- the whole statement -/
def parseSel (ts : List STok) : Option Sel :=
  match dropKw .select ts with
  | none => none
  | some r0 =>
    match parseSepL parseItem (parseDistinct r0).2 with
    | none => none
    | some (items, r2) =>
      match dropKw .from_ r2 with
      | none => none
      | some r3 =>
        match parseSepL parseTRef r3 with
        | none => none
        | some (from_, r4) =>
          match parseOptE .where_ r4 with
          | none => none
          | some (w, r5) =>
            match parseOptList .group parseE r5 with
            | none => none
            | some (g, r6) =>
              match parseOptE .having r6 with
              | none => none
              | some (h, r7) =>
                match parseOptList .order parseOrd r7 with
                | none => none
                | some (o, r8) =>
                  match parseLim r8 with
                  | some (l, []) => some ⟨(parseDistinct r0).1, items, from_, w, g, h, o, l⟩
                  | _ => none

/-! ## well-formed statements (the image of the parser on the fragment) -/

def Item.Ok : Item → Prop
  | .star => True
  | .expr e _ => Producible e

def Join.Ok (j : Join) : Prop := j.k.onOk j.on.isSome = true ∧ (∀ e, j.on = some e → Producible e)

def TRef.Ok (t : TRef) : Prop := ∀ j, j ∈ t.joins → j.Ok

/-- `ORDER BY NULL` / `ORDER BY rand()` lose their direction when printed: not in the image of print ∘ parse -/
def Ord.Ok (o : Ord) : Prop := Producible o.e ∧ o.noDir = false

def Lim.Ok : Lim → Prop
  | .none => True
  | .count n => Producible n
  | .countOffset n off => Producible n ∧ Producible off
  | .comma off n => Producible off ∧ Producible n

structure Sel.Ok (s : Sel) : Prop where
  items_ne : s.items ≠ []
  items : ∀ i, i ∈ s.items → i.Ok
  from_ne : s.from_ ≠ []
  from_ : ∀ t, t ∈ s.from_ → t.Ok
  where_ : ∀ e, s.where_ = some e → Producible e
  groupBy : ∀ e, e ∈ s.groupBy → Producible e
  having : ∀ e, s.having = some e → Producible e
  orderBy : ∀ o, o ∈ s.orderBy → o.Ok
  limit : s.limit.Ok

end AcraModel.Sql.Select
