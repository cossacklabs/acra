import AcraModel.Sql.ExprSound
/-!
# A tree round-trips only if it is producible (C13)

The printed tokens of a tree whose `SQLVal` leaves are well-formed are tokens as the tokenizer yields them; so if the
parser returns the tree itself for them, the tree is producible (`ExprSound`).
-/
namespace AcraModel.Sql.Expr
open AcraModel

mutual
/-- the `SQLVal` leaves of a tree -/
def vals : Expr → List (Nat × Bytes)
  | .val ty v => [(ty, v)]
  | .null => []
  | .bool _ => []
  | .col _ => []
  | .func _ as => valsArgs as
  | .paren e => vals e
  | .and l r => vals l ++ vals r
  | .or l r => vals l ++ vals r
  | .not e => vals e
  | .is _ e => vals e
  | .cmp _ l r => vals l ++ vals r
  | .range _ l lo hi => vals l ++ vals lo ++ vals hi
  | .bin _ l r => vals l ++ vals r
  | .un _ e => vals e
def valsArgs : List Expr → List (Nat × Bytes)
  | [] => []
  | e :: es => vals e ++ valsArgs es
end

/-- every `SQLVal` leaf is a well-formed literal -/
def LeavesOk (t : Expr) : Prop := ∀ p, p ∈ vals t → LitOk p.1 p.2

theorem allOk_append {a b : List Tok} : AllOk (a ++ b) ↔ AllOk a ∧ AllOk b := List.forall_mem_append

theorem allOk_sym_cons {s : Sym} {a : List Tok} : AllOk (.sym s :: a) ↔ AllOk a :=
  List.forall_mem_cons.trans (and_iff_right trivial)

theorem allOk_id_cons {n : Bytes} {a : List Tok} : AllOk (.id n :: a) ↔ AllOk a :=
  List.forall_mem_cons.trans (and_iff_right trivial)

theorem allOk_nil : AllOk [] := fun _ h => by simp at h

theorem allOk_syms (ss : List Sym) : AllOk (ss.map .sym) := by
  intro x hx
  simp only [List.mem_map] at hx
  obtain ⟨s, _, rfl⟩ := hx
  trivial

theorem allOk_val {ty : Nat} {v : Bytes} (h : LitOk ty v) : AllOk (toks (.val ty v)) := by
  rw [toks_val]
  cases v with
  | nil =>
    intro x hx
    simp only [List.mem_singleton] at hx
    subst hx
    intro hraw; exact absurd rfl (h hraw).1
  | cons c w =>
    dsimp only
    by_cases hc : (rawTy ty && c == minusByte) = true
    · rw [if_pos hc]
      simp only [Bool.and_eq_true, beq_iff_eq] at hc
      obtain ⟨hraw, hcm⟩ := hc
      subst hcm
      obtain ⟨_, hs⟩ := h hraw
      obtain ⟨_, hw, hw2⟩ := hs rfl
      rw [allOk_sym_cons]
      intro x hx
      simp only [List.mem_singleton] at hx
      subst hx
      intro _; exact ⟨hw, hw2⟩
    · rw [if_neg hc]
      intro x hx
      simp only [List.mem_singleton] at hx
      subst hx
      intro hraw
      refine ⟨by simp, ?_⟩
      intro hh
      simp only [List.head?_cons, Option.some.injEq] at hh
      apply hc
      simp [hraw, hh]

mutual
theorem allOk_toks : (t : Expr) → LeavesOk t → AllOk (toks t)
  | .val ty v, h => allOk_val (h (ty, v) (by simp [vals]))
  | .null, _ => by rw [toks_null, allOk_sym_cons]; exact allOk_nil
  | .bool b, _ => by rw [toks_bool, allOk_sym_cons]; exact allOk_nil
  | .col n, _ => by rw [toks_col, allOk_id_cons]; exact allOk_nil
  | .func n as, h => by
    rw [toks_func, allOk_id_cons, allOk_sym_cons, allOk_append]
    exact ⟨allOk_toksArgs as (fun p hp => h p (by simpa [vals] using hp)), by rw [allOk_sym_cons]; exact allOk_nil⟩
  | .paren e, h => by
    rw [toks_paren, allOk_sym_cons, allOk_append]
    exact ⟨allOk_toks e (fun p hp => h p (by simpa [vals] using hp)), by rw [allOk_sym_cons]; exact allOk_nil⟩
  | .and l r, h => by
    rw [toks_and, allOk_append, allOk_sym_cons]
    exact ⟨allOk_toks l (fun p hp => h p (by simp [vals, hp])), allOk_toks r (fun p hp => h p (by simp [vals, hp]))⟩
  | .or l r, h => by
    rw [toks_or, allOk_append, allOk_sym_cons]
    exact ⟨allOk_toks l (fun p hp => h p (by simp [vals, hp])), allOk_toks r (fun p hp => h p (by simp [vals, hp]))⟩
  | .not e, h => by
    rw [toks_not, allOk_sym_cons]
    exact allOk_toks e (fun p hp => h p (by simpa [vals] using hp))
  | .is op e, h => by
    rw [toks_is, allOk_append, allOk_sym_cons]
    exact ⟨allOk_toks e (fun p hp => h p (by simpa [vals] using hp)), allOk_syms _⟩
  | .cmp op l r, h => by
    rw [toks_cmp, allOk_append, allOk_append]
    exact ⟨allOk_toks l (fun p hp => h p (by simp [vals, hp])), allOk_syms _,
      allOk_toks r (fun p hp => h p (by simp [vals, hp]))⟩
  | .range n l lo hi, h => by
    rw [toks_range, allOk_append, allOk_append, allOk_sym_cons, allOk_append, allOk_sym_cons]
    refine ⟨allOk_toks l (fun p hp => h p (by simp [vals, hp])), ?_,
      allOk_toks lo (fun p hp => h p (by simp [vals, hp])), allOk_toks hi (fun p hp => h p (by simp [vals, hp]))⟩
    cases n
    · exact allOk_nil
    · simp only [if_true]; rw [allOk_sym_cons]; exact allOk_nil
  | .bin o l r, h => by
    rw [toks_bin, allOk_append, allOk_sym_cons]
    exact ⟨allOk_toks l (fun p hp => h p (by simp [vals, hp])), allOk_toks r (fun p hp => h p (by simp [vals, hp]))⟩
  | .un o e, h => by
    rw [toks_un, allOk_sym_cons]
    exact allOk_toks e (fun p hp => h p (by simpa [vals] using hp))
theorem allOk_toksArgs : (as : List Expr) → (∀ p, p ∈ valsArgs as → LitOk p.1 p.2) → AllOk (toksArgs as)
  | [], _ => by rw [toksArgs_nil]; exact allOk_nil
  | [e], h => by
    rw [toksArgs_one]
    exact allOk_toks e (fun p hp => h p (by simp [valsArgs, hp]))
  | e :: e' :: es, h => by
    rw [toksArgs_cons2, allOk_append, allOk_sym_cons]
    exact ⟨allOk_toks e (fun p hp => h p (by simp [valsArgs, hp])),
      allOk_toksArgs (e' :: es) (fun p hp => h p (by
        rw [valsArgs]; simp only [List.mem_append]; right; exact hp))⟩
end

end AcraModel.Sql.Expr
