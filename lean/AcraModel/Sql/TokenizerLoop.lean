import AcraModel.Sql.TokenizerLemmas
/-!
# `Tokenizer.Scan` with its nested tokenizer, `Lex`, and the token stream

The state of a Go `Tokenizer` is the list of live tokenizer values: the outermost first, then its
`specialComment`, then that one's (`[f]` = no nested tokenizer). `scan` is `Tokenizer.Scan`:

* with a nested tokenizer, its `Scan` comes first; any token but 0 is handed up, on 0 the nested tokenizer is dropped;
* then the tokenizer scans its own input (`scanCore`); a terminated `/*! … */` installs a nested tokenizer over the
  inner text (`NewStringTokenizer`, i.e. the DEFAULT dialect `dd`) and `Scan` starts over (Go: `scanToken` returns
  `rescan` and the loop in `Scan` runs it again; before the repair of repo-patches 61 it was a recursive call
  `return tkn.Scan()` – the same function of the state, but one stack frame pair per comment. Stack depth is not
  visible in this model; it is tied by the harness oracle `C14.tokdepth` and the facts `scanLoopShape`/`rescanIsNegative`).

All three recursive calls decrease `mu`, the number of bytes left in all live tokenizers (+1 each); `lex` (the parser's
`Lex`, which skips comments) and `tokenize` (`for { tok := Scan(); if tok == 0 break }`) decrease it too because a
`Scan` that returns anything but 0 has consumed at least one byte (`scan_total`). None of the three definitions uses
fuel: their termination proofs are C14's progress claim for the tokenizer.
-/
namespace AcraModel.Sql.Tokenizer
open AcraModel

theorem mu_nil : mu [] = 0 := rfl

theorem mu_cons (f : Frame) (l : List Frame) : mu (f :: l) = weight f + mu l := by
  simp only [mu, List.map_cons, List.sum_cons]

theorem scanCore_special_mu (dd : Dialect) (f f' : Frame) (sql : Bytes) (h : scanCore f = .ok (.special sql f')) :
    mu [f', newFrame dd sql] < mu [f] := by
  obtain ⟨res, e, hs⟩ := scanCore_spec f
  rw [h] at e; cases e
  simp only [mu_cons, mu_nil, weight_newFrame]
  omega

/-- `Tokenizer.Scan` -/
def scan (dd : Dialect) (l : List Frame) : Out (Token × List Frame) :=
  match l with
  | [] => .ok (tokEof, [])
  | [f] =>
    match h : scanCore f with
    | .ok (.tok t f') => .ok (t, [f'])
    | .ok (.special sql f') => scan dd [f', newFrame dd sql]
    | .err => .err
    | .panic => .panic
  | f :: g :: sp =>
    match scan dd (g :: sp) with
    | .ok (t, sp') => if t.typ = .eof then scan dd [f] else .ok (t, f :: sp')
    | .err => .err
    | .panic => .panic
termination_by mu l
decreasing_by
  · exact scanCore_special_mu dd f f' sql h
  · have := weight_pos f
    simp only [mu, List.map_cons, List.sum_cons]; omega
  · have := weight_pos g
    simp only [mu, List.map_cons, List.sum_cons, List.map_nil, List.sum_nil]; omega

/-- **Progress of `Scan`**, for ANY state: no panic, the measure does not grow and shrinks unless the token is 0. -/
theorem scan_total (dd : Dialect) (l : List Frame) :
    ∃ t l', scan dd l = .ok (t, l') ∧ mu l' ≤ mu l ∧ (t.typ ≠ .eof → mu l' < mu l) ∧ (l ≠ [] → l' ≠ []) := by
  fun_induction scan dd l with
  | case1 => exact ⟨_, _, rfl, Nat.le_refl _, fun h => absurd rfl h, fun h => absurd rfl h⟩
  | case2 f t f' h =>
    obtain ⟨res, e, hs⟩ := scanCore_spec f
    rw [h] at e; cases e
    obtain ⟨_, h1, h2, _⟩ := hs
    exact ⟨_, _, rfl, by simpa [mu] using h1, fun hne => by simpa [mu] using h2 hne, fun _ => by simp⟩
  | case3 f sql f' h ih =>
    obtain ⟨t, l', e, g1, g2, g3⟩ := ih
    have hmu := scanCore_special_mu dd f f' sql h
    exact ⟨t, l', e, by omega, fun _ => by omega, fun _ => g3 (by simp)⟩
  | case4 f h => obtain ⟨res, e, _⟩ := scanCore_spec f; rw [h] at e; cases e
  | case5 f h => obtain ⟨res, e, _⟩ := scanCore_spec f; rw [h] at e; cases e
  | case6 f g sp t sp' hsc hteof ih1 ih2 =>
    obtain ⟨t2, l2, e2, g1, g2, g3⟩ := ih2
    rw [mu_cons f [], mu_nil] at g1 g2
    rw [mu_cons f (g :: sp)]
    exact ⟨t2, l2, e2, by omega, fun hne => by have := g2 hne; omega, fun _ => g3 (by simp)⟩
  | case7 f g sp t sp' hsc hteof ih1 =>
    obtain ⟨t1, l1, e1, g1, g2, _⟩ := ih1
    rw [hsc] at e1; cases e1
    refine ⟨_, _, rfl, ?_, fun hne => ?_, fun _ => by simp⟩ <;> rw [mu_cons f, mu_cons f]
    · omega
    · have := g2 hne; omega
  | case8 f g sp hsc ih1 => obtain ⟨t1, l1, e1, _⟩ := ih1; rw [hsc] at e1; cases e1
  | case9 f g sp hsc ih1 => obtain ⟨t1, l1, e1, _⟩ := ih1; rw [hsc] at e1; cases e1

theorem scan_mu {dd : Dialect} {l l' : List Frame} {t : Token} (h : scan dd l = .ok (t, l')) :
    mu l' ≤ mu l ∧ (t.typ ≠ .eof → mu l' < mu l) ∧ (l ≠ [] → l' ≠ []) := by
  obtain ⟨_, _, e, g⟩ := scan_total dd l
  rw [h] at e; cases e; exact g

theorem scan_progress {dd : Dialect} {l l' : List Frame} {t : Token} (h : scan dd l = .ok (t, l')) (hne : t.typ ≠ .eof) :
    mu l' < mu l := (scan_mu h).2.1 hne

/-- `Tokenizer.Lex`: `Scan`, skipping comments unless `AllowComments` – the loop the generated parser calls. -/
def lex (dd : Dialect) (allowComments : Bool) (l : List Frame) : Out (Token × List Frame) :=
  match h : scan dd l with
  | .ok (t, l') =>
    if hc : t.typ = .named "COMMENT" ∧ allowComments = false then lex dd allowComments l' else .ok (t, l')
  | .err => .err
  | .panic => .panic
termination_by mu l
decreasing_by exact scan_progress h (by rw [hc.1]; simp)

/-- the token stream: `for { typ, val := tkn.Scan(); …; if typ == 0 { break } }`, each token with the outermost
tokenizer's `Position` after it. A `LEX_ERROR` token does not end the loop (`SplitStatementToPieces` loops like this). -/
def tokenizeFrom (dd : Dialect) (l : List Frame) : Out (List (Token × Nat)) :=
  match h : scan dd l with
  | .ok (t, l') =>
    let p := (l'.head?.map (·.pos)).getD 0
    if hc : t.typ = .eof then .ok [(t, p)]
    else
      match tokenizeFrom dd l' with
      | .ok ts => .ok ((t, p) :: ts)
      | .err => .err
      | .panic => .panic
  | .err => .err
  | .panic => .panic
termination_by mu l
decreasing_by exact scan_progress h hc

/-- a fresh tokenizer: `NewStringTokenizerWithDialect(d, input)` -/
def initial (d : Dialect) (input : Bytes) (multi : Bool := false) : List Frame := [{ dialect := d, buf := input, multi := multi }]

/-- the token stream of `input` in dialect `d` (nested `/*! … */` text in the default dialect `dd`) -/
def tokenize (d dd : Dialect) (input : Bytes) : Out (List (Token × Nat)) := tokenizeFrom dd (initial d input)

/-- `posVarIndex` never exceeds the bytes consumed, and no live tokenizer has a buffer longer than `B` -/
def Inv (B : Nat) (l : List Frame) : Prop := ∀ f ∈ l, f.posVar + weight f ≤ f.buf.length + 1 ∧ f.buf.length ≤ B

theorem Inv.nil {B : Nat} : Inv B [] := fun _ h => nomatch h

theorem Inv.cons_iff {B : Nat} {f : Frame} {l : List Frame} :
    Inv B (f :: l) ↔ (f.posVar + weight f ≤ f.buf.length + 1 ∧ f.buf.length ≤ B) ∧ Inv B l := by
  simp [Inv]

theorem decimal_length (n : Nat) : (decimal n).length = if n < 10 then 1 else (decimal (n / 10)).length + 1 := by
  rw [decimal]
  split <;> simp

theorem decimal_length_mono : ∀ (n k : Nat), k ≤ n → (decimal k).length ≤ (decimal n).length := by
  intro n
  induction n using Nat.strongRecOn with
  | _ n ih =>
    intro k hk
    rw [decimal_length n, decimal_length k]
    by_cases hk10 : k < 10
    · rw [if_pos hk10]; split <;> omega
    · rw [if_neg hk10, if_neg (by omega : ¬n < 10)]
      exact Nat.succ_le_succ (ih (n / 10) (by omega) (k / 10) (by omega))

/-- the extra payload a token may carry beyond the bytes consumed for it: only the `?` placeholder has one -/
def qExtra (B : Nat) (t : Token) : Nat := if t.typ = .named "VALUE_ARG" then 1 + (decimal B).length else 0

/-- **The payload of one `Scan`**, for any state that satisfies the invariant: payload + measure after ≤ measure before
(+ the placeholder allowance), and the invariant is kept. (No panic and progress: `scan_total`.) -/
theorem scan_spec (dd : Dialect) (B : Nat) (l : List Frame) (hI : Inv B l) :
    ∀ t l', scan dd l = .ok (t, l') → t.val.length + mu l' ≤ mu l + qExtra B t ∧ Inv B l' := by
  fun_induction scan dd l with
  | case1 => intro t l' h; cases h; exact ⟨by simp [tokEof], hI⟩
  | case2 f t0 f' hc =>
    intro t l' h; cases h
    obtain ⟨res, e, hs⟩ := scanCore_spec f
    rw [hc] at e; cases e
    obtain ⟨hb, h1, h2, h3⟩ := hs
    have hf := (Inv.cons_iff.mp hI).1
    constructor
    · rcases h3 with ⟨_, e2⟩ | ⟨e1, e2, e3, e4⟩
      · simp only [mu_cons, mu_nil]; omega
      · have := decimal_length_mono B f'.posVar (by have := weight_pos f'; omega)
        simp only [mu_cons, mu_nil, qExtra, e2, if_true]; omega
    · rw [Inv.cons_iff, hb]
      rcases h3 with ⟨e1, _⟩ | ⟨e1, _, e3, _⟩ <;> exact ⟨⟨by omega, hf.2⟩, Inv.nil⟩
  | case3 f sql f' hc ih =>
    intro t l' h
    obtain ⟨res, e, hs⟩ := scanCore_spec f
    rw [hc] at e; cases e
    obtain ⟨hb, hp, hw⟩ := hs
    have hf := (Inv.cons_iff.mp hI).1
    have hI' : Inv B [f', newFrame dd sql] := by
      rw [Inv.cons_iff, Inv.cons_iff, hb, hp, weight_newFrame]
      simp only [newFrame]
      exact ⟨⟨by omega, hf.2⟩, ⟨by omega, by omega⟩, Inv.nil⟩
    have := scanCore_special_mu dd f f' sql hc
    exact ⟨by have := (ih hI' t l' h).1; omega, (ih hI' t l' h).2⟩
  | case4 f h => intro _ _ h; cases h
  | case5 f h => intro _ _ h; cases h
  | case6 f g sp t0 sp' hsc hteof ih1 ih2 =>
    -- the nested tokenizer is at its end: dropped, the tokenizer scans its own input
    intro t l' h
    have := ih2 (Inv.cons_iff.mpr ⟨(Inv.cons_iff.mp hI).1, Inv.nil⟩) t l' h
    rw [mu_cons f (g :: sp)]; rw [mu_cons f [], mu_nil] at this
    exact ⟨by omega, this.2⟩
  | case7 f g sp t0 sp' hsc hteof ih1 =>
    intro t l' h; cases h
    have := ih1 (Inv.cons_iff.mp hI).2 _ _ hsc
    exact ⟨by rw [mu_cons f, mu_cons f]; omega, Inv.cons_iff.mpr ⟨(Inv.cons_iff.mp hI).1, this.2⟩⟩
  | case8 => intro _ _ h; cases h
  | case9 => intro _ _ h; cases h

def payloadSum (ts : List (Token × Nat)) : Nat := (ts.map (·.1.val.length)).sum
def extraSum (B : Nat) (ts : List (Token × Nat)) : Nat := (ts.map (fun p => qExtra B p.1)).sum

theorem extraSum_le (B : Nat) (ts : List (Token × Nat)) : extraSum B ts ≤ ts.length * (1 + (decimal B).length) := by
  induction ts with
  | nil => simp [extraSum]
  | cons a r ih =>
    have hq : qExtra B a.1 ≤ 1 + (decimal B).length := by unfold qExtra; split <;> omega
    simp only [extraSum, List.map_cons, List.sum_cons, List.length_cons, Nat.succ_mul] at ih ⊢
    omega

/-- the loop from any state that satisfies the invariant: it ends without panic after at most `mu l` tokens, and the
payloads together are no longer than `mu l` plus the placeholder allowances -/
theorem tokenizeFrom_spec (dd : Dialect) (B : Nat) (l : List Frame) (hI : Inv B l) (hne : l ≠ []) :
    ∃ ts, tokenizeFrom dd l = .ok ts ∧ ts.length ≤ mu l ∧ payloadSum ts ≤ mu l + extraSum B ts := by
  fun_induction tokenizeFrom dd l with
  | case1 l t l' h p hc =>
    have hpos : 0 < mu l := by
      cases l with
      | nil => exact absurd rfl hne
      | cons f r => have := weight_pos f; rw [mu_cons]; omega
    have g := (scan_spec dd B l hI t l' h).1
    exact ⟨_, rfl, hpos, by simp only [payloadSum, extraSum, List.map_cons, List.map_nil, List.sum_cons, List.sum_nil]; omega⟩
  | case2 l t l' h p hc ts hrec ih =>
    obtain ⟨g3, g4⟩ := scan_spec dd B l hI t l' h
    obtain ⟨_, g2, hn⟩ := scan_mu h
    obtain ⟨ts', e2, k1, k2⟩ := ih g4 (hn hne)
    rw [hrec] at e2; cases e2
    have := g2 hc
    refine ⟨_, rfl, by simp only [List.length_cons]; omega, ?_⟩
    simp only [payloadSum, extraSum, List.map_cons, List.sum_cons] at k2 ⊢
    omega
  | case3 l t l' h hc hrec ih =>
    obtain ⟨ts', e2, _⟩ := ih (scan_spec dd B l hI t l' h).2 ((scan_mu h).2.2 hne)
    rw [hrec] at e2; cases e2
  | case4 l t l' h hc hrec ih =>
    obtain ⟨ts', e2, _⟩ := ih (scan_spec dd B l hI t l' h).2 ((scan_mu h).2.2 hne)
    rw [hrec] at e2; cases e2
  | case5 l h => obtain ⟨_, _, e, _⟩ := scan_total dd l; rw [h] at e; cases e
  | case6 l h => obtain ⟨_, _, e, _⟩ := scan_total dd l; rw [h] at e; cases e

theorem inv_initial (d : Dialect) (input : Bytes) (multi : Bool) : Inv input.length (initial d input multi) :=
  Inv.cons_iff.mpr ⟨by simp [weight], Inv.nil⟩

theorem mu_initial (d : Dialect) (input : Bytes) (multi : Bool) : mu (initial d input multi) = input.length + 1 := by
  simp [mu, initial, weight]

theorem tokenize_spec (d dd : Dialect) (input : Bytes) :
    ∃ ts, tokenize d dd input = .ok ts ∧ ts.length ≤ input.length + 1 ∧
      payloadSum ts ≤ input.length + 1 + extraSum input.length ts := by
  have := tokenizeFrom_spec dd input.length (initial d input) (inv_initial d input false) (by simp [initial])
  rwa [mu_initial] at this

theorem lex_total (dd : Dialect) (ac : Bool) (l : List Frame) :
    ∃ t l', lex dd ac l = .ok (t, l') ∧ mu l' ≤ mu l ∧ (t.typ ≠ .eof → mu l' < mu l) := by
  fun_induction lex dd ac l with
  | case1 l t l' h hc ih =>
    obtain ⟨t2, l2, e, g1, g2⟩ := ih
    have := scan_progress h (by rw [hc.1]; simp)
    exact ⟨t2, l2, e, by omega, fun _ => by omega⟩
  | case2 l t l' h hc =>
    exact ⟨_, _, rfl, (scan_mu h).1, (scan_mu h).2.1⟩
  | case3 l h => obtain ⟨_, _, e, _⟩ := scan_total dd l; rw [h] at e; cases e
  | case4 l h => obtain ⟨_, _, e, _⟩ := scan_total dd l; rw [h] at e; cases e

/-- the parser sets `ForceEOF` on the tokenizer it was given (the outermost one) -/
def setForceEOF : List Frame → List Frame
  | f :: r => { f with forceEOF := true } :: r
  | [] => []

theorem mu_setForceEOF (l : List Frame) : mu (setForceEOF l) = mu l := by
  cases l <;> rfl

def applyForce (force : Option Nat) (l : List Frame) : List Frame := if force = some 0 then setForceEOF l else l

theorem mu_applyForce (force : Option Nat) (l : List Frame) : mu (applyForce force l) = mu l := by
  unfold applyForce; split
  · exact mu_setForceEOF l
  · rfl

/-- the stream the parser sees: `for { tok := Lex(); if tok == 0 { break } }`; `force = some k`: after `k` tokens the
parser sets `ForceEOF` (the grammar does so for statements it does not parse further). -/
def lexFrom (dd : Dialect) (allowComments : Bool) (force : Option Nat) (l : List Frame) : Out (List (Token × Nat)) :=
  match h : lex dd allowComments (applyForce force l) with
  | .ok (t, l') =>
    let p := (l'.head?.map (·.pos)).getD 0
    if hc : t.typ = .eof then .ok [(t, p)]
    else
      match lexFrom dd allowComments (force.map (· - 1)) l' with
      | .ok ts => .ok ((t, p) :: ts)
      | .err => .err
      | .panic => .panic
  | .err => .err
  | .panic => .panic
termination_by mu l
decreasing_by
  obtain ⟨t1, l1, e, _, g⟩ := lex_total dd allowComments (applyForce force l)
  rw [h] at e; injection e with e; injection e with ea eb; subst ea; subst eb
  have := g hc
  rw [mu_applyForce] at this; exact this

theorem lexFrom_total (dd : Dialect) (ac : Bool) (force : Option Nat) (l : List Frame) : ∃ ts, lexFrom dd ac force l = .ok ts := by
  fun_induction lexFrom dd ac force l with
  | case1 => exact ⟨_, rfl⟩
  | case2 _ _ _ _ _ _ _ ts hrec => exact ⟨_, rfl⟩
  | case3 _ _ _ _ _ _ hrec ih => obtain ⟨ts, e⟩ := ih; rw [hrec] at e; cases e
  | case4 _ _ _ _ _ _ hrec ih => obtain ⟨ts, e⟩ := ih; rw [hrec] at e; cases e
  | case5 force l h => obtain ⟨_, _, e, _⟩ := lex_total dd ac (applyForce force l); rw [h] at e; cases e
  | case6 force l h => obtain ⟨_, _, e, _⟩ := lex_total dd ac (applyForce force l); rw [h] at e; cases e

end AcraModel.Sql.Tokenizer
