import AcraModel.Basic.Bytes
import AcraModel.Crypto.Ops
import AcraModel.Generated.AuditLog
/-!
# Audit-log integrity chain (C20) – `logging/audit_log.go`, `logging/integrity_verifier.go`

* `Calc` is `LogEntryIntegrityCalculator`: a ratcheting key and the previous entry's HMAC (`none` is Go's
  `nil`, i.e. "first check of a chain").
* `Calc.step` is `CalculateIntegrityCheck`: `ic = HMAC(key, input ‖ prev)`, tag written to the log is
  `SHA256(ic)`, then `prev := ic`, `key := SHA256(key)`.
* The verifier sees a log as a list of `Line`s (a parsed entry, a line without integrity that is
  skipped, or a line whose integrity part does not parse) and replays the ratchet.
-/
namespace AcraModel.AuditLog
open AcraModel

structure Calc where
  key : Bytes
  prev : Option Bytes
deriving DecidableEq, Repr

/-- `NewLogEntryIntegrityCalculator(key)` / `ResetCryptoKey(key)` -/
def Calc.new (c : CryptoOps) (key : Bytes) : Calc := ⟨c.sha256 key, none⟩

/-- `calculateHmac(input)`: the HMAC is fed `input`, then the previous integrity check -/
def Calc.ic (c : CryptoOps) (st : Calc) (input : Bytes) : Bytes :=
  c.hmac st.key (input ++ st.prev.getD [])

/-- `CalculateIntegrityCheck(input)` → (new state, aggregated integrity check, newChain) -/
def Calc.step (c : CryptoOps) (st : Calc) (input : Bytes) : Calc × Bytes × Bool :=
  let ic := st.ic c input
  (⟨c.sha256 st.key, some ic⟩, c.sha256 ic, st.prev.isNone)

/-- `ParsedLogEntry` -/
structure Entry where
  data : Bytes
  tag : Bytes
  isNew : Bool
  isEnd : Bool
deriving DecidableEq, Repr

inductive Line where
  /-- empty line, or the parser returned `Err…IntegrityExtract` (no integrity part): skipped -/
  | skip
  /-- the parser returned another error (integrity is not hex, JSON does not parse): verification stops -/
  | bad
  | entry (e : Entry)
deriving DecidableEq, Repr

inductive FailKind where
  | parse | missingEnd | mismatch
deriving DecidableEq, Repr

inductive Verdict where
  | ok
  | fail (line : Nat) (kind : FailKind)
deriving DecidableEq, Repr

/-- verifier state: the calculator and `lastVerifiedEntry.IsEndChain` (`none`: nothing verified yet) -/
structure VState where
  cal : Calc
  last : Option Bool
deriving DecidableEq, Repr

def VState.init (c : CryptoOps) (key : Bytes) : VState := ⟨Calc.new c key, none⟩

/-- one protected entry: `.ok st'` when it verifies -/
def VState.entry (c : CryptoOps) (key : Bytes) (st : VState) (e : Entry) : Except FailKind VState :=
  if e.isNew && st.last == some false then .error .missingEnd
  else
    let cal := if e.isNew then Calc.new c key else st.cal
    let (cal', tag, _) := cal.step c e.data
    if e.tag = tag then .ok ⟨cal', some e.isEnd⟩ else .error .mismatch

/-- `VerifyIntegrityCheck` over the lines from index `i` on -/
def verifyFrom (c : CryptoOps) (key : Bytes) (st : VState) (i : Nat) : List Line → Verdict
  | [] => .ok
  | .skip :: r => verifyFrom c key st (i + 1) r
  | .bad :: _ => .fail i .parse
  | .entry e :: r =>
    match st.entry c key e with
    | .ok st' => verifyFrom c key st' (i + 1) r
    | .error k => .fail i k

def verify (c : CryptoOps) (key : Bytes) (ls : List Line) : Verdict :=
  verifyFrom c key (VState.init c key) 0 ls

/-! ### the producer at entry level -/

/-- one log call: the authenticated bytes of the entry, whether the entry carries the end-of-chain
marker, and whether the handler restarts the chain right after writing it (`AuditLogHandler.Write`
during `ResetChain`). -/
structure PItem where
  data : Bytes
  isEnd : Bool
  resetAfter : Bool
deriving DecidableEq, Repr

/-- the entries the hooks emit for a sequence of log calls, starting from calculator state `st` -/
def produce (c : CryptoOps) (key : Bytes) (st : Calc) : List PItem → List Entry
  | [] => []
  | it :: r =>
    let (st', tag, new) := st.step c it.data
    ⟨it.data, tag, new, it.isEnd⟩ :: produce c key (if it.resetAfter then Calc.new c key else st') r

end AcraModel.AuditLog
