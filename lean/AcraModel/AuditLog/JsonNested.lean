import AcraModel.AuditLog.JsonRoundTrip
/-!
# `unmarshalLogEntry ∘ json.Marshal = id` for NESTED values (C20)

`JsonRoundTrip.lean` proves the round trip for maps whose values are scalars. Here the values may be arrays and objects
nested to any depth (slices, maps and structs logged as fields arrive that way after logrus' own encoding): `GoodV` –
scalars, arrays of good values, key-sorted objects with valid UTF-8 keys and good values. The decoder model
carries fuel (`decodeTop` starts it at the length of the line + 1); the proofs show that the length of the text a value
is written as always suffices (induction on the fuel: every recursive call of the decoder has less of it).

The scalar statements of `JsonRoundTrip.lean` are not instances of the ones here: a `NumLit` is read back in front of `,`
and `}` only, inside an array it must also be read back in front of `]` (`NumLitV`, hence `IsDelimV`, `ScalarW`).
-/
namespace AcraModel.AuditLog
open AcraModel

/-- what may follow a value inside a line the encoder wrote: `,` `}` `]` -/
def IsDelimV (d : UInt8) : Prop := d.toNat = 0x2C ∨ d.toNat = 0x7D ∨ d.toNat = 0x5D

theorem isDelimV_of_isDelim {d : UInt8} (h : IsDelim d) : IsDelimV d :=
  h.imp_right Or.inl

theorem delimV_not_ws {d : UInt8} (h : IsDelimV d) : isWs d = false := by
  unfold isWs
  rcases h with h | h | h <;> simp [h]

/-- a number literal the decoder reads back in front of every delimiter, `]` included (a number inside an array) -/
def NumLitV (lit : Bytes) : Prop := NumLit lit ∧ ∀ tail, scanNum (lit ++ 0x5D :: tail) = some (lit, 0x5D :: tail)

theorem NumLitV.scan {lit : Bytes} (h : NumLitV lit) (d : UInt8) (tail : Bytes) (hd : IsDelimV d) :
    scanNum (lit ++ d :: tail) = some (lit, d :: tail) := by
  rcases hd with hd | hd | hd
  · exact h.1.2 d tail (Or.inl hd)
  · exact h.1.2 d tail (Or.inr hd)
  · obtain rfl : d = 0x5D := UInt8.toNat_inj.mp hd
    exact h.2 tail

/-- `ScalarV` with number literals that are also read back in front of `]` -/
inductive ScalarW : JVal → Prop where
  | null : ScalarW .null
  | bool (b : Bool) : ScalarW (.bool b)
  | num (lit : Bytes) (h : NumLitV lit) : ScalarW (.num lit)
  | str (s : Bytes) (h : ValidUtf8 s) : ScalarW (.str s)

theorem ScalarW.toV {v : JVal} (h : ScalarW v) : ScalarV v := by
  cases h with
  | null => exact .null
  | bool b => exact .bool b
  | num lit h => exact .num lit h.1
  | str s h => exact .str s h

theorem ScalarW.scan {v : JVal} (hv : ScalarW v) {d : UInt8} (hd : IsDelimV d) (tail : Bytes) :
    ∀ lit, v = .num lit → scanNum (lit ++ d :: tail) = some (lit, d :: tail) := by
  intro lit e
  subst e
  cases hv with
  | num _ h => exact h.scan d tail hd

/-- the nested class: scalars, arrays of good values, key-sorted objects with valid UTF-8 keys and good values -/
inductive GoodV : JVal → Prop where
  | scalar (v : JVal) (h : ScalarW v) : GoodV v
  | arr (xs : List JVal) (h : ∀ x ∈ xs, GoodV x) : GoodV (.arr xs)
  | obj (kvs : List (Bytes × JVal)) (hc : Canonical kvs) (hk : ∀ kv ∈ kvs, ValidUtf8 kv.1)
      (h : ∀ kv ∈ kvs, GoodV kv.2) : GoodV (.obj kvs)

def GoodObj (o : Obj) : Prop := ∀ kv ∈ o, ValidUtf8 kv.1 ∧ GoodV kv.2

theorem marshalElems_cons2 (x y : JVal) (r : List JVal) :
    marshalElems (x :: y :: r) = marshal x ++ 0x2C :: marshalElems (y :: r) := by
  simp [marshalElems]

theorem marshal_length_pos (v : JVal) : 0 < (marshal v).length := by
  cases v with
  | null => simp [marshal, strB_null]
  | bool b => cases b <;> simp [marshal, strB_true, strB_false]
  | num l =>
    simp only [marshal]
    split
    · decide
    · next h => cases l with
      | nil => simp at h
      | cons a t => simp
  | str s => simp [marshal, encStr]
  | arr xs => simp [marshal]
  | obj kvs => simp [marshal]

theorem marshal_head (v : JVal) (hv : GoodV v) :
    ∃ c r, marshal v = c :: r ∧ isWs c = false ∧ c.toNat ≠ 0x5D ∧ c.toNat ≠ 0x7D := by
  cases hv with
  | scalar v h =>
    obtain ⟨c, r, hm, hws, _, _, h5d, h7d⟩ := scalar_head h.toV
    exact ⟨c, r, hm, hws, h5d, h7d⟩
  | arr xs _ => exact ⟨0x5B, _, by rw [marshal]; rfl, by decide⟩
  | obj kvs _ _ _ => exact ⟨0x7B, _, by rw [marshal]; rfl, by decide⟩

theorem skipWs_marshal (v : JVal) (hv : GoodV v) (tail : Bytes) : skipWs (marshal v ++ tail) = marshal v ++ tail := by
  obtain ⟨c, r, h, hws, _⟩ := marshal_head v hv
  rw [h]
  exact skipWs_cons c _ hws

theorem marshalElems_head (x : JVal) (r : List JVal) (hx : GoodV x) :
    ∃ c rr, marshalElems (x :: r) = c :: rr ∧ isWs c = false ∧ c.toNat ≠ 0x5D := by
  obtain ⟨c, rr, h, h1, h2, _⟩ := marshal_head x hx
  cases r with
  | nil => exact ⟨c, rr, by rw [marshalElems, h], h1, h2⟩
  | cons y r' => exact ⟨c, _, by rw [marshalElems_cons2, h]; rfl, h1, h2⟩

theorem skipWs_marshalElems (x : JVal) (r : List JVal) (hx : GoodV x) (tail : Bytes) :
    skipWs (marshalElems (x :: r) ++ tail) = marshalElems (x :: r) ++ tail := by
  obtain ⟨c, rr, h, hws, _⟩ := marshalElems_head x r hx
  rw [h]
  exact skipWs_cons c _ hws

/-- `[` … `]`: the array is read once its elements are -/
theorem parseVal_arr_step (f : Nat) (x : JVal) (r : List JVal) (hx : GoodV x) (rest : Bytes)
    (h : parseElems f (marshalElems (x :: r) ++ 0x5D :: rest) = some (x :: r, rest)) :
    parseVal (f + 1) (marshal (.arr (x :: r)) ++ rest) = some (.arr (x :: r), rest) := by
  have hm : marshal (.arr (x :: r)) ++ rest = 0x5B :: (marshalElems (x :: r) ++ 0x5D :: rest) := by
    simp [marshal, List.append_assoc]
  obtain ⟨c, rr, hcr, hws, h5d⟩ := marshalElems_head x r hx
  rw [hm, parseVal, if_neg (by decide), if_pos (by decide)]
  rw [hcr, List.cons_append] at h ⊢
  rw [skipWs_cons c _ hws]
  simp only []
  rw [if_neg h5d, h]

theorem parseVal_arr_nil (f : Nat) (rest : Bytes) :
    parseVal (f + 1) (marshal (.arr []) ++ rest) = some (.arr [], rest) := by
  have hm : marshal (.arr []) ++ rest = 0x5B :: 0x5D :: rest := by simp [marshal, marshalElems]
  rw [hm, parseVal]
  rw [if_neg (by decide), if_pos (by decide), skipWs_cons _ _ (by decide)]
  simp only []
  rw [if_pos (by decide)]

theorem parseVal_obj_nil (f : Nat) (rest : Bytes) :
    parseVal (f + 1) (marshal (.obj []) ++ rest) = some (.obj [], rest) := by
  have hm : marshal (.obj []) ++ rest = 0x7B :: 0x7D :: rest := by simp [marshal, marshalMembers]
  rw [hm, parseVal]
  rw [if_pos (by decide), skipWs_cons _ _ (by decide)]
  simp only []
  rw [if_pos (by decide)]

/-- one element and what follows it (`,` more elements, or `]`) -/
theorem parseElems_step (f : Nat) (x : JVal) (d : UInt8) (hd : d.toNat = 0x2C ∨ d.toNat = 0x5D) (tail : Bytes)
    (hv : parseVal f (marshal x ++ d :: tail) = some (x, d :: tail)) :
    parseElems (f + 1) (marshal x ++ d :: tail) =
      if d.toNat = 0x2C then (parseElems f (skipWs tail)).map fun p => (x :: p.1, p.2)
      else some ([x], tail) := by
  have hws : isWs d = false := delimV_not_ws (hd.imp_right Or.inr)
  rw [parseElems]
  rw [hv]
  simp only []
  rw [skipWs_cons _ _ hws]
  simp only []
  rcases hd with h | h
  · rw [if_pos h, if_pos h]
    cases parseElems f (skipWs tail) <;> rfl
  · rw [if_neg (by omega), if_pos h, if_neg (by omega)]

theorem marshalElems_length_cons2 (x y : JVal) (r : List JVal) :
    (marshalElems (x :: y :: r)).length = (marshal x).length + 1 + (marshalElems (y :: r)).length := by
  rw [marshalElems_cons2]; simp; omega

theorem marshalMembers_length_cons2 (k : Bytes) (v : JVal) (m : Bytes × JVal) (r : Obj) :
    (marshalMembers ((k, v) :: m :: r)).length = (encStr k).length + 1 + (marshal v).length + 1 + (marshalMembers (m :: r)).length := by
  rw [marshalMembers_cons2]; simp; omega

/-- the three statements below for one amount of fuel, by induction on it: every recursive call of the decoder is made
with one unit less, on a shorter text. A value needs fuel ≥ its text, a list of elements or members fuel > its text: the
two brackets of the enclosing value pay for the difference. -/
theorem parse_good (f : Nat) :
    (∀ v, GoodV v → ∀ (d : UInt8) (tail : Bytes), IsDelimV d → (marshal v).length ≤ f →
      parseVal (f + 1) (marshal v ++ d :: tail) = some (v, d :: tail)) ∧
    (∀ xs : List JVal, (∀ x ∈ xs, GoodV x) → xs ≠ [] → ∀ tail : Bytes, (marshalElems xs).length < f →
      parseElems (f + 1) (marshalElems xs ++ 0x5D :: tail) = some (xs, tail)) ∧
    (∀ kvs : List (Bytes × JVal), (∀ kv ∈ kvs, ValidUtf8 kv.1) → (∀ kv ∈ kvs, GoodV kv.2) → kvs ≠ [] →
      ∀ tail : Bytes, (marshalMembers kvs).length < f →
      parseMembers (f + 1) (marshalMembers kvs ++ 0x7D :: tail) = some (kvs, tail)) := by
  induction f with
  | zero =>
    exact ⟨fun v _ _ _ _ hf => absurd (marshal_length_pos v) (by omega), fun _ _ _ _ hf => absurd hf (Nat.not_lt_zero _),
      fun _ _ _ _ _ hf => absurd hf (Nat.not_lt_zero _)⟩
  | succ f ih =>
    obtain ⟨ihv, ihe, ihm⟩ := ih
    refine ⟨?_, ?_, ?_⟩
    · intro v hv d tail hd hf
      cases hv with
      | scalar _ h => exact parseVal_scalar _ v h.toV d tail (h.scan hd tail)
      | arr xs hall =>
        cases xs with
        | nil => exact parseVal_arr_nil _ (d :: tail)
        | cons x r =>
          have hlen : (marshal (.arr (x :: r))).length = (marshalElems (x :: r)).length + 2 := by simp [marshal]
          exact parseVal_arr_step (f + 1) x r (hall x List.mem_cons_self) (d :: tail)
            (ihe (x :: r) hall (by simp) (d :: tail) (by omega))
      | obj kvs hc hk hg =>
        cases kvs with
        | nil => exact parseVal_obj_nil _ (d :: tail)
        | cons kv r =>
          have hlen := marshal_obj_length (kv :: r)
          exact parseVal_obj_step (f + 1) kv.1 kv.2 r hc (d :: tail)
            (ihm (kv :: r) hk hg (by simp) (d :: tail) (by omega))
    · intro xs hall hne tail hf
      match xs, hall, hne, hf with
      | [x], hall, _, hf =>
        rw [marshalElems] at hf ⊢
        rw [parseElems_step (f + 1) x 0x5D (Or.inr rfl) tail
          (ihv x (hall x List.mem_cons_self) 0x5D tail (Or.inr (Or.inr rfl)) (by omega)), if_neg (by decide)]
      | x :: y :: r, hall, _, hf =>
        have hl := marshalElems_length_cons2 x y r
        have hpos := marshal_length_pos x
        rw [marshalElems_cons2, List.append_assoc, List.cons_append,
          parseElems_step (f + 1) x 0x2C (Or.inl rfl) _
            (ihv x (hall x List.mem_cons_self) 0x2C _ (Or.inl rfl) (by omega)), if_pos (by decide),
          skipWs_marshalElems y r (hall y (by simp)),
          ihe (y :: r) (fun z hz => hall z (List.mem_cons_of_mem _ hz)) (by simp) tail (by omega)]
        rfl
    · intro kvs hk hg hne tail hf
      match kvs, hk, hg, hne, hf with
      | [(k, v)], hk, hg, _, hf =>
        have hv := hg (k, v) List.mem_cons_self
        have hl : (marshalMembers [(k, v)]).length = (encStr k).length + 1 + (marshal v).length := by
          rw [marshalMembers_one]; simp; omega
        rw [marshalMembers_one, List.append_assoc, List.cons_append,
          parseMembers_step (f + 1) k v (hk (k, v) List.mem_cons_self) 0x7D (Or.inr rfl) tail (skipWs_marshal v hv _)
            (ihv v hv 0x7D tail (Or.inr (Or.inl rfl)) (by omega)), if_neg (by decide)]
      | (k, v) :: m :: r, hk, hg, _, hf =>
        have hv := hg (k, v) List.mem_cons_self
        have hl := marshalMembers_length_cons2 k v m r
        rw [marshalMembers_cons2, List.append_assoc, List.cons_append, List.append_assoc, List.cons_append,
          parseMembers_step (f + 1) k v (hk (k, v) List.mem_cons_self) 0x2C (Or.inl rfl) _ (skipWs_marshal v hv _)
            (ihv v hv 0x2C _ (Or.inl rfl) (by omega)), if_pos (by decide), skipWs_marshalMembers,
          ihm (m :: r) (fun z hz => hk z (List.mem_cons_of_mem _ hz)) (fun z hz => hg z (List.mem_cons_of_mem _ hz))
            (by simp) tail (by omega)]
        rfl

theorem parseVal_good : (v : JVal) → GoodV v → ∀ (f : Nat) (d : UInt8) (tail : Bytes), IsDelimV d → (marshal v).length ≤ f →
    parseVal (f + 1) (marshal v ++ d :: tail) = some (v, d :: tail) :=
  fun v hv f => (parse_good f).1 v hv

theorem parseElems_good : (xs : List JVal) → (∀ x ∈ xs, GoodV x) → xs ≠ [] → ∀ (f : Nat) (tail : Bytes), (marshalElems xs).length < f →
    parseElems (f + 1) (marshalElems xs ++ 0x5D :: tail) = some (xs, tail) :=
  fun xs hall hne f => (parse_good f).2.1 xs hall hne

theorem parseMembers_good : (kvs : List (Bytes × JVal)) → (∀ kv ∈ kvs, ValidUtf8 kv.1) → (∀ kv ∈ kvs, GoodV kv.2) → kvs ≠ [] →
    ∀ (f : Nat) (tail : Bytes), (marshalMembers kvs).length < f →
    parseMembers (f + 1) (marshalMembers kvs ++ 0x7D :: tail) = some (kvs, tail) :=
  fun kvs hk hg hne f => (parse_good f).2.2 kvs hk hg hne

/-- **`unmarshalLogEntry ∘ json.Marshal` is the identity on every key-sorted map with valid UTF-8 keys and good values –
arrays and objects nested to any depth included.** -/
theorem decodeTop_marshal_nested (o : Obj) (hc : Canonical o) (hg : GoodObj o) :
    decodeTop (marshal (.obj o)) = some (some o) :=
  decodeTop_obj o hc fun hne =>
    parseMembers_good o (fun kv h => (hg kv h).1) (fun kv h => (hg kv h).2) hne _ [] (Nat.lt_succ_self _)

theorem numEnd_rbr : NumEnd 0x5D := by unfold NumEnd; decide

/-- every integer literal without superfluous leading zeros, with or without a sign – also as an array element -/
theorem numLitV_int (ds : Bytes) (hne : ds ≠ []) (hd : ∀ x ∈ ds, isDigit x = true)
    (hz : ds.head? = some 0x30 → ds.length = 1) : NumLitV ds ∧ NumLitV (0x2D :: ds) :=
  ⟨⟨(numLit_int ds hne hd hz).1, fun tail => scanNum_int [] (Or.inl rfl) ds hne hd hz _ tail numEnd_rbr⟩,
    ⟨(numLit_int ds hne hd hz).2, fun tail => scanNum_int [0x2D] (Or.inr rfl) ds hne hd hz _ tail numEnd_rbr⟩⟩

/-- every decimal literal `digits.digits`, with or without a sign – also as an array element -/
theorem numLitV_frac (ip fr : Bytes) (hne : ip ≠ []) (hd : ∀ x ∈ ip, isDigit x = true)
    (hz : ip.head? = some 0x30 → ip.length = 1) (hfne : fr ≠ []) (hfd : ∀ x ∈ fr, isDigit x = true) :
    NumLitV (ip ++ 0x2E :: fr) ∧ NumLitV (0x2D :: (ip ++ 0x2E :: fr)) :=
  ⟨⟨(numLit_frac ip fr hne hd hz hfne hfd).1, fun tail => scanNum_frac [] (Or.inl rfl) ip fr hne hd hz hfne hfd _ tail numEnd_rbr⟩,
    ⟨(numLit_frac ip fr hne hd hz hfne hfd).2,
      fun tail => scanNum_frac [0x2D] (Or.inr rfl) ip fr hne hd hz hfne hfd _ tail numEnd_rbr⟩⟩

/-- the map the hook marshals stays in the nested class -/
theorem hookMap_classN (c : CryptoOps) (st : Calc) (o : Obj) (hc : Canonical o) (hg : GoodObj o) :
    Canonical (jsonHookMap c st o) ∧ GoodObj (jsonHookMap c st o) :=
  hookMap_forall _ (fun _ s hk hs => ⟨hk, .scalar _ (.str s hs)⟩) c st o hc hg

theorem goodV_of_scalarW {v : JVal} (h : ScalarW v) : GoodV v := .scalar v h

end AcraModel.AuditLog
