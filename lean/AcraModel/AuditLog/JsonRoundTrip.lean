import AcraModel.AuditLog.JsonLemmas
/-!
Decoding what the encoder wrote (C20, JSON format): `parseStr ∘ encStr`, number literals, scalar values,
the members of a flat object, and `decodeTop (marshal (.obj o)) = o` for key-sorted maps whose keys are valid
UTF-8 and whose values are strings (valid UTF-8), numbers (any literal of the JSON grammar the model's scanner
delimits), booleans and `null`.
-/
namespace AcraModel.AuditLog
open AcraModel Generated.AuditLog

/-- one rune as `unicode/utf8` decodes it: an ASCII byte or a well-formed multi-byte sequence -/
inductive Seg where
  | ascii (b : UInt8)
  | m2 (b c1 : UInt8)
  | m3 (b c1 c2 : UInt8)
  | m4 (b c1 c2 c3 : UInt8)

def Seg.bytes : Seg → Bytes
  | .ascii b => [b]
  | .m2 b c1 => [b, c1]
  | .m3 b c1 c2 => [b, c1, c2]
  | .m4 b c1 c2 c3 => [b, c1, c2, c3]

/-- well-formed per `utf8.DecodeRune` (no overlong forms, no surrogates, nothing above U+10FFFF) -/
def Seg.Wf : Seg → Prop
  | .ascii b => b.toNat < 0x80
  | .m2 b c1 => mbLen b [c1] = 2
  | .m3 b c1 c2 => mbLen b [c1, c2] = 3
  | .m4 b c1 c2 c3 => mbLen b [c1, c2, c3] = 4

/-- `utf8.Valid`: the byte string is a sequence of well-formed runes -/
def ValidUtf8 (s : Bytes) : Prop := ∃ gs : List Seg, (∀ g ∈ gs, g.Wf) ∧ s = gs.flatMap Seg.bytes

/-- what counts is the lead byte and the continuation bytes it asks for: bytes after them do not matter -/
theorem mbLen_ext {b : UInt8} {r : Bytes} {k : Nat} (h : mbLen b r = k + 1) (x : Bytes) :
    mbLen b (r ++ x) = k + 1 := by
  unfold mbLen at h ⊢
  by_cases h2 : 0xC2 ≤ b.toNat ∧ b.toNat ≤ 0xDF
  · rw [if_pos h2] at h ⊢
    match r, h with
    | _ :: _, h => exact h
  rw [if_neg h2] at h ⊢
  by_cases h3 : 0xE0 ≤ b.toNat ∧ b.toNat ≤ 0xEF
  · rw [if_pos h3] at h ⊢
    match r, h with
    | _ :: _ :: _, h => exact h
  rw [if_neg h3] at h ⊢
  by_cases h4 : 0xF0 ≤ b.toNat ∧ b.toNat ≤ 0xF4
  · rw [if_pos h4] at h ⊢
    match r, h with
    | _ :: _ :: _ :: _, h => exact h
  rw [if_neg h4] at h
  cases h

theorem mbLen_high {b : UInt8} {r : Bytes} {k : Nat} (h : mbLen b r = k + 1) : 0x80 ≤ b.toNat := by
  apply Decidable.byContradiction
  intro hb
  unfold mbLen at h
  rw [if_neg (by omega), if_neg (by omega), if_neg (by omega)] at h
  cases h

theorem push_nil (x : Option (Bytes × Bytes)) : push [] x = x := by
  cases x <;> rfl

theorem push_push (p q : Bytes) (x : Option (Bytes × Bytes)) : push p (push q x) = push (p ++ q) x := by
  cases x with
  | none => rfl
  | some y => simp [push]

theorem parseStr_high (b : UInt8) (r : Bytes) (m : Nat) (hb : 0x80 ≤ b.toNat) (hm : mbLen b r = m + 1) :
    parseStr 0 (b :: r) = push [b] (parseStr m r) := by
  rw [parseStr.eq_def]
  simp only []
  rw [if_neg (by omega), if_neg (by omega), if_neg (by omega), if_neg (by omega), hm]

theorem parseStr_skip (k : Nat) (b : UInt8) (r : Bytes) : parseStr (k + 1) (b :: r) = push [b] (parseStr k r) := by
  rw [parseStr.eq_def]

theorem parseStr_skip_all (cs t : Bytes) : parseStr cs.length (cs ++ t) = push cs (parseStr 0 t) := by
  induction cs with
  | nil => exact (push_nil _).symm
  | cons c cs ih => rw [List.length_cons, List.cons_append, parseStr_skip, ih, push_push]; rfl

theorem parseStr_quote (r : Bytes) : parseStr 0 (0x22 :: r) = some ([], r) := by
  rw [parseStr.eq_def]
  simp

theorem parseStr_plain (b : UInt8) (r : Bytes) (h1 : 0x20 ≤ b.toNat) (h2 : b.toNat < 0x80) (h3 : b.toNat ≠ 0x22)
    (h4 : b.toNat ≠ 0x5C) : parseStr 0 (b :: r) = push [b] (parseStr 0 r) := by
  rw [parseStr.eq_def]
  simp only []
  rw [if_neg h3, if_neg h4, if_neg (by omega), if_pos h2]

theorem parseStr_esc_simple (e x : UInt8) (r : Bytes) (hne : e.toNat ≠ 0x75) (hs : simpleEsc e = some x) :
    parseStr 0 (0x5C :: e :: r) = push [x] (parseStr 0 r) := by
  rw [parseStr.eq_def]
  simp only []
  rw [if_neg (by decide), if_pos (by decide), if_neg hne, hs]

theorem parseStr_esc_u (h1 h2 h3 h4 : UInt8) (r : Bytes) (u : Nat) (hh : hex4 h1 h2 h3 h4 = some u) (hu : u < 0xD800) :
    parseStr 0 (0x5C :: 0x75 :: h1 :: h2 :: h3 :: h4 :: r) = push (encRune u) (parseStr 0 r) := by
  rw [parseStr.eq_def]
  simp only []
  rw [if_neg (by decide), if_pos (by decide), if_pos (by decide), hh]
  simp only []
  rw [if_neg (by omega), if_neg (by omega)]

theorem hex4_00 (n : Nat) (h : n < 256) : hex4 0x30 0x30 (hexNib (n / 16)) (hexNib (n % 16)) = some n := by
  unfold hex4
  rw [show nibVal 0x30 = some 0 from rfl, nibVal_hexNib _ (by omega), nibVal_hexNib _ (by omega)]
  simp only []
  congr 1
  omega

theorem encRune_ascii (b : UInt8) (h : b.toNat < 0x80) : encRune b.toNat = [b] := by
  unfold encRune
  rw [if_pos h]
  simp

/-- one of the five control characters with a two-byte escape: `k` is written `\e` and `\e` is read as `k` -/
theorem parseStr_escCtl {b k e : UInt8} (hb : b.toNat = k.toNat) (r : Bytes) (hk : escAscii k = [0x5C, e])
    (he : e.toNat ≠ 0x75) (hs : simpleEsc e = some k) : parseStr 0 (escAscii b ++ r) = push [b] (parseStr 0 r) := by
  obtain rfl := UInt8.toNat_inj.mp hb
  rw [hk]
  exact parseStr_esc_simple e b r he hs

theorem parseStr_escAscii (b : UInt8) (r : Bytes) (h : b.toNat < 0x80) :
    parseStr 0 (escAscii b ++ r) = push [b] (parseStr 0 r) := by
  by_cases hq : b.toNat = 0x22 ∨ b.toNat = 0x5C
  · have he : escAscii b = [0x5C, b] := if_pos hq
    rw [he]
    exact parseStr_esc_simple b b r (by omega) (if_pos (hq.elim Or.inl fun h => Or.inr (Or.inl h)))
  by_cases h8 : b.toNat = 8
  · exact parseStr_escCtl (k := 8) (e := 0x62) h8 r rfl (by decide) rfl
  by_cases h12 : b.toNat = 12
  · exact parseStr_escCtl (k := 12) (e := 0x66) h12 r rfl (by decide) rfl
  by_cases h10 : b.toNat = 10
  · exact parseStr_escCtl (k := 10) (e := 0x6E) h10 r rfl (by decide) rfl
  by_cases h13 : b.toNat = 13
  · exact parseStr_escCtl (k := 13) (e := 0x72) h13 r rfl (by decide) rfl
  by_cases h9 : b.toNat = 9
  · exact parseStr_escCtl (k := 9) (e := 0x74) h9 r rfl (by decide) rfl
  unfold escAscii
  simp only [if_neg hq, if_neg h8, if_neg h12, if_neg h10, if_neg h13, if_neg h9]
  by_cases hu : b.toNat < 0x20 ∨ b.toNat = 0x3C ∨ b.toNat = 0x3E ∨ b.toNat = 0x26
  · rw [if_pos hu]
    exact (parseStr_esc_u _ _ _ _ r b.toNat (hex4_00 _ (by omega)) (by omega)).trans (by rw [encRune_ascii b h])
  · rw [if_neg hu]
    exact parseStr_plain b r (by omega) h (by omega) (by omega)

/-- only U+2028 and U+2029 get the encoder's `\u202X` escape -/
theorem lineSep_some {b : UInt8} {r : Bytes} {d : UInt8} (h : lineSep b r = some d) :
    ∃ t, b = 0xE2 ∧ ((r = 0x80 :: 0xA8 :: t ∧ d = 0x38) ∨ (r = 0x80 :: 0xA9 :: t ∧ d = 0x39)) := by
  unfold lineSep at h
  match r, h with
  | c1 :: c2 :: t, h =>
    refine ⟨t, ?_⟩
    simp only [] at h
    by_cases h8 : b.toNat = 0xE2 ∧ c1.toNat = 0x80 ∧ c2.toNat = 0xA8
    · rw [if_pos h8] at h
      have e1 : c1 = 0x80 := UInt8.toNat_inj.mp h8.2.1
      have e2 : c2 = 0xA8 := UInt8.toNat_inj.mp h8.2.2
      rw [e1, e2]
      exact ⟨UInt8.toNat_inj.mp h8.1, Or.inl ⟨rfl, (Option.some.inj h).symm⟩⟩
    rw [if_neg h8] at h
    by_cases h9 : b.toNat = 0xE2 ∧ c1.toNat = 0x80 ∧ c2.toNat = 0xA9
    · rw [if_pos h9] at h
      have e1 : c1 = 0x80 := UInt8.toNat_inj.mp h9.2.1
      have e2 : c2 = 0xA9 := UInt8.toNat_inj.mp h9.2.2
      rw [e1, e2]
      exact ⟨UInt8.toNat_inj.mp h9.1, Or.inr ⟨rfl, (Option.some.inj h).symm⟩⟩
    rw [if_neg h9] at h
    cases h

theorem lineSep_none {b : UInt8} {r : Bytes} {k : Nat} (h : mbLen b r = k + 1) (hk : k ≠ 2) : lineSep b r = none := by
  cases hs : lineSep b r with
  | none => rfl
  | some d =>
    obtain ⟨t, rfl, ⟨rfl, _⟩ | ⟨rfl, _⟩⟩ := lineSep_some hs <;> exact absurd (Nat.succ.inj h) (Ne.symm hk)

theorem encBody_emit (s : Bytes) : encBody 0 false s = encBody 0 true s := by
  cases s with
  | nil => rfl
  | cons b r => rw [encBody, encBody]

theorem encBody_ascii (b : UInt8) (r : Bytes) (h : b.toNat < 0x80) :
    encBody 0 true (b :: r) = escAscii b ++ encBody 0 true r := by
  rw [encBody, if_pos h]

theorem encBody_multi (b : UInt8) (r : Bytes) (m : Nat) (hb : 0x80 ≤ b.toNat) (hs : lineSep b r = none)
    (hm : mbLen b r = m + 1) : encBody 0 true (b :: r) = b :: encBody m true r := by
  rw [encBody, if_neg (by omega), hs]
  simp only [hm]

theorem encBody_copy_all (cs s : Bytes) : encBody cs.length true (cs ++ s) = cs ++ encBody 0 true s := by
  induction cs with
  | nil => rfl
  | cons c cs ih => rw [List.length_cons, List.cons_append, encBody, ih]; rfl

theorem encBody_drop (k : Nat) (b : UInt8) (r : Bytes) : encBody (k + 1) false (b :: r) = encBody k false r := by
  rw [encBody]
  simp

/-- a well-formed multi-byte sequence other than U+2028/9 is copied by the encoder, and by the decoder. `res` with `ih`
stands for the decoder's result on the rest of the string (here and in `seg_round`), so that `parseStr_encBody` chains the
runes by rewriting. -/
theorem multi_round (b : UInt8) (cs : Bytes) (hm : mbLen b cs = cs.length + 1) (s tail : Bytes)
    (hs : lineSep b (cs ++ s) = none) (res : Option (Bytes × Bytes)) (ih : parseStr 0 (encBody 0 true s ++ tail) = res) :
    parseStr 0 (encBody 0 true (b :: cs ++ s) ++ tail) = push (b :: cs) res := by
  have hb := mbLen_high hm
  rw [List.cons_append, encBody_multi b _ _ hb hs (mbLen_ext hm s), encBody_copy_all,
    List.cons_append, List.append_assoc, parseStr_high b _ _ hb (mbLen_ext hm _), parseStr_skip_all, ih, push_push]
  rfl

theorem seg_round (g : Seg) (hg : g.Wf) (s tail : Bytes) (res : Option (Bytes × Bytes))
    (ih : parseStr 0 (encBody 0 true s ++ tail) = res) :
    parseStr 0 (encBody 0 true (g.bytes ++ s) ++ tail) = push g.bytes res := by
  cases g with
  | ascii b =>
    show parseStr 0 (encBody 0 true (b :: s) ++ tail) = _
    rw [encBody_ascii b s hg, List.append_assoc, parseStr_escAscii b _ hg, ih]
    rfl
  | m2 b c1 => exact multi_round b [c1] hg s tail (lineSep_none (mbLen_ext hg s) (by simp)) res ih
  | m4 b c1 c2 c3 => exact multi_round b [c1, c2, c3] hg s tail (lineSep_none (mbLen_ext hg s) (by simp)) res ih
  | m3 b c1 c2 =>
    cases hs : lineSep b ([c1, c2] ++ s) with
    | none => exact multi_round b [c1, c2] hg s tail hs res ih
    | some d =>
      have henc : encBody 0 true (b :: c1 :: c2 :: s) = [0x5C, 0x75, 0x32, 0x30, 0x32, d] ++ encBody 0 true s := by
        rw [encBody, if_neg (by have := mbLen_high hg; omega), show lineSep b (c1 :: c2 :: s) = some d from hs]
        simp only []
        rw [encBody_drop, encBody_drop, encBody_emit]
      show parseStr 0 (encBody 0 true (b :: c1 :: c2 :: s) ++ tail) = push [b, c1, c2] res
      rw [henc]
      obtain ⟨t, rfl, ⟨h, rfl⟩ | ⟨h, rfl⟩⟩ := lineSep_some hs <;> obtain ⟨rfl, rfl, _⟩ := List.cons.inj h |>.imp id List.cons.inj
      · show parseStr 0 (0x5C :: 0x75 :: 0x32 :: 0x30 :: 0x32 :: 0x38 :: (encBody 0 true s ++ tail)) = _
        rw [parseStr_esc_u _ _ _ _ _ 0x2028 (by decide) (by decide), ih]
        rfl
      · show parseStr 0 (0x5C :: 0x75 :: 0x32 :: 0x30 :: 0x32 :: 0x39 :: (encBody 0 true s ++ tail)) = _
        rw [parseStr_esc_u _ _ _ _ _ 0x2029 (by decide) (by decide), ih]
        rfl

/-- **`unquote ∘ appendString` is the identity on valid UTF-8** (body of the literal, up to the closing quote) -/
theorem parseStr_encBody (gs : List Seg) (hw : ∀ g ∈ gs, g.Wf) (tail : Bytes) :
    parseStr 0 (encBody 0 true (gs.flatMap Seg.bytes) ++ 0x22 :: tail) = some (gs.flatMap Seg.bytes, tail) := by
  induction gs with
  | nil =>
    show parseStr 0 (encBody 0 true [] ++ 0x22 :: tail) = _
    rw [encBody]
    exact parseStr_quote tail
  | cons g r ih =>
    rw [List.flatMap_cons]
    rw [seg_round g (hw g List.mem_cons_self) _ _ _ (ih (fun x hx => hw x (List.mem_cons_of_mem _ hx)))]
    rfl

theorem parseStr_encStr (s : Bytes) (hs : ValidUtf8 s) (tail : Bytes) :
    ∃ body, encStr s ++ tail = 0x22 :: body ∧ parseStr 0 body = some (s, tail) := by
  obtain ⟨gs, hw, rfl⟩ := hs
  refine ⟨encBody 0 true (gs.flatMap Seg.bytes) ++ 0x22 :: tail, ?_, parseStr_encBody gs hw tail⟩
  simp [encStr, List.append_assoc]

theorem spanDigits_append (ds : Bytes) (d : UInt8) (tail : Bytes) (h : ∀ x ∈ ds, isDigit x = true) (hd : isDigit d = false) :
    spanDigits (ds ++ d :: tail) = (ds, d :: tail) := by
  induction ds with
  | nil => simp [spanDigits, hd]
  | cons x r ih =>
    have hx := h x List.mem_cons_self
    have := ih (fun y hy => h y (List.mem_cons_of_mem _ hy))
    simp [spanDigits, hx, this]

/-- a value delimiter as it follows a member value: `,` or `}` -/
def IsDelim (d : UInt8) : Prop := d.toNat = 0x2C ∨ d.toNat = 0x7D

/-- `lit` is a number literal the decoder reads back as such: it starts with `-` or a digit, and in front
of a delimiter the scanner takes exactly `lit`. The second part is a statement about `scanNum`, not the JSON grammar:
`numLit_int` and `numLit_frac` show it for integer and decimal literals; exponent forms are not shown to have it. -/
def NumLit (lit : Bytes) : Prop :=
  (∃ c r, lit = c :: r ∧ (c.toNat = 0x2D ∨ isDigit c = true)) ∧
  ∀ d tail, IsDelim d → scanNum (lit ++ d :: tail) = some (lit, d :: tail)

/-- a byte at which a number literal ends: no digit, no `.`, no `e`/`E` -/
def NumEnd (d : UInt8) : Prop := isDigit d = false ∧ d.toNat ≠ 0x2E ∧ d.toNat ≠ 0x65 ∧ d.toNat ≠ 0x45

theorem IsDelim.numEnd {d : UInt8} (h : IsDelim d) : NumEnd d := by
  unfold NumEnd isDigit
  rcases h with h | h <;> simp [h]

theorem scanFrac_end {d : UInt8} (h : NumEnd d) (tail : Bytes) : scanFrac (d :: tail) = some ([], d :: tail) := by
  simp [scanFrac, h.2.1]

theorem scanExp_end {d : UInt8} (h : NumEnd d) (tail : Bytes) : scanExp (d :: tail) = some ([], d :: tail) := by
  simp [scanExp, h.2.2.1, h.2.2.2]

theorem scanInt_digits (ds : Bytes) (d : UInt8) (tail : Bytes) (hne : ds ≠ []) (hd : ∀ x ∈ ds, isDigit x = true)
    (hz : ds.head? = some 0x30 → ds.length = 1) (h : isDigit d = false) :
    scanInt (ds ++ d :: tail) = some (ds, d :: tail) := by
  unfold scanInt
  simp only []
  rw [spanDigits_append ds d tail hd h]
  simp only []
  rw [List.isEmpty_eq_false_iff.mpr hne]
  simp only [Bool.false_eq_true, if_false]
  rw [if_neg]
  intro hc
  have := hz hc.1
  omega

theorem scanFrac_digits (fr : Bytes) (d : UInt8) (tail : Bytes) (hne : fr ≠ []) (hd : ∀ x ∈ fr, isDigit x = true)
    (h : isDigit d = false) : scanFrac (0x2E :: (fr ++ d :: tail)) = some (0x2E :: fr, d :: tail) := by
  unfold scanFrac
  simp [spanDigits_append fr d tail hd h, List.isEmpty_eq_false_iff.mpr hne]

theorem isDigit_ne_minus {c : UInt8} (hc : isDigit c = true) : c.toNat ≠ 0x2D := by
  intro e
  unfold isDigit at hc
  simp [e] at hc

/-- `scanNum` is an optional `-` followed by the three part scanners -/
theorem scanNum_parts (sg : Bytes) (hsg : sg = [] ∨ sg = [0x2D]) (c : UInt8) (r ip s2 fr s3 ex s4 : Bytes) (hc : isDigit c = true)
    (h1 : scanInt (c :: r) = some (ip, s2)) (h2 : scanFrac s2 = some (fr, s3)) (h3 : scanExp s3 = some (ex, s4)) :
    scanNum (sg ++ c :: r) = some (sg ++ ip ++ fr ++ ex, s4) := by
  unfold scanNum
  rcases hsg with rfl | rfl
  · simp only [List.nil_append, if_neg (isDigit_ne_minus hc), h1, h2, h3]
  · simp only [List.cons_append, List.nil_append, show (0x2D : UInt8).toNat = 0x2D from rfl, if_true, h1, h2, h3]

/-- every integer literal without superfluous leading zeros, with or without a sign, is taken whole -/
theorem scanNum_int (sg : Bytes) (hsg : sg = [] ∨ sg = [0x2D]) (ds : Bytes) (hne : ds ≠ []) (hd : ∀ x ∈ ds, isDigit x = true)
    (hz : ds.head? = some 0x30 → ds.length = 1) (d : UInt8) (tail : Bytes) (he : NumEnd d) :
    scanNum (sg ++ ds ++ d :: tail) = some (sg ++ ds, d :: tail) := by
  obtain ⟨c, r, rfl⟩ := List.exists_cons_of_ne_nil hne
  have := scanNum_parts sg hsg c (r ++ d :: tail) _ _ _ _ _ _ (hd c List.mem_cons_self)
    (scanInt_digits (c :: r) d tail hne hd hz he.1) (scanFrac_end he tail) (scanExp_end he tail)
  simpa [List.append_assoc] using this

/-- every decimal literal `digits.digits`, with or without a sign, is taken whole -/
theorem scanNum_frac (sg : Bytes) (hsg : sg = [] ∨ sg = [0x2D]) (ip fr : Bytes) (hne : ip ≠ []) (hd : ∀ x ∈ ip, isDigit x = true)
    (hz : ip.head? = some 0x30 → ip.length = 1) (hfne : fr ≠ []) (hfd : ∀ x ∈ fr, isDigit x = true)
    (d : UInt8) (tail : Bytes) (he : NumEnd d) :
    scanNum (sg ++ (ip ++ 0x2E :: fr) ++ d :: tail) = some (sg ++ (ip ++ 0x2E :: fr), d :: tail) := by
  obtain ⟨c, r, rfl⟩ := List.exists_cons_of_ne_nil hne
  have := scanNum_parts sg hsg c (r ++ 0x2E :: (fr ++ d :: tail)) _ _ _ _ _ _ (hd c List.mem_cons_self)
    (scanInt_digits (c :: r) 0x2E _ hne hd hz (by decide)) (scanFrac_digits fr d tail hfne hfd he.1) (scanExp_end he tail)
  simpa [List.append_assoc] using this

theorem numLit_int (ds : Bytes) (hne : ds ≠ []) (hd : ∀ x ∈ ds, isDigit x = true)
    (hz : ds.head? = some 0x30 → ds.length = 1) : NumLit ds ∧ NumLit (0x2D :: ds) := by
  obtain ⟨c, r, rfl⟩ := List.exists_cons_of_ne_nil hne
  exact ⟨⟨⟨c, r, rfl, Or.inr (hd c List.mem_cons_self)⟩, fun d tail h => scanNum_int [] (Or.inl rfl) _ hne hd hz d tail h.numEnd⟩,
    ⟨⟨0x2D, c :: r, rfl, Or.inl rfl⟩, fun d tail h => scanNum_int [0x2D] (Or.inr rfl) _ hne hd hz d tail h.numEnd⟩⟩

theorem numLit_frac (ip fr : Bytes) (hne : ip ≠ []) (hd : ∀ x ∈ ip, isDigit x = true)
    (hz : ip.head? = some 0x30 → ip.length = 1) (hfne : fr ≠ []) (hfd : ∀ x ∈ fr, isDigit x = true) :
    NumLit (ip ++ 0x2E :: fr) ∧ NumLit (0x2D :: (ip ++ 0x2E :: fr)) := by
  obtain ⟨c, r, rfl⟩ := List.exists_cons_of_ne_nil hne
  exact ⟨⟨⟨c, r ++ 0x2E :: fr, rfl, Or.inr (hd c List.mem_cons_self)⟩,
      fun d tail h => scanNum_frac [] (Or.inl rfl) _ fr hne hd hz hfne hfd d tail h.numEnd⟩,
    ⟨⟨0x2D, c :: r ++ 0x2E :: fr, rfl, Or.inl rfl⟩,
      fun d tail h => scanNum_frac [0x2D] (Or.inr rfl) _ fr hne hd hz hfne hfd d tail h.numEnd⟩⟩

/-- the values the proved round trip covers: `null`, booleans, number literals, valid UTF-8 strings -/
inductive ScalarV : JVal → Prop where
  | null : ScalarV .null
  | bool (b : Bool) : ScalarV (.bool b)
  | num (lit : Bytes) (h : NumLit lit) : ScalarV (.num lit)
  | str (s : Bytes) (h : ValidUtf8 s) : ScalarV (.str s)

theorem skipWs_cons (c : UInt8) (r : Bytes) (h : isWs c = false) : skipWs (c :: r) = c :: r := by
  simp [skipWs, h]

theorem strB_true : strB "true" = [0x74, 0x72, 0x75, 0x65] := by decide
theorem strB_false : strB "false" = [0x66, 0x61, 0x6C, 0x73, 0x65] := by decide
theorem strB_null : strB "null" = [0x6E, 0x75, 0x6C, 0x6C] := by decide

theorem numHead_range {c : UInt8} (hc : c.toNat = 0x2D ∨ isDigit c = true) : 0x2D ≤ c.toNat ∧ c.toNat ≤ 0x39 := by
  unfold isDigit at hc
  rcases hc with hc | hc
  · omega
  · simp only [Bool.and_eq_true, decide_eq_true_eq] at hc
    omega

/-- on input that starts like a number `parseScalar` is `scanNum` -/
theorem parseScalar_num (c : UInt8) (r : Bytes) (hc : 0x2D ≤ c.toNat ∧ c.toNat ≤ 0x39) :
    parseScalar (c :: r) = (scanNum (c :: r)).map fun p => (.num p.1, p.2) := by
  have hp : ∀ (a : UInt8) (p : Bytes), 0x39 < a.toNat → (a :: p).isPrefixOf (c :: r) = false := by
    intro a p ha
    have : (a == c) = false := by
      rw [beq_eq_false_iff_ne]
      intro e
      rw [e] at ha
      omega
    simp [List.isPrefixOf, this]
  unfold parseScalar
  simp only []
  rw [if_neg (by omega), strB_true, strB_false, strB_null, hp _ _ (by decide), hp _ _ (by decide), hp _ _ (by decide)]
  simp only [Bool.false_eq_true, if_false]
  cases scanNum (c :: r) <;> rfl

theorem scalar_head {v : JVal} (hv : ScalarV v) :
    ∃ c r, marshal v = c :: r ∧ isWs c = false ∧ c.toNat ≠ 0x7B ∧ c.toNat ≠ 0x5B ∧ c.toNat ≠ 0x5D ∧ c.toNat ≠ 0x7D := by
  cases hv with
  | null => exact ⟨0x6E, _, by rw [marshal, strB_null], by decide⟩
  | bool b =>
    cases b
    · exact ⟨0x66, _, by rw [marshal, strB_false], by decide⟩
    · exact ⟨0x74, _, by rw [marshal, strB_true], by decide⟩
  | num lit h =>
    obtain ⟨⟨c, r, rfl, hc⟩, _⟩ := h
    have hr := numHead_range hc
    refine ⟨c, r, by simp [marshal], ?_, by omega, by omega, by omega, by omega⟩
    unfold isWs
    simp only [Bool.or_eq_false_iff, decide_eq_false_iff_not]
    omega
  | str s h => exact ⟨0x22, _, by rw [marshal, encStr]; rfl, by decide⟩

/-- a scalar written by the encoder is read back when the scanner stops a number at what follows -/
theorem parseScalar_marshal (v : JVal) (hv : ScalarV v) (d : UInt8) (tail : Bytes)
    (hscan : ∀ lit, v = .num lit → scanNum (lit ++ d :: tail) = some (lit, d :: tail)) :
    parseScalar (marshal v ++ d :: tail) = some (v, d :: tail) := by
  cases hv with
  | null => simp [marshal, parseScalar, strB_true, strB_false, strB_null, List.isPrefixOf]
  | bool b => cases b <;> simp [marshal, parseScalar, strB_true, strB_false, List.isPrefixOf]
  | num lit h =>
    have hs := hscan lit rfl
    obtain ⟨⟨c, r, rfl, hc⟩, _⟩ := h
    rw [show marshal (.num (c :: r)) = c :: r by simp [marshal]]
    rw [List.cons_append] at hs ⊢
    rw [parseScalar_num c _ (numHead_range hc), hs]
    rfl
  | str s h =>
    obtain ⟨body, hb, hp⟩ := parseStr_encStr s h (d :: tail)
    simp only [marshal]
    rw [hb]
    unfold parseScalar
    simp only []
    rw [if_pos (by decide), hp]

theorem parseVal_scalar (f : Nat) (v : JVal) (hv : ScalarV v) (d : UInt8) (tail : Bytes)
    (hscan : ∀ lit, v = .num lit → scanNum (lit ++ d :: tail) = some (lit, d :: tail)) :
    parseVal (f + 1) (marshal v ++ d :: tail) = some (v, d :: tail) := by
  have hp := parseScalar_marshal v hv d tail hscan
  obtain ⟨c, r, hcr, _, h7b, h5b, _⟩ := scalar_head hv
  rw [hcr, List.cons_append] at hp ⊢
  rw [parseVal]
  simp only [if_neg h7b, if_neg h5b]
  exact hp

theorem skipWs_scalar {v : JVal} (hv : ScalarV v) (tail : Bytes) : skipWs (marshal v ++ tail) = marshal v ++ tail := by
  obtain ⟨c, r, h, hws, _⟩ := scalar_head hv
  rw [h]
  exact skipWs_cons c _ hws

theorem ScalarV.scan {v : JVal} (hv : ScalarV v) {d : UInt8} (hd : IsDelim d) (tail : Bytes) :
    ∀ lit, v = .num lit → scanNum (lit ++ d :: tail) = some (lit, d :: tail) := by
  intro lit e
  subst e
  cases hv with
  | num _ h => exact h.2 d tail hd

theorem isWs_quote : isWs 0x22 = false := by decide

theorem marshalMembers_head (k : Bytes) (v : JVal) (r : Obj) :
    ∃ x, marshalMembers ((k, v) :: r) = 0x22 :: x := by
  cases r with
  | nil => exact ⟨encBody 0 true k ++ 0x22 :: 0x3A :: marshal v, by simp [marshalMembers, encStr]⟩
  | cons m r' =>
    exact ⟨encBody 0 true k ++ 0x22 :: 0x3A :: (marshal v ++ 0x2C :: marshalMembers (m :: r')), by simp [marshalMembers, encStr]⟩

theorem skipWs_marshalMembers (m : Bytes × JVal) (r : Obj) (tail : Bytes) :
    skipWs (marshalMembers (m :: r) ++ tail) = marshalMembers (m :: r) ++ tail := by
  obtain ⟨x, hx⟩ := marshalMembers_head m.1 m.2 r
  rw [hx]
  exact skipWs_cons _ _ isWs_quote

theorem marshalMembers_cons2 (k : Bytes) (v : JVal) (m : Bytes × JVal) (r : Obj) :
    marshalMembers ((k, v) :: m :: r) = encStr k ++ 0x3A :: (marshal v ++ 0x2C :: marshalMembers (m :: r)) := by
  simp [marshalMembers, List.append_assoc]

theorem marshalMembers_one (k : Bytes) (v : JVal) : marshalMembers [(k, v)] = encStr k ++ 0x3A :: marshal v := by
  simp [marshalMembers]

/-- one member and what follows it (`,` more members, or `}`), the value's result as hypothesis -/
theorem parseMembers_step (f : Nat) (k : Bytes) (v : JVal) (hk : ValidUtf8 k) (d : UInt8)
    (hd : d.toNat = 0x2C ∨ d.toNat = 0x7D) (tail : Bytes) (hsk : skipWs (marshal v ++ d :: tail) = marshal v ++ d :: tail)
    (hval : parseVal f (marshal v ++ d :: tail) = some (v, d :: tail)) :
    parseMembers (f + 1) (encStr k ++ 0x3A :: (marshal v ++ d :: tail)) =
      if d.toNat = 0x2C then (parseMembers f (skipWs tail)).map fun p => ((k, v) :: p.1, p.2)
      else some ([(k, v)], tail) := by
  obtain ⟨body, hb, hp⟩ := parseStr_encStr k hk (0x3A :: (marshal v ++ d :: tail))
  have hdws : isWs d = false := by
    unfold isWs
    rcases hd with h | h <;> simp [h]
  rw [hb, parseMembers, if_pos (by decide), hp]
  simp only []
  rw [skipWs_cons _ _ (by decide)]
  simp only []
  rw [if_pos (by decide)]
  rw [hsk, hval]
  simp only []
  rw [skipWs_cons _ _ hdws]
  simp only []
  rcases hd with h | h
  · rw [if_pos h, if_pos h]
    cases parseMembers f (skipWs tail) <;> rfl
  · rw [if_neg (by omega), if_pos h, if_neg (by omega)]

/-- `{` … `}`: the object is read once its members are (key-sorted members: `normalize` changes nothing) -/
theorem parseVal_obj_step (f : Nat) (k : Bytes) (v : JVal) (r : Obj) (hc : Canonical ((k, v) :: r)) (rest : Bytes)
    (h : parseMembers f (marshalMembers ((k, v) :: r) ++ 0x7D :: rest) = some ((k, v) :: r, rest)) :
    parseVal (f + 1) (marshal (.obj ((k, v) :: r)) ++ rest) = some (.obj ((k, v) :: r), rest) := by
  have hm : marshal (.obj ((k, v) :: r)) ++ rest = 0x7B :: (marshalMembers ((k, v) :: r) ++ 0x7D :: rest) := by
    simp [marshal, List.append_assoc]
  obtain ⟨x, hx⟩ := marshalMembers_head k v r
  rw [hm, parseVal, if_pos (by decide)]
  rw [hx] at h ⊢
  simp only [List.cons_append] at h ⊢
  rw [skipWs_cons _ _ isWs_quote]
  simp only []
  rw [if_neg (by decide), h]
  simp [normalize_canonical _ hc]

theorem marshal_obj_length (o : Obj) : (marshal (.obj o)).length = (marshalMembers o).length + 2 := by
  simp [marshal]

/-- the top-level decoder on the text of a key-sorted map whose members are read with the fuel it starts with -/
theorem decodeTop_obj (o : Obj) (hc : Canonical o)
    (h : o ≠ [] → parseMembers ((marshalMembers o).length + 2) (marshalMembers o ++ [0x7D]) = some (o, [])) :
    decodeTop (marshal (.obj o)) = some (some o) := by
  unfold decodeTop
  rw [show skipWs (marshal (.obj o)) = marshal (.obj o) by simp [marshal, skipWs, isWs], marshal_obj_length]
  cases o with
  | nil => simp [marshal, marshalMembers, parseVal, skipWs, isWs]
  | cons kv r =>
    have := parseVal_obj_step _ kv.1 kv.2 r hc [] (h (by simp))
    rw [List.append_nil] at this
    rw [this]
    rfl

def FlatObj (o : Obj) : Prop := ∀ kv ∈ o, ValidUtf8 kv.1 ∧ ScalarV kv.2

-- Fuel is counted in members here (`o.length ≤ f`), in bytes of text in `JsonNested.parse_good`; `marshalMembers_length`
-- takes the first to the fuel `decodeTop` starts with.
theorem parseMembers_marshal (o : Obj) (hf : FlatObj o) (hne : o ≠ []) :
    ∀ f, o.length ≤ f → ∀ tail, parseMembers (f + 1) (marshalMembers o ++ 0x7D :: tail) = some (o, tail) := by
  induction o with
  | nil => exact absurd rfl hne
  | cons kv r ih =>
    obtain ⟨k, v⟩ := kv
    obtain ⟨hk, hv⟩ := hf (k, v) List.mem_cons_self
    intro f hfl tail
    obtain ⟨f', rfl⟩ : ∃ f', f = f' + 1 := ⟨f - 1, by simp at hfl; omega⟩
    cases r with
    | nil =>
      rw [marshalMembers_one, List.append_assoc, List.cons_append,
        parseMembers_step (f' + 1) k v hk 0x7D (Or.inr rfl) tail (skipWs_scalar hv _)
          (parseVal_scalar f' v hv _ _ (hv.scan (Or.inr rfl) _)), if_neg (by decide)]
    | cons m r' =>
      rw [marshalMembers_cons2, List.append_assoc, List.cons_append, List.append_assoc, List.cons_append,
        parseMembers_step (f' + 1) k v hk 0x2C (Or.inl rfl) _ (skipWs_scalar hv _)
          (parseVal_scalar f' v hv _ _ (hv.scan (Or.inl rfl) _)), if_pos (by decide), skipWs_marshalMembers,
        ih (fun kv hkv => hf kv (List.mem_cons_of_mem _ hkv)) (by simp) f' (by simp at hfl ⊢; omega) tail]
      rfl

theorem marshalMembers_length (o : Obj) : o.length ≤ (marshalMembers o).length := by
  induction o with
  | nil => simp
  | cons kv r ih =>
    obtain ⟨k, v⟩ := kv
    cases r with
    | nil => simp [marshalMembers, encStr]
    | cons m r' =>
      simp only [marshalMembers, List.length_append, List.length_cons] at ih ⊢
      simp only [encStr, List.length_append, List.length_cons, List.length_nil]
      omega

/-- **`unmarshalLogEntry ∘ json.Marshal` is the identity** on key-sorted maps with valid UTF-8 keys and scalar
values (strings of valid UTF-8, number literals, booleans, `null`). -/
theorem decodeTop_marshal (o : Obj) (hc : Canonical o) (hf : FlatObj o) :
    decodeTop (marshal (.obj o)) = some (some o) :=
  decodeTop_obj o hc fun hne => parseMembers_marshal o hf hne _ (Nat.le_succ_of_le (marshalMembers_length o)) []

theorem validUtf8_ascii (s : Bytes) (h : ∀ x ∈ s, x.toNat < 0x80) : ValidUtf8 s := by
  refine ⟨s.map Seg.ascii, ?_, ?_⟩
  · intro g hg
    obtain ⟨x, hx, rfl⟩ := List.mem_map.mp hg
    exact h x hx
  · induction s with
    | nil => rfl
    | cons x r ih =>
      simp only [List.map_cons, List.flatMap_cons, Seg.bytes, List.cons_append, List.nil_append]
      rw [← ih (fun y hy => h y (List.mem_cons_of_mem _ hy))]

theorem hexEnc_ascii (b : Bytes) : ∀ x ∈ hexEnc b, x.toNat < 0x80 := by
  intro x hx
  have := hexEnc_plain b x hx
  unfold plainByte at this
  simp only [Bool.and_eq_true, decide_eq_true_eq] at this
  exact this.2

/-- a property of members that holds of the members of `o` and of every (valid UTF-8 key, valid UTF-8 string) holds of the
members of the map the hook marshals, which stays key-sorted -/
theorem hookMap_forall (P : Bytes × JVal → Prop) (hP : ∀ k s, ValidUtf8 k → ValidUtf8 s → P (k, .str s))
    (c : CryptoOps) (st : Calc) (o : Obj) (hc : Canonical o) (ho : ∀ kv ∈ o, P kv) :
    Canonical (jsonHookMap c st o) ∧ ∀ kv ∈ jsonHookMap c st o, P kv := by
  have hset : ∀ (k s : Bytes) (o : Obj), ValidUtf8 k → ValidUtf8 s → (∀ kv ∈ o, P kv) → ∀ kv ∈ setKey k (.str s) o, P kv :=
    fun k s o hk hs ho kv h => (mem_setKey k _ o kv h).elim (· ▸ hP k s hk hs) (ho kv)
  unfold jsonHookMap
  simp only []
  have h1 := canonical_setKey intKeyB (.str (hexEnc (st.step c (conv o)).2.1)) o hc
  have h2 := hset intKeyB (hexEnc (st.step c (conv o)).2.1) o (validUtf8_ascii _ (by decide))
    (validUtf8_ascii _ (hexEnc_ascii _)) ho
  split
  · exact ⟨canonical_setKey _ _ _ h1,
      hset chainKeyB newValB _ (validUtf8_ascii _ (by decide)) (validUtf8_ascii _ (by decide)) h2⟩
  · exact ⟨h1, h2⟩

/-- the map the hook marshals stays in the class -/
theorem hookMap_class (c : CryptoOps) (st : Calc) (o : Obj) (hc : Canonical o) (hf : FlatObj o) :
    Canonical (jsonHookMap c st o) ∧ FlatObj (jsonHookMap c st o) :=
  hookMap_forall _ (fun _ s hk hs => ⟨hk, .str s hs⟩) c st o hc hf

theorem marshal_obj_nonempty (o : Obj) : (marshal (.obj o)).isEmpty = false := by
  simp [marshal]

/-- `convertMapToBytes` separates the maps that differ in the value of one key exactly when `getBytes`
separates the two values -/
theorem convWith_setKey_inj (fast : Bool) (k : Bytes) (o : Obj) (v v' : JVal) :
    convWith fast (setKey k v o) = convWith fast (setKey k v' o) ↔ getBytes fast v = getBytes fast v' := by
  obtain ⟨A, B, h⟩ := convWith_setKey_split fast k o
  rw [h v, h v']
  constructor
  · intro e
    rw [List.append_assoc, List.append_assoc] at e
    exact List.append_cancel_right (List.append_cancel_left e)
  · intro e; rw [e]

end AcraModel.AuditLog
