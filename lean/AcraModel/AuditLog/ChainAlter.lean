import AcraModel.AuditLog.Chain
/-!
Lemmas about the chain model: how the verifier evaluates one entry, that it stays in step with the producer
(`verifyFrom_honest`), what exactly it holds after an honest prefix at *every* position of a log with chain restarts
(`vstate`, `vcal`; used for every alteration theorem), and the combinatorial lemma about the first displaced position
of a permutation.
-/
namespace AcraModel.AuditLog
open AcraModel

/-- the protected entries of a log, in order -/
def entriesOf : List Line → List Entry
  | [] => []
  | .entry e :: r => e :: entriesOf r
  | _ :: r => entriesOf r

/-- producer state after a sequence of log calls -/
def stateAfter (c : CryptoOps) (key : Bytes) (st : Calc) : List PItem → Calc
  | [] => st
  | it :: r => stateAfter c key (if it.resetAfter then Calc.new c key else (st.step c it.data).1) r

/-- The verifier is *in step* with a producer in calculator state `st`:
mid-chain it holds the same calculator; at a chain start it has either verified nothing yet or
its last verified entry was an end-of-chain entry (so a `chain=new` entry is acceptable). -/
def InStep (c : CryptoOps) (key : Bytes) (st : Calc) (vs : VState) : Prop :=
  (st.prev.isSome ∧ vs.cal = st) ∨ (st = Calc.new c key ∧ (vs.last = none ∨ vs.last = some true))

theorem inStep_init (c : CryptoOps) (key : Bytes) : InStep c key (Calc.new c key) (VState.init c key) :=
  Or.inr ⟨rfl, Or.inl rfl⟩

/-- verifier state after accepting the entry produced for `it` -/
def vsAfter (c : CryptoOps) (st : Calc) (it : PItem) : VState := ⟨(st.step c it.data).1, some it.isEnd⟩

/-- the tag the producer writes for `data` in calculator state `st` -/
def tagOf (c : CryptoOps) (st : Calc) (data : Bytes) : Bytes := c.sha256 (st.ic c data)

theorem step_tag (c : CryptoOps) (st : Calc) (d : Bytes) : (st.step c d).2.1 = tagOf c st d := rfl

theorem entry_old (c : CryptoOps) (key : Bytes) (vs : VState) (e : Entry) (hnew : e.isNew = false) :
    vs.entry c key e =
      if e.tag = tagOf c vs.cal e.data then .ok ⟨(vs.cal.step c e.data).1, some e.isEnd⟩ else .error .mismatch := by
  by_cases ht : e.tag = c.sha256 (vs.cal.ic c e.data) <;> simp [VState.entry, hnew, Calc.step, tagOf, ht]

theorem entry_new (c : CryptoOps) (key : Bytes) (vs : VState) (e : Entry) (hnew : e.isNew = true) :
    vs.entry c key e =
      if vs.last = some false then .error .missingEnd
      else if e.tag = tagOf c (Calc.new c key) e.data then .ok ⟨((Calc.new c key).step c e.data).1, some e.isEnd⟩
      else .error .mismatch := by
  by_cases hl : vs.last = some false
  · simp [VState.entry, hnew, hl]
  · have : (vs.last == some false) = false := by simpa using hl
    by_cases ht : e.tag = c.sha256 ((Calc.new c key).ic c e.data) <;> simp [VState.entry, hnew, hl, this, Calc.step, tagOf, ht]

/-- an in-step verifier evaluates an entry carrying the marker the producer would have written
(`isNew` iff the producer is at a chain start) with the producer's calculator -/
theorem entry_inStep_eval (c : CryptoOps) (key : Bytes) (st : Calc) (vs : VState) (e : Entry)
    (h : InStep c key st vs) (hm : e.isNew = st.prev.isNone) :
    vs.entry c key e =
      if e.tag = tagOf c st e.data then .ok ⟨(st.step c e.data).1, some e.isEnd⟩ else .error .mismatch := by
  rcases h with ⟨hp, hv⟩ | ⟨hs, hl⟩
  · rw [entry_old c key vs e (hm.trans (Option.isNone_eq_false_iff.mpr hp)), hv]
  · have hn : e.isNew = true := by rw [hm, hs]; rfl
    have hl' : vs.last ≠ some false := by rcases hl with h | h <;> simp [h]
    rw [entry_new c key vs e hn, if_neg hl', hs]

theorem entry_inStep (c : CryptoOps) (key : Bytes) (st : Calc) (vs : VState) (it : PItem)
    (h : InStep c key st vs) (hr : it.resetAfter = true → it.isEnd = true) :
    vs.entry c key ⟨it.data, (st.step c it.data).2.1, (st.step c it.data).2.2, it.isEnd⟩ = .ok (vsAfter c st it) ∧
    InStep c key (if it.resetAfter then Calc.new c key else (st.step c it.data).1) (vsAfter c st it) := by
  constructor
  · exact (entry_inStep_eval c key st vs _ h rfl).trans (if_pos rfl)
  · by_cases hra : it.resetAfter = true
    · right
      simp [hra, vsAfter, hr hra]
    · left
      simp [hra, vsAfter, Calc.step]

theorem verifyFrom_honest (c : CryptoOps) (key : Bytes) :
    ∀ (ls : List Line) (items : List PItem) (st : Calc) (vs : VState) (i : Nat),
      InStep c key st vs → (∀ it ∈ items, it.resetAfter = true → it.isEnd = true) →
      (∀ l ∈ ls, l ≠ Line.bad) → entriesOf ls = produce c key st items →
      verifyFrom c key vs i ls = .ok := by
  intro ls
  induction ls with
  | nil => intros; rfl
  | cons l r ih =>
    intro items st vs i hstep hres hbad hent
    have hbad' := fun l hl => hbad l (List.mem_cons_of_mem _ hl)
    cases l with
    | skip => exact ih items st vs (i + 1) hstep hres hbad' hent
    | bad => exact absurd rfl (hbad _ List.mem_cons_self)
    | entry e =>
      cases items with
      | nil => cases hent
      | cons it rest =>
        simp only [entriesOf, produce, List.cons.injEq] at hent
        obtain ⟨h1, h2⟩ := entry_inStep c key st vs it hstep (hres it List.mem_cons_self)
        rw [verifyFrom, hent.1, h1]
        exact ih rest _ _ (i + 1) h2 (fun x hx => hres x (List.mem_cons_of_mem _ hx)) hbad' hent.2

/-- the `if` of `stateAfter` and `produce`, under a name -/
def nextCalc (c : CryptoOps) (key : Bytes) (st : Calc) (it : PItem) : Calc :=
  if it.resetAfter then Calc.new c key else (st.step c it.data).1

/-- verifier state after accepting the entries of an honest prefix -/
def vsRun (c : CryptoOps) (key : Bytes) (st : Calc) (vs : VState) : List PItem → VState
  | [] => vs
  | it :: r => vsRun c key (nextCalc c key st it) (vsAfter c st it) r

theorem stateAfter_eq (c : CryptoOps) (key : Bytes) (st : Calc) (it : PItem) (r : List PItem) :
    stateAfter c key st (it :: r) = stateAfter c key (nextCalc c key st it) r := rfl

theorem verifyFrom_honest_prefix (c : CryptoOps) (key : Bytes) :
    ∀ (items : List PItem) (st : Calc) (vs : VState) (i : Nat) (rest : List Line),
      InStep c key st vs → (∀ it ∈ items, it.resetAfter = true → it.isEnd = true) →
      InStep c key (stateAfter c key st items) (vsRun c key st vs items) ∧
        verifyFrom c key vs i ((produce c key st items).map Line.entry ++ rest) =
          verifyFrom c key (vsRun c key st vs items) (i + items.length) rest := by
  intro items
  induction items with
  | nil => intro st vs i rest h _; exact ⟨h, by simp [produce, vsRun]⟩
  | cons it r ih =>
    intro st vs i rest hstep hres
    have h1 := entry_inStep c key st vs it hstep (hres it (List.mem_cons_self))
    have h2 := ih (nextCalc c key st it) (vsAfter c st it) (i + 1) rest h1.2
      (fun x hx => hres x (List.mem_cons_of_mem _ hx))
    refine ⟨h2.1, ?_⟩
    simp only [produce, List.map_cons, List.cons_append, verifyFrom, h1.1, List.length_cons, vsRun]
    rw [show (if it.resetAfter = true then Calc.new c key else (st.step c it.data).1) = nextCalc c key st it from rfl, h2.2]
    congr 1
    omega

theorem InStep.cal_eq {c : CryptoOps} {key : Bytes} {st : Calc} {vs : VState} (h : InStep c key st vs)
    (hp : st.prev.isSome) : vs.cal = st := by
  rcases h with ⟨_, hv⟩ | ⟨hs, _⟩
  · exact hv
  · rw [hs] at hp; simp [Calc.new] at hp

/-- the honest entry for data `d` written in calculator state `st` -/
def entryAt (c : CryptoOps) (st : Calc) (d : Bytes) (isEnd : Bool) : Entry :=
  ⟨d, tagOf c st d, st.prev.isNone, isEnd⟩

/-- collision freedom on the two values at hand: the HMAC values of calculator states `a`, `b` on
data `x`, `y` do not collide under SHA-256, and the two HMAC inputs do not collide under HMAC -/
structure NoCollision (c : CryptoOps) (a : Calc) (x : Bytes) (b : Calc) (y : Bytes) : Prop where
  sha : c.sha256 (a.ic c x) = c.sha256 (b.ic c y) → a.ic c x = b.ic c y
  mac : c.hmac a.key (x ++ a.prev.getD []) = c.hmac b.key (y ++ b.prev.getD []) →
    a.key = b.key ∧ x ++ a.prev.getD [] = y ++ b.prev.getD []

theorem NoCollision.tag_inj {c : CryptoOps} {a b : Calc} {x y : Bytes} (h : NoCollision c a x b y)
    (e : tagOf c a x = tagOf c b y) : a.key = b.key ∧ x ++ a.prev.getD [] = y ++ b.prev.getD [] :=
  h.mac (h.sha e)

theorem entry_old_foreign (c : CryptoOps) (key : Bytes) (vs : VState) (st' : Calc) (d' : Bytes) (e : Entry)
    (hnew : e.isNew = false) (htag : e.tag = tagOf c st' d') (hnc : NoCollision c vs.cal e.data st' d')
    (hdiff : vs.cal.key ≠ st'.key ∨ e.data ++ vs.cal.prev.getD [] ≠ d' ++ st'.prev.getD []) :
    vs.entry c key e = .error .mismatch := by
  rw [entry_old c key vs e hnew, if_neg]
  intro ht
  obtain ⟨hk, hi⟩ := hnc.tag_inj (ht.symm.trans htag)
  exact hdiff.elim (· hk) (· hi)

/-- the log lines of an honest history -/
def honestLines (c : CryptoOps) (key : Bytes) (items : List PItem) : List Line :=
  (produce c key (Calc.new c key) items).map Line.entry

/-- the verifier's state after an honest history -/
def vstate (c : CryptoOps) (key : Bytes) (items : List PItem) : VState :=
  vsRun c key (Calc.new c key) (VState.init c key) items

/-- the calculator the verifier holds after an honest history. Mid-chain it is the producer's
(`vcal_of_mid`); right after the last entry of a chain it is that chain's calculator *one step on*
(`vcal_snoc`) – the verifier does not reset before it sees a `chain=new` entry. -/
def vcal (c : CryptoOps) (key : Bytes) (items : List PItem) : Calc := (vstate c key items).cal

/-- the producer's calculator after an honest history -/
def pstate (c : CryptoOps) (key : Bytes) (items : List PItem) : Calc := stateAfter c key (Calc.new c key) items

theorem stateAfter_append (c : CryptoOps) (key : Bytes) : ∀ (x y : List PItem) (st : Calc),
    stateAfter c key st (x ++ y) = stateAfter c key (stateAfter c key st x) y
  | [], _, _ => rfl
  | it :: r, y, st => by simp only [List.cons_append, stateAfter]; exact stateAfter_append c key r y _

theorem produce_append (c : CryptoOps) (key : Bytes) : ∀ (x y : List PItem) (st : Calc),
    produce c key st (x ++ y) = produce c key st x ++ produce c key (stateAfter c key st x) y
  | [], _, _ => rfl
  | it :: r, y, st => by
    simp only [List.cons_append, produce, stateAfter]
    rw [produce_append c key r y]

theorem vsRun_append (c : CryptoOps) (key : Bytes) : ∀ (x y : List PItem) (st : Calc) (vs : VState),
    vsRun c key st vs (x ++ y) = vsRun c key (stateAfter c key st x) (vsRun c key st vs x) y
  | [], _, _, _ => rfl
  | it :: r, y, st, vs => by
    simp only [List.cons_append, vsRun, stateAfter]
    exact vsRun_append c key r y _ _

theorem pstate_append (c : CryptoOps) (key : Bytes) (x y : List PItem) :
    pstate c key (x ++ y) = stateAfter c key (pstate c key x) y := stateAfter_append c key x y _

theorem pstate_snoc (c : CryptoOps) (key : Bytes) (x : List PItem) (a : PItem) :
    pstate c key (x ++ [a]) = nextCalc c key (pstate c key x) a := by
  rw [pstate_append]; rfl

theorem vstate_nil (c : CryptoOps) (key : Bytes) : vstate c key [] = VState.init c key := rfl

theorem vstate_snoc (c : CryptoOps) (key : Bytes) (x : List PItem) (a : PItem) :
    vstate c key (x ++ [a]) = vsAfter c (pstate c key x) a := by
  unfold vstate
  rw [vsRun_append]
  rfl

theorem vcal_nil (c : CryptoOps) (key : Bytes) : vcal c key [] = Calc.new c key := rfl

theorem vcal_snoc (c : CryptoOps) (key : Bytes) (x : List PItem) (a : PItem) :
    vcal c key (x ++ [a]) = ((pstate c key x).step c a.data).1 := by
  unfold vcal; rw [vstate_snoc]; rfl

theorem vlast_snoc (c : CryptoOps) (key : Bytes) (x : List PItem) (a : PItem) :
    (vstate c key (x ++ [a])).last = some a.isEnd := by
  rw [vstate_snoc]; rfl

theorem vstate_inStep (c : CryptoOps) (key : Bytes) (items : List PItem)
    (hres : ∀ it ∈ items, it.resetAfter = true → it.isEnd = true) :
    InStep c key (pstate c key items) (vstate c key items) :=
  (verifyFrom_honest_prefix c key items (Calc.new c key) (VState.init c key) 0 [] (inStep_init c key) hres).1

theorem verify_prefix (c : CryptoOps) (key : Bytes) (pre : List PItem) (rest : List Line)
    (hres : ∀ it ∈ pre, it.resetAfter = true → it.isEnd = true) :
    verify c key (honestLines c key pre ++ rest) = verifyFrom c key (vstate c key pre) pre.length rest := by
  have := (verifyFrom_honest_prefix c key pre (Calc.new c key) (VState.init c key) 0 rest (inStep_init c key) hres).2
  rwa [Nat.zero_add] at this

theorem verify_honestLines (c : CryptoOps) (key : Bytes) (items : List PItem)
    (hres : ∀ it ∈ items, it.resetAfter = true → it.isEnd = true) : verify c key (honestLines c key items) = .ok := by
  have := verify_prefix c key items [] hres
  rwa [List.append_nil] at this

theorem vcal_of_mid (c : CryptoOps) (key : Bytes) (items : List PItem)
    (hres : ∀ it ∈ items, it.resetAfter = true → it.isEnd = true) (hmid : (pstate c key items).prev.isSome) :
    vcal c key items = pstate c key items :=
  (vstate_inStep c key items hres).cal_eq hmid

theorem pstate_cases (c : CryptoOps) (key : Bytes) (items : List PItem) :
    (pstate c key items).prev.isSome ∨ pstate c key items = Calc.new c key := by
  rcases List.eq_nil_or_concat items with rfl | ⟨x, a, rfl⟩
  · right; rfl
  · rw [List.concat_eq_append, pstate_snoc]
    unfold nextCalc
    by_cases h : a.resetAfter = true
    · right; simp [h]
    · left; simp [h, Calc.step]

theorem verify_prefix_entry (c : CryptoOps) (key : Bytes) (pre : List PItem) (e : Entry) (rest : List Line)
    (hres : ∀ it ∈ pre, it.resetAfter = true → it.isEnd = true) :
    verify c key (honestLines c key pre ++ Line.entry e :: rest) =
      match (vstate c key pre).entry c key e with
      | .ok st' => verifyFrom c key st' (pre.length + 1) rest
      | .error k => .fail pre.length k :=
  verify_prefix c key pre _ hres

theorem verify_prefix_bad (c : CryptoOps) (key : Bytes) (pre : List PItem) (rest : List Line)
    (hres : ∀ it ∈ pre, it.resetAfter = true → it.isEnd = true) :
    verify c key (honestLines c key pre ++ Line.bad :: rest) = .fail pre.length .parse :=
  verify_prefix c key pre _ hres

theorem perm_first_diff {α : Type} [DecidableEq α] : ∀ (l l' : List α), l'.Perm l → l' ≠ l →
    ∃ (common : List α) (x x' : α) (r r' : List α),
      l = common ++ x :: r ∧ l' = common ++ x' :: r' ∧ x' ≠ x ∧ x' ∈ r
  | [], _, hp, hne => absurd hp.eq_nil hne
  | _ :: _, [], hp, _ => nomatch hp.symm.eq_nil
  | x :: r, x' :: r', hp, hne => by
    by_cases hx : x' = x
    · subst hx
      obtain ⟨cm, y, y', s, s', rfl, rfl, h3, h4⟩ := perm_first_diff r r' hp.cons_inv fun h => hne (by rw [h])
      exact ⟨x' :: cm, y, y', s, s', rfl, rfl, h3, h4⟩
    · exact ⟨[], x, x', r, r', rfl, rfl, hx, (List.mem_cons.mp (hp.subset List.mem_cons_self)).resolve_left hx⟩

theorem produce_cons (c : CryptoOps) (key : Bytes) (st : Calc) (m : PItem) (r : List PItem) :
    produce c key st (m :: r) = entryAt c st m.data m.isEnd :: produce c key (nextCalc c key st m) r := rfl

theorem honestLines_append (c : CryptoOps) (key : Bytes) (x y : List PItem) :
    honestLines c key (x ++ y) = honestLines c key x ++ (produce c key (pstate c key x) y).map Line.entry := by
  unfold honestLines pstate
  rw [produce_append, List.map_append]

theorem produce_split (c : CryptoOps) (key : Bytes) : ∀ (common : List Entry) (items : List PItem) (st : Calc) (e : Entry) (r : List Entry),
    produce c key st items = common ++ e :: r →
    ∃ (x : List PItem) (a : PItem) (y : List PItem), items = x ++ a :: y ∧ common = produce c key st x ∧
      e = entryAt c (stateAfter c key st x) a.data a.isEnd ∧
      r = produce c key (nextCalc c key (stateAfter c key st x) a) y
  | [], [], _, _, _, h | _ :: _, [], _, _, _, h => nomatch h
  | [], a :: y, st, e, r, h => by
    obtain ⟨rfl, rfl⟩ := List.cons.inj h
    exact ⟨[], a, y, rfl, rfl, rfl, rfl⟩
  | c0 :: cm, it :: its, st, e, r, h => by
    obtain ⟨rfl, h'⟩ := List.cons.inj h
    obtain ⟨x, a, y, rfl, rfl, h3, h4⟩ := produce_split c key cm its _ e r h'
    exact ⟨it :: x, a, y, rfl, rfl, h3, h4⟩

theorem mem_produce (c : CryptoOps) (key : Bytes) (items : List PItem) (st : Calc) (e : Entry)
    (h : e ∈ produce c key st items) :
    ∃ (x : List PItem) (a : PItem) (y : List PItem), items = x ++ a :: y ∧
      e = entryAt c (stateAfter c key st x) a.data a.isEnd := by
  obtain ⟨s, t, hst⟩ := List.append_of_mem h
  obtain ⟨x, a, y, h1, _, h3, _⟩ := produce_split c key s items st e t hst
  exact ⟨x, a, y, h1, h3⟩

theorem resets_append_chain {pre x : List PItem} (hres : ∀ it ∈ pre, it.resetAfter = true → it.isEnd = true)
    (hx : ∀ m ∈ x, m.resetAfter = false) : ∀ it ∈ pre ++ x, it.resetAfter = true → it.isEnd = true := by
  intro it hit hra
  rcases List.mem_append.mp hit with h | h
  · exact hres it h hra
  · rw [hx it h] at hra
    cases hra

theorem stateAfter_prev_some (c : CryptoOps) (key : Bytes) : ∀ (z : List PItem) (st : Calc),
    st.prev.isSome → (∀ m ∈ z, m.resetAfter = false) → (stateAfter c key st z).prev.isSome
  | [], _, h, _ => h
  | m :: z, st, _, hz => by
    simp only [stateAfter]
    apply stateAfter_prev_some c key z _ _ (fun x hx => hz x (List.mem_cons_of_mem _ hx))
    simp [hz m List.mem_cons_self, Calc.step]

theorem nextCalc_prev_some (c : CryptoOps) (key : Bytes) (st : Calc) (a : PItem) (h : a.resetAfter = false) :
    (nextCalc c key st a).prev.isSome := by
  simp [nextCalc, h, Calc.step]

theorem nextCalc_noreset (c : CryptoOps) (key : Bytes) (st : Calc) (a : PItem) (h : a.resetAfter = false) :
    nextCalc c key st a = (st.step c a.data).1 := by
  simp [nextCalc, h]

theorem pstate_chain_prev_some (c : CryptoOps) (key : Bytes) (pre : List PItem) (a : PItem) (z : List PItem)
    (ha : a.resetAfter = false) (hz : ∀ m ∈ z, m.resetAfter = false) :
    (pstate c key (pre ++ a :: z)).prev.isSome := by
  rw [pstate_append]
  simp only [stateAfter]
  exact stateAfter_prev_some c key z _ (nextCalc_prev_some c key _ a ha) hz

theorem entryAt_isNew_false (c : CryptoOps) (st : Calc) (d : Bytes) (e : Bool) (h : st.prev.isSome) :
    (entryAt c st d e).isNew = false :=
  Option.isNone_eq_false_iff.mpr h

end AcraModel.AuditLog
