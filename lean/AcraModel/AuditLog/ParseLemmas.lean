import AcraModel.AuditLog.Parse
/-!
Lemmas about the line level of the audit log (C20): hex, `strings.TrimSpace`, cutting a line at the split token
(render/parse for the plaintext and CEF formats), and the file reader with the read loop in the order of the code.
-/
namespace AcraModel.AuditLog
open AcraModel Generated.AuditLog

theorem lastIndexOf_append_tok (tok : Bytes) (a t : Bytes)
    (hlater : lastIndexOf tok (tok ++ t).tail = none) (hne : tok ≠ []) :
    lastIndexOf tok (a ++ tok ++ t) = some a.length := by
  induction a with
  | nil =>
    cases tok with
    | nil => exact absurd rfl hne
    | cons x tk =>
      simp only [List.nil_append, List.cons_append, List.tail_cons] at hlater ⊢
      simp [lastIndexOf, hlater]
  | cons y a ih =>
    simp only [List.cons_append, List.append_assoc] at ih ⊢
    simp [lastIndexOf, ih]

/-- a stretch of bytes that are not the token's first byte cannot host the start of an occurrence -/
theorem lastIndexOf_skip (sp : UInt8) (tk u v : Bytes) (hu : ∀ x ∈ u, x ≠ sp)
    (hv : lastIndexOf (sp :: tk) v = none) : lastIndexOf (sp :: tk) (u ++ v) = none := by
  induction u with
  | nil => simpa using hv
  | cons x u ih =>
    have hx : x ≠ sp := hu x (List.mem_cons_self)
    have := ih (fun y hy => hu y (List.mem_cons_of_mem _ hy))
    simp only [List.cons_append, lastIndexOf, this]
    have : (sp :: tk).isPrefixOf (x :: (u ++ v)) = false := by
      simp [List.isPrefixOf, Ne.symm hx]
    simp [this]

/-- an ASCII byte that is not white space -/
def plainByte (x : UInt8) : Bool := !asciiSpace x && x.toNat < 128

-- Every white-space sequence of `uniSpaces` begins and ends with a byte ≥ 0x80 (`uni_heads`, `uni_lasts`), so none of
-- them starts or ends at an ASCII byte: `TrimSpace` stops there.
def headHigh (u : Bytes) : Bool := match u with | h :: _ => decide (128 ≤ h.toNat) | [] => false

theorem headHigh_spec {u : Bytes} (h : headHigh u = true) : ∃ x t, u = x :: t ∧ 128 ≤ x.toNat := by
  cases u with
  | nil => simp [headHigh] at h
  | cons x t => exact ⟨x, t, rfl, by simpa [headHigh] using h⟩

theorem uni_heads : ∀ u ∈ uniSpaces, ∃ h t, u = h :: t ∧ 128 ≤ h.toNat := by
  have : ∀ u ∈ uniSpaces, headHigh u = true := by decide
  exact fun u hu => headHigh_spec (this u hu)

theorem uni_lasts : ∀ u ∈ uniSpaces, ∃ h t, u.reverse = h :: t ∧ 128 ≤ h.toNat := by
  have : ∀ u ∈ uniSpaces, headHigh u.reverse = true := by decide
  exact fun u hu => headHigh_spec (this u hu)

theorem find_uni_none (x : UInt8) (r : Bytes) (hx : x.toNat < 128) :
    (uniSpaces.find? fun u => u.isPrefixOf (x :: r)) = none := by
  rw [List.find?_eq_none]
  intro u hu
  obtain ⟨h, t, rfl, hh⟩ := uni_heads u hu
  have : h ≠ x := by intro e; subst e; omega
  simp [List.isPrefixOf, this]

theorem find_uni_rev_none (x : UInt8) (r : Bytes) (hx : x.toNat < 128) :
    (uniSpaces.find? fun u => u.reverse.isPrefixOf (x :: r)) = none := by
  rw [List.find?_eq_none]
  intro u hu
  obtain ⟨h, t, he, hh⟩ := uni_lasts u hu
  have : h ≠ x := by intro e; subst e; omega
  simp [he, List.isPrefixOf, this]

theorem trimLeft_plain (f : Nat) (x : UInt8) (r : Bytes) (hp : plainByte x = true) : trimLeft f (x :: r) = x :: r := by
  simp only [plainByte, Bool.and_eq_true, Bool.not_eq_true', decide_eq_true_eq] at hp
  cases f with
  | zero => rfl
  | succ f => simp [trimLeft, hp.1, find_uni_none x r hp.2]

theorem trimRight_plain (f : Nat) (s : Bytes) (x : UInt8) (r : Bytes) (hs : s.reverse = x :: r)
    (hp : plainByte x = true) : trimRight f s = s := by
  simp only [plainByte, Bool.and_eq_true, Bool.not_eq_true', decide_eq_true_eq] at hp
  unfold trimRight
  rw [hs]
  have hback : (x :: r).reverse = s := by rw [← hs, List.reverse_reverse]
  cases f with
  | zero => simpa [trimRight.go] using hback
  | succ f =>
    simp only [trimRight.go, hp.1, Bool.false_eq_true, if_false, find_uni_rev_none x r hp.2]
    exact hback

theorem trimSpace_plain (s : Bytes) (x y : UInt8) (r r' : Bytes) (h1 : s = x :: r) (h2 : s.reverse = y :: r')
    (hx : plainByte x = true) (hy : plainByte y = true) : trimSpace s = s := by
  unfold trimSpace
  rw [h1, trimLeft_plain _ x r hx, ← h1]
  exact trimRight_plain _ s y r' h2 hy

theorem plain_not_eol (x : UInt8) (h : plainByte x = true) : (x ≠ 10 ∧ x ≠ 13) ∧ x ≠ 32 := by
  refine ⟨⟨?_, ?_⟩, ?_⟩ <;> (intro e; subst e; revert h; decide)

theorem nibVal_hexNib (n : Nat) (h : n < 16) : nibVal (hexNib n) = some n := by
  have : ∀ m : Fin 16, nibVal (hexNib m.val) = some m.val := by decide
  exact this ⟨n, h⟩

theorem hexNib_plain (n : Nat) (h : n < 16) : plainByte (hexNib n) = true := by
  have : ∀ m : Fin 16, plainByte (hexNib m.val) = true := by decide
  exact this ⟨n, h⟩

theorem hexEnc_cons (y : UInt8) (r : Bytes) :
    hexEnc (y :: r) = hexNib (y.toNat / 16) :: hexNib (y.toNat % 16) :: hexEnc r := rfl

theorem hexEnc_plain (b : Bytes) : ∀ x ∈ hexEnc b, plainByte x = true := by
  induction b with
  | nil => intro x hx; cases hx
  | cons y r ih =>
    intro x hx
    have hy := y.toNat_lt
    rw [hexEnc_cons, List.mem_cons, List.mem_cons] at hx
    rcases hx with rfl | rfl | hx
    · exact hexNib_plain _ (by omega)
    · exact hexNib_plain _ (by omega)
    · exact ih x hx

theorem hexEnc_ne_space (b : Bytes) : ∀ x ∈ hexEnc b, x ≠ 32 :=
  fun x hx => (plain_not_eol x (hexEnc_plain b x hx)).2

theorem hexDec_hexEnc (b : Bytes) : hexDec (hexEnc b) = some b := by
  induction b with
  | nil => rfl
  | cons y r ih =>
    have hy := y.toNat_lt
    rw [hexEnc_cons]
    simp only [hexDec, nibVal_hexNib _ (show y.toNat / 16 < 16 by omega), nibVal_hexNib _ (show y.toNat % 16 < 16 by omega), ih]
    have : 16 * (y.toNat / 16) + y.toNat % 16 = y.toNat := by omega
    show some (UInt8.ofNat (16 * (y.toNat / 16) + y.toNat % 16) :: r) = some (y :: r)
    rw [this]
    simp

theorem hexEnc_length (b : Bytes) : (hexEnc b).length = 2 * b.length := by
  induction b with
  | nil => rfl
  | cons y r ih => rw [hexEnc_cons]; simp [ih]; omega

theorem hexDec_len : ∀ (p t : Bytes), hexDec p = some t → p.length = 2 * t.length
  | [], t, h => by cases h; rfl
  | [_], t, h => by cases h
  | a :: b :: r, t, h => by
    simp only [hexDec, Option.bind_eq_bind, Option.bind_eq_some_iff, Option.pure_def, Option.some.injEq] at h
    obtain ⟨_, _, _, _, t', ht', rfl⟩ := h
    have := hexDec_len r t' ht'
    simp only [List.length_cons, this]
    omega

theorem hexDec_prefix_shorter (tag p q t : Bytes) (hcut : hexEnc tag = p ++ q) (hq : q ≠ []) (hdec : hexDec p = some t) :
    t.length < tag.length := by
  have h1 := hexDec_len p t hdec
  have h2 := hexEnc_length tag
  rw [hcut, List.length_append] at h2
  have := List.length_pos_iff.mpr hq
  omega

theorem hexDec_length : ∀ (n : Nat) (p t : Bytes), p.length ≤ n → hexDec p = some t → p.length = 2 * t.length :=
  fun _ p t _ h => hexDec_len p t h

theorem hasSuffix_append (suf s : Bytes) : hasSuffix suf (s ++ suf) = true := by
  unfold hasSuffix
  simp [List.reverse_append, List.isPrefixOf_iff_prefix]

/-- the marker ` chain=new` starts with a space -/
theorem hasSuffix_new_nospace (t : Bytes) (ht : ∀ x ∈ t, x ≠ 32) : hasSuffix newSuffix t = false := by
  cases h : hasSuffix newSuffix t with
  | false => rfl
  | true =>
    exfalso
    unfold hasSuffix at h
    have hp := List.isPrefixOf_iff_prefix.mp h
    have h32 : (32 : UInt8) ∈ newSuffix.reverse := by decide +kernel
    have : (32 : UInt8) ∈ t.reverse := hp.subset h32
    exact ht 32 (List.mem_reverse.mp this) rfl

theorem splitTok_eq : splitTok = 32 :: strB "integrity=" := by decide +kernel

theorem tokTail_nospace : ∀ y ∈ strB "integrity=", y ≠ 32 := by decide +kernel

theorem rendered_nonempty (data t : Bytes) : (data ++ splitTok ++ t).isEmpty = false := by
  rw [splitTok_eq]; simp

theorem rendered_ne_nil (data t : Bytes) : data ++ splitTok ++ t ≠ [] :=
  List.isEmpty_eq_false_iff.mp (rendered_nonempty data t)

/-- cutting at the LAST split token gives back what stands before it, whatever that contains, when the token does not
occur again in what follows -/
theorem cut_last (data t : Bytes) (h : lastIndexOf (32 :: strB "integrity=") (strB "integrity=" ++ t) = none) :
    cut .last (data ++ splitTok ++ t) = some (data, t) := by
  have hi : lastIndexOf splitTok (data ++ splitTok ++ t) = some data.length := by
    rw [splitTok_eq]
    exact lastIndexOf_append_tok _ data t h (List.cons_ne_nil _ _)
  simp only [cut, hi, Option.map_some]
  rw [List.append_assoc, List.take_left' rfl, ← List.length_append, ← List.append_assoc, List.drop_left' rfl]

theorem cut_last_nospace (data t : Bytes) (ht : ∀ x ∈ t, x ≠ 32) :
    cut .last (data ++ splitTok ++ t) = some (data, t) := by
  apply cut_last
  have := lastIndexOf_skip 32 (strB "integrity=") (strB "integrity=" ++ t) []
    (List.forall_mem_append.mpr ⟨tokTail_nospace, ht⟩) rfl
  rwa [List.append_nil] at this

/-- the part of a rendered line after the split token: hex tag, then ` chain=new` for a chain start -/
def tagPart (tag : Bytes) (new : Bool) : Bytes := hexEnc tag ++ (if new then newSuffix else [])

theorem rendered_eq (data tag : Bytes) (new : Bool) :
    data ++ splitTok ++ hexEnc tag ++ (if new then newSuffix else []) = data ++ splitTok ++ tagPart tag new :=
  List.append_assoc _ _ _

theorem cut_last_rendered (data tag : Bytes) (new : Bool) :
    cut .last (data ++ splitTok ++ tagPart tag new) = some (data, tagPart tag new) := by
  apply cut_last
  unfold tagPart
  rw [← List.append_assoc]
  apply lastIndexOf_skip
  · exact List.forall_mem_append.mpr ⟨tokTail_nospace, hexEnc_ne_space tag⟩
  · cases new <;> decide +kernel

theorem tagPart_parse (tag : Bytes) (new : Bool) :
    hasSuffix newSuffix (tagPart tag new) = new ∧
      hexDec (if new then (tagPart tag new).take ((tagPart tag new).length - newSuffix.length) else tagPart tag new) = some tag := by
  have h10 : newSuffix.length = 10 := by decide +kernel
  cases new with
  | false => simp [tagPart, hasSuffix_new_nospace _ (hexEnc_ne_space tag), hexDec_hexEnc]
  | true => simp [tagPart, hasSuffix_append, hexDec_hexEnc, h10]

theorem trimSpace_tagPart (tag : Bytes) (new : Bool) (hne : tag ≠ []) : trimSpace (tagPart tag new) = tagPart tag new := by
  obtain ⟨y, t, rfl⟩ := List.exists_cons_of_ne_nil hne
  have hy := y.toNat_lt
  -- the last byte is the marker's `w` or a hex digit
  obtain ⟨z, r', hz, hpz⟩ : ∃ z r', (tagPart (y :: t) new).reverse = z :: r' ∧ plainByte z = true := by
    cases new with
    | true =>
      have : newSuffix.reverse = 119 :: (strB " chain=ne").reverse := by decide +kernel
      exact ⟨119, _, by rw [tagPart, if_pos rfl, List.reverse_append, this]; rfl, by decide⟩
    | false =>
      rw [tagPart, if_neg Bool.false_ne_true, List.append_nil]
      cases h : (hexEnc (y :: t)).reverse with
      | nil => simp [hexEnc_cons] at h
      | cons z r' => exact ⟨z, r', rfl, hexEnc_plain _ z (List.mem_reverse.mp (h ▸ List.mem_cons_self))⟩
  exact trimSpace_plain _ _ z _ r' rfl hz (hexNib_plain _ (by omega)) hpz

/-- **Render/parse for the text formats.** The line the hook writes is parsed back into exactly the authenticated bytes,
the tag and the chain markers, whatever the entry contains; `trim`: the CEF parser's `TrimSpace` on the tag part. -/
theorem parseLine_rendered (trim : Bool) (data tag : Bytes) (new : Bool) (hne : trim = true → tag ≠ []) :
    parseLine .last trim (data ++ splitTok ++ hexEnc tag ++ (if new then newSuffix else [])) =
      .entry ⟨data, tag, new, isEndData data⟩ := by
  have hp := tagPart_parse tag new
  have ht : (if trim = true then trimSpace (tagPart tag new) else tagPart tag new) = tagPart tag new := by
    cases trim
    · rfl
    · exact trimSpace_tagPart tag new (hne rfl)
  rw [rendered_eq]
  unfold parseLine
  rw [rendered_nonempty, cut_last_rendered]
  simp only [Bool.false_eq_true, if_false, ht, hp.1]
  cases new with
  | false => simp only [Bool.false_eq_true, if_false] at hp ⊢; rw [hp.2]
  | true => simp only [if_true] at hp ⊢; rw [hp.2]

/-- what the plaintext parser makes of a line whose integrity part is a piece `p` of a hex string: a parse
error when `p` is not hex of even length, else an entry with the decoded (shorter) tag – never a skipped line -/
theorem parse_cut_tag (data p : Bytes) (hp : ∀ x ∈ p, x ≠ 32) :
    parseLine .last false (data ++ splitTok ++ p) =
      match hexDec p with
      | none => .bad
      | some t => .entry ⟨data, t, false, isEndData data⟩ := by
  unfold parseLine
  rw [rendered_nonempty, cut_last_nospace data p hp]
  simp only [Bool.false_eq_true, if_false, hasSuffix_new_nospace p hp]
  cases hexDec p <;> rfl

/-- the lines the text hooks write, read by a parser that recovers the entry of every such line, are the entries the
producer emits at entry level (`isEnd`: how the parser finds the end-of-chain marker in the authenticated bytes) -/
theorem produceLines_parse (c : CryptoOps) (key : Bytes) (parse : Bytes → Line) (isEnd : Bytes → Bool)
    (hrp : ∀ (st : Calc) (d : Bytes),
      parse (appendIntegrity c st d).2 = .entry ⟨d, (st.step c d).2.1, (st.step c d).2.2, isEnd d⟩) :
    ∀ (its : List LItem) (st : Calc), (produceLines c key st its).map parse =
      (produce c key st (its.map fun it => ⟨it.formatted, isEnd it.formatted, it.resetAfter⟩)).map Line.entry
  | [], _ => rfl
  | it :: r, st => by
    simp only [produceLines, List.map_cons, produce]
    rw [hrp, produceLines_parse c key parse isEnd hrp r]
    rfl

theorem getLast?_append_cons {α : Type} (l : List α) (x : α) (r : List α) :
    (l ++ x :: r).getLast? = (x :: r).getLast? := by
  rw [List.getLast?_append, List.getLast?_eq_some_getLast (List.cons_ne_nil x r)]
  rfl

theorem line_clean (data t : Bytes) (hd : ∀ x ∈ data, x ≠ 10) (ht : ∀ x ∈ t, x ≠ 10 ∧ x ≠ 13) :
    (∀ x ∈ data ++ splitTok ++ t, x ≠ 10) ∧ (data ++ splitTok ++ t).getLast? ≠ some 13 := by
  have hap : ∀ x ∈ splitTok ++ t, x ≠ 10 ∧ x ≠ 13 := List.forall_mem_append.mpr ⟨by decide +kernel, ht⟩
  rw [List.append_assoc]
  refine ⟨List.forall_mem_append.mpr ⟨hd, fun x hx => (hap x hx).1⟩, ?_⟩
  rw [splitTok_eq, List.cons_append, getLast?_append_cons, ← List.cons_append, ← splitTok_eq]
  exact fun h => (hap _ (List.mem_of_getLast? h)).2 rfl

theorem rendered_clean (formatted tag : Bytes) (new : Bool) (hf : ∀ x ∈ formatted, x ≠ 10) :
    (∀ x ∈ formatted ++ splitTok ++ tagPart tag new, x ≠ 10) ∧
      (formatted ++ splitTok ++ tagPart tag new).getLast? ≠ some 13 := by
  refine line_clean formatted _ hf fun x hx => ?_
  rcases List.mem_append.mp hx with h | h
  · exact (plain_not_eol x (hexEnc_plain tag x h)).1
  · cases new with
    | true => exact (by decide +kernel : ∀ y ∈ newSuffix, y ≠ 10 ∧ y ≠ 13) x h
    | false => cases h

theorem cut_line_clean (data p : Bytes) (hd : ∀ x ∈ data, x ≠ 10) (hp : ∀ x ∈ p, plainByte x = true) :
    (∀ x ∈ data ++ splitTok ++ p, x ≠ 10) ∧ (data ++ splitTok ++ p).getLast? ≠ some 13 :=
  line_clean data p hd fun x hx => (plain_not_eol x (hp x hx)).1

theorem rawLines_line (l rest acc : Bytes) (hl : ∀ x ∈ l, x ≠ 10) :
    rawLines (l ++ 10 :: rest) acc = (acc.reverse ++ l) :: rawLines rest [] := by
  induction l generalizing acc with
  | nil => simp [rawLines]
  | cons x t ih =>
    have hx : x ≠ 10 := hl x List.mem_cons_self
    have := ih (x :: acc) (fun y hy => hl y (List.mem_cons_of_mem _ hy))
    simp only [List.cons_append]
    rw [rawLines]
    · rw [this]; simp
    · exact hx

theorem dropCR_one (l : Bytes) : dropCR l = if l.getLast? = some 13 then l.dropLast else l := by
  rcases List.eq_nil_or_concat l with rfl | ⟨t, y, rfl⟩
  · rfl
  · by_cases h : y = 13 <;> simp [dropCR, h]

theorem dropCR_id (l : Bytes) (h : l.getLast? ≠ some 13) : dropCR l = l := by
  rw [dropCR_one, if_neg h]

/-- the loop as it stands in the code: a (non-empty) line is delivered BEFORE `io.EOF` ends the function -/
def stdLoop : List String := ["read", "return-err", "deliver", "return-eof"]
def stdTrims : List String := ["\n", "\r"]

theorem loopBody_std (chunk : Bytes) (eof : Bool) :
    loopBody stdLoop chunk eof = (if chunk.isEmpty then [] else [chunk], eof) := by
  cases eof <;> cases h : chunk.isEmpty <;> simp [loopBody, stdLoop, h]

theorem readChunks_std_nil (acc : Bytes) :
    readChunks stdLoop [] acc = if acc.isEmpty then [] else [acc.reverse] := by
  simp [readChunks, loopBody_std]

theorem readChunks_std_lf (r acc : Bytes) :
    readChunks stdLoop (10 :: r) acc = (acc.reverse ++ [10]) :: readChunks stdLoop r [] := by
  simp [readChunks, loopBody_std]

theorem readChunks_std_other (x : UInt8) (r acc : Bytes) (hx : x ≠ 10) :
    readChunks stdLoop (x :: r) acc = readChunks stdLoop r (x :: acc) := by
  simp [readChunks, hx]

/-- induction along the read loop: at the end of the file what was collected is delivered unless it is empty; a line feed
delivers the chunk and the loop starts afresh; any other byte is collected -/
theorem readChunks_std_induct {P : Bytes → Bytes → List Bytes → Prop}
    (hnil : ∀ acc, P [] acc (if acc.isEmpty then [] else [acc.reverse]))
    (hlf : ∀ r acc, P r [] (readChunks stdLoop r []) → P (10 :: r) acc ((acc.reverse ++ [10]) :: readChunks stdLoop r []))
    (hoth : ∀ x r acc, x ≠ 10 → P r (x :: acc) (readChunks stdLoop r (x :: acc)) →
      P (x :: r) acc (readChunks stdLoop r (x :: acc))) :
    ∀ file acc, P file acc (readChunks stdLoop file acc)
  | [], acc => readChunks_std_nil acc ▸ hnil acc
  | x :: r, acc => by
    by_cases hx : x = 10
    · subst hx
      exact readChunks_std_lf r acc ▸ hlf r acc (readChunks_std_induct hnil hlf hoth r [])
    · exact readChunks_std_other x r acc hx ▸ hoth x r acc hx (readChunks_std_induct hnil hlf hoth r _)

theorem readChunks_std_flatten : ∀ (file acc : Bytes), (readChunks stdLoop file acc).flatten = acc.reverse ++ file :=
  readChunks_std_induct (P := fun file acc res => res.flatten = acc.reverse ++ file)
    (fun acc => by cases acc <;> simp) (fun r acc ih => by simp [ih]) (fun x r acc _ ih => by simp [ih])

theorem readChunks_std_shape : ∀ (file acc : Bytes), (∀ x ∈ acc, x ≠ 10) →
    ∀ ch ∈ readChunks stdLoop file acc, ch ≠ [] ∧ ∀ x ∈ ch.dropLast, x ≠ 10 :=
  readChunks_std_induct (P := fun _ acc res => (∀ x ∈ acc, x ≠ 10) → ∀ ch ∈ res, ch ≠ [] ∧ ∀ x ∈ ch.dropLast, x ≠ 10)
    (fun acc hacc ch hch => by
      cases acc with
      | nil => cases hch
      | cons a t =>
        obtain rfl := List.mem_singleton.mp hch
        exact ⟨by simp, fun x hx => hacc x (List.mem_reverse.mp (List.dropLast_subset _ hx))⟩)
    (fun r acc ih hacc ch hch => by
      rcases List.mem_cons.mp hch with rfl | hch
      · exact ⟨by simp, fun x hx => hacc x (List.mem_reverse.mp (by rwa [List.dropLast_concat] at hx))⟩
      · exact ih (by simp) ch hch)
    (fun x r acc hx ih hacc => ih (List.forall_mem_cons.mpr ⟨hx, hacc⟩))

theorem readChunks_std_terminated : ∀ (file acc : Bytes),
    ∀ ch ∈ (readChunks stdLoop file acc).dropLast, ch.getLast? = some 10 :=
  readChunks_std_induct (P := fun _ _ res => ∀ ch ∈ res.dropLast, ch.getLast? = some 10)
    (fun acc ch hch => by cases acc <;> simp at hch)
    (fun r acc ih ch hch => by
      by_cases hr : readChunks stdLoop r [] = []
      · rw [hr] at hch; simp at hch
      · rw [List.dropLast_cons_of_ne_nil hr, List.mem_cons] at hch
        rcases hch with rfl | hch
        · simp
        · exact ih ch hch)
    (fun _ _ _ _ ih => ih)

theorem strB_lf : strB "\n" = [10] := by decide
theorem strB_cr : strB "\r" = [13] := by decide

theorem trimLine_std (ch : Bytes) : trimLine stdTrims ch = trimSuffix [13] (trimSuffix [10] ch) := by
  simp [trimLine, stdTrims, strB_lf, strB_cr]

theorem trimSuffix_one (b : UInt8) (l : Bytes) :
    trimSuffix [b] l = if l.getLast? = some b then l.dropLast else l := by
  rcases List.eq_nil_or_concat l with rfl | ⟨t, y, rfl⟩
  · rfl
  · by_cases h : y = b
    · simp [trimSuffix, hasSuffix, List.isPrefixOf, h]
    · have : (b == y) = false := by simpa using Ne.symm h
      simp [trimSuffix, hasSuffix, List.isPrefixOf, h, this]

theorem trimSuffix_concat (b : UInt8) (l : Bytes) : trimSuffix [b] (l ++ [b]) = l := by
  rw [trimSuffix_one, List.getLast?_concat, if_pos rfl, List.dropLast_concat]

theorem trimSuffix_none (b : UInt8) (l : Bytes) (h : l.getLast? ≠ some b) : trimSuffix [b] l = l := by
  rw [trimSuffix_one, if_neg h]

theorem trimSuffix_cr (l : Bytes) : trimSuffix [13] l = dropCR l := by
  rw [trimSuffix_one, dropCR_one]

theorem getLast?_ne_of_not_mem (b : UInt8) (l : Bytes) (h : ∀ x ∈ l, x ≠ b) : l.getLast? ≠ some b := by
  intro hl
  exact h b (List.mem_of_getLast? hl) rfl

theorem readChunks_std_lines : ∀ (file acc : Bytes), (∀ x ∈ acc, x ≠ 10) →
    (readChunks stdLoop file acc).map (trimLine stdTrims) = (rawLines file acc).map dropCR :=
  readChunks_std_induct
    (P := fun file acc res => (∀ x ∈ acc, x ≠ 10) → res.map (trimLine stdTrims) = (rawLines file acc).map dropCR)
    (fun acc hacc => by
      cases acc with
      | nil => rfl
      | cons a t =>
        simp only [List.isEmpty_cons, Bool.false_eq_true, if_false, rawLines, List.map_cons, List.map_nil]
        rw [trimLine_std, trimSuffix_none 10 _ (getLast?_ne_of_not_mem 10 _ (fun x hx => hacc x (List.mem_reverse.mp hx))),
          trimSuffix_cr])
    (fun r acc ih _ => by
      simp only [rawLines, List.map_cons]
      rw [ih (by simp), trimLine_std, trimSuffix_concat, trimSuffix_cr])
    (fun x r acc hx ih hacc => by
      rw [rawLines]
      · exact ih (List.forall_mem_cons.mpr ⟨hx, hacc⟩)
      · exact hx)

theorem scanLinesWith_std (file : Bytes) :
    scanLinesWith "reader" stdLoop stdTrims file = (rawLines file []).map dropCR := by
  unfold scanLinesWith
  simp only [show ("reader" = "scanner") = False by decide, if_false]
  exact readChunks_std_lines file [] (by simp)

theorem rawLines_tail (l acc : Bytes) (hl : ∀ x ∈ l, x ≠ 10) :
    rawLines l acc = if (acc.reverse ++ l).isEmpty then [] else [acc.reverse ++ l] := by
  induction l generalizing acc with
  | nil => cases acc <;> simp [rawLines]
  | cons x t ih =>
    rw [rawLines]
    · rw [ih (x :: acc) (fun y hy => hl y (List.mem_cons_of_mem _ hy))]
      simp
    · exact hl x List.mem_cons_self

theorem rawLines_join_append (ls : List Bytes) (rest : Bytes) (h : ∀ l ∈ ls, ∀ x ∈ l, x ≠ 10) :
    rawLines ((ls.flatMap fun l => l ++ [10]) ++ rest) [] = ls ++ rawLines rest [] := by
  induction ls with
  | nil => rfl
  | cons l r ih =>
    simp only [List.flatMap_cons, List.append_assoc, List.cons_append]
    rw [rawLines_line l _ [] (h l List.mem_cons_self)]
    simp only [List.nil_append, List.reverse_nil]
    rw [ih (fun m hm => h m (List.mem_cons_of_mem _ hm))]

/-- **a file made of clean lines is read back as exactly these lines – with or without the final `\n`**
(without it the last line must not be empty: an empty unterminated line is no line at all) -/
theorem scanLines_fileOf (ls : List Bytes) (term : Bool)
    (h : ∀ l ∈ ls, (∀ x ∈ l, x ≠ 10) ∧ l.getLast? ≠ some 13)
    (hlast : term = false → ls.getLast? ≠ some []) :
    scanLinesWith "reader" stdLoop stdTrims (fileOf ls term) = ls := by
  have hraw : rawLines (fileOf ls term) [] = ls := by
    cases term with
    | true => simpa [rawLines, fileOf] using rawLines_join_append ls [] fun l hl => (h l hl).1
    | false =>
      rcases List.eq_nil_or_concat ls with rfl | ⟨init, last, rfl⟩
      · rfl
      · rw [List.concat_eq_append] at h hlast ⊢
        have hfile : fileOf (init ++ [last]) false = (init.flatMap fun l => l ++ [10]) ++ last := by
          simp only [fileOf, Bool.false_eq_true, if_false, List.flatMap_append, List.flatMap_cons, List.flatMap_nil,
            List.append_nil]
          rw [← List.append_assoc, List.dropLast_concat]
        have hne : last.isEmpty = false := by
          cases last with
          | nil => exact absurd (by simp) (hlast rfl)
          | cons a t => rfl
        rw [hfile, rawLines_join_append init last (fun l hl => (h l (List.mem_append_left _ hl)).1),
          rawLines_tail last [] (h last (by simp)).1]
        simp only [List.reverse_nil, List.nil_append, hne, Bool.false_eq_true, if_false]
  rw [scanLinesWith_std, hraw, List.map_congr_left (fun l hl => dropCR_id l (h l hl).2), List.map_id']

theorem getLast?_lines_ne_nil (ls : List Bytes) (l : Bytes) (post : List Bytes) (hne : l ≠ [])
    (hpost : post.getLast? ≠ some []) : (ls ++ l :: post).getLast? ≠ some [] := by
  rw [getLast?_append_cons]
  cases post with
  | nil => simpa using hne
  | cons q r => rwa [List.getLast?_cons_cons]

theorem scanLines_join (ls : List Bytes) (h : ∀ l ∈ ls, (∀ x ∈ l, x ≠ 10) ∧ l.getLast? ≠ some 13) :
    scanLinesWith "reader" stdLoop stdTrims (ls.flatMap fun l => l ++ [10]) = ls :=
  scanLines_fileOf ls true h (fun e => by cases e)

end AcraModel.AuditLog
