import AcraModel.Searchable.Lemmas
/-
Lemmas about the hash check on the read path: `extractHash`, `isEqual`, `hashProcessor`, the
translator's decrypt, and the stateful `hmac.Processor` around the envelope detector.
-/
namespace AcraModel.Searchable
open AcraModel AcraModel.Envelope

theorem knownFunc_eq {b : UInt8} (h : knownFunc b = true) : b = hashByte := by
  simp [knownFunc, Generated.Searchable.hashFuncs] at h
  apply UInt8.toNat_inj.mp
  rw [← h]
  decide

/-- shape of an extracted hash: the function number followed by the next 32 bytes -/
theorem extractHash_shape {data h : Bytes} (he : extractHash data = some h) :
    ∃ rest, data = hashByte :: rest ∧ macLen ≤ rest.length ∧ h = hashByte :: rest.take macLen := by
  unfold extractHash at he
  cases data with
  | nil => simp at he
  | cons b rest =>
    simp only at he
    split at he
    · cases he
    · rename_i hk
      split at he
      · cases he
      · rename_i hlen
        have hb : b = hashByte := knownFunc_eq (by simpa using hk)
        subst hb
        refine ⟨rest, rfl, Nat.le_of_not_lt hlen, ?_⟩
        cases he
        simp [macLen_eq, Generated.Searchable.extractTakeExtra, List.take_succ_cons]

theorem extractHash_length {data h : Bytes} (he : extractHash data = some h) : h.length = hashSize := by
  obtain ⟨rest, _, hlen, hh⟩ := extractHash_shape he
  subst hh
  simp [hashSize_eq, macLen_eq] at *
  omega

/-- a stored `hash ++ envelope` value splits back into its two parts -/
theorem extractHash_stored (c : CryptoOps) (hl : HashLen c) (k v e : Bytes) :
    extractHash (generateHMAC c k v ++ e) = some (generateHMAC c k v) := by
  have h32 := hl.hmac_len k v
  unfold extractHash generateHMAC
  have hk : knownFunc hashByte = true := by decide
  simp only [List.cons_append, hk, Bool.not_true, Bool.false_eq_true, if_false]
  have : ¬ (c.hmac k v ++ e).length < macLen := by simp [macLen_eq, h32]
  simp only [this, if_false]
  simp [macLen_eq, Generated.Searchable.extractTakeExtra, List.take_succ_cons, List.take_left' h32]

/-- the hash check accepts exactly the genuine index of the data -/
theorem isEqual_iff (c : CryptoOps) (hl : HashLen c) (k : Bytes) {data h : Bytes} (d : Bytes)
    (he : extractHash data = some h) :
    isEqual c (some k) h d = true ↔ h = generateHMAC c k d := by
  obtain ⟨rest, _, hlen, hh⟩ := extractHash_shape he
  subst hh
  simp only [isEqual, List.drop_succ_cons, List.drop_zero, beq_iff_eq, generateHMAC, List.cons.injEq, true_and]

theorem isEqual_nokey (c : CryptoOps) (h d : Bytes) : isEqual c none h d = false := rfl

theorem hashProcessor_checked (c : CryptoOps) (hkey : Option Bytes) (proc : Bytes → Out Bytes)
    (data h p : Bytes) (he : extractHash data = some h) (hok : hashProcessor c hkey proc data = .ok p) :
    proc (data.drop h.length) = .ok p ∧ isEqual c hkey h p = true := by
  unfold hashProcessor at hok
  simp only [he] at hok
  cases hp : proc (data.drop h.length) with
  | err | panic => simp [hp] at hok
  | ok q =>
    simp only [hp] at hok
    split at hok
    · rename_i heq
      cases hok
      exact ⟨rfl, heq⟩
    · cases hok

theorem translatorDecrypt_checked (c : CryptoOps) (hkey : Option Bytes) (kv : KeyView) (kd : Kind)
    (data h p : Bytes) (he : extractHash data = some h) (hok : translatorDecrypt c hkey kv kd data = .ok p) :
    decryptWithHandler c kv kd (data.drop h.length) = .ok p ∧ isEqual c hkey h p = true := by
  refine hashProcessor_checked c hkey (decryptWithHandler c kv kd) data h p he ?_
  rw [← hok]
  unfold translatorDecrypt extractHashAndData hashProcessor
  simp only [he]

/-- the first call for a column does not look at the state left by earlier columns -/
theorem pOnColumn_first_stateless (c : CryptoOps) (hkey : Option Bytes) (s s' : PState) (data : Bytes) :
    pOnColumn c hkey false s data = pOnColumn c hkey false s' data := by
  simp [pOnColumn]

/-- the second call leaves nothing behind -/
theorem pOnColumn_second_resets (c : CryptoOps) (hkey : Option Bytes) (s : PState) (data : Bytes) (o : POut)
    (h : pOnColumn c hkey true s data = .ok o) : o.st = PState.init := by
  simp only [pOnColumn, if_true] at h
  cases hp : pProcess c hkey s data with
  | err | panic => simp [hp] at h
  | ok b =>
    cases b <;> simp [hp] at h <;> (subst h; rfl)

theorem column_stateless (c : CryptoOps) (hkey : Option Bytes) (det : Bytes → ScanOut) (s s' : PState) (col : Bytes) :
    column c hkey det s col = column c hkey det s' col := by
  simp only [column, columnWith, pOnColumn_first_stateless c hkey s s' col]

theorem column_resets (c : CryptoOps) (hkey : Option Bytes) (det : Bytes → ScanOut) (s s1 : PState) (col out : Bytes)
    (h : column c hkey det s col = .ok (s1, some out)) : s1 = PState.init := by
  simp only [column, columnWith] at h
  cases h1 : pOnColumn c hkey false s col with
  | err | panic => simp [h1] at h
  | ok o1 =>
    simp only [h1] at h
    cases hd : det o1.data with
    | panic | fatal => simp [hd] at h
    | ok d hit =>
      simp only [hd] at h
      cases h2 : pOnColumn c hkey true o1.st d with
      | err | panic => simp [h2] at h
      | ok o2 =>
        simp only [h2, Out.ok.injEq, Prod.mk.injEq] at h
        rw [← h.1]
        exact pOnColumn_second_resets c hkey o1.st d o2 h2

/-- what a column that starts with a hash followed by an envelope turns into: the detector's output
if the hash matches it, the stored bytes otherwise -/
theorem column_searchable (c : CryptoOps) (hkey : Option Bytes) (det : Bytes → ScanOut) (s : PState)
    (col h d : Bytes) (hit : Bool)
    (he : extractHash col = some h) (hm : matchEnvelope (col.drop h.length) = .ok true)
    (hd : det (col.drop h.length) = .ok d hit) :
    column c hkey det s col = .ok (PState.init, some (if isEqual c hkey h d then d else col)) := by
  simp only [column, columnWith, pOnColumn, he, hm, hd, Bool.false_eq_true, if_false, if_true, pProcess]
  cases hq : isEqual c hkey h d <;> simp

/-- a column without a leading hash (or without an envelope after it) passes the processor untouched
in both directions: only the detector acts on it -/
theorem column_plain (c : CryptoOps) (hkey : Option Bytes) (det : Bytes → ScanOut) (s : PState)
    (col d : Bytes) (hit : Bool)
    (hne : extractHash col = none ∨ ∃ h, extractHash col = some h ∧ matchEnvelope (col.drop h.length) = .ok false)
    (hd : det col = .ok d hit) :
    column c hkey det s col = .ok (PState.init, some d) := by
  cases hne with
  | inl he =>
    simp [column, columnWith, pOnColumn, he, hd, pProcess, PState.init]
  | inr hx =>
    obtain ⟨h, he, hm⟩ := hx
    simp [column, columnWith, pOnColumn, he, hm, hd, pProcess, PState.init]

/-! ### the pinned tree's processor (before the repair) -/

/-- a state with a remembered `hashData` but a nil `matchedHash` makes every further call panic -/
theorem legacy_poisoned_panics (c : CryptoOps) (hkey : Option Bytes) (s : PState) (x : Bytes)
    (h1 : s.hashData = some x) (h2 : s.matchedHash = none) (d : Bytes) :
    legacyOnColumn c hkey s d = .panic := by
  simp [legacyOnColumn, pProcess, h1, h2]

/-- the second call of the old processor on a verified plaintext that itself starts like a hash but
holds no envelope behind it leaves exactly such a state -/
theorem legacy_second_call_poisons (c : CryptoOps) (hkey : Option Bytes) (s : PState) (x h plain hp : Bytes)
    (h1 : s.hashData = some x) (h2 : s.matchedHash = some h) (hv : isEqual c hkey h plain = true)
    (he : extractHash plain = some hp) (hm : matchEnvelope (plain.drop hp.length) = .ok false) :
    ∃ o, legacyOnColumn c hkey s plain = .ok o ∧ o.data = plain ∧ o.st.hashData = some x ∧ o.st.matchedHash = none := by
  refine ⟨⟨{ s with matchedHash := none }, plain, false⟩, ?_, rfl, h1, rfl⟩
  simp [legacyOnColumn, pProcess, h1, h2, hv, he, hm]

/-- … and when an envelope does follow, the old processor delivered the plaintext without its first
33 bytes and kept the plaintext as `rawData` for the next column -/
theorem legacy_second_call_truncates (c : CryptoOps) (hkey : Option Bytes) (s : PState) (x h plain hp : Bytes)
    (h1 : s.hashData = some x) (h2 : s.matchedHash = some h) (hv : isEqual c hkey h plain = true)
    (he : extractHash plain = some hp) (hm : matchEnvelope (plain.drop hp.length) = .ok true) :
    ∃ o, legacyOnColumn c hkey s plain = .ok o ∧ o.data = plain.drop hp.length ∧ o.st.rawData = plain ∧
      o.st.hashData = some (plain.take hp.length) := by
  refine ⟨⟨{ hashData := some (plain.take hp.length), matchedHash := some hp, rawData := plain }, plain.drop hp.length, false⟩, ?_, rfl, rfl, rfl⟩
  simp [legacyOnColumn, pProcess, h1, h2, hv, he, hm]

end AcraModel.Searchable
