import AcraModel.Searchable.Eval
import AcraModel.Searchable.Processor
/-
Helper definitions and lemmas for the C09 theorems: the shape of stored values, what "collision free
on the values at hand" means, which conditions the rewrite supports, and the comparison-level
exactness lemma that `Props.C09.search_exact` lifts to whole conditions.
-/
namespace AcraModel.Searchable
open AcraModel AcraModel.Envelope

theorem hashSize_eq : hashSize = 33 := by decide
theorem macLen_eq : macLen = 32 := by decide

theorem generateHMAC_length (c : CryptoOps) (hl : HashLen c) (k v : Bytes) :
    (generateHMAC c k v).length = hashSize := by
  simp [generateHMAC, hl.hmac_len, hashSize_eq]

theorem index_stored (c : CryptoOps) (hl : HashLen c) (k v e : Bytes) :
    index (generateHMAC c k v ++ e) = generateHMAC c k v := by
  unfold index
  exact List.take_left' (generateHMAC_length c hl k v)

theorem sqlSubstr_stored (c : CryptoOps) (hl : HashLen c) (k v e : Bytes) :
    sqlSubstr (generateHMAC c k v ++ e) 1 33 = generateHMAC c k v := by
  unfold sqlSubstr
  simp only [Nat.sub_self, List.drop_zero]
  exact List.take_left' (by rw [generateHMAC_length c hl, hashSize_eq])

theorem generateHMAC_eq_iff (c : CryptoOps) (k a b : Bytes) :
    generateHMAC c k a = generateHMAC c k b ↔ c.hmac k a = c.hmac k b := by
  simp [generateHMAC]

/-- collision freedom of HMAC under key `k` on the values at hand (`S` = the finitely many
plaintexts stored in the rows and searched for). This is the form in which C09 assumes it – never
`HashInj` (all byte strings) together with the 32-byte length law. -/
def NoColl (c : CryptoOps) (k : Bytes) (S : Bytes → Prop) : Prop :=
  ∀ a b, S a → S b → c.hmac k a = c.hmac k b → a = b

theorem beq_generateHMAC (c : CryptoOps) (k : Bytes) (S : Bytes → Prop) (h : NoColl c k S) (a b : Bytes)
    (ha : S a) (hb : S b) : (generateHMAC c k a == generateHMAC c k b) = (a == b) := by
  by_cases hab : a = b
  · subst hab; simp
  · have : generateHMAC c k a ≠ generateHMAC c k b := by
      intro he
      exact hab (h a b ha hb ((generateHMAC_eq_iff c k a b).mp he))
    rw [beq_eq_false_iff_ne.mpr this, beq_eq_false_iff_ne.mpr hab]

/-! ### operators (computed from the regenerated lists) -/

/-- operators whose meaning survives hashing both sides -/
def hashedOp (d : Dialect) (op : Op) : Bool :=
  op == .eq || op == .ne || (op == .nullSafeEq && d == .mysql)

/-- the operator lists of the two filters select exactly the operators that survive hashing -/
theorem valueOp_eq_hashedOp (d : Dialect) (op : Op) : valueOp d op = hashedOp d op := by
  cases d <;> cases op <;>
    simp [valueOp, hashedOp, opName, Generated.Searchable.pgValueOps, Generated.Searchable.mysqlValueOps]

theorem valueOp_hashedOp (d : Dialect) (op : Op) (h : valueOp d op = true) : hashedOp d op = true :=
  valueOp_eq_hashedOp d op ▸ h

theorem valueOp_eq (d : Dialect) : valueOp d .eq = true := valueOp_eq_hashedOp d .eq

theorem valueOp_ne (d : Dialect) : valueOp d .ne = true := valueOp_eq_hashedOp d .ne

theorem substrBounds_eq (d : Dialect) (b : Bool) : substrBounds d b = (1, 33) := by
  cases d <;> cases b <;> decide

theorem changeOp_eq (d : Dialect) : changeOp d .eq = .eq := by
  cases d <;> simp [changeOp, opName, Generated.Searchable.pgToEq, Generated.Searchable.mysqlToEq]
theorem changeOp_ne (d : Dialect) : changeOp d .ne = .ne := by
  cases d <;> simp [changeOp, opName, Generated.Searchable.pgToEq, Generated.Searchable.pgToNe,
    Generated.Searchable.mysqlToEq, Generated.Searchable.mysqlToNe]
theorem changeOp_lt (d : Dialect) : changeOp d .lt = .lt := by
  cases d <;> simp [changeOp, opName, Generated.Searchable.pgToEq, Generated.Searchable.pgToNe,
    Generated.Searchable.mysqlToEq, Generated.Searchable.mysqlToNe]
theorem changeOp_nse : changeOp .mysql .nullSafeEq = .eq := by
  simp [changeOp, opName, Generated.Searchable.mysqlToEq]

theorem evalOp_hashed (c : CryptoOps) (k : Bytes) (S : Bytes → Prop) (hnc : NoColl c k S) (d : Dialect) (op : Op)
    (hop : hashedOp d op = true) (a b : Bytes) (ha : S a) (hb : S b) :
    evalOp (changeOp d op) (generateHMAC c k a) (generateHMAC c k b) = evalOp op a b := by
  have hbeq := beq_generateHMAC c k S hnc a b ha hb
  cases op with
  | eq => rw [changeOp_eq]; exact hbeq
  | ne => rw [changeOp_ne]; simp only [evalOp, bne, hbeq]
  | nullSafeEq =>
    cases d with
    | pg => exact absurd hop (by decide)
    | mysql => rw [changeOp_nse]; exact hbeq
  | lt => cases d <;> exact absurd hop (by decide)

/-- an operand of a comparison that is forwarded as written means the same to the database as to the
client: not a searchable column, not a placeholder whose value gets replaced by a hash -/
def plainOperand (x : QCtx) (hashed : List Nat) : Operand → Bool
  | .col c => !x.searchable c
  | .lit _ => true
  | .cast _ => true
  | .other => true
  | .param i => !hashed.contains i
  | .castParam i => !hashed.contains i

/-- the comparison is of a form whose rewrite preserves its meaning -/
def supportedCmp (x : QCtx) (hashed : List Nat) (l : Operand) (op : Op) (r : Operand) : Bool :=
  match classify x l op r with
  | .none => plainOperand x hashed l && plainOperand x hashed r
  | .join lc _ => hashedOp x.d op && x.searchable lc
  | .value _ _ => true
  | .param _ _ => true
  | .castParam _ _ => false

def supported (x : QCtx) (hashed : List Nat) : Cond → Bool
  | .cmp l op r => supportedCmp x hashed l op r
  | .and a b => supported x hashed a && supported x hashed b
  | .or a b => supported x hashed a && supported x hashed b

/-- the values searched for (literals and bound values of rewritten comparisons) -/
def condValues (x : QCtx) (params : List Bytes) : Cond → List Bytes
  | .cmp l op r =>
    match classify x l op r with
    | .value _ v => [v]
    | .param _ i => (params[i]?).toList
    | _ => []
  | .and a b => condValues x params a ++ condValues x params b
  | .or a b => condValues x params a ++ condValues x params b

/-- a stored row and its plaintext view: searchable columns hold `hash ++ envelope` of the plaintext
(written under the HMAC key `k`), all other columns hold what the view shows -/
structure RowOk (x : QCtx) (k : Bytes) (row : Row) (pv : ColRef → Option Bytes) : Prop where
  srch : ∀ c, x.searchable c = true → ∃ p e, pv c = some p ∧ row.get c = some (generateHMAC x.c k p ++ e)
  plain : ∀ c, x.searchable c = false → row.get c = pv c

/- the three inversions of `classify` go the same way: for every form of the two operands the filter is an
`if` between the item and `.none`; only the form named in the conclusion survives the comparison of constructors -/
theorem classify_join {x : QCtx} {l r : Operand} {op : Op} {lc rc : ColRef}
    (h : classify x l op r = .join lc rc) :
    l = .col lc ∧ r = .col rc ∧ (x.searchable lc = true ∨ x.tokenized lc = true) ∧ x.searchable rc = true := by
  cases l with
  | col c =>
    cases hs : x.searchable c <;> cases r <;> simp [classify, hs] at h <;> split at h <;> cases h
    · exact ⟨rfl, rfl, .inr ‹_ ∧ _›.1, ‹_ ∧ _›.2⟩
    · exact ⟨rfl, rfl, .inl hs, ‹_›⟩
  | _ => cases h

theorem classify_value {x : QCtx} {l r : Operand} {op : Op} {lc : ColRef} {v : Bytes}
    (h : classify x l op r = .value lc v) :
    l = .col lc ∧ (r = .lit v ∨ r = .cast v) ∧ x.searchable lc = true ∧ valueOp x.d op = true := by
  cases l with
  | col c =>
    cases hs : x.searchable c <;> cases r <;> simp [classify, hs] at h <;> split at h <;> cases h
    · exact ⟨rfl, .inl rfl, hs, ‹_›⟩
    · exact ⟨rfl, .inr rfl, hs, ‹_ ∧ _›.2⟩
  | _ => cases h

theorem classify_param {x : QCtx} {l r : Operand} {op : Op} {lc : ColRef} {i : Nat}
    (h : classify x l op r = .param lc i) :
    l = .col lc ∧ r = .param i ∧ x.searchable lc = true ∧ valueOp x.d op = true := by
  cases l with
  | col c =>
    cases hs : x.searchable c <;> cases r <;> simp [classify, hs] at h <;> split at h <;> cases h
    exact ⟨rfl, rfl, hs, ‹_›⟩
  | _ => cases h

theorem calcHmac_plain (x : QCtx) (k v : Bytes) (hk : x.hkey = some k) (hm : registryMatch v = false) :
    calcHmac x v = .ok (generateHMAC x.c k v) := by
  simp [calcHmac, hm, hk]

theorem updateValue_ok (x : QCtx) (k v h : Bytes) (hk : x.hkey = some k) (hm : registryMatch v = false)
    (hu : updateValue x v = .ok h) : h = generateHMAC x.c k v := by
  unfold updateValue at hu
  rw [calcHmac_plain x k v hk hm] at hu
  simp only at hu
  split at hu
  · cases hu
  · cases hu; rfl

section exact
/- the standing assumptions of the exactness proof: the session's HMAC key, the bound values before and after
`OnBind` (hashed at the positions `H`), the values `S` on which HMAC has no collision, a stored row and its
plaintext view -/
variable (x : QCtx) (hl : HashLen x.c) (k : Bytes) (hk : x.hkey = some k)
  (H : List Nat) (params params' : List Bytes)
  (hp : ∀ j, params'[j]? = if j ∈ H then (params[j]?).map (generateHMAC x.c k) else params[j]?)
  (hHlt : ∀ j ∈ H, j < params.length)
  (S : Bytes → Prop) (hnc : NoColl x.c k S)
  (row : Row) (pv : ColRef → Option Bytes) (hrow : RowOk x k row pv)
  (hpvS : ∀ c p, x.searchable c = true → pv c = some p → S p)

include hp hrow in
theorem plainOperand_eval (o : Operand) (ho : plainOperand x H o = true) :
    evalExpr params' row o.toDb = valOf pv params o := by
  cases o with
  | col c =>
    simp [plainOperand] at ho
    simp [Operand.toDb, evalExpr, valOf, hrow.plain c ho]
  | lit v | cast v | other => rfl
  | param i | castParam i =>
    simp [plainOperand] at ho
    simp [Operand.toDb, evalExpr, valOf, hp i, ho]

include hl hrow in
theorem evalExpr_substr (c : ColRef) (hs : x.searchable c = true) (right bin : Bool) :
    ∃ p, pv c = some p ∧ evalExpr params' row (substrOf x.d right c bin) = some (generateHMAC x.c k p) := by
  obtain ⟨p, e, hpv, hg⟩ := hrow.srch c hs
  exact ⟨p, hpv, by simp [substrOf, substrBounds_eq, evalExpr, hg, sqlSubstr_stored x.c hl]⟩

include hl hnc hrow hpvS in
/-- the rewritten left side of a selected comparison against the hash of `v`: the database compares the row's
stored index with it as the client's operator compares the row's plaintext with `v` -/
theorem evalCmp_substr (c : ColRef) (hs : x.searchable c = true) (op : Op) (hop : hashedOp x.d op = true)
    (bin : Bool) (v : Bytes) (hv : S v) :
    evalCmp (evalExpr params' row (substrOf x.d false c bin)) (changeOp x.d op) (some (generateHMAC x.c k v))
      = evalCmp (pv c) op (some v) := by
  obtain ⟨p, hpv, he⟩ := evalExpr_substr x hl k params' row pv hrow c hs false bin
  rw [he, hpv]
  exact evalOp_hashed x.c k S hnc x.d op hop p v (hpvS c p hs hpv) hv

include hl hk hp hHlt hnc hrow hpvS in
/-- the rewrite of one supported comparison selects a stored row exactly when the comparison the
client wrote holds for the row's plaintexts -/
theorem rewriteCmp_exact (l : Operand) (op : Op) (r : Operand)
    (hsup : supportedCmp x H l op r = true)
    (hsub : ∀ i ∈ itemParams x (.cmp l op r), i ∈ H)
    (hvS : ∀ v ∈ condValues x params (.cmp l op r), S v ∧ registryMatch v = false)
    (dc : DbCond) (hq : rewriteCmp x l op r = .ok dc) :
    evalDb params' row dc = holds pv params (.cmp l op r) := by
  unfold rewriteCmp at hq
  unfold supportedCmp at hsup
  simp only [itemParams] at hsub
  simp only [condValues] at hvS
  have hleft := evalCmp_substr x hl k params' S hnc row pv hrow hpvS
  cases hc : classify x l op r with
  | none =>
    simp only [hc] at hq hsup
    cases hq
    simp only [Bool.and_eq_true] at hsup
    simp only [evalDb, holds, plainOperand_eval x k H params params' hp row pv hrow l hsup.1,
      plainOperand_eval x k H params params' hp row pv hrow r hsup.2]
  | join lc rc =>
    simp only [hc, Bool.and_eq_true] at hq hsup
    cases hq
    obtain ⟨rfl, rfl, _, hsr⟩ := classify_join hc
    obtain ⟨p, hpv, he⟩ := evalExpr_substr x hl k params' row pv hrow rc hsr true false
    show evalCmp _ _ (evalExpr params' row (substrOf x.d true rc false)) = evalCmp (pv lc) op (pv rc)
    rw [he, hpv]
    exact hleft lc hsup.2 op hsup.1 false p (hpvS rc p hsr hpv)
  | value lc v =>
    simp only [hc] at hq hvS
    obtain ⟨rfl, hrq, hsl, hvo⟩ := classify_value hc
    have hv := hvS v (by simp)
    cases hu : updateValue x v with
    | err | panic => simp [hu] at hq
    | ok h =>
      simp only [hu] at hq
      cases hq
      cases updateValue_ok x k v h hk hv.2 hu
      have hval : valOf pv params r = some v := by rcases hrq with rfl | rfl <;> rfl
      show _ = evalCmp (pv lc) op (valOf pv params r)
      rw [hval]
      exact hleft lc hsl op (valueOp_hashedOp x.d op hvo) _ v hv.1
  | param lc i =>
    simp only [hc] at hq hvS hsub
    cases hq
    obtain ⟨rfl, rfl, hsl, hvo⟩ := classify_param hc
    have hiH : i ∈ H := hsub i (by simp)
    have hilt := hHlt i hiH
    have hget : params[i]? = some params[i] := List.getElem?_eq_getElem hilt
    have hp' : params'[i]? = some (generateHMAC x.c k params[i]) := by
      rw [hp i]; simp [hiH, hget]
    show evalCmp _ _ (params'[i]?) = evalCmp (pv lc) op (params[i]?)
    rw [hp', hget]
    exact hleft lc hsl op (valueOp_hashedOp x.d op hvo) false _ (hvS params[i] (by simp [hget])).1
  | castParam lc i =>
    simp [hc] at hsup

end exact

theorem rewriteCond_and {x : QCtx} {a b : Cond} {dc : DbCond} (h : rewriteCond x (.and a b) = .ok dc) :
    ∃ a' b', rewriteCond x a = .ok a' ∧ rewriteCond x b = .ok b' ∧ dc = .and a' b' := by
  simp only [rewriteCond] at h
  cases ha : rewriteCond x a <;> cases hb : rewriteCond x b <;> simp [ha, hb] at h
  exact ⟨_, _, rfl, rfl, h.symm⟩

theorem rewriteCond_or {x : QCtx} {a b : Cond} {dc : DbCond} (h : rewriteCond x (.or a b) = .ok dc) :
    ∃ a' b', rewriteCond x a = .ok a' ∧ rewriteCond x b = .ok b' ∧ dc = .or a' b' := by
  simp only [rewriteCond] at h
  cases ha : rewriteCond x a <;> cases hb : rewriteCond x b <;> simp [ha, hb] at h
  exact ⟨_, _, rfl, rfl, h.symm⟩

theorem search_exact_aux (x : QCtx) (hl : HashLen x.c) (k : Bytes) (hk : x.hkey = some k)
    (H : List Nat) (params params' : List Bytes)
    (hp : ∀ j, params'[j]? = if j ∈ H then (params[j]?).map (generateHMAC x.c k) else params[j]?)
    (hHlt : ∀ j ∈ H, j < params.length)
    (S : Bytes → Prop) (hnc : NoColl x.c k S)
    (row : Row) (pv : ColRef → Option Bytes) (hrow : RowOk x k row pv)
    (hpvS : ∀ c p, x.searchable c = true → pv c = some p → S p) :
    ∀ (cond : Cond) (dc : DbCond), supported x H cond = true → (∀ i ∈ itemParams x cond, i ∈ H) →
      (∀ v ∈ condValues x params cond, S v ∧ registryMatch v = false) →
      rewriteCond x cond = .ok dc → evalDb params' row dc = holds pv params cond := by
  intro cond
  induction cond with
  | cmp l op r =>
    intro dc hsup hsub hvS hq
    exact rewriteCmp_exact x hl k hk H params params' hp hHlt S hnc row pv hrow hpvS l op r hsup hsub hvS dc hq
  | and a b iha ihb =>
    intro dc hsup hsub hvS hq
    obtain ⟨a', b', ha, hb, hdc⟩ := rewriteCond_and hq
    subst hdc
    simp only [supported, Bool.and_eq_true] at hsup
    simp only [itemParams, List.mem_append] at hsub
    simp only [condValues, List.mem_append] at hvS
    simp only [evalDb, holds,
      iha a' hsup.1 (fun i hi => hsub i (Or.inl hi)) (fun v hv => hvS v (Or.inl hv)) ha,
      ihb b' hsup.2 (fun i hi => hsub i (Or.inr hi)) (fun v hv => hvS v (Or.inr hv)) hb]
  | or a b iha ihb =>
    intro dc hsup hsub hvS hq
    obtain ⟨a', b', ha, hb, hdc⟩ := rewriteCond_or hq
    subst hdc
    simp only [supported, Bool.and_eq_true] at hsup
    simp only [itemParams, List.mem_append] at hsub
    simp only [condValues, List.mem_append] at hvS
    simp only [evalDb, holds,
      iha a' hsup.1 (fun i hi => hsub i (Or.inl hi)) (fun v hv => hvS v (Or.inl hv)) ha,
      ihb b' hsup.2 (fun i hi => hsub i (Or.inr hi)) (fun v hv => hvS v (Or.inr hv)) hb]

theorem itemParams_value (x : QCtx) (params : List Bytes) :
    ∀ (cond : Cond) (i : Nat) (v : Bytes), i ∈ itemParams x cond → params[i]? = some v → v ∈ condValues x params cond := by
  intro cond
  induction cond with
  | cmp l op r =>
    intro i v hi hv
    simp only [itemParams] at hi
    simp only [condValues]
    cases hc : classify x l op r with
    | param lc j =>
      simp only [hc, List.mem_singleton] at hi
      subst hi
      simp [hv]
    | _ => simp [hc] at hi
  | and a b iha ihb | or a b iha ihb =>
    intro i v hi hv
    simp only [itemParams, List.mem_append] at hi
    simp only [condValues, List.mem_append]
    exact hi.imp (iha i v · hv) (ihb i v · hv)

/-- the switches regenerated from the source: `OnBind` counts only the placeholders of searchable
columns, and `replaceValuesWithHMACs` replaces a position once (both are the repaired shapes; on the
pinned tree both are `false` and this theorem – with everything built on it – does not check) -/
theorem bind_switches (d : Dialect) : bindCountsSearchableOnly d = true ∧ replacesOnce d = true := by
  cases d <;> decide

theorem bindEntries_true_mem (x : QCtx) :
    ∀ (cond : Cond) (k : Nat), (k, true) ∈ bindEntries x cond → k ∈ itemParams x cond := by
  intro cond
  induction cond with
  | cmp l op r =>
    intro k hk
    cases l with
    | col lc =>
      cases r with
      | param i =>
        simp only [bindEntries] at hk
        split at hk
        · rename_i hc
          simp only [List.mem_singleton, Prod.mk.injEq] at hk
          obtain ⟨hki, hs⟩ := hk
          subst hki
          simp only [Bool.and_eq_true] at hc
          simp [itemParams, classify, ← hs, hc.2]
        · simp at hk
      | _ => simp [bindEntries] at hk
    | _ => simp [bindEntries] at hk
  | and a b iha ihb | or a b iha ihb =>
    intro k hk
    simp only [bindEntries, List.mem_append] at hk
    simp only [itemParams, List.mem_append]
    exact hk.imp (iha k) (ihb k)

theorem assign_keys_nodup (m : List (Nat × Bool)) (k : Nat) (v : Bool) (h : (m.map (·.1)).Nodup) :
    ((assign m k v).map (·.1)).Nodup := by
  unfold assign
  simp only [List.map_cons, List.nodup_cons]
  constructor
  · intro hk
    obtain ⟨e, he, hek⟩ := List.mem_map.mp hk
    have := (List.mem_filter.mp he).2
    simp [hek] at this
  · exact List.Nodup.sublist (List.Sublist.map _ List.filter_sublist) h

theorem assign_mem {m : List (Nat × Bool)} {k : Nat} {v : Bool} {e : Nat × Bool} (h : e ∈ assign m k v) :
    e = (k, v) ∨ e ∈ m := by
  unfold assign at h
  simp only [List.mem_cons] at h
  exact h.elim Or.inl (fun h => Or.inr (List.mem_filter.mp h).1)

theorem foldl_assign_inv (P : Nat → Prop) :
    ∀ (es m : List (Nat × Bool)), (m.map (·.1)).Nodup → (∀ k, (k, true) ∈ m → P k) → (∀ k, (k, true) ∈ es → P k) →
      ((es.foldl (fun m e => assign m e.1 e.2) m).map (·.1)).Nodup ∧
      ∀ k, (k, true) ∈ es.foldl (fun m e => assign m e.1 e.2) m → P k := by
  intro es
  induction es with
  | nil => intro m hn hm _; exact ⟨hn, hm⟩
  | cons e es ih =>
    intro m hn hm he
    simp only [List.foldl_cons]
    apply ih (assign m e.1 e.2) (assign_keys_nodup m e.1 e.2 hn)
    · intro k hk
      cases assign_mem hk with
      | inl h => exact he k (by rw [h]; exact List.mem_cons_self)
      | inr h => exact hm k h
    · intro k hk
      exact he k (List.mem_cons_of_mem _ hk)

/-- **The count check of the repaired `OnBind` can never suppress the hashing**: the placeholders of
searchable columns recorded by `ParseSearchQueryPlaceholdersSettings` are never more than the placeholders
`OnBind` itself collects – whatever else the statement compares (tokenized, encrypted, plain columns). -/
theorem bindCount_own_le (x : QCtx) (cond : Cond) : bindCount true x cond ≤ (itemParams x cond).length := by
  unfold bindCount
  simp only [if_true]
  obtain ⟨hn, hm⟩ := foldl_assign_inv (fun k => k ∈ itemParams x cond) (bindEntries x cond) [] (by simp) (by simp)
    (bindEntries_true_mem x cond)
  have hlen : ((bindData x cond).filter (·.2)).length = (((bindData x cond).filter (·.2)).map (·.1)).length := by simp
  rw [hlen]
  apply List.Nodup.length_le_of_subset
  · exact List.Nodup.sublist (List.Sublist.map _ List.filter_sublist) hn
  · intro k hk
    obtain ⟨e, he, hek⟩ := List.mem_map.mp hk
    obtain ⟨hem, he2⟩ := List.mem_filter.mp he
    apply hm k
    have : e = (k, true) := by cases e; simp_all
    rw [← this]; exact hem

/-- with a key, in-range positions and values that are not themselves envelopes the replacement succeeds, and
hashes exactly the listed positions, once each -/
theorem hashShared_ok (x : QCtx) (k : Bytes) (hk : x.hkey = some k) (values : List Bytes) :
    ∀ (idxs done : List Nat) (acc : List Bytes), acc.length = values.length →
      (∀ i ∈ idxs, i < values.length) →
      (∀ i ∈ idxs, ∀ v, values[i]? = some v → registryMatch v = false) →
      (∀ j, acc[j]? = if j ∈ done then (values[j]?).map (generateHMAC x.c k) else values[j]?) →
      ∃ out, hashShared x true idxs done acc = .ok out ∧
        ∀ j, out[j]? = if j ∈ done ∨ j ∈ idxs then (values[j]?).map (generateHMAC x.c k) else values[j]? := by
  intro idxs
  induction idxs with
  | nil => intro done acc _ _ _ hacc; exact ⟨acc, rfl, fun j => by simp [hacc j]⟩
  | cons i is ih =>
    intro done acc hlen hlt hm hacc
    have hlt' := fun i' hi' => hlt i' (List.mem_cons_of_mem _ hi')
    have hm' := fun i' hi' => hm i' (List.mem_cons_of_mem _ hi')
    unfold hashShared
    by_cases hd : i ∈ done
    · simp only [Bool.true_and, List.contains_iff_mem, hd, if_true]
      obtain ⟨out, ho, hs⟩ := ih done acc hlen hlt' hm' hacc
      refine ⟨out, ho, fun j => ?_⟩
      rw [hs j]
      by_cases hj : j = i
      · subst hj; simp [hd]
      · simp [hj]
    · simp only [Bool.true_and, List.contains_iff_mem, hd, if_false]
      have hilt : i < values.length := hlt i List.mem_cons_self
      have hv : values[i]? = some values[i] := List.getElem?_eq_getElem hilt
      have hai : acc[i]? = some values[i] := by rw [hacc i]; simp [hd, hv]
      simp only [hai, calcHmac_plain x k _ hk (hm i List.mem_cons_self _ hv)]
      obtain ⟨out, ho, hs⟩ := ih (i :: done) (acc.set i (generateHMAC x.c k values[i])) (by simp [hlen]) hlt' hm' fun j => by
        by_cases hji : j = i
        · subst hji; simp [hlen, hilt]
        · have hij : ¬ i = j := fun e => hji e.symm
          simp [hij, hji, hacc j]
      refine ⟨out, ho, fun j => ?_⟩
      rw [hs j]
      by_cases hji : j = i
      · subst hji; simp
      · simp [hji]

/-- `OnBind` with the switches as regenerated: the count check never fires (`bindCount_own_le`) -/
theorem rewriteBind_eq (x : QCtx) (cond : Cond) (params : List Bytes) :
    rewriteBind x cond params = if (itemParams x cond).any (fun i => params.length ≤ i) then .err
      else hashShared x true (itemParams x cond) [] params := by
  unfold rewriteBind rewriteBindWith
  rw [(bind_switches x.d).1, (bind_switches x.d).2]
  dsimp only
  rw [if_neg (Nat.not_lt.mpr (bindCount_own_le x cond))]

/-- `OnBind` succeeds only with every collected placeholder inside the bound values -/
theorem rewriteBind_lt {x : QCtx} {cond : Cond} {params params' : List Bytes}
    (hb : rewriteBind x cond params = .ok params') : ∀ j ∈ itemParams x cond, j < params.length := by
  rw [rewriteBind_eq] at hb
  split at hb
  · cases hb
  · rename_i hany
    intro j hj
    exact Nat.lt_of_not_le fun h => hany (List.any_eq_true.mpr ⟨j, hj, by simpa using h⟩)

/-- **`OnBind` hashes every search parameter, whatever else the statement compares**: with an HMAC key,
every placeholder of a searchable comparison inside the bound values and no bound search value that is
itself an envelope, `OnBind` succeeds – it never falls back to forwarding the values as the client sent
them – and the values it forwards are hashed exactly at the placeholders of searchable comparisons
(once each, also when a placeholder is used in several comparisons) and untouched elsewhere. -/
theorem rewriteBind_ok (x : QCtx) (k : Bytes) (hk : x.hkey = some k) (cond : Cond) (params : List Bytes)
    (hlt : ∀ j ∈ itemParams x cond, j < params.length)
    (hm : ∀ v ∈ condValues x params cond, registryMatch v = false) :
    ∃ params', rewriteBind x cond params = .ok params' ∧
      ∀ j, params'[j]? = if j ∈ itemParams x cond then (params[j]?).map (generateHMAC x.c k) else params[j]? := by
  have hany : ¬ ((itemParams x cond).any fun i => decide (params.length ≤ i)) = true := by
    intro h
    obtain ⟨j, hj, hle⟩ := List.any_eq_true.mp h
    exact Nat.not_le.mpr (hlt j hj) (by simpa using hle)
  rw [rewriteBind_eq, if_neg hany]
  simpa using hashShared_ok x k hk params (itemParams x cond) [] params rfl hlt
    (fun i hi v hv => hm v (itemParams_value x params cond i v hi hv)) (by simp)

end AcraModel.Searchable
