import AcraModel.Proxy.LitCoder
/-!
What the literal coders return, for EVERY literal text – given the regenerated fact about which slice
`DecodeEscaped` returns in each branch (hypothesis `hf`; discharged in `Props/C04.lean` by
`fact_decodeEscaped_returns`, so that a source in which another variable is returned breaks that one theorem
and nothing in the model library).
-/
namespace AcraModel.Proxy
open AcraModel

/-- the returns of `utils.DecodeEscaped` the model's theorems need: the INPUT travels next to both errors -/
def escReturnsExpected : List (String × String × String) :=
  [("hex.err", "data", "err"), ("hex", "output", "err"), ("octal.err", "data", "ErrDecodeOctalString"), ("octal", "result", "nil")]

theorem escSliceTag_of (hf : Generated.PgCoder.decodeEscapedReturns = escReturnsExpected) :
    escSliceTag "hex" = "output" ∧ escSliceTag "hex.err" = "data" ∧ escSliceTag "octal" = "result" ∧ escSliceTag "octal.err" = "data" := by
  unfold escSliceTag
  rw [hf]
  decide +kernel

/-- `DecodeEscaped` in Go terms: the decoded bytes without error, or THE INPUT next to the error -/
theorem decodeEscapedGo_eq (hf : Generated.PgCoder.decodeEscapedReturns = escReturnsExpected) (data : Bytes) :
    decodeEscapedGo data =
      match Wire.Bytea.decodeEscaped data with
      | .ok b => (b, none)
      | .error e => (data, some e) := by
  obtain ⟨h1, h2, h3, h4⟩ := escSliceTag_of hf
  unfold decodeEscapedGo Wire.Bytea.decodeEscaped
  rw [h1, h2, h3, h4]
  split
  · next h => cases hd : Wire.Bytea.hexDecode h <;> simp [retSlice, hd]
  · cases hd : Wire.Bytea.decodeOctal data <;> simp [retSlice]

/-- `PgQueryDBDataCoder.Decode` of a string literal in terms of the codec's outcome -/
theorem pgDecodeSval_eq (hf : Generated.PgCoder.decodeEscapedReturns = escReturnsExpected) (typed : Bool) (lit : Bytes) :
    pgDecodeSval typed lit =
      if typed then some lit else
      match Wire.Bytea.decodeEscaped lit with
      | .ok b => some b
      | .error .octal => some lit
      | .error .hex => none := by
  rw [pgDecodeSval, decodeEscapedGo_eq hf]
  cases typed <;> rcases Wire.Bytea.decodeEscaped lit with (_ | _) | _ <;> rfl

theorem decodeEscaped_hex_error (lit : Bytes) :
    Wire.Bytea.decodeEscaped lit = .error .hex ↔ ∃ h, lit = 92 :: 120 :: h ∧ Wire.Bytea.hexDecode h = none := by
  unfold Wire.Bytea.decodeEscaped
  split
  · next h => cases hd : Wire.Bytea.hexDecode h <;> simp [hd]
  · next hne =>
    refine ⟨fun h => ?_, fun ⟨h, e, _⟩ => absurd e (hne h)⟩
    cases hd : Wire.Bytea.decodeOctal lit <;> simp [hd] at h

/-- the decoded value is empty only when the literal denotes the empty byte string -/
theorem decodeEscaped_ok_nil (lit : Bytes) (h : Wire.Bytea.decodeEscaped lit = .ok []) : lit = [] ∨ lit = [92, 120] := by
  unfold Wire.Bytea.decodeEscaped at h
  split at h
  · next hx =>
    cases hd : Wire.Bytea.hexDecode hx with
    | none => simp [hd] at h
    | some b =>
      simp only [hd, Except.ok.injEq] at h
      rw [hexDecode_nil hx (h ▸ hd)]
      exact .inr rfl
  · cases hd : Wire.Bytea.decodeOctal lit with
    | none => simp [hd] at h
    | some b =>
      simp only [hd, Except.ok.injEq] at h
      exact .inl (decodeOctal_nil lit (h ▸ hd))

/-- **the coder is total except for broken hex**: an error is returned exactly for `\x` followed by invalid hex -/
theorem pgDecodeSval_none_iff (hf : Generated.PgCoder.decodeEscapedReturns = escReturnsExpected) (typed : Bool) (lit : Bytes) :
    pgDecodeSval typed lit = none ↔ typed = false ∧ ∃ h, lit = 92 :: 120 :: h ∧ Wire.Bytea.hexDecode h = none := by
  rw [pgDecodeSval_eq hf, ← decodeEscaped_hex_error]
  cases typed <;> rcases Wire.Bytea.decodeEscaped lit with (_ | _) | _ <;> simp

/-- **what the chain receives**: the decoded bytes or the literal's text itself – and nothing empty unless the
literal denotes the empty byte string (`''`, or `'\x'` for a column without text type) -/
theorem pgDecodeSval_some (hf : Generated.PgCoder.decodeEscapedReturns = escReturnsExpected) (typed : Bool) (lit raw : Bytes)
    (h : pgDecodeSval typed lit = some raw) :
    (raw = lit ∨ Wire.Bytea.decodeEscaped lit = .ok raw) ∧ (raw = [] → lit = [] ∨ (typed = false ∧ lit = [92, 120])) := by
  rw [pgDecodeSval_eq hf] at h
  cases typed with
  | true => cases h; exact ⟨.inl rfl, .inl⟩
  | false =>
    simp only [Bool.false_eq_true, if_false] at h
    split at h
    · next b hd =>
      cases h
      exact ⟨.inr hd, fun hb => (decodeEscaped_ok_nil lit (hb ▸ hd)).imp_right fun h => ⟨rfl, h⟩⟩
    · cases h; exact ⟨.inl rfl, .inl⟩
    · cases h

/-- MySQL: string and integer literals reach the chain as they are; hex literals decoded, an error only for
invalid hex digits / odd length -/
theorem myDecode_spec (k : MyLit) (v : Bytes) :
    (k = .str ∨ k = .int → myDecode k v = some v) ∧
    (k = .hexVal → myDecode k v = Wire.Bytea.hexDecode v) ∧
    (∀ raw, myDecode k v = some raw → raw = [] → v = [] ∨ (k = .hexNum ∧ v = hexNumPrefix)) := by
  refine ⟨by rintro (rfl | rfl) <;> rfl, by rintro rfl; rfl, ?_⟩
  rintro raw h rfl
  cases k with
  | str => exact .inl (Option.some.inj h)
  | int => exact .inl (Option.some.inj h)
  | hexVal => exact .inl (hexDecode_nil v h)
  | hexNum =>
    simp only [myDecode] at h
    split at h
    · next hp => exact .inr ⟨rfl, by rw [← List.take_append_drop 2 v, hp, hexDecode_nil _ h, List.append_nil]⟩
    · exact .inl (Option.some.inj h)

end AcraModel.Proxy
