import AcraModel.Proxy.Pending
/-
SqlPrepared: SQL-level prepared statements of the simple protocol – `PREPARE name AS stmt`, `EXECUTE name (args)`,
`DEALLOCATE name | ALL` – in the PostgreSQL proxy.

Code: `decryptor/postgresql/prepared_statements_sql_observer.go` (`PreparedStatementsQuery.OnQuery`, the FIRST query
observer of `proxyFactory.New`: it works on `proxy.registry`, the SAME registry the extended protocol's Parse / Bind
use), `prepared_statements.go` (`AddStatement`, `DeleteStatement`, `DeleteNamedStatements`) and the statement
resolution at the head of `PgProxy.handleQueryDataPacket`:

* `PREPARE n AS s`  – refused (error, statement forwarded unanalysed) when `n` is registered; otherwise `s`
  (deparsed) is registered under `n`, then the inner statement goes through the query encryptor;
* `EXECUTE n (…)`   – error when `n` is not registered; otherwise the arguments are bound values of the
  registered statement (`OnBind`); the registry is not changed. The pending entry is the simple query TEXT;
* `DEALLOCATE n`    – error when `n` is not registered, otherwise `DeleteStatement n`;
* `DEALLOCATE ALL`  – (after the `fix:` commit) every named statement is deleted; the unnamed one stays;
* a DataRow whose pending entry is `EXECUTE n` is processed with the settings of what the registry holds under
  `n` WHEN THE ROW ARRIVES (`proxy.registry.StatementByName`), an Execute of the extended protocol with the
  statement its queue entry captured, any other simple query with its own text. Nothing else is consulted:
  `rowResolve` is a function of (registry, queue) – the model has no memo across rows or statements.

Second half: the joint system proxy + database with SQL-level prepared statements (`sql_prepare_pairs`).
-/
namespace AcraModel.Proxy

/-- what `pg_query` makes of the (first) statement of a simple Query, as far as the proxy distinguishes -/
inductive SqlCmd (α : Type) where
  /-- any statement that is not PREPARE / EXECUTE / DEALLOCATE -/
  | plain (s : α)
  | prepare (n : Name) (s : α)
  | execute (n : Name)
  | deallocate (n : Name)
  | deallocateAll
deriving DecidableEq, Repr

namespace SqlCmd
/-- does the command change the table of prepared statements (when it succeeds) -/
def changesRegistry {α} : SqlCmd α → Bool
  | .prepare _ _ | .deallocate _ | .deallocateAll => true
  | _ => false
end SqlCmd

namespace Registry
variable {α β : Type}

/-- `DeleteStatement`: the statement and the portals bound to it -/
def deleteStatement (r : Registry α β) (n : Name) : Registry α β :=
  match r.stmt n with
  | none => r
  | some old =>
    { r with stmts := r.stmts.filter (·.1 != n),
             portals := r.portals.filter (fun (p, _) => !old.cursors.contains p) }

/-- `DeleteNamedStatements` (DEALLOCATE ALL): every statement with a non-empty name and their portals -/
def deleteNamed (r : Registry α β) : Registry α β :=
  let dead := (r.stmts.filter (·.1 != "")).flatMap (·.2.cursors)
  { r with stmts := r.stmts.filter (·.1 == ""),
           portals := r.portals.filter (fun (p, _) => !dead.contains p) }

/-- the registry as the row handler sees it: name ↦ registered statement -/
def view (r : Registry α β) (n : Name) : Option α := (r.stmt n).map (·.payload)
end Registry

/-- `PreparedStatementsQuery.OnQuery` on the registry; the flag says whether the observer succeeded (on an error
`handleQueryPacket` logs it and forwards the statement as received, without running the query encryptor) -/
def sqlObserve {α β} (r : Registry α β) : SqlCmd α → Registry α β × Bool
  | .plain _ => (r, true)
  | .prepare n s =>
    match r.stmt n with
    | some _ => (r, false)                       -- ErrStatementAlreadyInRegistry
    | none => (r.addStatement n s, true)
  | .execute n => (r, (r.stmt n).isSome)         -- ErrStatementNotPresentInRegistry
  | .deallocate n =>
    match r.stmt n with
    | none => (r, false)                         -- ErrStatementNotPresentInRegistry
    | some _ => (r.deleteStatement n, true)
  | .deallocateAll => (r.deleteNamed, true)

/-- a pending entry of the real queue: the simple query (its text, read as a command when a row arrives), or the
prepared statement and the Bind of an executed portal -/
inductive SSrc (α β : Type) where
  | sql (c : SqlCmd α)
  | extended (s : α) (b : β)
deriving DecidableEq, Repr

/-- client-side events (after AcraCensor) -/
inductive SClEv (α β : Type) where
  | query (c : SqlCmd α) (censored : Bool)
  | parse (name : Name) (s : α) (censored : Bool)
  | bind (portal stmt : Name) (b : β)
  | execute (portal : Name)
  | sync
  | other
deriving Repr

structure SState (α β : Type) where
  pending : List (Entry (SSrc α β)) := []
  reg : Registry α β := {}

/-- `PgProxy.handleClientPacket` with SQL-level prepared statements: `clStep` where a simple query first goes
through `PreparedStatementsQuery.OnQuery` (inside `handleQueryPacket`) and is then remembered as pending whether
or not the observer succeeded -/
def sclStep {α β} (st : SState α β) : SClEv α β → Option (SState α β × Bool)
  | .query c censored =>
    if censored then some (st, false)
    else some ({ pending := st.pending ++ [.query (.sql c), .sync], reg := (sqlObserve st.reg c).1 }, true)
  | .parse n s censored =>
    if censored then some (st, false) else some ({ st with reg := st.reg.addStatement n s }, true)
  | .bind p n b =>
    match st.reg.addCursor p n b with
    | none => none
    | some r => some ({ st with reg := r }, true)
  | .execute p =>
    match st.reg.portal p with
    | none => none
    | some (_, s, b) => some ({ st with pending := st.pending ++ [.query (.extended s b)] }, true)
  | .sync => some ({ st with pending := st.pending ++ [.sync] }, true)
  | .other => some (st, true)

/-- outcome of the statement resolution at the head of `handleQueryDataPacket` -/
inductive RowRes (α : Type) where
  /-- no pending statement (or a sync point): the row is forwarded unprocessed -/
  | unprocessed
  /-- `EXECUTE n` with `n` not in the registry: the handler returns the error, the connection is closed -/
  | closed
  /-- the row's columns are processed with the settings of this statement -/
  | stmt (s : α)
  /-- a statement that has no result columns of its own (PREPARE / DEALLOCATE text): no settings -/
  | noSettings
deriving DecidableEq, Repr

/-- lookup of a command against a name ↦ statement table -/
def resolveCmd {α} (f : Name → Option α) : SqlCmd α → RowRes α
  | .plain s => .stmt s
  | .execute n => match f n with | some s => .stmt s | none => .closed
  | _ => .noSettings

/-- **the statement whose settings a DataRow is processed with** – a function of the registry and the queue -/
def rowResolve {α β} (r : Registry α β) : List (Entry (SSrc α β)) → RowRes α
  | .query (.extended s _) :: _ => .stmt s
  | .query (.sql c) :: _ => resolveCmd r.view c
  | _ => .unprocessed

/-- effect of a command on a name ↦ statement table: what `sqlObserve` does to `Registry.view`, and what a
PostgreSQL backend does to its own table of prepared statements when the command succeeds (when it fails –
PREPARE of a name in use, DEALLOCATE of an unknown name – the table stays as it is: then `regEff` is the identity) -/
def regEff {α} (f : Name → Option α) : SqlCmd α → Name → Option α
  | .prepare n s => fun m => if m == n then (match f n with | some x => some x | none => some s) else f m
  | .deallocate n => fun m => if m == n then none else f m
  | .deallocateAll => fun m => if m == "" then f m else none
  | _ => f

theorem regEff_prepare_bound {α} {f : Name → Option α} {n : Name} {x : α} (h : f n = some x) (s : α) :
    regEff f (.prepare n s) = f := by
  funext m
  by_cases hm : m = n <;> simp [regEff, hm, h]

theorem regEff_deallocate_free {α} {f : Name → Option α} {n : Name} (h : f n = none) : regEff f (.deallocate n) = f := by
  funext m
  by_cases hm : m = n <;> simp [regEff, hm, h]

namespace Registry
variable {α β : Type}

theorem find_filter_key {γ : Type} (l : List (Name × γ)) (keep : Name → Bool) (m : Name) :
    (l.filter (keep ·.1)).find? (·.1 == m) = if keep m then l.find? (·.1 == m) else none := by
  induction l with
  | nil => simp
  | cons x r ih =>
    by_cases hx : x.1 = m
    · subst hx
      cases hk : keep x.1 <;> simp [hk, ih]
    · cases hk : keep x.1 <;> simp [hk, hx, ih]

theorem find_filter_self (l : List (Name × Prepared α)) (n : Name) :
    (l.filter (·.1 != n)).find? (·.1 == n) = none :=
  (find_filter_key l (· != n) n).trans (by simp)

theorem view_addStatement (r : Registry α β) (n : Name) (s : α) (m : Name) :
    (r.addStatement n s).view m = if m == n then some s else r.view m := by
  simp only [view, stmt, addStatement, List.find?_cons, find_filter_key _ (· != n) m]
  by_cases h : m = n
  · subst h; simp
  · have hb : (n == m) = false := by simpa using fun e : n = m => h e.symm
    simp [h, hb]

theorem view_deleteStatement (r : Registry α β) (n m : Name) :
    (r.deleteStatement n).view m = if m == n then none else r.view m := by
  unfold deleteStatement
  cases hs : r.stmt n with
  | none =>
    by_cases h : m = n
    · subst h; simp [view, hs]
    · simp [h]
  | some old =>
    simp only [view, stmt, find_filter_key _ (· != n) m]
    by_cases h : m = n <;> simp [h]

theorem view_deleteNamed (r : Registry α β) (m : Name) :
    r.deleteNamed.view m = if m == "" then r.view m else none := by
  simp only [view, stmt, deleteNamed, find_filter_key _ (· == "") m]
  split <;> rfl

end Registry

/-- **`PreparedStatementsQuery.OnQuery` refines `regEff`**: what the row handler can see of the registry after the
observer ran is `regEff` of what it could see before -/
theorem sqlObserve_view {α β} (r : Registry α β) (c : SqlCmd α) : (sqlObserve r c).1.view = regEff r.view c := by
  cases c with
  | plain s => rfl
  | execute n => rfl
  | deallocateAll => funext m; simp only [sqlObserve, regEff, Registry.view_deleteNamed]
  | prepare n s =>
    simp only [sqlObserve]
    cases hs : r.stmt n with
    | some old => exact (regEff_prepare_bound (by rw [Registry.view, hs]; rfl) s).symm
    | none =>
      have hv : r.view n = none := by rw [Registry.view, hs]; rfl
      funext m
      simp only [Registry.view_addStatement, regEff, hv]
  | deallocate n =>
    simp only [sqlObserve]
    cases hs : r.stmt n with
    | none => exact (regEff_deallocate_free (by rw [Registry.view, hs]; rfl)).symm
    | some old => funext m; simp only [Registry.view_deleteStatement, regEff]

/-! ### the joint system with SQL-level prepared statements

`Joint (SqlCmd α)` (queue `p` of the proxy, unanswered requests `d` of the database, `skipping`) plus the two tables
of prepared statements: `preg` – what the proxy's registry shows (`Registry.view`), changed when a statement is
SENT; `dreg` – the database's own table, changed when the statement COMPLETES.

Rules in addition to those of `jstep`:
* client: a statement that changes the table (PREPARE / DEALLOCATE) is sent when nothing is outstanding (`d = []`, not
  skipping) – what every client of the simple protocol does (it waits for ReadyForQuery). EXECUTE, other statements
  and extended-protocol requests may be pipelined freely. Without this rule the proxy – which resolves `EXECUTE n`
  when the ROW arrives – can use a later binding of `n` (`overtake_counterexample`);
* database: `PREPARE n` completes iff `n` is free (else it fails), `DEALLOCATE n` iff `n` is bound, `DEALLOCATE ALL`
  always, `EXECUTE n` returns rows / completes only if `n` is bound. A PREPARE of a free name that the database
  rejects for another reason (unknown table …) is outside the rules: the proxy has registered the name by then
  (`rejected_prepare_counterexample`, known finding `sql-prepare-rejected-name-sticky`).
-/

/-- events of the joint system -/
inductive SJEv (α : Type) where
  | send (r : Entry (SqlCmd α))
  | row
  | done
  | error
  | ready
deriving Repr

structure SJoint (α : Type) where
  j : Joint (SqlCmd α) := {}
  preg : Name → Option α := fun _ => none
  dreg : Name → Option α := fun _ => none

/-- the command at the head of a queue, if it is a statement -/
def headCmd {α} : List (Entry (SqlCmd α)) → Option (SqlCmd α)
  | .query c :: _ => some c
  | _ => none

/-- is the database able to complete the command now -/
def dbAccepts {α} (f : Name → Option α) : SqlCmd α → Bool
  | .prepare n _ => (f n).isNone
  | .deallocate n => (f n).isSome
  | .execute n => (f n).isSome
  | _ => true

/-- client rule: a statement that changes the table of prepared statements is not sent while anything is outstanding -/
def sendBlocked {α} (s : SJoint α) : Entry (SqlCmd α) → Bool
  | .query c => c.changesRegistry && (!s.j.d.isEmpty || s.j.skipping)
  | .sync => false

/-- database rule: a statement that changes the table fails only when the table says so -/
def errorBlocked {α} (s : SJoint α) : Bool :=
  match headCmd s.j.d with
  | some c => c.changesRegistry && dbAccepts s.dreg c
  | none => false

/-- the proxy's table after it has seen a request -/
def pregAfter {α} (f : Name → Option α) : Entry (SqlCmd α) → Name → Option α
  | .query c => regEff f c
  | .sync => f

/-- one step; for `row` the pair (statement the database is answering, resolution by the proxy) -/
def sjstep {α} (s : SJoint α) : SJEv α → Option (SJoint α × Option (α × RowRes α))
  | .send r =>
    if sendBlocked s r then none else
    match jstep s.j (.send r) with
    | none => none
    | some (j', _) => some ({ s with j := j', preg := pregAfter s.preg r }, none)
  | .row =>
    match jstep s.j .row with
    | some (j', some (q, x)) =>
      match resolveCmd s.dreg q with
      | .stmt st =>
        let px : RowRes α := match x with | some c => resolveCmd s.preg c | none => .unprocessed
        some ({ s with j := j' }, some (st, px))
      | _ => none
    | _ => none
  | .done =>
    match headCmd s.j.d with
    | none => none
    | some c =>
      if !dbAccepts s.dreg c then none else
      match jstep s.j .done with
      | none => none
      | some (j', _) => some ({ s with j := j', dreg := regEff s.dreg c }, none)
  | .error =>
    if errorBlocked s then none else
    match jstep s.j .error with
    | none => none
    | some (j', _) => some ({ s with j := j' }, none)
  | .ready =>
    match jstep s.j .ready with
    | none => none
    | some (j', _) => some ({ s with j := j' }, none)

def sjrun {α} : SJoint α → List (SJEv α) → Option (SJoint α × List (α × RowRes α))
  | s, [] => some (s, [])
  | s, e :: es =>
    match sjstep s e with
    | none => none
    | some (s', o) =>
      match sjrun s' es with
      | none => none
      | some (s'', os) => some (s'', (match o with | some x => [x] | none => []) ++ os)

/-- what the proxy's table must be, given the database's table and its unanswered requests: a statement that
changes the table is outstanding only at the head of `d`, and the proxy has applied it already -/
def expectedPreg {α} (dreg : Name → Option α) (d : List (Entry (SqlCmd α))) : Name → Option α :=
  match headCmd d with
  | some c => regEff dreg c
  | none => dreg

def noChangeIn {α} (l : List (Entry (SqlCmd α))) : Prop :=
  ∀ c, Entry.query c ∈ l → c.changesRegistry = false

structure SInv {α} (s : SJoint α) : Prop where
  base : Inv s.j
  tail : noChangeIn s.j.d.tail
  reg : s.preg = expectedPreg s.dreg s.j.d

theorem regEff_noChange {α} (f : Name → Option α) (c : SqlCmd α) (h : c.changesRegistry = false) : regEff f c = f := by
  cases c <;> first | rfl | cases h

theorem regEff_refused {α} (f : Name → Option α) (c : SqlCmd α) (h : dbAccepts f c = false) : regEff f c = f := by
  cases c with
  | plain s => rfl
  | execute n => rfl
  | deallocateAll => cases h
  | prepare n s =>
    obtain ⟨x, hx⟩ := Option.isSome_iff_exists.mp (by simpa [dbAccepts] using h)
    exact regEff_prepare_bound hx s
  | deallocate n => exact regEff_deallocate_free (by simpa [dbAccepts] using h)

/-- a request that leaves the table of prepared statements alone -/
def Entry.noChange {α} (r : Entry (SqlCmd α)) : Prop := ∀ c, r = .query c → c.changesRegistry = false

theorem pregAfter_noChange {α} (f : Name → Option α) {r : Entry (SqlCmd α)} (h : r.noChange) : pregAfter f r = f := by
  cases r with
  | sync => rfl
  | query c => exact regEff_noChange f c (h c rfl)

theorem noChangeIn_tail {α} {l : List (Entry (SqlCmd α))} (h : noChangeIn l) : noChangeIn l.tail :=
  fun c hc => h c (List.mem_of_mem_tail hc)

theorem expectedPreg_noChange {α} (f : Name → Option α) {l : List (Entry (SqlCmd α))} (h : noChangeIn l) : expectedPreg f l = f := by
  cases l with
  | nil => rfl
  | cons a t =>
    cases a with
    | sync => rfl
    | query c => exact regEff_noChange f c (h c (List.mem_cons_self ..))

/-- a request joins the unanswered ones; behind others only if it leaves the table alone -/
theorem noChangeIn_tail_append {α} {d : List (Entry (SqlCmd α))} {r : Entry (SqlCmd α)} (ht : noChangeIn d.tail)
    (hr : d ≠ [] → r.noChange) : noChangeIn (d ++ [r]).tail := by
  cases d with
  | nil => exact nofun
  | cons a t =>
    intro c hc
    rcases List.mem_append.mp hc with h | h
    · exact ht c h
    · exact hr nofun c (List.mem_singleton.mp h).symm

theorem expectedPreg_append {α} (f : Name → Option α) {d : List (Entry (SqlCmd α))} {r : Entry (SqlCmd α)}
    (hr : d ≠ [] → r.noChange) : expectedPreg f (d ++ [r]) = pregAfter (expectedPreg f d) r := by
  cases d with
  | nil => cases r <;> rfl
  | cons a t =>
    rw [pregAfter_noChange _ (hr nofun)]
    cases a <;> rfl

theorem headCmd_dropToSync {α} (l : List (Entry (SqlCmd α))) : headCmd (dropToSync false l) = none := by
  induction l with
  | nil => rfl
  | cons x r ih => cases x <;> first | rfl | exact ih

theorem sinv_init {α} : SInv ({} : SJoint α) :=
  ⟨inv_init, (by intro c h; cases h), rfl⟩

/-- every enabled step keeps the invariant; at a DataRow the proxy resolves to the statement the database answers -/
theorem sinv_step {α} (s s' : SJoint α) (e : SJEv α) (o : Option (α × RowRes α)) (hi : SInv s)
    (hs : sjstep s e = some (s', o)) : SInv s' ∧ (∀ st x, o = some (st, x) → x = .stmt st) := by
  obtain ⟨⟨p, d, sk⟩, preg, dreg⟩ := s
  obtain ⟨hbase, htail, hreg⟩ := hi
  dsimp only at htail hreg
  subst hreg
  cases e with
  | send r =>
    dsimp only [sjstep, jstep] at hs
    split at hs
    · cases hs
    · next hg =>
      cases hs
      -- a statement that changes the table is sent only when nothing is outstanding
      have hr : d ≠ [] ∨ sk = true → r.noChange := by
        rintro h c rfl
        cases hch : c.changesRegistry with
        | false => rfl
        | true => rcases h with h | h <;> simp [sendBlocked, hch, h] at hg
      refine ⟨⟨(inv_step _ _ (.send r) none hbase rfl).1, ?_, ?_⟩, nofun⟩ <;> dsimp only <;> split
      · exact htail
      · exact noChangeIn_tail_append htail fun h => hr (.inl h)
      · next hsk => exact pregAfter_noChange _ (hr (.inr (Bool.and_eq_true _ _ ▸ hsk).1))
      · exact (expectedPreg_append _ fun h => hr (.inl h)).symm
  | row =>
    rcases d with _ | ⟨q | _, t⟩ <;> try cases hs
    dsimp only [sjstep, jstep] at hs
    split at hs
    · next st hr =>
      cases hs
      refine ⟨⟨hbase, htail, rfl⟩, ?_⟩
      rintro _ _ ⟨⟩
      -- the head is a statement with rows: it does not change the table, so the two tables agree on it
      have hnc : q.changesRegistry = false := by cases q <;> first | rfl | cases hr
      rw [(inv_step _ _ .row _ hbase rfl).2 q _ rfl]
      exact (congrArg (resolveCmd · q) (regEff_noChange dreg q hnc)).trans hr
    · cases hs
  | done =>
    rcases d with _ | ⟨c | _, t⟩ <;> try cases hs
    dsimp only [sjstep, jstep, headCmd] at hs
    split at hs <;> cases hs
    exact ⟨⟨(inv_step _ _ .done none hbase rfl).1, noChangeIn_tail htail, (expectedPreg_noChange _ htail).symm⟩, nofun⟩
  | error =>
    dsimp only [sjstep, jstep] at hs
    split at hs
    · cases hs
    · next hb =>
      cases sk <;> cases hs
      refine ⟨⟨(inv_step _ _ .error none hbase rfl).1, fun c hc => htail c (dropToSync_tail_mem d _ hc), ?_⟩, nofun⟩
      dsimp only [expectedPreg]
      rw [headCmd_dropToSync]
      -- a statement at the head fails: it leaves the table alone, or the database refused it
      cases hh : headCmd d with
      | none => rfl
      | some c =>
        cases hch : c.changesRegistry with
        | false => exact regEff_noChange _ _ hch
        | true => exact regEff_refused _ _ (by simpa [errorBlocked, hh, hch] using hb)
  | ready =>
    rcases d with _ | ⟨_ | _, t⟩ <;> cases hs
    exact ⟨⟨(inv_step _ _ .ready none hbase rfl).1, noChangeIn_tail htail, (expectedPreg_noChange _ htail).symm⟩, nofun⟩

theorem sinv_run {α} {evs : List (SJEv α)} {s s' : SJoint α} {obs : List (α × RowRes α)} (hi : SInv s)
    (hr : sjrun s evs = some (s', obs)) : SInv s' ∧ ∀ st x, (st, x) ∈ obs → x = .stmt st := by
  induction evs generalizing s obs with
  | nil => cases hr; exact ⟨hi, nofun⟩
  | cons e es ih =>
    dsimp only [sjrun] at hr
    split at hr
    · cases hr
    · next s1 o h1 =>
      split at hr <;> cases hr
      next s2 os h2 =>
      obtain ⟨hi1, ho⟩ := sinv_step s s1 e o hi h1
      obtain ⟨hi2, hos⟩ := ih hi1 h2
      cases o with
      | none => exact ⟨hi2, hos⟩
      | some y => exact ⟨hi2, fun st x hm => (List.mem_cons.mp hm).elim (fun h => ho st x (h ▸ rfl)) (hos st x)⟩

end AcraModel.Proxy
