import AcraModel.Proxy.Placement
/-!
Helper lemmas about `Placement.lean`: the rewrite of a statement keeps the frame (table, column list,
RETURNING, number and arity of rows), leaves every cell of an unconfigured column untouched and applies
the transformer – with the column's own setting – to exactly the cells of configured columns.
-/
namespace AcraModel.Proxy

/-- relation between a received cell and the forwarded cell of column `c` -/
def cellRel {σ} (f : Xf σ) (t : Table) (c : Name) (v v' : Cell) : Prop :=
  match t.setting c with
  | none => v' = v
  | some s => ∃ st st', f s v st = some (v', st')

/-- cell-wise relation of a row against the column list; cells beyond the column list are untouched -/
def rowRel (R : Name → Cell → Cell → Prop) : List Name → List Cell → List Cell → Prop
  | c :: cs, v :: vs, v' :: vs' => R c v v' ∧ rowRel R cs vs vs'
  | _ :: _, [], [] => True
  | [], vs, vs' => vs' = vs
  | _, _, _ => False

theorem xfRow_rel {σ} {f : Xf σ} {t : Table} {cols : List Name} {r r' : List Cell} {st st' : σ}
    (h : xfRow f t cols r st = some (r', st')) : rowRel (cellRel f t) cols r r' := by
  fun_induction xfRow f t cols r st generalizing r' st' with
  | case1 c cs v vs st hs ih =>
    obtain ⟨⟨r1, st1⟩, h1, h2⟩ := Option.map_eq_some_iff.mp h
    cases h2
    exact ⟨by simp [cellRel, hs], ih h1⟩
  | case2 => cases h
  | case3 c cs v vs st s hs v' st1 hf ih =>
    obtain ⟨⟨r1, st2⟩, h1, h2⟩ := Option.map_eq_some_iff.mp h
    cases h2
    exact ⟨by simp only [cellRel, hs]; exact ⟨st, st1, hf⟩, ih h1⟩
  | case4 cols vs st hn =>
    cases h
    match cols, vs, hn with
    | [], vs, _ => cases vs <;> rfl
    | _ :: _, [], _ => trivial
    | c :: cs, v :: vs, hn => exact (hn c cs v vs rfl rfl).elim

theorem rowRel_length (R : Name → Cell → Cell → Prop) (cols : List Name) (r r' : List Cell)
    (h : rowRel R cols r r') : r'.length = r.length := by
  fun_induction rowRel R cols r r' with
  | case1 c cs v vs v' vs' ih => rw [List.length_cons, List.length_cons, ih h.2]
  | case2 => rfl
  | case3 => rw [h]
  | case4 => exact h.elim

/-- frame of one row: a row of the wrong arity is forwarded as received, otherwise cell-wise `rowRel` -/
def rowFrame {σ} (f : Xf σ) (t : Table) (cols : List Name) (r r' : List Cell) : Prop :=
  if r.length ≠ cols.length then r' = r else rowRel (cellRel f t) cols r r'

/-- row-wise relation of two VALUES lists of the same length -/
def rowsRel (R : List Cell → List Cell → Prop) : List (List Cell) → List (List Cell) → Prop
  | r :: rs, r' :: rs' => R r r' ∧ rowsRel R rs rs'
  | [], [] => True
  | _, _ => False

theorem xfRows_frame {σ} {f : Xf σ} {t : Table} {cols : List Name} {rows rows' : List (List Cell)} {st st' : σ}
    (h : xfRows f t cols rows st = some (rows', st')) : rowsRel (rowFrame f t cols) rows rows' := by
  fun_induction xfRows f t cols rows st generalizing rows' st' with
  | case1 => cases h; trivial
  | case2 r rs st hl ih =>
    obtain ⟨⟨o, st1⟩, h1, h2⟩ := Option.map_eq_some_iff.mp h
    cases h2
    exact ⟨(if_pos hl).mpr rfl, ih h1⟩
  | case3 => cases h
  | case4 r rs st hl r1 st1 hr ih =>
    obtain ⟨⟨o, st2⟩, h1, h2⟩ := Option.map_eq_some_iff.mp h
    cases h2
    exact ⟨(if_neg hl).mpr (xfRow_rel hr), ih h1⟩

/-- SET list: names kept, values related cell-wise -/
def setsRel {σ} (f : Xf σ) (t : Table) : List (Name × Cell) → List (Name × Cell) → Prop
  | (c, v) :: r, (c', v') :: r' => c' = c ∧ cellRel f t c v v' ∧ setsRel f t r r'
  | [], [] => True
  | _, _ => False

theorem xfSets_rel {σ} {f : Xf σ} {t : Table} {sets sets' : List (Name × Cell)} {st st' : σ}
    (h : xfSets f t sets st = some (sets', st')) : setsRel f t sets sets' := by
  fun_induction xfSets f t sets st generalizing sets' st' with
  | case1 => cases h; trivial
  | case2 c v rest st hs ih =>
    obtain ⟨⟨r1, st1⟩, h1, h2⟩ := Option.map_eq_some_iff.mp h
    cases h2
    exact ⟨rfl, by simp [cellRel, hs], ih h1⟩
  | case3 => cases h
  | case4 c v rest st s hs v' st1 hf ih =>
    obtain ⟨⟨r1, st2⟩, h1, h2⟩ := Option.map_eq_some_iff.mp h
    cases h2
    exact ⟨rfl, by simp only [cellRel, hs]; exact ⟨st, st1, hf⟩, ih h1⟩

theorem Table.setting_unconfigured {t : Table} (he : t.encrypted = []) (c : Name) : t.setting c = none := by
  simp [Table.setting, he]

/-- a table without configured columns: rows are forwarded as received -/
theorem xfRow_unconfigured {σ} (f : Xf σ) (t : Table) (he : t.encrypted = []) (cols : List Name) (r : List Cell) (st : σ) :
    xfRow f t cols r st = some (r, st) := by
  fun_induction xfRow f t cols r st with
  | case1 c cs v vs st hs ih => rw [ih]; rfl
  | case2 _ _ _ _ _ _ hs | case3 _ _ _ _ _ _ hs => rw [Table.setting_unconfigured he] at hs; cases hs
  | case4 => rfl

theorem xfRows_unconfigured {σ} (f : Xf σ) (t : Table) (he : t.encrypted = []) (cols : List Name) (rows : List (List Cell)) (st : σ) :
    xfRows f t cols rows st = some (rows, st) := by
  induction rows with
  | nil => rfl
  | cons r rs ih =>
    simp only [xfRows, ih, xfRow_unconfigured f t he]
    split <;> rfl

theorem xfSets_unconfigured {σ} (f : Xf σ) (t : Table) (he : t.encrypted = []) (sets : List (Name × Cell)) (st : σ) :
    xfSets f t sets st = some (sets, st) := by
  fun_induction xfSets f t sets st with
  | case1 => rfl
  | case2 c v rest st hs ih => rw [ih]; rfl
  | case3 _ _ _ _ _ hs | case4 _ _ _ _ _ hs => rw [Table.setting_unconfigured he] at hs; cases hs

/-- table a statement writes to / reads from -/
def Stmt.table : Stmt → Option Name
  | .insert i => some i.table
  | .update u => some u.table
  | .select s => some s.table
  | .other _ => none

end AcraModel.Proxy
