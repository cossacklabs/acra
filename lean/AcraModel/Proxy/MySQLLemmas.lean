import AcraModel.Proxy.MySQL
import AcraModel.Proxy.PipelineLemmas
import AcraModel.Wire.LenEncProofs
import AcraModel.Typed.IntCodecLemmas
/-!
Helper lemmas about the MySQL chains (`MySQL.lean`).
-/
namespace AcraModel.Proxy
open AcraModel AcraModel.Envelope AcraModel.Wire.LenEnc AcraModel.Wire.LenEnc.Proofs AcraModel.Typed

theorem decodeColMy_str (fmt : Fmt) (d : Bytes) : decodeColMy fmt .str d = d := by
  cases fmt <;> rfl

theorem decodeColMy_text (ty : MyType) (d : Bytes) : decodeColMy .text ty d = d := by
  cases ty <;> rfl

/-- for length-encoded column types every branch of the encoder ends in `PutLengthEncodedString` -/
theorem encodeColMy_str (s : Option ColSetting) (fmt : Fmt) (decrypted : Bool) (d : Bytes) :
    encodeColMy s fmt .str decrypted d = .ok (myLenEnc d) := by
  unfold encodeColMy
  split
  · rfl
  · cases fmt with
    | text => rfl
    | binary =>
      simp only
      split <;> (split <;> rfl)

/-- what a client reads back from a length-encoded value, whatever follows it in the row -/
theorem clientValueMy_lenenc (fmt : Fmt) (v rest : Bytes) (h : v.length < 2^64) :
    clientValueMy fmt .str (myLenEnc v ++ rest) = some v := by
  have := lenenc_str_roundtrip (some v) rest (by intro b hb; cases hb; exact h)
  cases fmt <;> simp [clientValueMy, myLenEnc, this]

/-- the binary-protocol integer detour: fixed-width bytes → decimal text → the same bytes -/
theorem int_detour (k : Nat) (d : Bytes) (hk : 1 ≤ k) (hd : d.length = k) :
    decodeColMy .binary (.int k) d = formatInt (leToInt d) ∧
    encodeByTypeMy (.int k) (formatInt (leToInt d)) = .ok d := by
  subst hd
  refine ⟨by simp [decodeColMy], ?_⟩
  simp only [encodeByTypeMy]
  rw [parseInt_formatInt _ _ (by omega) (leToInt_inRange d (by omega))]
  simp [intToLE_leToInt d (by omega)]

theorem readChainMy_eq {c : CryptoOps} {kv : KeyView} {s : Option ColSetting} {fmt : Fmt} {ty : MyType} {data out : Bytes}
    {hit : Bool} (hc : onColumnCompat [decryptCallback c kv] (decodeColMy fmt ty data) = .ok out hit) :
    readChainMy c kv s fmt ty data = encodeColMy s fmt ty (out != decodeColMy fmt ty data) out := by
  simp only [readChainMy, hc]

theorem encodeColMy_none_binary (ty : MyType) (decrypted : Bool) {data : Bytes} (h : data ≠ []) :
    encodeColMy none .binary ty decrypted data = encodeByTypeMy ty data := by
  cases data with
  | nil => exact absurd rfl h
  | cons a r => rfl

end AcraModel.Proxy
