import AcraModel.Props.C01
import AcraModel.Envelope.ExampleOps
/-!
The hash-based toy instance of the crypto operations on an AcraBlock column: one concrete writer / reader pair for
which the hypotheses of the C04 round-trip theorems hold (used by the non-vacuity examples of both front ends).
-/
namespace AcraModel.Proxy
open AcraModel AcraModel.Envelope

/-- writer key `010203`, reader key ring `0405, 010203, 010209`, value `0909`, random stream `05…05`: `protect`
succeeds with a container `p ≠ 0909`, and `RoundTripHyps` holds for it -/
theorem toy_block_roundTrip :
    let kvW : KeyView := ⟨none, none, some [1,2,3], none⟩
    let kvR : KeyView := ⟨none, none, some [4,5], some ([[4,5]] ++ [1,2,3] :: [[1,2,9]])⟩
    ∃ p, protect toyOps kvW .block [9,9] (List.replicate 56 5) = .ok p ∧ p ≠ [9, 9] ∧
      RoundTripHyps toyOps .block kvW kvR [9,9] (List.replicate 56 5) p := by
  intro kvW kvR
  have hs := toy_sealLaws
  have hsl := toy_sealLen
  have hkid := AcraModel.Props.C01.keyId_length toyOps toy_hashLen [1,2,3] []
  have hnm : matchKind .block [9,9] = false := by decide
  have hnr : registryMatch [9,9] = false := by decide
  obtain ⟨p, hp⟩ := AcraModel.Props.C01.protect_block_total toyOps hs kvW [1,2,3] [9,9] (List.replicate 56 5) rfl (by decide) (by decide)
    (by decide) (by decide)
  obtain ⟨hpl, _⟩ := AcraModel.Props.C01.protect_block_length toyOps hs hsl kvW [1,2,3] [9,9] _ p rfl hkid hnm hnr hp
  have hne : p ≠ [9, 9] := by
    rintro rfl
    cases hpl
  exact ⟨p, hp, hne, hs, [1,2,3], [[4,5]], [[1,2,9]], hkid, rfl, rfl,
    fun k' hk' encKey _ hid => by rw [List.mem_singleton.mp hk'] at hid; exact absurd hid (by decide),
    fun ek h => by rw [hsl.enc_len _ _ _ _ _ h]; decide,
    by rw [hpl]; decide⟩

end AcraModel.Proxy
