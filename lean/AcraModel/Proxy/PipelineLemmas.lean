import AcraModel.Proxy.Session
import AcraModel.Envelope.ProtectLemmas
import AcraModel.Envelope.ScanLemmas
import AcraModel.Props.C01
/-!
Helper lemmas about the value pipelines (`Pipeline.lean`): the hex codec round trip, what the write chain
does to a value that is not already protected, the compatibility wrapper on a protected value, and the read
chain taken apart into decoder, detector and encoder.
-/
namespace AcraModel.Proxy
open AcraModel AcraModel.Envelope

theorem nibble_roundtrip : ∀ n : Fin 16, nibbleVal (hexNibble n.val) = some n.val := by decide

theorem hexDecode_hexEncode (b : Bytes) : hexDecode (hexEncode b) = some b := by
  induction b with
  | nil => rfl
  | cons x r ih =>
    have e1 := nibble_roundtrip ⟨x.toNat / 16, by have := x.toNat_lt; omega⟩
    have e2 := nibble_roundtrip ⟨x.toNat % 16, Nat.mod_lt _ (by decide)⟩
    simp only at e1 e2
    simp only [hexEncode, hexDecode, e1, e2, ih, show 16 * (x.toNat / 16) + x.toNat % 16 = x.toNat by omega]
    simp

theorem decodeEscaped_pgHex (b : Bytes) : decodeEscaped (pgHex b) = .ok b := by
  simp [decodeEscaped, pgHex, pgHexPrefix, hexDecode_hexEncode]

/-- the serialized AcraBlock container `protect` builds is recognised by the re-encryption handler -/
theorem reMatch_protect_block {c : CryptoOps} {kvW kvR : KeyView} {m rnd p : Bytes}
    (h : RoundTripHyps c .block kvW kvR m rnd p)
    (hnm : matchKind .block m = false) (hnr : registryMatch m = false)
    (hp : protect c kvW .block m rnd = .ok p) : reMatch p = true := by
  obtain ⟨hs, key, pre, post, hkid, hW, hR, hpre, hek, hpl⟩ := h
  obtain ⟨e, rfl, hne, hlen, hmk, _⟩ := c01_protect_block_facts c hs kvW kvR key m rnd p pre post hkid hW hR
    (fun k' hk' ek h1 h2 => Or.inl (hpre k' hk' ek h1 h2)) hek hpl hnm hnr hp
  have hd := c01_deserialize_ser (e := e) (id := Kind.block.id) (k := .block) [] hne (c01_kindOfId_id .block) (by omega)
  rw [List.append_nil] at hd
  simp [reMatch, hd, hmk]

/-- for a value that is not already protected the chain of `proxyFactory.New` computes exactly `protect` -/
theorem writeChain_eq_protect {c : CryptoOps} {kvW kvR : KeyView} {s : ColSetting} {m rnd p : Bytes}
    (h : RoundTripHyps c s.kind kvW kvR m rnd p)
    (hnm : matchKind s.kind m = false) (hnr : registryMatch m = false)
    (hp : protect c kvW s.kind m rnd = .ok p) : writeChain c kvW s m rnd = .ok p := by
  simp only [writeChain, encryptHandler, hp, Out.bind, reEncryptHandler]
  cases hk : s.kind with
  | struct => simp
  | block =>
    rw [hk] at h hnm hp
    simp [reMatch_protect_block h hnm hnr hp]

/-- the compatibility wrapper around the envelope detector, on exactly one protected value -/
theorem compat_protected {c : CryptoOps} {k : Kind} {kvW kvR : KeyView} {m rnd p : Bytes}
    (h : RoundTripHyps c k kvW kvR m rnd p)
    (hnm : matchKind k m = false) (hnr : registryMatch m = false)
    (hp : protect c kvW k m rnd = .ok p) (hne : m ≠ p) :
    onColumnCompat [decryptCallback c kvR] p = .ok m true := by
  have hcol := AcraModel.Props.C01.onColumn_protect_embedded c k kvW kvR m rnd p [] [] [fun _ => Cb.same] []
    h hnm hnr hp (by simpa using hne)
    (fun cb hcb => .inl (by rw [List.mem_singleton.mp hcb])) (by simp)
  simp only [List.nil_append, List.append_nil, List.singleton_append, c01_scan_nil, ScanOut.prepend, Bool.or_true] at hcol
  simp [onColumnCompat, hcol]

theorem isControl_of_octDigit (x : UInt8) (h : isOctDigit x = true) : isControl x = false := by
  unfold isOctDigit at h
  unfold isControl
  simp only [Bool.and_eq_true, decide_eq_true_eq] at h
  simp only [Bool.or_eq_false_iff, decide_eq_false_iff_not, beq_eq_false_iff_ne, ne_eq]
  omega

/-- `DecodeOctal` fails on every input that contains a control byte (`unicode.IsControl`): the loop never
skips a byte without looking at it – after a backslash only another backslash or three octal digits are
accepted. -/
theorem decodeOctal_none_of_control (d : Bytes) (h : d.any isControl = true) : decodeOctal d = none := by
  fun_induction decodeOctal d with
  | case1 => cases h
  | case2 | case4 | case7 | case8 => rfl
  | case3 b r hc hb ih => rw [ih (by simpa [hc] using h)]; rfl
  | case5 b hc hb r1 ih =>
    rw [ih (by simpa [hc, show isControl backslash = false from by decide] using h)]; rfl
  | case6 b hc hb c hcb d2 d3 r3 hd ih =>
    simp only [Bool.and_eq_true] at hd
    rw [ih (by simpa [hc, isControl_of_octDigit _ hd.1.1, isControl_of_octDigit _ hd.1.2, isControl_of_octDigit _ hd.2] using h)]; rfl

theorem isControl_ofNat {x : Nat} (h : x < 32) : isControl (UInt8.ofNat x) = true := by
  have : (UInt8.ofNat x).toNat = x := by rw [UInt8.toNat_ofNat']; omega
  simp only [isControl, this, decide_eq_true h, Bool.true_or]

theorem leBytes8_control (n : Nat) (h : n < 2^61) : (leBytes 8 n).any isControl = true := by
  have : n / 256 ^ 7 < 32 := Nat.div_lt_of_lt_mul h
  rw [show leBytes 8 n = leBytes 7 n ++ [UInt8.ofNat (n / 256 ^ 7 % 256)] from leBytes_add 7 1 n, List.any_append,
    List.any_cons, isControl_ofNat (Nat.lt_of_le_of_lt (Nat.mod_le _ _) this), Bool.true_or, Bool.or_true]

/-- the bytea text decoder fails with `ErrDecodeOctalString` on every serialized container shorter than
2^61 bytes – the `%%%` tag is not the `\x` prefix and the top byte of the 8-byte little-endian length is a
control character. -/
theorem decodeEscaped_serBytes (e : Bytes) (id : UInt8) (h : 12 + e.length < 2^61) :
    decodeEscaped (serBytes e id) = .octalErr := by
  unfold decodeEscaped
  have ht : (serBytes e id).take 2 ≠ pgHexPrefix := by
    simp [serBytes, containerTag, pgHexPrefix, Generated.Layout.containerTag, toBytes]
  rw [if_neg ht]
  have hany : (serBytes e id).any isControl = true := by
    simp only [serBytes, List.any_append, leBytes8_control (containerMin + e.length) h, Bool.or_true, Bool.true_or]
  rw [decodeOctal_none_of_control _ hany]

/-- what `protect` builds for a value that is not already protected is never decodable as bytea text -/
theorem decodeEscaped_protect (c : CryptoOps) (kv : KeyView) (k : Kind) (m rnd p : Bytes)
    (hnm : matchKind k m = false) (hnr : registryMatch m = false)
    (hp : protect c kv k m rnd = .ok p) (hl : p.length < 2^61) : decodeEscaped p = .octalErr := by
  obtain ⟨e, _, _, rfl⟩ := c01_protect_ok hp hnm hnr
  rw [c01_serBytes_length] at hl
  exact decodeEscaped_serBytes e k.id hl

theorem decodeCol_pgHex (s : Option ColSetting) (p : Bytes) : decodeCol s .text (pgHex p) = some (p, some (pgHex p)) := by
  simp only [decodeCol, decodeEscaped_pgHex, Bool.and_false, Bool.false_eq_true, if_false, show (Fmt.text == Fmt.binary) = false from rfl]

/-- what is not escaped bytea text reaches the detector as it came, in either format -/
theorem decodeCol_octalErr (s : Option ColSetting) (fmt : Fmt) {d : Bytes} (h : decodeEscaped d = .octalErr) :
    decodeCol s fmt d = some (d, none) := by
  simp only [decodeCol, h, ite_self]

theorem decodeCol_typed_binary (s : ColSetting) (d : Bytes) (h : s.dtype ≠ .none) : decodeCol (some s) .binary d = some (d, none) := by
  have : (s.dtype != .none) = true := by simpa using h
  simp only [decodeCol, this, Bool.true_and, show (Fmt.binary == Fmt.binary) = true from rfl, if_true]

theorem decodeCol_none (fmt : Fmt) (d : Bytes) :
    decodeCol none fmt d =
      match decodeEscaped d with
      | .ok d' => some (d', some d)
      | .octalErr => some (d, none)
      | .hexErr => none := rfl

theorem readChain_eq {c : CryptoOps} {kv : KeyView} {s : Option ColSetting} {fmt : Fmt} {data d out : Bytes}
    {enc : Option Bytes} {hit : Bool} (hdec : decodeCol s fmt data = some (d, enc))
    (hc : onColumnCompat [decryptCallback c kv] d = .ok out hit) :
    readChain c kv s fmt data = .ok (encodeCol s fmt (out != d) enc out) := by
  simp only [readChain, hdec, hc]

/-- a column without setting that the detector left alone gets back what the database sent -/
theorem encodeCol_none (fmt : Fmt) (enc : Option Bytes) (data : Bytes) :
    encodeCol none fmt false enc data = enc.getD data := by
  cases data <;> rfl

theorem encodeCol_decrypted (s : ColSetting) (fmt : Fmt) (enc : Option Bytes) {data : Bytes} (h : data ≠ []) :
    encodeCol (some s) fmt true enc data = if s.dtype == .str || fmt == .binary then data else pgHex data := by
  obtain ⟨k, dt, re⟩ := s
  cases data with
  | nil => exact absurd rfl h
  | cons a r => cases dt <;> cases fmt <;> rfl

theorem clientValue_encoded (s : ColSetting) (fmt : Fmt) (raw : Bytes) :
    clientValue s fmt (if s.dtype == .str || fmt == .binary then raw else pgHex raw) = some raw := by
  cases h : (s.dtype == .str || fmt == .binary) <;>
    simp only [clientValue, h, Bool.false_eq_true, if_false, if_true, decodeEscaped_pgHex]

end AcraModel.Proxy
