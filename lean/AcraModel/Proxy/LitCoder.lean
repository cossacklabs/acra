import AcraModel.Proxy.Placement
import AcraModel.Wire.ByteaLemmas
import AcraModel.Generated.PgCoder
/-
LitCoder: what the two query encryptors hand to the encryption chain for a LITERAL of a protected column –
`encryptor/postgresql/dbDataCoder.go` (`PgQueryDBDataCoder.Decode`, string-literal branch),
`encryptor/mysql/dbDataCoder.go` (`DBDataCoder.Decode`) and, underneath the PostgreSQL coder,
`utils.DecodeEscaped` AS GO RETURNS IT: a slice AND an error. The PostgreSQL coder deliberately lets
`ErrDecodeOctalString` fall through and uses the slice returned next to it ("not an escaped bytea: take the
string as it is"), so WHICH slice `DecodeEscaped` returns next to an error decides whether a literal that is
not valid bytea escape text (line break, tab, `C:\keys\master.pem`) is encrypted or skipped as "empty".

The codecs are the rune-level models of `Wire/Bytea.lean` (`[]rune(string)`, `unicode.IsControl`,
`utf8.EncodeRune`): no assumption about the literal's bytes.

Which variable travels next to the error is READ FROM THE SOURCE (`Generated.PgCoder.decodeEscapedReturns`).
-/
namespace AcraModel.Proxy
open AcraModel

/-- the slice a `return <tag>, err` of `DecodeEscaped` hands back: its input (`data`), nothing (`nil`), or the
buffer it decoded into -/
def retSlice (tag : String) (input decoded : Bytes) : Bytes :=
  if tag = "data" then input else if tag = "nil" then [] else decoded

/-- name of the slice returned in a branch of `DecodeEscaped` (regenerated fact) -/
def escSliceTag (branch : String) : String :=
  ((Generated.PgCoder.decodeEscapedReturns.find? (·.1 == branch)).map (·.2.1)).getD "nil"

/-- `utils.DecodeEscaped` with both results. On a hex error the buffer `output` is not modelled (the source
returns `data` there, pinned by `fact_decodeEscaped_returns`). -/
def decodeEscapedGo (data : Bytes) : Bytes × Option Wire.Bytea.EscErr :=
  match data with
  | 92 :: 120 :: h =>
    match Wire.Bytea.hexDecode h with
    | some b => (retSlice (escSliceTag "hex") data b, none)
    | none => (retSlice (escSliceTag "hex.err") data [], some .hex)
  | _ =>
    match Wire.Bytea.decodeOctal data with
    | some b => (retSlice (escSliceTag "octal") data b, none)
    | none => (retSlice (escSliceTag "octal.err") data [], some .octal)

/-- `PgQueryDBDataCoder.Decode` of a string literal (`aConst.GetSval() != nil`); `typed` = the setting's
`GetDBDataTypeID()` is neither 0 nor bytea. `none` = an error is returned (only for invalid hex after `\x`):
`UpdateExpressionValue` passes it on and the whole statement is forwarded as received. -/
def pgDecodeSval (typed : Bool) (lit : Bytes) : Option Bytes :=
  if typed then some lit else
  match decodeEscapedGo lit with
  | (_, some .hex) => none       -- `err != nil && err != ErrDecodeOctalString` → InvalidByteError / ErrLength → `return nil, err`
  | (bin, _) => some bin         -- no error, or ErrDecodeOctalString: `return binValue, nil`

/-- literal kinds of Acra's MySQL grammar that `UpdateExpressionValue` transforms -/
inductive MyLit | str | int | hexVal | hexNum
deriving DecidableEq, Repr

def hexNumPrefix : Bytes := [48, 120]   -- `0x`

/-- `mysql.DBDataCoder.Decode`: `none` = hex error (the statement is forwarded as received) -/
def myDecode (k : MyLit) (v : Bytes) : Option Bytes :=
  match k with
  | .str | .int => some v
  | .hexVal => Wire.Bytea.hexDecode v
  | .hexNum => if v.take 2 = hexNumPrefix then Wire.Bytea.hexDecode (v.drop 2) else some v

theorem encodeRune_ne_nil (c : Nat) : Wire.Bytea.encodeRune c ≠ [] := by
  have ite_ne : ∀ {p : Prop} [Decidable p] {a b : Bytes}, a ≠ [] → b ≠ [] → (if p then a else b) ≠ [] := by
    intro p _ a b ha hb; split <;> assumption
  unfold Wire.Bytea.encodeRune
  exact ite_ne (List.cons_ne_nil _ _) <| ite_ne (List.cons_ne_nil _ _) <| ite_ne (List.cons_ne_nil _ _) <|
    ite_ne (List.cons_ne_nil _ _) (List.cons_ne_nil _ _)

theorem map_ne_some_nil {f : Bytes → Bytes} (hf : ∀ x, f x ≠ []) (o : Option Bytes) : o.map f ≠ some [] := by
  cases o with
  | none => exact fun h => nomatch h
  | some x => exact fun h => hf x (Option.some.inj h)

/-- the loop of `DecodeOctal` produces at least one byte for the first rune -/
theorem decodeOctalRunes_nil (l : List Nat) (h : Wire.Bytea.decodeOctalRunes l = some []) : l = [] := by
  cases l with
  | nil => rfl
  | cons ch rest =>
    exfalso
    unfold Wire.Bytea.decodeOctalRunes at h
    split at h
    · cases h
    · split at h
      · exact map_ne_some_nil (fun x hx => encodeRune_ne_nil ch (List.append_eq_nil_iff.mp hx).1) _ h
      · split at h
        · cases h
        · exact map_ne_some_nil (fun _ => List.cons_ne_nil _ _) _ h
        · split at h
          · exact map_ne_some_nil (fun _ => List.cons_ne_nil _ _) _ h
          · cases h
        · cases h

theorem toRunes_nil (s : Bytes) (h : Wire.Bytea.toRunes s = []) : s = [] := by
  cases s with
  | nil => rfl
  | cons b r => rw [Wire.Bytea.toRunes] at h; simp at h

/-- `DecodeOctal` returns the empty slice only for the empty input -/
theorem decodeOctal_nil (s : Bytes) (h : Wire.Bytea.decodeOctal s = some []) : s = [] :=
  toRunes_nil s (decodeOctalRunes_nil _ h)

theorem hexDecode_nil (h : Bytes) (hd : Wire.Bytea.hexDecode h = some []) : h = [] := by
  have := Wire.Bytea.hexDecode_length h [] hd
  cases h with
  | nil => rfl
  | cons a r => simp at this

end AcraModel.Proxy
