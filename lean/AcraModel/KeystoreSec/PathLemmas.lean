import AcraModel.KeystoreSec.Path
/-! Containment: the components of a rooted cleaned path are ordinary (`GoodComp`: `..` pops, it is never
stacked), so a rooted target whose `Rel` to the base does not begin with `..` is the base plus more components. -/
namespace AcraModel.KeystoreSec.Path

/-- an ordinary path component: not empty, not `.`, not `..`, no separator inside -/
def GoodComp (c : Bytes) : Prop := c ≠ [] ∧ c ≠ [dot] ∧ c ≠ dd ∧ slash ∉ c

theorem splitSlash_ne_nil (p : Bytes) : splitSlash p ≠ [] := by
  fun_cases splitSlash p <;> simp [*]

theorem splitSlash_append (a b : Bytes) : splitSlash (a ++ slash :: b) = splitSlash a ++ splitSlash b := by
  fun_induction splitSlash a with
  | case1 => simp [splitSlash]
  | case2 r ih => simp [splitSlash, ih]
  | case3 c r _ hs => exact absurd hs (splitSlash_ne_nil r)
  | case4 c r hc h t hs ih => simp [splitSlash, hc, ih, hs]

theorem splitSlash_noslash (p : Bytes) : ∀ c ∈ splitSlash p, slash ∉ c := by
  fun_induction splitSlash p with
  | case1 => simp
  | case2 r ih => simpa using ih
  | case3 c r hc => simp [Ne.symm hc]
  | case4 c r hc h t hs ih =>
    rw [hs] at ih
    simpa [Ne.symm hc] using ih

/-- In a rooted path the clean-up stack only ever holds ordinary components. -/
theorem pushComp_good (stack : List Bytes) (c : Bytes) (hs : ∀ x ∈ stack, GoodComp x) (hc : slash ∉ c) :
    ∀ x ∈ pushComp true stack c, GoodComp x := by
  -- `..` is never stacked in a rooted path: the stack stays, loses its top, or gains the ordinary `c`
  fun_cases pushComp true stack c
  case case1 | case2 | case5 => exact hs
  case case3 h | case6 h => exact absurd rfl h
  case case4 => exact fun x hx => hs x (List.mem_cons_of_mem _ hx)
  case case7 h1 h2 => exact List.forall_mem_cons.mpr ⟨⟨fun e => h1 (.inl e), fun e => h1 (.inr e), h2, hc⟩, hs⟩

theorem cleanStack_good (stack cs : List Bytes) (hs : ∀ x ∈ stack, GoodComp x) (hc : ∀ c ∈ cs, slash ∉ c) :
    ∀ x ∈ cleanStack true stack cs, GoodComp x := by
  induction cs generalizing stack with
  | nil => exact hs
  | cons c r ih =>
    simp only [cleanStack, List.foldl_cons]
    exact ih _ (pushComp_good stack c hs (hc c (by simp))) (fun c' h' => hc c' (by simp [h']))

theorem cleanStack_append (rooted : Bool) (s : List Bytes) (a b : List Bytes) :
    cleanStack rooted s (a ++ b) = cleanStack rooted (cleanStack rooted s a) b := by
  simp [cleanStack, List.foldl_append]

theorem stripCommon_nil_prefix (b t : List Bytes) : (stripCommon b t).1 = [] → t = b ++ (stripCommon b t).2 := by
  fun_induction stripCommon b t with
  | case1 bs x ts ih => exact fun h => congrArg (x :: ·) (ih h)
  | case2 => exact fun h => nomatch h
  | case3 bs ts => exact fun (h : bs = []) => h ▸ rfl

theorem escapes_dd_cons (r : List Bytes) : escapes (joinSlash (dd :: r)) = true := by
  cases r with
  | nil => simp [joinSlash, escapes]
  | cons x r => simp [joinSlash, escapes, dd]

theorem cleanP_good {x : Bytes} (hx : x.head? = some slash) : (cleanP x).rooted = true ∧ ∀ c ∈ (cleanP x).comps, GoodComp c := by
  refine ⟨decide_eq_true hx, fun c hc => ?_⟩
  simp only [cleanP, hx, decide_true, List.mem_reverse] at hc
  exact cleanStack_good [] _ (fun _ h => nomatch h) (splitSlash_noslash x) c hc

/-- a rooted target whose path relative to the base does not start with `..` extends the base -/
theorem relP_contained {b t : CPath} {r : List Bytes} (ht : t.rooted = true) (h : relP b t = some r)
    (he : escapes (joinSlash r) = false) : ∃ rest, t.comps = b.comps ++ rest := by
  unfold relP at h
  split at h
  · next e => exact ⟨[], by rw [e, List.append_nil]⟩
  · split at h
    · cases h
    · simp only [ht, Bool.true_eq_false, false_and, if_false] at h
      have hp := stripCommon_nil_prefix b.comps t.comps
      cases hs : stripCommon b.comps t.comps with
      | mk b' t' =>
        rw [hs] at h hp
        cases b' with
        | nil => exact ⟨t', hp rfl⟩
        | cons x xs =>
          simp only at h
          split at h
          · cases h
          · cases h
            rw [List.map_cons, List.cons_append, escapes_dd_cons] at he
            cases he

end AcraModel.KeystoreSec.Path
