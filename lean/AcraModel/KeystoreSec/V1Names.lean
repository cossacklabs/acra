import AcraModel.KeystoreSec.PathLemmas
import AcraModel.CrossClient.Context
/-!
# Key store v1: file names, the client-id validator and the name → key-context mapping

Follows, line by line,
* `keystore/keystore.go`: `ValidateID`, `KeyContext`, `GetKeyContextFromContext` (the latter two are
  the definitions of `CrossClient/Context.lean`, validated by the C02 ops),
* `keystore/filesystem/filenames.go`, `key_names.go`: the file name of every key,
* `keystore/filesystem/filesystem_backup.go`: `isHistoricalFilename`, `isPrivate`, `isPublic`,
  `getContextFromFilename` (as repaired by `repo-patches/45`; the pinned form is kept as
  `ctxOfNamePinned`),
* `keystore/filesystem/server_keystore.go`: `DescribeKeyFile` restricted to base names.

`isHistoricalFilename` is `time.Parse("2006-01-02T15:04:05.999999999", filepath.Base(name)) == nil`;
`isTimestamp` follows Go 1.23's `time.parse` for exactly this layout (chunk by chunk: 4-digit year,
fixed two-digit month/day/minute/second, one- or two-digit hour, optional fraction introduced by `.`
or `,` with any number of digits, nothing after it, ranges, day of month against the month's length).
All of it is compared with the real functions by the ops `C18.v1.names.*`.
-/
namespace AcraModel.KeystoreSec.V1
open AcraModel.KeystoreSec.Path
open AcraModel.CrossClient (KeyContext keyContextBytes newClientIDKeyContext newKeyContext newEmptyKeyContext)

/-! ## strings -/

/-- `strings.HasSuffix` -/
def hasSuffix (s suf : Bytes) : Bool := suf.isSuffixOf s

/-- `s[:len(s)-len(suf)]` (only used under `hasSuffix s suf`) -/
def dropSuffix (s suf : Bytes) : Bytes := s.take (s.length - suf.length)

/-- `strings.TrimSuffix` -/
def trimSuffix (s suf : Bytes) : Bytes := if hasSuffix s suf then dropSuffix s suf else s

/-- `strings.Split(s, string(c))` -/
def splitByte (c : UInt8) : Bytes → List Bytes
  | [] => [[]]
  | x :: r =>
    if x = c then [] :: splitByte c r
    else match splitByte c r with
      | [] => [[x]]
      | h :: t => (x :: h) :: t

/-! ## `filepath.Base`, `filepath.Dir` (Unix) -/

def stripTrailingSlashes (p : Bytes) : Bytes := (p.reverse.dropWhile (· = slash)).reverse
def afterLastSlash (p : Bytes) : Bytes := (p.reverse.takeWhile (· ≠ slash)).reverse
def uptoLastSlash (p : Bytes) : Bytes := (p.reverse.dropWhile (· ≠ slash)).reverse

/-- `filepath.Base` -/
def base (p : Bytes) : Bytes :=
  if p = [] then [dot]
  else
    let r := afterLastSlash (stripTrailingSlashes p)
    if r = [] then [slash] else r

/-- `filepath.Dir`: `Clean` of everything up to and including the last separator -/
def dirOf (p : Bytes) : Bytes := clean (uptoLastSlash p)

/-! ## literals (the Go lines that use them are quoted in `Props.C18.fact_v1_name_classification`) -/

def sStorage : Bytes := ofStr "_storage"
def sSym : Bytes := ofStr "_sym"
def sStorageSym : Bytes := ofStr "_storage_sym"
def sHmac : Bytes := ofStr "_hmac"
def sServer : Bytes := ofStr "_server"
def sTranslator : Bytes := ofStr "_translator"
def sPub : Bytes := ofStr ".pub"
def sOld : Bytes := ofStr ".old"
def sPubOld : Bytes := ofStr ".pub.old"
/-- `PoisonKeyFilename` -/
def poisonKey : Bytes := ofStr ".poison_key/poison_key"
/-- `poisonKeyFilenamePublic` -/
def poisonPub : Bytes := ofStr ".poison_key/poison_key.pub"
/-- `getSymmetricKeyName(PoisonKeyFilename)` -/
def poisonSym : Bytes := ofStr ".poison_key/poison_key_sym"
/-- `SecureLogKeyFilename` -/
def logKey : Bytes := ofStr "secure_log_key"

/-- `GetServerDecryptionKeyFilename` -/
def storageName (id : Bytes) : Bytes := id ++ sStorage
/-- `getPublicKeyFilename(GetServerDecryptionKeyFilename(id))` -/
def storagePubName (id : Bytes) : Bytes := id ++ sStorage ++ sPub
/-- `getClientIDSymmetricKeyName` -/
def symName (id : Bytes) : Bytes := id ++ sStorage ++ sSym
/-- `getHmacKeyFilename` -/
def hmacName (id : Bytes) : Bytes := id ++ sHmac
/-- `getNewHistoricalFileName`: `<file>.old/<timestamp>` -/
def histName (file ts : Bytes) : Bytes := file ++ sOld ++ slash :: ts

/-! ## `keystore.ValidateID` -/

/-- letters, digits and `ValidChars = "_- "`. Go ranges over the *runes* of the id; every byte
`≥ 0x80` decodes to a rune `≥ 0x80` (or U+FFFD) and is rejected, every ASCII byte is its own rune, so
the check is the byte-wise one. -/
def validChar (c : UInt8) : Bool :=
  (97 ≤ c && c ≤ 122) || (65 ≤ c && c ≤ 90) || (48 ≤ c && c ≤ 57) || c = 95 || c = 45 || c = 32

def minClientIDLength : Nat := 5
def maxClientIDLength : Nat := 256

/-- `keystore.ValidateID` -/
def validateID (id : Bytes) : Bool :=
  decide (minClientIDLength ≤ id.length) && decide (id.length ≤ maxClientIDLength) && id.all validChar

/-! ## `time.Parse(HistoricalFileNameTimeFormat, ·)` -/

def isDigit (c : UInt8) : Bool := 48 ≤ c && c ≤ 57
def digitVal (c : UInt8) : Nat := c.toNat - 48

/-- `getnum(s, true)`: exactly two digits -/
def getnum2 : Bytes → Option (Nat × Bytes)
  | a :: b :: r => if isDigit a && isDigit b then some (digitVal a * 10 + digitVal b, r) else none
  | _ => none

/-- `getnum(s, false)`: one or two digits -/
def getnum12 : Bytes → Option (Nat × Bytes)
  | [] => none
  | [a] => if isDigit a then some (digitVal a, []) else none
  | a :: b :: r =>
    if isDigit a then
      if isDigit b then some (digitVal a * 10 + digitVal b, r) else some (digitVal a, b :: r)
    else none

/-- `stdLongYear`: four characters that `atoi` accepts (the first is a digit, so no sign) -/
def year4 : Bytes → Option (Nat × Bytes)
  | a :: b :: c :: d :: r =>
    if isDigit a && isDigit b && isDigit c && isDigit d then
      some (digitVal a * 1000 + digitVal b * 100 + digitVal c * 10 + digitVal d, r)
    else none
  | _ => none

/-- `skip(value, prefix)` for a one-byte, non-space prefix -/
def skipByte (c : UInt8) : Bytes → Option Bytes
  | x :: r => if x = c then some r else none
  | [] => none

/-- `stdFracSecond9`: an optional fraction (`.` or `,` followed by at least one digit) is consumed
with all its digits; anything else is left in place -/
def fracRest (v : Bytes) : Bytes :=
  match v with
  | c :: d :: r => if (c = 46 || c = 44) && isDigit d then (d :: r).dropWhile isDigit else v
  | _ => v

def isLeap (y : Nat) : Bool := y % 4 = 0 && (y % 100 ≠ 0 || y % 400 = 0)

def daysIn (m y : Nat) : Nat :=
  if m = 2 then (if isLeap y then 29 else 28)
  else if m = 4 || m = 6 || m = 9 || m = 11 then 30 else 31

/-- the chunk-by-chunk parse; `some ()` = `err == nil` -/
def parseTimestamp (b : Bytes) : Option Unit := do
  let (y, v) ← year4 b
  let v ← skipByte 45 v
  let (mo, v) ← getnum2 v
  if mo = 0 ∨ 12 < mo then none
  let v ← skipByte 45 v
  let (d, v) ← getnum2 v
  let v ← skipByte 84 v
  let (h, v) ← getnum12 v
  if 24 ≤ h then none
  let v ← skipByte 58 v
  let (mi, v) ← getnum2 v
  if 60 ≤ mi then none
  let v ← skipByte 58 v
  let (s, v) ← getnum2 v
  if 60 ≤ s then none
  if fracRest v ≠ [] then none
  if d < 1 ∨ daysIn mo y < d then none
  pure ()

/-- characters a string accepted by the parse can consist of: digits, `-`, `T`, `:`, `.`, `,` -/
def tsChar (c : UInt8) : Bool := isDigit c || c = 45 || c = 84 || c = 58 || c = 46 || c = 44

/-- `time.Parse(HistoricalFileNameTimeFormat, b)` succeeds. The first conjunct is implied by the
second (every chunk consumes only such characters and nothing may be left over); it is spelled out
so that "a timestamp contains no `_` and no `/`" is immediate. -/
def isTimestamp (b : Bytes) : Bool := b.all tsChar && (parseTimestamp b).isSome

/-- `isHistoricalFilename` -/
def isHistorical (name : Bytes) : Bool := isTimestamp (base name)

/-! ## `isPublic`, `isPrivate`, `getContextFromFilename` -/

def isPublic (f : Bytes) : Bool := hasSuffix f sPub || hasSuffix f sPubOld

def isPrivate (f : Bytes) : Bool :=
  let f := if isHistorical f then base (dirOf f) else f
  if f = poisonKey then true else !isPublic f

/-- purposes (`keystore.Purpose…`) -/
def pSearchHMAC : String := "search_hmac"
def pAuditLog : String := "audit_log"
def pPoisonSym : String := "poison_sym_key"
def pStorageSym : String := "storage_sym_key"
def pPoisonPair : String := "poison_key"
def pStoragePair : String := "storage"
def pStoragePrivate : String := "private_storage"
def pLegacy : String := "legacy"
def pUndefined : String := "undefined"

/-- the part of `getContextFromFilename` after the poison-record cases: the base name, without a
trailing `.old`, classified by suffix in source order -/
def ctxOfBase (f : Bytes) : KeyContext :=
  let f := base f
  let f := if hasSuffix f sOld then dropSuffix f sOld else f
  if hasSuffix f sHmac then newClientIDKeyContext pSearchHMAC (dropSuffix f sHmac)
  else if hasSuffix f sServer then newClientIDKeyContext pLegacy (dropSuffix f sServer)
  else if hasSuffix f sTranslator then newClientIDKeyContext pLegacy (dropSuffix f sTranslator)
  else if hasSuffix f sStorage then newClientIDKeyContext pStoragePrivate (dropSuffix f sStorage)
  else if hasSuffix f sStorageSym then newClientIDKeyContext pStorageSym (dropSuffix f sStorageSym)
  else newKeyContext pUndefined f

/-- `getContextFromFilename` as repaired: a rotated key `<file>.old/<timestamp>` gets the context of
`<file>`; the poison symmetric key gets its whole file name (what `GeneratePoisonSymmetricKey` uses) -/
def ctxOfName (f : Bytes) : KeyContext :=
  let f := if isHistorical f then trimSuffix (dirOf f) sOld else f
  if f = poisonKey then newKeyContext pPoisonPair f
  else if f = poisonSym then newKeyContext pPoisonSym f
  else ctxOfBase f

/-- `getContextFromFilename` on the pinned tree: the history directory keeps its `.old` when it is
compared with the poison names, and the poison symmetric key loses its `_sym` -/
def ctxOfNamePinned (f : Bytes) : KeyContext :=
  let f := if isHistorical f then dirOf f else f
  if f = poisonKey then newKeyContext pPoisonPair f
  else if f = poisonSym then newKeyContext pPoisonSym (dropSuffix f sSym)
  else ctxOfBase f

/-! ## `DescribeKeyFile` on a base name: does it succeed -/

def sKeyring : Bytes := ofStr ".keyring"

/-- `describeV2` then `describeV1` for a name without a directory part (`Import` passes
`filepath.Base(key.Name)`): `true` = a description is returned, `false` = `ErrUnrecognizedKeyPurpose` -/
def describeOk (f : Bytes) : Bool :=
  if hasSuffix f sKeyring then
    let stem := dropSuffix f sKeyring
    stem = ofStr "audit-log" || stem = ofStr "poison-record" || stem = ofStr "poison-record-sym"
  else if f = ofStr "poison_key" || f = ofStr "poison_key.pub" || f = ofStr "poison_key_sym" || f = ofStr "auth_key" then true
  else
    let comps := splitByte 95 f
    if comps.length = 1 then true
    else
      let last := comps.getLast?.getD []
      let pen := (comps.dropLast.getLast?).getD []
      last = ofStr "hmac" || last = ofStr "storage" || last = ofStr "storage.pub" || last = ofStr "zone" || last = ofStr "zone.pub" ||
      (pen = ofStr "storage" && last = ofStr "sym") || (pen = ofStr "zone" && last = ofStr "sym") ||
      (pen = ofStr "log" && last = ofStr "key") ||
      last = ofStr "server" || last = ofStr "server.pub" || last = ofStr "translator" || last = ofStr "translator.pub"

end AcraModel.KeystoreSec.V1
