import AcraModel.KeystoreSec.ExportV1
import AcraModel.KeystoreSec.V1NamesLemmas
import AcraModel.KeystoreSec.Basics
/-!
Helper lemmas for the v1 export / import model: file maps, sealability of exported secrets, the
import loop.
-/
namespace AcraModel.KeystoreSec.ExportV1
open AcraModel.KeystoreSec.Path AcraModel.KeystoreSec.V1
open AcraModel.CrossClient (KeyContext keyContextBytes newClientIDKeyContext newKeyContext keyEncrypt keyDecrypt Files)

theorem Files.get_put_other (fs : Files) (name name' data : Bytes) (h : name' ≠ name) :
    (fs.put name data).get name' = fs.get name' := by
  have h1 : (name == name') = false := beq_false_of_ne fun e => h e.symm
  simp only [CrossClient.Files.get, CrossClient.Files.put, List.find?_cons, h1, List.find?_filter]
  -- an entry called `name'` is not one of those the write removed
  congr 2; funext x
  by_cases hx : x.1 = name' <;> simp [hx, h]

theorem Files.get_nil (name : Bytes) : CrossClient.Files.get ([] : Files) name = none := rfl

@[simp] theorem emptyCtx_bytes : keyContextBytes emptyCtx = [] := rfl

/-- what `Protect` needs from a message -/
def Sealable (m : Bytes) : Prop := m ≠ [] ∧ m.length < maxMsgLen

theorem sealable_of_dec {c : CryptoOps} (hl : SealLaws c) {k x ct m : Bytes} (h : c.dec k x ct = some m) : Sealable m := by
  obtain ⟨n, hn, he⟩ := hl.enc_of_dec _ _ _ _ h
  have hne : c.enc k x m n ≠ none := by rw [he]; simp
  have h1 : ¬ (m = [] ∨ k = [] ∨ n.length ≠ nonceLen ∨ maxMsgLen ≤ m.length) := fun hh => hne ((hl.enc_none k x m n).mpr hh)
  simp only [not_or, Nat.not_le] at h1
  exact ⟨h1.1, h1.2.2.2⟩

theorem sealRecords_some {e : Env} {cd : Codec} {accessKey nonce : Bytes} {recs : List Record} {b : Bundle}
    (h : sealRecords e cd accessKey nonce recs = some b) :
    e.c.enc accessKey [] (cd.ser recs) nonce = some b.data ∧ b.keys = accessKey := by
  obtain ⟨d, hd, rfl⟩ := Option.map_eq_some_iff.mp h
  exact ⟨hd, rfl⟩

theorem openBundle_sealRecords {e : Env} (hl : SealLaws e.c) {cd : Codec} (hcd : cd.Ok) {accessKey nonce : Bytes}
    {recs : List Record} {b : Bundle} (h : sealRecords e cd accessKey nonce recs = some b) : openBundle e cd b = some recs := by
  obtain ⟨he, hk⟩ := sealRecords_some h
  have hd : keyDecrypt e.c b.keys emptyCtx b.data = some (cd.ser recs) := hk ▸ hl.dec_enc _ _ _ _ _ he
  rw [openBundle, hd, Option.bind_some, hcd.roundtrip]

/-- what a key store with master key `m` reads from the stored bytes of the file `name` -/
def readBack (e : Env) (m name stored : Bytes) : Option Bytes :=
  if isPrivate name then keyDecrypt e.c m (ctxOfName name) stored else some stored

/-- one record imported into any file map: succeeds, writes exactly the record's file, and the file
reads back as the record's content -/
theorem importRecord_ok (e : Env) (hl : SealLaws e.c) (ν : Nonces) (hν : ∀ a b, (ν a b).length = nonceLen)
    (m : Bytes) (hm : m ≠ []) (fs : Files) (r : Record)
    (hname : targetPath r.1 = r.1) (hdesc : describeOk (base r.1) = true)
    (hseal : isPrivate r.1 = true → Sealable r.2) :
    ∃ stored, importRecord e ν m fs r = (fs.put r.1 stored, true) ∧ readBack e m r.1 stored = some r.2 := by
  unfold importRecord readBack
  by_cases hp : isPrivate r.1 = true
  · simp only [hp, if_true]
    obtain ⟨ct, hct⟩ := enc_some hl (x := keyContextBytes (ctxOfName r.1)) hm (hseal hp).1 (hν r.1 r.2) (hseal hp).2
    have hct' : keyEncrypt e.c m (ctxOfName r.1) r.2 (ν r.1 r.2) = some ct := hct
    refine ⟨ct, ?_, ?_⟩
    · simp [hct', hname, hdesc]
    · exact hl.dec_enc _ _ _ _ _ hct
  · simp only [hp]
    exact ⟨r.2, by simp [hname, hdesc], by simp⟩

/-- the import loop over records with pairwise different names: succeeds; afterwards every record's
file reads back as its content, and every other file is as before -/
theorem importRecords_ok (e : Env) (hl : SealLaws e.c) (ν : Nonces) (hν : ∀ a b, (ν a b).length = nonceLen)
    (m : Bytes) (hm : m ≠ []) :
    ∀ (recs : List Record) (fs : Files),
      (∀ r ∈ recs, targetPath r.1 = r.1 ∧ describeOk (base r.1) = true ∧ (isPrivate r.1 = true → Sealable r.2)) →
      (recs.map (·.1)).Nodup →
      ∃ fs', importRecords e ν m fs recs = (fs', true) ∧
        (∀ r ∈ recs, ∃ stored, fs'.get r.1 = some stored ∧ readBack e m r.1 stored = some r.2) ∧
        (∀ p, p ∉ recs.map (·.1) → fs'.get p = fs.get p)
  | [], fs, _, _ => ⟨fs, rfl, by simp, by simp⟩
  | r :: rs, fs, h, hnd => by
    have hr := h r (by simp)
    obtain ⟨stored, hi, hrb⟩ := importRecord_ok e hl ν hν m hm fs r hr.1 hr.2.1 hr.2.2
    have hnd' : (rs.map (·.1)).Nodup := (List.nodup_cons.mp (by simpa using hnd)).2
    have hnotin : r.1 ∉ rs.map (·.1) := (List.nodup_cons.mp (by simpa using hnd)).1
    obtain ⟨fs', h1, h2, h3⟩ := importRecords_ok e hl ν hν m hm rs (fs.put r.1 stored)
      (fun x hx => h x (by simp [hx])) hnd'
    refine ⟨fs', by simp [importRecords, hi, h1], ?_, ?_⟩
    · intro x hx
      simp only [List.mem_cons] at hx
      rcases hx with rfl | hx
      · refine ⟨stored, ?_, hrb⟩
        rw [h3 _ hnotin]
        exact CrossClient.Files.get_put_same _ _ _
      · exact h2 x hx
    · intro p hp
      simp only [List.map_cons, List.mem_cons, not_or] at hp
      rw [h3 p hp.2, Files.get_put_other _ _ _ _ hp.1]

/-- a record of the export of all keys: its name is a file of the listing, and a private one
carries the decryption of that file under the context derived from the name -/
theorem readFileAsKey_spec (e : Env) (ctxOf : Bytes → KeyContext) (master : Bytes) (f r : Record)
    (h : readFileAsKey e ctxOf master f = some r) :
    r.1 = f.1 ∧ (isPrivate r.1 = true → keyDecrypt e.c master (ctxOf f.1) f.2 = some r.2) ∧
      (isPrivate r.1 = false → r.2 = f.2) := by
  obtain ⟨pt, hc, hr⟩ := Option.bind_eq_some_iff.mp h
  split at hr
  · cases hr
  · cases hr
    refine ⟨rfl, fun (hq : isPrivate f.1 = true) => ?_, fun (hq : isPrivate f.1 = false) => ?_⟩
    · rwa [if_pos hq] at hc
    · rw [hq] at hc; exact (Option.some.inj hc).symm

theorem loadSecret_sealable (e : Env) (hl : SealLaws e.c) (s : Store) (name : Bytes) (kc : KeyContext) (k : Bytes)
    (h : loadSecret e s name kc = some k) : Sealable k := by
  obtain ⟨ct, _, hd⟩ := Option.bind_eq_some_iff.mp h
  exact sealable_of_dec hl hd

theorem getPoisonKeyPair_some {e : Env} {s : Store} {pp : Bytes × Bytes} (h : getPoisonKeyPair e s = some pp) :
    loadSecret e s poisonKey poisonPairCtx = some pp.2 ∧ s.files.get poisonPub = some pp.1 := by
  obtain ⟨priv, hs, hg⟩ := Option.bind_eq_some_iff.mp h
  obtain ⟨pub, hpub, rfl⟩ := Option.map_eq_some_iff.mp hg
  exact ⟨hs, hpub⟩

theorem exportRecords_sealable (e : Env) (hl : SealLaws e.c) (S : Store) (ids : List ExportID) (mode : Mode)
    (recs : List Record) (h : exportRecords e S ids mode = some recs) :
    ∀ r ∈ recs, isPrivate r.1 = true → Sealable r.2 := by
  intro r hr hp
  unfold exportRecords exportRecordsWith at h
  by_cases hids : ids ≠ []
  · rw [if_pos hids] at h
    obtain ⟨x, _, hx⟩ := mapM_mem _ _ _ h r hr
    unfold exportOne at hx
    -- one case per `Kind`, in declaration order; the two public kinds yield names that are not private, the
    -- secrets of the others were read by `loadSecret`, `other` is refused
    cases hk : x.kind <;> simp only [hk] at hx
    · -- `poisonPublic`
      obtain ⟨pp, _, hx⟩ := Option.bind_eq_some_iff.mp hx
      split at hx
      · cases hx
        have : isPrivate poisonPub = false := by decide +kernel
        rw [this] at hp; cases hp
      · cases hx
    · obtain ⟨pp, hg, rfl⟩ := Option.map_eq_some_iff.mp hx
      exact loadSecret_sealable e hl S _ _ _ (getPoisonKeyPair_some hg).1
    · obtain ⟨pub, _, hx⟩ := Option.bind_eq_some_iff.mp hx
      split at hx
      · cases hx
        rw [show isPrivate (storagePubName x.ctx) = false from isPrivate_pub _] at hp; cases hp
      · cases hx
    · obtain ⟨k, hk, rfl⟩ := Option.map_eq_some_iff.mp hx; exact loadSecret_sealable e hl S _ _ _ hk
    · obtain ⟨k, hk, rfl⟩ := Option.map_eq_some_iff.mp hx; exact loadSecret_sealable e hl S _ _ _ hk
    · obtain ⟨k, hk, rfl⟩ := Option.map_eq_some_iff.mp hx; exact loadSecret_sealable e hl S _ _ _ hk
    · cases hx
  · rw [if_neg hids] at h
    split at h
    · obtain ⟨f, _, hfr⟩ := mapM_mem _ _ _ h r hr
      obtain ⟨_, h2, _⟩ := readFileAsKey_spec e ctxOfName S.master f r hfr
      exact sealable_of_dec hl (h2 hp)
    · cases h; cases hr

end AcraModel.KeystoreSec.ExportV1
