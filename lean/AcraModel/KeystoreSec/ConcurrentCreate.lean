import AcraModel.KeystoreSec.ConcurrentFresh
/-! Every successful result is the transaction list `prepare` makes – of the atomic store (`LogShape`), hence of
every operation a handle returned from (`run_done_shape`): what `addKey_reflected_exactly_once` needs to read the
assigned sequence number off a result. -/
namespace AcraModel.KeystoreSec.Conc

def LogShape (log : List (Event × Option (List Tx))) : Prop :=
  ∀ x ∈ log, ∀ txs, x.2 = some txs → (x.1.op = .refresh ∧ txs = []) ∨ ∃ snap, prepare snap x.1.op = some txs

theorem atomicOp_shape (ring snap : Ring) (op : Op) (txs : List Tx) (h : (atomicOp ring snap op).2.2 = some txs) :
    (op = .refresh ∧ txs = []) ∨ ∃ sn, prepare sn op = some txs := by
  by_cases hop : op = .refresh
  · rw [hop, atomicOp_refresh] at h; exact .inl ⟨hop, (Option.some.inj h).symm⟩
  cases hp : prepare snap op with
  | none => rw [atomicOp_reject hop hp] at h; cases h
  | some t =>
    cases ha : applyAll t ring with
    | none => rw [atomicOp_stale hop hp ha] at h; cases h
    | some r1 => rw [atomicOp_ok hop hp ha] at h; cases h; exact .inr ⟨snap, hp⟩

theorem exec_logShape (a : AState) (e : Event) (h : LogShape a.log) : LogShape (a.exec e).log := by
  intro x hx txs hres
  rw [AState.exec_log] at hx
  rcases List.mem_append.mp hx with hx | hx
  · exact h x hx txs hres
  rw [List.mem_singleton.mp hx] at hres ⊢
  have hres : (a.outcome e).2.2 = some txs := hres
  unfold AState.outcome at hres
  split at hres
  · exact atomicOp_shape _ _ _ txs hres
  · split at hres
    · next ho => cases hres; exact .inr ⟨emptyRing, by rw [show e.op = .open from ho]; rfl⟩
    · cases hres

theorem atomicRun_logShape (a : AState) (es : List Event) (h : LogShape a.log) : LogShape (atomicRun a es).log := by
  induction es generalizing a with
  | nil => exact h
  | cons e r ih => exact ih _ (exec_logShape a e h)

theorem run_done_shape (c0 : Nat → Ring) (s : St) (sched : List Nat) (hI : Inv c0 s) (hS : Sim s (AState.init s))
    (i : Nat) (op : Op) (txs : List Tx) (hdone : (op, some txs) ∈ ((run s sched).h i).done) :
    (op = .refresh ∧ txs = []) ∨ ∃ snap, prepare snap op = some txs := by
  have hres : (op, some txs) ∈ resultsOf (atomicRun (AState.init s) (linTrace s sched)).log i := by
    rw [(run_sim c0 s _ sched hI hS).res i]; exact List.mem_append_left _ hdone
  simp only [resultsOf, List.mem_map, List.mem_filter] at hres
  obtain ⟨x, ⟨hx, _⟩, hxe⟩ := hres
  rw [← (Prod.mk.inj hxe).1]
  exact atomicRun_logShape _ _ (fun _ hx => by cases hx) x hx txs (Prod.mk.inj hxe).2

end AcraModel.KeystoreSec.Conc
