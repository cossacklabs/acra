import AcraModel.KeystoreSec.Concurrent
/-!
`stepCall` as a labelled transition relation: one rule per leaf of its case analysis (the two `Unlock` leaves
share the rule `unlock`, the two `RUnlock` leaves the rule `runlock`), with the tests that lead to the leaf as
premises. Every statement about "one step of thread `i`" is proved by cases on it.
-/
namespace AcraModel.KeystoreSec.Conc

/-- `Step s i s' c`: thread `i` takes `s` to `s'` making the back-end call `c`. `gotBad`, `putClash` and
`renameBad` are the leaves the invariant rules out. -/
inductive Step (s : St) (i : Nat) : St → Call → Prop
  | done (hpc : (s.h i).pc = .idle) (htodo : (s.h i).todo = []) : Step s i s .none
  | rlock {rest} (hpc : (s.h i).pc = .idle) (htodo : (s.h i).todo = .refresh :: rest) (hw : s.writer = none) :
    Step s i { s with readers := i :: s.readers, h := upd s.h i { s.h i with pc := .rlocked } } .rlock
  | rwait {rest} (hpc : (s.h i).pc = .idle) (htodo : (s.h i).todo = .refresh :: rest) (hw : s.writer ≠ none) :
    Step s i s .none
  | reject {op rest} (hpc : (s.h i).pc = .idle) (htodo : (s.h i).todo = op :: rest) (hop : op ≠ .refresh)
      (hprep : prepare (s.h i).snap op = none) :
    Step s i { s with h := upd s.h i (finish (s.h i) none) } .none
  | lock {op rest txs} (hpc : (s.h i).pc = .idle) (htodo : (s.h i).todo = op :: rest) (hop : op ≠ .refresh)
      (hprep : prepare (s.h i).snap op = some txs) (hw : s.writer = none) (hr : s.readers = []) :
    Step s i { s with writer := some i, h := upd s.h i { s.h i with pc := .locked, txs := txs } } .lock
  | wwait {op rest txs} (hpc : (s.h i).pc = .idle) (htodo : (s.h i).todo = op :: rest) (hop : op ≠ .refresh)
      (hprep : prepare (s.h i).snap op = some txs) (hl : ¬ (s.writer = none ∧ s.readers = [])) :
    Step s i s .none
  | openFound (hpc : (s.h i).pc = .locked) (hex : s.ex (s.h i).path = true)
      (hop : (s.h i).todo.head? = some .open) :
    Step s i { s with commits := s.commits ++ [⟨i, (s.h i).path, []⟩],
                      h := upd s.h i { s.h i with pc := .renamed, snap := s.cur (s.h i).path, txs := [] } }
      (.get (s.h i).path (s.cur (s.h i).path))
  | getStale (hpc : (s.h i).pc = .locked) (hex : s.ex (s.h i).path = true)
      (hop : (s.h i).todo.head? ≠ some .open) (happ : applyAll (s.h i).txs (s.cur (s.h i).path) = none) :
    Step s i { s with h := upd s.h i { s.h i with pc := .failed, snap := s.cur (s.h i).path } }
      (.get (s.h i).path (s.cur (s.h i).path))
  | get {r'} (hpc : (s.h i).pc = .locked) (hex : s.ex (s.h i).path = true)
      (hop : (s.h i).todo.head? ≠ some .open) (happ : applyAll (s.h i).txs (s.cur (s.h i).path) = some r') :
    Step s i { s with h := upd s.h i { s.h i with pc := .got, snap := s.cur (s.h i).path } }
      (.get (s.h i).path (s.cur (s.h i).path))
  | openMissing (hpc : (s.h i).pc = .locked) (hex : s.ex (s.h i).path = false)
      (hop : (s.h i).todo.head? = some .open) :
    Step s i { s with h := upd s.h i { s.h i with pc := .got, snap := emptyRing, txs := [] } }
      (.getMissing (s.h i).path)
  | getMissing (hpc : (s.h i).pc = .locked) (hex : s.ex (s.h i).path = false)
      (hop : (s.h i).todo.head? ≠ some .open) :
    Step s i { s with h := upd s.h i { s.h i with pc := .failed } } (.getMissing (s.h i).path)
  | gotBad (hpc : (s.h i).pc = .got) (happ : applyAll (s.h i).txs (s.h i).snap = none) :
    Step s i { s with h := upd s.h i { s.h i with pc := .failed } } .none
  | putClash {r' x} (hpc : (s.h i).pc = .got) (happ : applyAll (s.h i).txs (s.h i).snap = some r')
      (hnew : s.new (s.h i).path = some x) :
    Step s i { s with h := upd s.h i { s.h i with pc := .failed, snap := r' } } (.put (s.h i).path r' false)
  | put {r'} (hpc : (s.h i).pc = .got) (happ : applyAll (s.h i).txs (s.h i).snap = some r')
      (hnew : s.new (s.h i).path = none) :
    Step s i { s with new := upd s.new (s.h i).path (some r'),
                      h := upd s.h i { s.h i with pc := .put, snap := r' } } (.put (s.h i).path r' true)
  | renameBad (hpc : (s.h i).pc = .put) (hnew : s.new (s.h i).path = none) :
    Step s i { s with h := upd s.h i { s.h i with pc := .failed } } (.rename (s.h i).path)
  | rename {r'} (hpc : (s.h i).pc = .put) (hnew : s.new (s.h i).path = some r') :
    Step s i { s with cur := upd s.cur (s.h i).path r', new := upd s.new (s.h i).path none,
                      commits := s.commits ++ [⟨i, (s.h i).path, (s.h i).txs⟩],
                      ex := upd s.ex (s.h i).path true,
                      h := upd s.h i { s.h i with pc := .renamed } } (.rename (s.h i).path)
  | unlock {res} (hpc : ((s.h i).pc = .renamed ∧ res = some (s.h i).txs) ∨ ((s.h i).pc = .failed ∧ res = none)) :
    Step s i { s with writer := none, h := upd s.h i (finish (s.h i) res) } .unlock
  | rget (hpc : (s.h i).pc = .rlocked) (hex : s.ex (s.h i).path = true) :
    Step s i { s with h := upd s.h i { s.h i with pc := .rgot, snap := s.cur (s.h i).path } }
      (.get (s.h i).path (s.cur (s.h i).path))
  | rgetMissing (hpc : (s.h i).pc = .rlocked) (hex : s.ex (s.h i).path = false) :
    Step s i { s with h := upd s.h i { s.h i with pc := .rfailed } } (.getMissing (s.h i).path)
  | runlock {res} (hpc : ((s.h i).pc = .rgot ∧ res = some []) ∨ ((s.h i).pc = .rfailed ∧ res = none)) :
    Step s i { s with readers := s.readers.erase i, h := upd s.h i (finish (s.h i) res) } .runlock

theorem stepCall_spec (s : St) (i : Nat) : Step s i (stepCall s i).1 (stepCall s i).2 := by
  unfold stepCall
  simp only
  split
  next hpc =>
    split
    next htodo => exact .done hpc htodo
    next op rest htodo =>
      split
      next hop =>
        subst hop
        split
        next hw => exact .rlock hpc htodo hw
        next hw => exact .rwait hpc htodo hw
      next hop =>
        split
        next hprep => exact .reject hpc htodo hop hprep
        next txs hprep =>
          split
          next hl => exact .lock hpc htodo hop hprep hl.1 hl.2
          next hl => exact .wwait hpc htodo hop hprep hl
  next hpc =>
    split
    next hex =>
      split
      next hop => exact .openFound hpc hex hop
      next hop =>
        split
        next happ => exact .getStale hpc hex hop happ
        next r' happ => exact .get hpc hex hop happ
    next hex =>
      have hex := (Bool.not_eq_true _).mp hex
      split
      next hop => exact .openMissing hpc hex hop
      next hop => exact .getMissing hpc hex hop
  next hpc =>
    split
    next happ => exact .gotBad hpc happ
    next r' happ =>
      split
      next x hnew => exact .putClash hpc happ hnew
      next hnew => exact .put hpc happ hnew
  next hpc =>
    split
    next hnew => exact .renameBad hpc hnew
    next r' hnew => exact .rename hpc hnew
  next hpc => exact .unlock (.inl ⟨hpc, rfl⟩)
  next hpc => exact .unlock (.inr ⟨hpc, rfl⟩)
  next hpc =>
    split
    next hex => exact .rget hpc hex
    next hex => exact .rgetMissing hpc ((Bool.not_eq_true _).mp hex)
  next hpc => exact .runlock (.inl ⟨hpc, rfl⟩)
  next hpc => exact .runlock (.inr ⟨hpc, rfl⟩)

theorem step_spec (s : St) (i : Nat) : ∃ c, Step s i (step s i) c := ⟨_, stepCall_spec s i⟩

theorem upd_self {α} (f : Nat → α) (i : Nat) : upd f i (f i) = f := by
  funext j; by_cases h : j = i <;> simp [upd, h]

theorem upd_eq_self {α} {f : Nat → α} {i : Nat} {v : α} (h : f i = v) : upd f i v = f := h ▸ upd_self f i

theorem finish_cons {hd : Handle} {op : Op} {rest : List Op} (h : hd.todo = op :: rest) (res : Option (List Tx)) :
    finish hd res = { hd with pc := .idle, txs := [], todo := rest, done := hd.done ++ [(op, res)] } := by
  simp only [finish, h]

theorem finish_path (hd : Handle) (res) : (finish hd res).path = hd.path := by unfold finish; split <;> rfl
theorem finish_snap (hd : Handle) (res) : (finish hd res).snap = hd.snap := by unfold finish; split <;> rfl
theorem finish_pc (hd : Handle) (res) : (finish hd res).pc = .idle := by unfold finish; split <;> rfl
theorem finish_txs (hd : Handle) (res) : (finish hd res).txs = [] := by unfold finish; split <;> rfl

theorem finish_todo (hd : Handle) (res) : ∀ op ∈ (finish hd res).todo, op ∈ hd.todo := by
  intro op h
  unfold finish at h
  split at h
  · exact h
  · next e => rw [e]; exact List.mem_cons_of_mem _ h

/-- What a step does to the handles: only thread `i`'s changes; it keeps its path, its program can only
shrink, and its transaction log stays, is emptied, or is what `prepare` makes of one of its operations. -/
theorem Step.handle {s s' : St} {i : Nat} {c : Call} (hst : Step s i s' c) :
    ∃ hd', s'.h = upd s.h i hd' ∧ hd'.path = (s.h i).path ∧ (∀ op ∈ hd'.todo, op ∈ (s.h i).todo) ∧
      (hd'.txs = (s.h i).txs ∨ hd'.txs = [] ∨ ∃ op ∈ (s.h i).todo, prepare (s.h i).snap op = some hd'.txs) := by
  cases hst with
  | done | rwait | wwait => exact ⟨_, (upd_self _ _).symm, rfl, fun _ x => x, .inl rfl⟩
  | reject | unlock | runlock => exact ⟨_, rfl, finish_path _ _, finish_todo _ _, .inr (.inl (finish_txs _ _))⟩
  | lock _ htodo _ hprep => exact ⟨_, rfl, rfl, fun _ x => x, .inr (.inr ⟨_, by rw [htodo]; exact .head _, hprep⟩)⟩
  | openFound | openMissing => exact ⟨_, rfl, rfl, fun _ x => x, .inr (.inl rfl)⟩
  | rlock | getStale | get | getMissing | gotBad | putClash | put | renameBad | rename | rget | rgetMissing =>
    exact ⟨_, rfl, rfl, fun _ x => x, .inl rfl⟩

/-- What a step does to commit log, ring files and their existence: nothing, or it is the `Get` of an
`OpenKeyRingRW` that found its ring (empty commit), or it is a `Rename`. -/
theorem Step.effect {s s' : St} {i : Nat} {c : Call} (hst : Step s i s' c) :
    (s'.commits = s.commits ∧ s'.cur = s.cur ∧ s'.ex = s.ex) ∨
    ((s.h i).pc = .locked ∧ s'.commits = s.commits ++ [⟨i, (s.h i).path, []⟩] ∧ s'.cur = s.cur ∧ s'.ex = s.ex) ∨
    ((s.h i).pc = .put ∧ ∃ r', s.new (s.h i).path = some r' ∧
      s'.commits = s.commits ++ [⟨i, (s.h i).path, (s.h i).txs⟩] ∧
      s'.cur = upd s.cur (s.h i).path r' ∧ s'.ex = upd s.ex (s.h i).path true) := by
  cases hst with
  | openFound hpc => exact .inr (.inl ⟨hpc, rfl, rfl, rfl⟩)
  | rename hpc hnew => exact .inr (.inr ⟨hpc, _, hnew, rfl, rfl, rfl⟩)
  | _ => exact .inl ⟨rfl, rfl, rfl⟩

theorem step_path (s : St) (i j : Nat) : ((step s i).h j).path = (s.h j).path := by
  obtain ⟨c, hst⟩ := step_spec s i
  obtain ⟨hd', hh, hpath, _⟩ := hst.handle
  rw [hh]
  by_cases hji : j = i
  · subst hji; rw [upd_same, hpath]
  · rw [upd_other _ _ _ _ hji]

theorem step_todo (s : St) (i j : Nat) : ∀ op ∈ ((step s i).h j).todo, op ∈ (s.h j).todo := by
  obtain ⟨c, hst⟩ := step_spec s i
  obtain ⟨hd', hh, _, htodo, _⟩ := hst.handle
  rw [hh]
  by_cases hji : j = i
  · subst hji; rw [upd_same]; exact htodo
  · rw [upd_other _ _ _ _ hji]; exact fun _ x => x

theorem run_path (s : St) (sched : List Nat) (j : Nat) : ((run s sched).h j).path = (s.h j).path := by
  induction sched generalizing s with
  | nil => rfl
  | cons i r ih => rw [show run s (i :: r) = run (step s i) r from rfl, ih, step_path]

theorem step_cur (s : St) (i p : Nat) :
    (step s i).cur p = s.cur p ∨
      ((s.h i).pc = .put ∧ (s.h i).path = p ∧ s.new p = some ((step s i).cur p)) := by
  obtain ⟨_, hst⟩ := step_spec s i
  rcases hst.effect with ⟨_, e, _⟩ | ⟨_, _, e, _⟩ | ⟨hpc, r', hnew, _, e, _⟩ <;> rw [e]
  · exact .inl rfl
  · exact .inl rfl
  · by_cases hp : p = (s.h i).path
    · subst hp; rw [upd_same]; exact .inr ⟨hpc, rfl, hnew⟩
    · exact .inl (upd_other _ _ _ _ hp)

theorem step_ex_mono (s : St) (i p : Nat) (h : s.ex p = true) : (step s i).ex p = true := by
  obtain ⟨_, hst⟩ := step_spec s i
  rcases hst.effect with ⟨_, _, e⟩ | ⟨_, _, _, e⟩ | ⟨_, r', _, _, _, e⟩
  · rw [e]; exact h
  · rw [e]; exact h
  · rw [e]; by_cases hp : p = (s.h i).path <;> simp [upd, hp, h]

theorem run_ex_mono (s : St) (sched : List Nat) (p : Nat) (h : s.ex p = true) : (run s sched).ex p = true := by
  induction sched generalizing s with
  | nil => exact h
  | cons i r ih => exact ih _ (step_ex_mono s i p h)

end AcraModel.KeystoreSec.Conc
