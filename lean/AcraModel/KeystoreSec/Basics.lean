import AcraModel.Crypto.Ops
/-! Shared by the models of both key store formats: `List.mapM` in `Option`, consequences of the sealing laws. -/
namespace AcraModel.KeystoreSec

theorem mapM_mem {α β} (f : α → Option β) :
    ∀ (xs : List α) (ys : List β), xs.mapM f = some ys → ∀ y ∈ ys, ∃ x ∈ xs, f x = some y
  | [], _, h, y, hy => by cases h; cases hy
  | x :: xs, ys, h, y, hy => by
    simp only [List.mapM_cons, Option.bind_eq_bind, Option.bind_eq_some_iff, Option.pure_def, Option.some.injEq] at h
    obtain ⟨y0, hx, ys', hxs, rfl⟩ := h
    rcases List.mem_cons.mp hy with rfl | hy
    · exact ⟨x, List.mem_cons_self, hx⟩
    · obtain ⟨x', hx', hfx⟩ := mapM_mem f xs ys' hxs y hy
      exact ⟨x', List.mem_cons_of_mem _ hx', hfx⟩

theorem mapM_none_of_mem {α β} (f : α → Option β) {x : α} (hx : f x = none) : ∀ {xs : List α}, x ∈ xs → xs.mapM f = none
  | y :: ys, h => by
    rw [List.mapM_cons]
    rcases List.mem_cons.mp h with rfl | h
    · rw [hx]; rfl
    · rw [mapM_none_of_mem f hx h]; cases f y <;> rfl

theorem mapM_map_eq {α β γ} (f : α → Option β) (g : β → γ) (g' : α → γ) (hf : ∀ x y, f x = some y → g y = g' x) :
    ∀ (xs : List α) (ys : List β), xs.mapM f = some ys → ys.map g = xs.map g'
  | [], _, h => by cases h; rfl
  | x :: xs, ys, h => by
    simp only [List.mapM_cons, Option.bind_eq_bind, Option.bind_eq_some_iff, Option.pure_def, Option.some.injEq] at h
    obtain ⟨y0, hx, ys', hxs, rfl⟩ := h
    rw [List.map_cons, List.map_cons, hf x y0 hx, mapM_map_eq f g g' hf xs ys' hxs]

theorem enc_some {c : CryptoOps} (hl : SealLaws c) {k x m n : Bytes} (hk : k ≠ []) (hm : m ≠ []) (hn : n.length = nonceLen)
    (hb : m.length < maxMsgLen) : ∃ ct, c.enc k x m n = some ct := by
  cases h : c.enc k x m n with
  | some ct => exact ⟨ct, rfl⟩
  | none =>
    rcases (hl.enc_none k x m n).mp h with h1 | h1 | h1 | h1
    · exact absurd h1 hm
    · exact absurd h1 hk
    · exact absurd hn h1
    · exact absurd hb (Nat.not_lt.mpr h1)

/-- a sealed value opens under no other key and no other context (authenticity + key commitment) -/
theorem dec_other {c : CryptoOps} (hl : SealLaws c) (hc : SealCommit c) {k x m n ct : Bytes}
    (h : c.enc k x m n = some ct) {k' x' : Bytes} (hne : k' ≠ k ∨ x' ≠ x) : c.dec k' x' ct = none := by
  cases hd : c.dec k' x' ct with
  | none => rfl
  | some m' =>
    obtain ⟨n', _, hn'⟩ := hl.enc_of_dec _ _ _ _ hd
    have := hc.enc_inj _ _ _ _ _ _ _ _ _ hn' h
    exact hne.elim (absurd this.1) (absurd this.2.1)

/-- a sealed value is longer than what it seals, so it is not the secret itself -/
theorem sealed_ne {c : CryptoOps} (hlen : SealLen c) {k x m n ct : Bytes} (h : c.enc k x m n = some ct) : ct ≠ m := by
  intro e
  have := hlen.enc_len k x m n ct h
  rw [e] at this
  exact absurd this (Nat.ne_of_lt (Nat.lt_add_of_pos_right (show 0 < sealOverhead by decide)))

end AcraModel.KeystoreSec
