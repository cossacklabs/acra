import AcraModel.KeystoreSec.Notary
/-!
# Key-ring export / import of the v2 key store
(`keystore/v2/keystore/filesystem/{export.go, key.go, keyRing.go, keyStore.go}`)

* At rest a key's private / symmetric material is `enc master ctx material` with
  `ctx = "AKSv2 keystore: key ring <path>: private key <seqnum>"` (resp. `symmetric key`).
* `exportKeyRing` decrypts every key of a ring (or strips the secret parts in public-only mode),
  `encryptAndSignKeyRings` serialises the plaintext rings, seals them with the fresh access
  encryption key under the export context and signs the container with the fresh signature key.
* `ImportKeyRings` verifies, unseals, parses and then imports ring by ring: a ring that exists is
  refused by the default delegate; otherwise an empty ring is created (`openKeyRing`) and
  `importASN1` re-encrypts every key for the target (`copyKey` → `addKeyData`) and commits
  `txSetKeys`.

The ASN.1 serialisation of the ring list is a parameter (`Codec`) with the round-trip law as a
hypothesis of the theorems that need it. No `Codec` value is built in the development: `Der.lean` has the
DER encoder of the ring list (`Der.derEncryptedKeys`, compared with `asn1.Marshal` by the op `C07.der.keys`); a decoder
of it is not modelled.
-/
namespace AcraModel.KeystoreSec.Export
open AcraModel.KeystoreSec.Path (ofStr)
open AcraModel.KeystoreSec

structure KeyData where
  /-- `asn1.KeyFormat`: 1 = Themis key pair, 3 = Themis symmetric key -/
  format : Nat
  pub : Bytes
  priv : Bytes
  sym : Bytes
deriving DecidableEq, Repr

structure Key where
  seq : Int
  state : Nat
  /-- validity period, seconds -/
  since : Int
  until_ : Int
  data : List KeyData
deriving DecidableEq, Repr

structure Ring where
  purpose : Bytes
  keys : List Key
  current : Int
deriving DecidableEq, Repr

def fmtPair : Nat := 1
def fmtSym : Nat := 3

/-! ## contexts (`Props.C18.fact_contexts`). `CrossClient/Context.lean` models the same digits and key contexts a
second time (`decimal`, `v2KindContext`) and proves those injective in the sequence number; no lemma connects the two. -/

def natDigitsAux : Nat → Nat → List UInt8
  | 0, _ => []
  | fuel + 1, n => if n < 10 then [UInt8.ofNat (48 + n)] else natDigitsAux fuel (n / 10) ++ [UInt8.ofNat (48 + n % 10)]

/-- decimal digits (fuel `n + 1` always suffices; structural so that it reduces in proofs) -/
def natDigits (n : Nat) : List UInt8 := natDigitsAux (n + 1) n

/-- `fmt.Sprintf("%d", seqnum)` -/
def decimal (i : Int) : Bytes :=
  match i with
  | .ofNat n => natDigits n
  | .negSucc n => 45 :: natDigits (n + 1)

/-- `KeyStore.keyStoreContext` -/
def ksCtx (x : Bytes) : Bytes := ofStr "AKSv2 keystore: " ++ x
/-- `KeyRing.keyRingContext` -/
def ringCtx (path x : Bytes) : Bytes := ofStr "key ring " ++ path ++ ofStr ": " ++ x
def privCtx (path : Bytes) (seq : Int) : Bytes := ksCtx (ringCtx path (ofStr "private key " ++ decimal seq))
def symCtx (path : Bytes) (seq : Int) : Bytes := ksCtx (ringCtx path (ofStr "symmetric key " ++ decimal seq))
/-- `KeyStore.keyRingSignatureContext` -/
def sigCtx (path : Bytes) : Bytes := ksCtx (ofStr "key ring signature: " ++ path)
/-- `exportKeyContext` -/
def exportCtx : Bytes := ofStr "AKSv2 keystore: exported key rings"

/-! ## encrypting key data for a ring (`addKeyData`, `copyKey`) -/

/-- nonce oracle: the randomness `Protect` draws, as an arbitrary function of context and message -/
abbrev Nonces := Bytes → Bytes → Bytes

/-- `addKeyData` for one `KeyData` in plaintext (`none` = the error returned) -/
def addKeyData (c : CryptoOps) (ν : Nonces) (master path : Bytes) (seq : Int) (d : KeyData) : Option KeyData :=
  if d.format = fmtPair then
    if d.pub = [] then none
    else if d.priv = [] then some ⟨fmtPair, d.pub, [], []⟩
    else (c.enc master (privCtx path seq) d.priv (ν (privCtx path seq) d.priv)).map fun e => ⟨fmtPair, d.pub, e, []⟩
  else if d.format = fmtSym then
    if d.sym = [] then none
    else (c.enc master (symCtx path seq) d.sym (ν (symCtx path seq) d.sym)).map fun e => ⟨fmtSym, [], [], e⟩
  else none

def stDestroyed : Nat := 6

/-- `copyKey`: cryptoperiod check, at least one data item unless the key is destroyed (a destroyed
key has no data by construction; the pinned tree refused it, see `copyKeyPinned`), formats pairwise
different (the `ErrFormatDuplicated` check of `addKeyData`), every item re-encrypted for the target ring -/
def copyKey (c : CryptoOps) (ν : Nonces) (master path : Bytes) (k : Key) : Option Key :=
  if k.since > k.until_ then none
  else if k.data = [] ∧ k.state ≠ stDestroyed then none
  else if ¬ (k.data.map (·.format)).Nodup then none
  else (k.data.mapM (addKeyData c ν master path k.seq)).map fun ds => { k with data := ds }

/-- `copyKey` as on the pinned tree: every key without data is refused, destroyed ones included -/
def copyKeyPinned (c : CryptoOps) (ν : Nonces) (master path : Bytes) (k : Key) : Option Key :=
  if k.since > k.until_ then none
  else if k.data = [] then none
  else if ¬ (k.data.map (·.format)).Nodup then none
  else (k.data.mapM (addKeyData c ν master path k.seq)).map fun ds => { k with data := ds }

/-! ## export (`exportASN1`, `decryptAllKeyData`, `decryptKeyData`) -/

inductive DecRes where
  | ok (d : KeyData)
  | noPublic          -- `ErrNoPublicData`: the whole ring is skipped
  | fail              -- decryption error: the export fails

/-- `decryptKeyData`; `withPrivate` = `mode & ExportPrivateKeys != 0` -/
def decryptKeyData (c : CryptoOps) (master path : Bytes) (seq : Int) (withPrivate : Bool) (d : KeyData) : DecRes :=
  if ¬ withPrivate then
    if d.pub = [] then .noPublic else .ok { d with priv := [], sym := [] }
  else
    let p := if d.priv = [] then some [] else c.dec master (privCtx path seq) d.priv
    match p with
    | none => .fail
    | some p =>
      let s := if d.sym = [] then some [] else c.dec master (symCtx path seq) d.sym
      match s with
      | none => .fail
      | some s => .ok { d with priv := p, sym := s }

inductive RingRes (α : Type) where
  | ok (r : α)
  | skip
  | fail

def decryptAll (c : CryptoOps) (master path : Bytes) (seq : Int) (wp : Bool) : List KeyData → RingRes (List KeyData)
  | [] => .ok []
  | d :: ds =>
    match decryptKeyData c master path seq wp d with
    | .noPublic => .skip
    | .fail => .fail
    | .ok d' =>
      match decryptAll c master path seq wp ds with
      | .ok ds' => .ok (d' :: ds')
      | .skip => .skip
      | .fail => .fail

def exportKeys (c : CryptoOps) (master path : Bytes) (wp : Bool) : List Key → RingRes (List Key)
  | [] => .ok []
  | k :: ks =>
    match decryptAll c master path k.seq wp k.data with
    | .skip => .skip
    | .fail => .fail
    | .ok ds =>
      match exportKeys c master path wp ks with
      | .ok ks' => .ok ({ k with data := ds } :: ks')
      | .skip => .skip
      | .fail => .fail

/-- `exportASN1` of the stored ring at `path` -/
def exportRing (c : CryptoOps) (master path : Bytes) (wp : Bool) (r : Ring) : RingRes Ring :=
  match exportKeys c master path wp r.keys with
  | .ok ks => .ok { r with keys := ks }
  | .skip => .skip
  | .fail => .fail

/-- a key store: master key and the stored rings by path -/
structure Store where
  master : Bytes
  rings : Bytes → Option Ring

def Store.get (s : Store) (path : Bytes) : Option Ring := s.rings path
def Store.put (s : Store) (path : Bytes) (r : Ring) : Store :=
  { s with rings := fun q => if q = path then some r else s.rings q }

@[simp] theorem Store.get_put_same (s : Store) (p : Bytes) (r : Ring) : (s.put p r).get p = some r := by
  simp [Store.get, Store.put]
theorem Store.get_put_other (s : Store) (p q : Bytes) (r : Ring) (h : q ≠ p) : (s.put p r).get q = s.get q := by
  simp [Store.get, Store.put, h]
@[simp] theorem Store.put_master (s : Store) (p : Bytes) (r : Ring) : (s.put p r).master = s.master := rfl

/-- `exportKeyRings`: a missing ring is an error, a ring without public data is skipped -/
def exportRings (c : CryptoOps) (s : Store) (wp : Bool) : List Bytes → Option (List Ring)
  | [] => some []
  | p :: ps =>
    match s.get p with
    | none => none
    | some r =>
      match exportRing c s.master p wp r with
      | .fail => none
      | .skip => exportRings c s wp ps
      | .ok x => (exportRings c s wp ps).map (x :: ·)

structure Codec where
  ser : List Ring → Bytes
  deser : Bytes → Option (List Ring)
  /-- DER of the payload `SignedPayload{TypeEncryptedKeys, 2, time, OCTET STRING data}` -/
  serPayload : Int → Bytes → Bytes
  /-- parse a payload; `none` unless content type and version are the expected ones -/
  deserPayload : Bytes → Option Bytes

structure Codec.Ok (cd : Codec) : Prop where
  rings : ∀ rs, cd.deser (cd.ser rs) = some rs
  payload : ∀ t d, cd.deserPayload (cd.serPayload t d) = some d
  nonempty : ∀ rs, cd.ser rs ≠ []

structure AccessKeys where
  encKey : Bytes
  sigKey : Bytes
deriving DecidableEq, Repr

/-- `encryptAndSignKeyRings` -/
def encryptAndSign (c : CryptoOps) (cd : Codec) (ak : AccessKeys) (time : Int) (nonce : Bytes) (rs : List Ring) : Option Notary.Container :=
  (c.enc ak.encKey exportCtx (cd.ser rs) nonce).map fun e =>
    Notary.sign c ak.sigKey exportCtx (cd.serPayload time e)

/-- `decryptAndVerifyKeyRings` -/
def decryptAndVerify (c : CryptoOps) (cd : Codec) (ak : AccessKeys) (b : Notary.Container) : Option (List Ring) :=
  if Notary.verify c ak.sigKey exportCtx b = true then
    (cd.deserPayload b.raw).bind fun e => (c.dec ak.encKey exportCtx e).bind cd.deser
  else none

/-- `ExportKeyRings` -/
def exportBundle (c : CryptoOps) (cd : Codec) (s : Store) (wp : Bool) (paths : List Bytes) (ak : AccessKeys)
    (time : Int) (nonce : Bytes) : Option Notary.Container :=
  (exportRings c s wp paths).bind (encryptAndSign c cd ak time nonce)

/-- `importASN1` on a ring object for `path`: all keys copied, then `txSetKeys` -/
def importASN1 (c : CryptoOps) (ν : Nonces) (master path : Bytes) (x : Ring) : Option Ring :=
  (x.keys.mapM (copyKey c ν master path)).map fun ks => ⟨path, ks, x.current⟩

/-- `importASN1` on the pinned tree -/
def importASN1Pinned (c : CryptoOps) (ν : Nonces) (master path : Bytes) (x : Ring) : Option Ring :=
  (x.keys.mapM (copyKeyPinned c ν master path)).map fun ks => ⟨path, ks, x.current⟩

/-- `importKeyRing` on the pinned tree -/
def importKeyRingPinned (c : CryptoOps) (ν : Nonces) (s : Store) (x : Ring) : Store × Bool :=
  match s.get x.purpose with
  | some _ => (s, false)
  | none =>
    let s1 := s.put x.purpose ⟨x.purpose, [], -1⟩
    match importASN1Pinned c ν s.master x.purpose x with
    | none => (s1, false)
    | some r => (s1.put x.purpose r, true)

/-- `importKeyRing` with the default delegate; returns the store and whether it succeeded.
A failure in `importASN1` happens *after* `openKeyRing` created the (empty) ring. -/
def importKeyRing (c : CryptoOps) (ν : Nonces) (s : Store) (x : Ring) : Store × Bool :=
  match s.get x.purpose with
  | some _ => (s, false)                       -- ErrKeyRingExists
  | none =>
    let s1 := s.put x.purpose ⟨x.purpose, [], -1⟩
    match importASN1 c ν s.master x.purpose x with
    | none => (s1, false)
    | some r => (s1.put x.purpose r, true)

def importRings (c : CryptoOps) (ν : Nonces) : Store → List Ring → Store × Bool
  | s, [] => (s, true)
  | s, x :: xs =>
    match importKeyRing c ν s x with
    | (s', true) => importRings c ν s' xs
    | (s', false) => (s', false)

/-- `ImportKeyRings`: `none` = rejected before anything was touched -/
def importBundle (c : CryptoOps) (cd : Codec) (ν : Nonces) (s : Store) (ak : AccessKeys) (b : Notary.Container) : Option (Store × Bool) :=
  (decryptAndVerify c cd ak b).map (importRings c ν s)

end AcraModel.KeystoreSec.Export
