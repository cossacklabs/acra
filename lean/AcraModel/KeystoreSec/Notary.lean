import AcraModel.Crypto.Ops
import AcraModel.KeystoreSec.Path
/-!
# Signed containers (`keystore/v2/keystore/signature/notary.go`, `crypto/signature.go`)

A stored key ring (and an export bundle) is a `SignedContainer`: the DER bytes of the payload – the
**signed span** – plus a set of signatures. `Notary.Verify` recomputes the HMAC over exactly the
payload bytes found in the file (`Payload.RawContent`), keyed by the signature key, with the
context (ring path / export context) and `": "` prepended; unknown algorithms are skipped, every
known one must match and at least one must be known.

The ASN.1 framing around the two parts is not modelled here (a container is the pair); the
byte-level DER encoding is in `Der.lean` and is compared with the real files by correspondence.
-/
namespace AcraModel.KeystoreSec.Notary
open AcraModel.KeystoreSec.Path (ofStr)

structure Sig where
  oid : List Nat
  sig : Bytes
deriving DecidableEq, Repr

structure Container where
  /-- DER bytes of the payload = the signed span -/
  raw : Bytes
  sigs : List Sig
deriving DecidableEq, Repr

/-- `asn1.Sha256OID` (a conjunct of `Props.C18.fact_contexts`) -/
def sha256OID : List Nat := [2, 16, 840, 1, 101, 3, 4, 2, 1]

/-- `SignSha256.Sign`: HMAC-SHA-256 over `context ‖ ": " ‖ data` -/
def signBytes (c : CryptoOps) (key ctx data : Bytes) : Bytes := c.hmac key (ctx ++ (ofStr ": " ++ data))

/-- `Notary.Sign` with the default suite (one algorithm) -/
def sign (c : CryptoOps) (key ctx raw : Bytes) : Container := ⟨raw, [⟨sha256OID, signBytes c key ctx raw⟩]⟩

/-- `Notary.verifySignatures`: signatures of unknown algorithms are skipped, all known ones must
match, at least one must be known -/
def verify (c : CryptoOps) (key ctx : Bytes) (ct : Container) : Bool :=
  let known := ct.sigs.filter (·.oid = sha256OID)
  !known.isEmpty && known.all (fun s => s.sig == signBytes c key ctx ct.raw)

theorem verify_sign (c : CryptoOps) (key ctx raw : Bytes) : verify c key ctx (sign c key ctx raw) = true := by
  simp [verify, sign]

/-- anything that verifies with signatures taken from an honest container was signed over the same
`context ‖ ": " ‖ payload` string, under the same key -/
theorem verify_forces (c : CryptoOps) (hi : HashInj c) (key ctx raw key' ctx' raw' : Bytes)
    (h : verify c key' ctx' ⟨raw', (sign c key ctx raw).sigs⟩ = true) :
    key' = key ∧ ctx' ++ (ofStr ": " ++ raw') = ctx ++ (ofStr ": " ++ raw) := by
  simp [verify, sign, signBytes] at h
  have := hi.hmac_inj _ _ _ _ h
  exact ⟨this.1.symm, this.2.symm⟩

end AcraModel.KeystoreSec.Notary
