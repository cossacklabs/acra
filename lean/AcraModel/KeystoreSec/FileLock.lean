import AcraModel.Generated.FileLock
/-!
# Life cycle of the directory back end's lock file (`<key directory>/.lock`)

Model of `keystore/v2/keystore/filesystem/backend/file_lock.go` and of the parts of `filesystem.go`
that create, use and close the lock (`CreateDirectoryBackend`, `OpenDirectoryBackend`,
`DirectoryBackend.{Lock, Unlock, RLock, RUnlock, Close}`), at the granularity of the system calls that
matter for exclusion. The concurrency model (`KeystoreSec/Concurrent.lean`) treats "the lock of the back
end" as ONE abstract object (`St.writer`, `St.readers`). What the operating system locks, however, is an
**inode**: `flock(2)` excludes open file descriptions of the same file, and which file a handle's
descriptor refers to is decided at the moment the handle is opened – by what the path `.lock` names then.

* The directory holds at most one file named `.lock` (`LState.path`: the inode the name refers to now,
  `none` = no such file). Inodes are identities of file objects: a fresh one for every file created, never
  re-used (the harness pins every inode it has seen, so that inode *numbers* are not re-used either).
* **open** (`newFileLock` = `os.Create(path)` = `OpenFile(path, O_RDWR|O_CREATE|O_TRUNC, 0666)`; called once by
  each constructor of `DirectoryBackend`, with `filepath.Join(root, lockFile)`): the new handle's descriptor
  refers to the inode the path names; when the path names nothing a new file (fresh inode) is created first.
* **close** (`fileLock.Close` = `l.lockFile.Close()`; reached through `KeyStore.Close` → `DirectoryBackend.Close`):
  the open file description goes away and with it any `flock` it holds. Whether the close *also unlinks the
  path* is the parameter `cu` of `lstep`; for the code as it is, it is `closeUnlinks`, computed from the
  regenerated list of calls `fileLock.Close` makes.
* **Lock / RLock** are two steps, as coded: `enter` = `l.lockSync.Lock()` (the per-handle mutex that keeps
  goroutines sharing one handle from converting each other's `flock`), then `acquire` = `syscall.Flock(fd,
  LOCK_EX | LOCK_SH)` returns – possible only when no *other* open file description of the **same inode**
  holds a conflicting lock.
* **Unlock / RUnlock** = `release`: `syscall.Flock(fd, LOCK_UN)`, deferred `l.lockSync.Unlock()`.

Not modelled: poisoning and recovery (`poisonLock` / `recoverLock` – reached only when `flock(fd, LOCK_UN)`
on a valid descriptor fails, which Linux does not do); errors of `open(2)`; somebody outside Acra removing or
replacing `.lock`; closing a handle while one of its goroutines is still inside a locked section is modelled
as the system does it (the lock is gone), the theorems then speak about the handles that still hold a lock.
-/
namespace AcraModel.KeystoreSec.FileLock

/-- `LOCK_SH` / `LOCK_EX` -/
inductive Mode where
  | sh | ex
deriving DecidableEq, Repr

/-- library calls after which the path no longer names the inode it named before -/
def unlinkCalls : List String :=
  ["os.Remove", "os.RemoveAll", "os.Rename", "syscall.Unlink", "syscall.Unlinkat", "syscall.Rename",
   "syscall.Renameat", "syscall.Rmdir", "unix.Unlink", "unix.Unlinkat", "unix.Rename", "unix.Renameat"]

def callsUnlink (calls : List String) : Bool := calls.any fun c => unlinkCalls.contains c

/-- does closing a handle, as it is in the source now, unlink the lock file? Computed from the regenerated
lists of calls made on the way down: `KeyStore.Close` → `DirectoryBackend.Close` → `fileLock.Close`
(`Props.C17.fact_filelock_close` states the lists themselves). -/
def closeUnlinks : Bool :=
  callsUnlink Generated.FileLock.fileLockCloseCalls || callsUnlink Generated.FileLock.backendCloseCalls ||
  callsUnlink Generated.FileLock.keyStoreCloseCalls

/-- one `fileLock` object (= one `DirectoryBackend` = one key-store handle) -/
structure LHandle where
  /-- the inode `lockFile` refers to (fixed when the handle is opened) -/
  ino : Nat
  /-- `lockFile` not yet closed -/
  isOpen : Bool
  /-- `lockSync` is held -/
  mutex : Bool
  /-- inside `Lock()` / `RLock()`: the mutex is taken, `flock(2)` has not returned yet -/
  want : Option Mode
  /-- the `flock` this open file description holds -/
  held : Option Mode
deriving DecidableEq, Repr

/-- the dummy in every slot not yet handed out. Its inode is 0 so that `LInv.freshH` (inodes of the slots handed
out are below the counter `next`) holds of slot `n` from the moment it is counted (`inv_grow`), before the new
handle is written into it. -/
def closedHandle : LHandle := ⟨0, false, false, none, none⟩

structure LState where
  /-- the inode `<dir>/.lock` names now -/
  path : Option Nat
  /-- next fresh inode -/
  next : Nat
  /-- number of handles opened so far (handle ids are `0 … n-1`, in the order of opening) -/
  n : Nat
  h : Nat → LHandle

inductive LOp where
  /-- `CreateDirectoryBackend` / `OpenDirectoryBackend` → `newFileLock(filepath.Join(root, lockFile))` -/
  | openH
  /-- `KeyStore.Close` → `DirectoryBackend.Close` → `fileLock.Close` -/
  | closeH (i : Nat)
  /-- `Lock()` / `RLock()` up to and including `l.lockSync.Lock()` -/
  | enter (i : Nat) (m : Mode)
  /-- `syscall.Flock(fd, LOCK_EX | LOCK_SH)` returns -/
  | acquire (i : Nat)
  /-- `Unlock()` / `RUnlock()` -/
  | release (i : Nat)
deriving DecidableEq, Repr

def upd {α} (f : Nat → α) (i : Nat) (v : α) : Nat → α := fun j => if j = i then v else f j

@[simp] theorem upd_same {α} (f : Nat → α) (i : Nat) (v : α) : upd f i v i = v := by simp [upd]
theorem upd_other {α} (f : Nat → α) (i j : Nat) (v : α) (h : j ≠ i) : upd f i v j = f j := by simp [upd, h]

/-- `flock(2)`: may a lock of mode `m` be granted next to a lock `o` held through another open file
description of the same file? -/
def compat : Mode → Option Mode → Bool
  | _, none => true
  | .sh, some .sh => true
  | _, _ => false

/-- `flock(fd_i, m)` returns (rather than blocks): every other open file description **of the same inode**
holds a compatible lock or none -/
def canFlock (s : LState) (i : Nat) (m : Mode) : Bool :=
  (List.range s.n).all fun j => j == i || (s.h j).ino != (s.h i).ino || compat m (s.h j).held

/-- one step; `cu` = "close also unlinks the path". An operation that is not possible in the state (a blocked
`flock`, a busy mutex, a handle that does not exist or is closed) leaves the state unchanged. -/
def lstep (cu : Bool) (s : LState) : LOp → LState
  | .openH =>
    match s.path with
    | some p => { s with n := s.n + 1, h := upd s.h s.n ⟨p, true, false, none, none⟩ }
    | none => { s with path := some s.next, next := s.next + 1, n := s.n + 1,
                       h := upd s.h s.n ⟨s.next, true, false, none, none⟩ }
  | .closeH i =>
    let hd := s.h i
    -- `l.lockFile.Close()`: the open file description and its flock go away (an error on a second Close)
    let s1 := if hd.isOpen then { s with h := upd s.h i { hd with isOpen := false, want := none, held := none } } else s
    -- the unlinking variant: `os.Remove(l.path)` – whatever the path names now
    if cu ∧ i < s.n then { s1 with path := none } else s1
  | .enter i m =>
    let hd := s.h i
    if hd.isOpen ∧ hd.mutex = false then { s with h := upd s.h i { hd with mutex := true, want := some m } } else s
  | .acquire i =>
    let hd := s.h i
    match hd.want with
    | some m =>
      if hd.isOpen ∧ canFlock s i m then { s with h := upd s.h i { hd with want := none, held := some m } } else s
    | none => s
  | .release i =>
    let hd := s.h i
    if hd.isOpen ∧ hd.held ≠ none then { s with h := upd s.h i { hd with held := none, mutex := false } } else s

def lrun (cu : Bool) (s : LState) (ops : List LOp) : LState := ops.foldl (lstep cu) s

/-- a key directory nobody has opened yet; `.lock` may or may not be there already -/
def linit (p : Option Nat) : LState :=
  ⟨p, match p with | some k => k + 1 | none => 0, 0, fun _ => closedHandle⟩

/-- the lock of `KeystoreSec/Concurrent.lean`: `St.writer` and (as a membership predicate) `St.readers` -/
structure ALock where
  writer : Option Nat
  reader : Nat → Bool

def ALock.free : ALock := ⟨none, fun _ => false⟩

/-- the moves of the abstract lock – exactly the enabling conditions of `Conc.stepCall`: the exclusive lock
is granted when there is neither a writer nor a reader, the shared lock when there is no writer -/
inductive AStep (a b : ALock) : Prop where
  | stutter (hw : b.writer = a.writer) (hr : ∀ j, b.reader j = a.reader j)
  | lock (i : Nat) (pre1 : a.writer = none) (pre2 : ∀ j, a.reader j = false)
      (hw : b.writer = some i) (hr : ∀ j, b.reader j = a.reader j)
  | unlock (i : Nat) (pre : a.writer = some i) (hw : b.writer = none) (hr : ∀ j, b.reader j = a.reader j)
  | rlock (i : Nat) (pre : a.writer = none) (hw : b.writer = a.writer)
      (hr : ∀ j, b.reader j = if j = i then true else a.reader j)
  | runlock (i : Nat) (pre : a.reader i = true) (hw : b.writer = a.writer)
      (hr : ∀ j, b.reader j = if j = i then false else a.reader j)

inductive AReach (a : ALock) : ALock → Prop where
  | refl : AReach a a
  | step {b c : ALock} : AReach a b → AStep b c → AReach a c

/-- the abstraction: the writer is the handle whose open file description holds `LOCK_EX`, the readers are
the handles holding `LOCK_SH` -/
def Abs (s : LState) (a : ALock) : Prop :=
  (∀ i, a.writer = some i ↔ (s.h i).held = some .ex) ∧ (∀ i, a.reader i = true ↔ (s.h i).held = some .sh)

/-- inode classes in order of first appearance: the canonical form in which `Driver/C17.lean` and the harness
print the inodes of a history (run by the driver, no theorem is about it) -/
def classes (xs : List Nat) : List Nat :=
  let rec go (seen : List Nat) : List Nat → List Nat
    | [] => []
    | x :: rest =>
      match seen.idxOf? x with
      | some k => k :: go seen rest
      | none => seen.length :: go (seen ++ [x]) rest
  go [] xs

end AcraModel.KeystoreSec.FileLock
