import AcraModel.KeystoreSec.V1Names
/-!
# What the v1 key store writes (`keystore/filesystem/server_keystore.go`)

Every key-producing operation of the v1 key store ends in `WriteKeyFile(path, data, mode)`
(`WritePrivateKey` = mode 0600, `WritePublicKey` = mode 0644), which hands `data` to
`Storage.WriteFile(<temporary file next to path>, data, mode)` and then renames the temporary file
to `path` (after linking/copying the previous content into `<path>.old/<timestamp>`). The *write
log* of an operation is the list of these `WriteFile` calls with the temporary name replaced by the
final one (the harness joins `WriteFile(tmp, …)` with the `Rename(tmp, path)` that follows).

| operation | file | key context (purpose, id) | data |
|---|---|---|---|
| `GenerateDataEncryptionKeys(id)` / `SaveDataEncryptionKeys(id, kp)` → `SaveKeyPairWithFilename` | `<id>_storage`, `<id>_storage.pub` | `NewClientIDKeyContext(private_storage, id)` | `encryptor.Encrypt(private)`, public as is |
| `GenerateClientIDSymmetricKey(id)` → `generateAndSaveSymmetricKey` | `<id>_storage_sym` | `NewClientIDKeyContext(storage_sym_key, id)` | `encryptor.Encrypt(key)` |
| `GenerateHmacKey(id)` | `<id>_hmac` | `NewClientIDKeyContext(search_hmac, id)` | `encryptor.Encrypt(key)` |
| `GenerateLogKey()` | `secure_log_key` | `NewKeyContext(audit_log, "secure_log_key")` | `encryptor.Encrypt(key)` |
| `GeneratePoisonKeyPair()` | `.poison_key/poison_key`, `….pub` | `NewKeyContext(poison_key, ".poison_key/poison_key")` | as for pairs |
| `GeneratePoisonSymmetricKey()` | `.poison_key/poison_key_sym` | `NewKeyContext(poison_sym_key, ".poison_key/poison_key_sym")` | `encryptor.Encrypt(key)` |

`encryptor.Encrypt(key, kc)` is `SCellKeyEncryptor.Encrypt` = seal under the master key with the
bytes `GetKeyContextFromContext(kc)` as context (`CrossClient.keyEncrypt`): the client id for
per-client keys, the fixed context otherwise – the purpose is *not* part of it.

Every per-client writer validates the client id first (`keystore.ValidateID`; on the pinned tree only
`GenerateDataEncryptionKeys` did – `writesPinned`, repair 50). The *readers* and destroyers of the v1
key store validate it as well since repair 51 (`KeystoreSec/V1Methods.lean`: every id-taking method,
every path handed to the storage).
-/
namespace AcraModel.KeystoreSec.V1WriteLog
open AcraModel.KeystoreSec.Path AcraModel.KeystoreSec.V1
open AcraModel.CrossClient (KeyContext keyContextBytes newClientIDKeyContext newKeyContext keyEncrypt keyDecrypt)

/-- the key-writing operations of the v1 key store, with the generated material made explicit -/
inductive Op
  | genDataKeys (id priv pub : Bytes)      -- GenerateDataEncryptionKeys: validates the id
  | saveDataKeys (id priv pub : Bytes)     -- SaveDataEncryptionKeys: validates the id (not on the pinned tree, `rejectedPinned`)
  | genSymKey (id key : Bytes)             -- GenerateClientIDSymmetricKey
  | genHmacKey (id key : Bytes)            -- GenerateHmacKey
  | genLogKey (key : Bytes)                -- GenerateLogKey
  | genPoisonPair (priv pub : Bytes)       -- GeneratePoisonKeyPair
  | genPoisonSym (key : Bytes)             -- GeneratePoisonSymmetricKey
deriving DecidableEq, Repr

/-- file (relative to the private key folder) the secret of the operation is written to -/
def Op.file : Op → Bytes
  | .genDataKeys id _ _ | .saveDataKeys id _ _ => storageName id
  | .genSymKey id _ => symName id
  | .genHmacKey id _ => hmacName id
  | .genLogKey _ => logKey
  | .genPoisonPair _ _ => poisonKey
  | .genPoisonSym _ => poisonSym

/-- the key context handed to `encryptor.Encrypt` -/
def Op.ctx : Op → KeyContext
  | .genDataKeys id _ _ | .saveDataKeys id _ _ => newClientIDKeyContext pStoragePrivate id
  | .genSymKey id _ => newClientIDKeyContext pStorageSym id
  | .genHmacKey id _ => newClientIDKeyContext pSearchHMAC id
  | .genLogKey _ => newKeyContext pAuditLog logKey
  | .genPoisonPair _ _ => newKeyContext pPoisonPair poisonKey
  | .genPoisonSym _ => newKeyContext pPoisonSym poisonSym

/-- the secret (private key or symmetric key) -/
def Op.secret : Op → Bytes
  | .genDataKeys _ priv _ | .saveDataKeys _ priv _ | .genPoisonPair priv _ => priv
  | .genSymKey _ k | .genHmacKey _ k | .genLogKey k | .genPoisonSym k => k

/-- the public key written next to the secret, if the operation makes a key pair -/
def Op.public : Op → Option Bytes
  | .genDataKeys _ _ pub | .saveDataKeys _ _ pub | .genPoisonPair _ pub => some pub
  | _ => none

/-- the client id of a per-client operation -/
def Op.clientId : Op → Option Bytes
  | .genDataKeys id _ _ | .saveDataKeys id _ _ | .genSymKey id _ | .genHmacKey id _ => some id
  | _ => none

/-- does the operation itself refuse the id: every per-client writer calls `keystore.ValidateID`
first (`GenerateDataEncryptionKeys` always did; the other three since repair 50) -/
def Op.rejected (op : Op) : Bool :=
  match op.clientId with
  | some id => !validateID id
  | none => false

/-- the pinned tree: only `GenerateDataEncryptionKeys` validated -/
def Op.rejectedPinned : Op → Bool
  | .genDataKeys id _ _ => !validateID id
  | _ => false

/-- one `Storage.WriteFile` with its final name -/
structure Write where
  path : Bytes
  data : Bytes
  /-- mode `PrivateFileMode` (0600) as opposed to `publicFileMode` (0644) -/
  priv : Bool
deriving DecidableEq, Repr

/-- the write log of one operation; `none` = the operation returns an error before writing anything
(invalid id, encryption failure). `nonce` is what `Protect` draws. -/
def writes (c : CryptoOps) (master nonce : Bytes) (op : Op) : Option (List Write) :=
  if op.rejected then none
  else (keyEncrypt c master op.ctx op.secret nonce).map fun ct =>
    ⟨op.file, ct, true⟩ ::
      match op.public with
      | some pub => [⟨op.file ++ sPub, pub, false⟩]
      | none => []

/-- the write log on the pinned tree (before repair 50) -/
def writesPinned (c : CryptoOps) (master nonce : Bytes) (op : Op) : Option (List Write) :=
  if op.rejectedPinned then none
  else (keyEncrypt c master op.ctx op.secret nonce).map fun ct =>
    ⟨op.file, ct, true⟩ ::
      match op.public with
      | some pub => [⟨op.file ++ sPub, pub, false⟩]
      | none => []

/-- loading the secret file of an operation the way the getters do: decrypt under the context the
getter builds for `(purpose, id)` -/
def load (c : CryptoOps) (master : Bytes) (kc : KeyContext) (data : Bytes) : Option Bytes := keyDecrypt c master kc data

/-- name of the temporary file `TempFile(path)` creates: the path followed by decimal digits -/
def IsTempOf (path tmp : Bytes) : Prop := ∃ ds : Bytes, ds ≠ [] ∧ ds.all isDigit = true ∧ tmp = path ++ ds

end AcraModel.KeystoreSec.V1WriteLog
