import AcraModel.KeystoreSec.RingOpen
/-!
# Helper lemmas about the ring-open cycles

The lemmas take what they need to know about the regenerated guard as a hypothesis
(`createsOn e = false`, or the characterisation `∀ e, createsOn e = true ↔ e = .notExist`); the
property file discharges it from the regenerated definitions (`fact_open_ring_creates_iff_not_exist`).
-/
namespace AcraModel.KeystoreSec.RingOpen
open AcraModel.KeystoreSec AcraModel.KeystoreSec.Export

/-- is it one of the errors `verifyKeyRing` produces on bytes that were read (not an error of the back end) -/
def LoadErr.isVerifyErr : LoadErr → Bool
  | .parse | .signature | .noSignature | .contentType | .version => true
  | _ => false

theorem verifySignatures_err (c : CryptoOps) (key ctx : Bytes) (ct : Notary.Container) (e : LoadErr)
    (h : verifySignatures c key ctx ct = .error e) : e = .signature ∨ e = .noSignature := by
  revert h
  fun_cases verifySignatures c key ctx ct <;> intro h <;> cases h
  · exact .inl rfl
  · exact .inr rfl

theorem verifySignatures_ok_iff (c : CryptoOps) (key ctx : Bytes) (ct : Notary.Container) :
    verifySignatures c key ctx ct = .ok () ↔ Notary.verify c key ctx ct = true := by
  unfold verifySignatures Notary.verify
  simp only
  generalize ct.sigs.filter (fun s => decide (s.oid = Notary.sha256OID)) = known
  by_cases hany : known.any (fun s => s.sig != Notary.signBytes c key ctx ct.raw) = true
  · rw [if_pos hany]
    constructor
    · intro h; cases h
    · intro h
      simp only [Bool.and_eq_true, List.all_eq_true, beq_iff_eq] at h
      simp only [List.any_eq_true, bne_iff_ne, ne_eq] at hany
      obtain ⟨s, hs, hne⟩ := hany
      exact absurd (h.2 s hs) hne
  · rw [if_neg hany]
    cases hk : known with
    | nil => simp
    | cons s r =>
      simp only [List.isEmpty_cons, Bool.false_eq_true, if_false, Bool.not_false, Bool.true_and, true_iff,
        List.all_eq_true, beq_iff_eq]
      intro x hx
      rw [hk] at hany
      simp only [List.any_eq_true, bne_iff_ne, ne_eq, not_exists, not_and, Decidable.not_not] at hany
      exact hany x hx

/-- whatever is stored at a ring path, checking it never yields one of the back end's own errors – in
particular never "does not exist" -/
theorem loadBytes_err (c : CryptoOps) (sigKey path data : Bytes) (e : LoadErr)
    (h : loadBytes c sigKey path data = .error e) : e.isVerifyErr = true := by
  revert h
  fun_cases loadBytes c sigKey path data <;> intro h <;> cases h
  case case2 he =>  -- the branch in which `verifySignatures` fails
    rcases verifySignatures_err _ _ _ _ _ he with rfl | rfl <;> rfl
  all_goals rfl

/-- bytes that load: their container verifies under this path's context, and what is handed out is the data
element of their payload -/
theorem loadBytes_ok {c : CryptoOps} {sigKey path d data : Bytes} {p : DerParse.Parsed}
    (hparse : DerParse.parseContainer d = some p) (h : loadBytes c sigKey path d = .ok data) :
    Notary.verify c sigKey (sigCtx path) p.container = true ∧ data = p.payload.data := by
  revert h
  fun_cases loadBytes c sigKey path d <;> intro h <;> cases h
  case case5 p' hp' hv _ _ =>  -- the only `.ok` branch: parsed, verified, type and version as expected
    cases hparse.symm.trans hp'
    exact ⟨(verifySignatures_ok_iff c sigKey (sigCtx path) p.container).mp hv, rfl⟩

theorem loadBytes_ne_notExist (c : CryptoOps) (sigKey path data : Bytes) :
    loadBytes c sigKey path data ≠ .error .notExist := by
  intro h
  have := loadBytes_err _ _ _ _ _ h
  cases this

theorem pull_notExist (c : CryptoOps) (sigKey : Bytes) (b : Backend) (path : Bytes)
    (h : pull c sigKey b path = .error .notExist) : b.get (ringFile path) = .error .notExist := by
  unfold pull at h
  split at h
  · next e he => cases h; exact he
  · exact absurd h (loadBytes_ne_notExist _ _ _ _)

theorem pull_of_get (c : CryptoOps) (sigKey : Bytes) (b : Backend) (path d : Bytes)
    (h : b.get (ringFile path) = .ok d) : pull c sigKey b path = loadBytes c sigKey path d := by
  unfold pull; rw [h]

/-- stored bytes that do not load: the pull fails with their error, which is not "does not exist" -/
theorem pull_of_bad {c : CryptoOps} {sigKey : Bytes} {b : Backend} {path d : Bytes} {e : LoadErr}
    (hstored : b.get (ringFile path) = .ok d) (hbad : loadBytes c sigKey path d = .error e) :
    pull c sigKey b path = .error e ∧ e ≠ .notExist :=
  ⟨(pull_of_get c sigKey b path d hstored).trans hbad, fun h => loadBytes_ne_notExist _ _ _ _ (h ▸ hbad)⟩

theorem get_ok_files (b : Backend) (p d : Bytes) (h : b.get p = .ok d) : b.files p = some d := by
  revert h
  fun_cases Backend.get b p <;> simp_all

theorem put_ok {b b1 : Backend} {p d : Bytes} (h : b.put p d = .ok b1) :
    b.files p = none ∧ b1 = { b with files := setFile b.files p (some d) } := by
  revert h
  fun_cases Backend.put b p d <;> simp_all

theorem rename_ok {b b2 : Backend} {o n : Bytes} (h : b.rename o n = .ok b2) :
    ∃ d, b.files o = some d ∧ b2 = { b with files := setFile (setFile b.files o none) n (some d) } := by
  revert h
  fun_cases Backend.rename b o n <;> simp_all

theorem withUnlock_backend (b : Backend) (u : Call) (r : Backend × List Call × OpenOut) :
    (withUnlock b u r).backend = r.1 := rfl

theorem withUnlock_trace (b : Backend) (u : Call) (r : Backend × List Call × OpenOut) :
    (withUnlock b u r).trace = r.2.1 ++ [u] := rfl

theorem withUnlock_err (b : Backend) (u : Call) (r : Backend × List Call × OpenOut) (h : r.2.2.isErr = true) :
    (withUnlock b u r).out.isErr = true := by
  unfold withUnlock
  simp only
  split
  · split <;> rfl
  · exact h

/-- the deferred unlock never turns an error into a success -/
theorem withUnlock_not_err (b : Backend) (u : Call) (r : Backend × List Call × OpenOut)
    (h : (withUnlock b u r).out.isErr = false) : (withUnlock b u r).out = r.2.2 := by
  unfold withUnlock at h ⊢
  simp only at h ⊢
  split
  · next hu =>
    rw [if_pos hu] at h
    split at h <;> cases h
  · rfl

/-- a reported creation was reported before the unlock -/
theorem withUnlock_created {b : Backend} {u : Call} {r : Backend × List Call × OpenOut}
    (h : (withUnlock b u r).out = .created) : r.2.2 = .created :=
  (withUnlock_not_err b u r (by rw [h]; rfl)).symm.trans h

theorem no_write_of_all {t : List Call} (h : (t.all fun call => !call.isWrite) = true) :
    ∀ call ∈ t, call.isWrite = false := fun call hc => by
  simpa using List.all_eq_true.mp h call hc

theorem openKeyRing_lock_fails (c : CryptoOps) (sigKey : Bytes) (time : Int) (b : Backend) (path : Bytes)
    (hl : b.lockFails = true) :
    (openKeyRing c sigKey time b path).backend = b ∧ (openKeyRing c sigKey time b path).out.isErr = true ∧
    ∀ call ∈ (openKeyRing c sigKey time b path).trace, call.isWrite = false := by
  unfold openKeyRing
  rw [if_pos hl]
  exact ⟨rfl, rfl, no_write_of_all rfl⟩

/-- **No creation.** When the pull fails with an error the guard does not send to the create branch,
`openKeyRing` returns an error, leaves the back end as it was, and makes no `Put` / `Rename`. -/
theorem openKeyRing_no_create (c : CryptoOps) (sigKey : Bytes) (time : Int) (b : Backend) (path : Bytes) (e : LoadErr)
    (hp : pull c sigKey b path = .error e) (hg : createsOn e = false) :
    (openKeyRing c sigKey time b path).backend = b ∧
    (openKeyRing c sigKey time b path).out.isErr = true ∧
    ∀ call ∈ (openKeyRing c sigKey time b path).trace, call.isWrite = false := by
  by_cases hl : b.lockFails = true
  · exact openKeyRing_lock_fails c sigKey time b path hl
  · unfold openKeyRing
    rw [if_neg hl]
    simp only [hp, hg, Bool.false_eq_true, if_false]
    exact ⟨rfl, withUnlock_err _ _ _ rfl, no_write_of_all rfl⟩

theorem openKeyRing_loaded (c : CryptoOps) (sigKey : Bytes) (time : Int) (b : Backend) (path data : Bytes)
    (hp : pull c sigKey b path = .ok data) :
    (openKeyRing c sigKey time b path).backend = b ∧
    (∀ call ∈ (openKeyRing c sigKey time b path).trace, call.isWrite = false) ∧
    (openKeyRing c sigKey time b path).out ≠ .created := by
  by_cases hl : b.lockFails = true
  · obtain ⟨h1, h2, h3⟩ := openKeyRing_lock_fails c sigKey time b path hl
    exact ⟨h1, h3, fun h => by rw [h] at h2; cases h2⟩
  · unfold openKeyRing
    rw [if_neg hl]
    simp only [hp]
    exact ⟨rfl, no_write_of_all rfl, fun h => nomatch withUnlock_created h⟩

/-- **Only the create branch writes.** If the read-write open makes a `Put` or a `Rename`, or changes
the back end, the pull failed with an error the guard sends to the create branch. -/
theorem openKeyRing_write_only_on_guard (c : CryptoOps) (sigKey : Bytes) (time : Int) (b : Backend) (path : Bytes)
    (h : (∃ call ∈ (openKeyRing c sigKey time b path).trace, call.isWrite = true) ∨
      (openKeyRing c sigKey time b path).backend ≠ b ∨ (openKeyRing c sigKey time b path).out = .created) :
    ∃ e, pull c sigKey b path = .error e ∧ createsOn e = true := by
  cases hp : pull c sigKey b path with
  | ok data =>
    have hL := openKeyRing_loaded c sigKey time b path data hp
    rcases h with ⟨call, hc, hw⟩ | hne | hcr
    · rw [hL.2.1 call hc] at hw; cases hw
    · exact absurd hL.1 hne
    · exact absurd hcr hL.2.2
  | error e =>
    cases hg : createsOn e with
    | true => exact ⟨e, rfl, hg⟩
    | false =>
      have hN := openKeyRing_no_create c sigKey time b path e hp hg
      rcases h with ⟨call, hc, hw⟩ | hne | hcr
      · rw [hN.2.2 call hc] at hw; cases hw
      · exact absurd hN.1 hne
      · rw [hcr] at hN; exact absurd hN.2.1 (by decide)

theorem ringFile_ne_newFile (path : Bytes) (hn : newSuffix ≠ []) : ringFile path ≠ newFile path := by
  intro h
  have := congrArg List.length h
  simp only [ringFile, newFile, List.length_append] at this
  have : newSuffix.length = 0 := by omega
  exact hn (List.eq_nil_of_length_eq_zero this)

/-- `pushFile` without error: the ring file holds the data, the temporary is gone, every other path
and every other aspect of the back end is as before; the temporary did not exist before. -/
theorem pushFile_ok (b b' : Backend) (path data : Bytes) (calls : List Call) (hn : newSuffix ≠ [])
    (h : pushFile b path data = (b', calls, none)) :
    b'.files (ringFile path) = some data ∧ b'.files (newFile path) = none ∧ b.files (newFile path) = none ∧
    (∀ q, q ≠ ringFile path → q ≠ newFile path → b'.files q = b.files q) ∧
    b'.valid = b.valid ∧ b'.unreadable = b.unreadable ∧ b'.lockFails = b.lockFails ∧ b'.unlockFails = b.unlockFails ∧
    calls = [.put (newFile path) data, .rename (newFile path) (ringFile path)] := by
  unfold pushFile at h
  cases hput : b.put (newFile path) data with
  | error e => simp [hput] at h
  | ok b1 =>
    simp only [hput] at h
    cases hren : b1.rename (newFile path) (ringFile path) with
    | error e => simp [hren] at h
    | ok b2 =>
      simp only [hren, Prod.mk.injEq, and_true] at h
      obtain ⟨rfl, rfl⟩ := h
      obtain ⟨hfree, rfl⟩ := put_ok hput
      obtain ⟨d', hd', rfl⟩ := rename_ok hren
      cases (show some data = some d' by simpa [setFile] using hd')
      have hne := ringFile_ne_newFile path hn
      exact ⟨by simp [setFile], by simp [setFile, hne.symm], hfree, fun q h1 h2 => by simp [setFile, h1, h2],
        rfl, rfl, rfl, rfl, rfl⟩

/-- **What a creation leaves.** When the read-write open reports `created`, the ring's path holds the
signed empty ring for this path and time, the temporary is gone, nothing else changed. -/
theorem openKeyRing_created (c : CryptoOps) (sigKey : Bytes) (time : Int) (b : Backend) (path : Bytes)
    (hn : newSuffix ≠ []) (h : (openKeyRing c sigKey time b path).out = .created) :
    let r := openKeyRing c sigKey time b path
    r.backend.files (ringFile path) = some (signedFile c sigKey path time (emptyRing path)) ∧
    r.backend.files (newFile path) = none ∧
    (∀ q, q ≠ ringFile path → q ≠ newFile path → r.backend.files q = b.files q) ∧
    r.trace = [.lock, .get (ringFile path), .put (newFile path) (signedFile c sigKey path time (emptyRing path)),
      .rename (newFile path) (ringFile path), .unlock] := by
  intro r
  have hr : r = openKeyRing c sigKey time b path := rfl
  unfold openKeyRing at hr h
  -- every path through `openKeyRing` but one ends in an error or in `loaded`, which the unlock never turns into
  -- `created` (`withUnlock_created`); the one left is: lock taken, pull fails with a creating error, push succeeds
  by_cases hl : b.lockFails = true
  · rw [if_pos hl] at h; cases h
  · rw [if_neg hl] at hr h
    cases hp : pull c sigKey b path with
    | ok data =>
      simp only [hp] at h
      cases withUnlock_created h
    | error e =>
      simp only [hp] at hr h
      cases hg : createsOn e with
      | false =>
        simp only [hg, Bool.false_eq_true, if_false] at h
        cases withUnlock_created h
      | true =>
        simp only [hg, if_true] at hr h
        rcases hpf : pushFile b path (signedFile c sigKey path time (emptyRing path)) with ⟨b', calls, perr⟩
        simp only [hpf] at hr h
        cases perr with
        | some e' => cases withUnlock_created h
        | none =>
          obtain ⟨h1, h2, _, h4, _, _, _, _, h9⟩ := pushFile_ok b b' path _ calls hn hpf
          rw [hr]
          simp only [withUnlock_backend, withUnlock_trace]
          refine ⟨h1, h2, h4, ?_⟩
          rw [h9]; rfl

theorem readKeyRing_pure (c : CryptoOps) (sigKey : Bytes) (b : Backend) (path : Bytes) :
    (readKeyRing c sigKey b path).backend = b ∧ ∀ call ∈ (readKeyRing c sigKey b path).trace, call.isWrite = false := by
  unfold readKeyRing
  by_cases hl : b.lockFails = true
  · rw [if_pos hl]
    exact ⟨rfl, no_write_of_all rfl⟩
  · rw [if_neg hl]
    cases hp : pull c sigKey b path <;> exact ⟨rfl, no_write_of_all rfl⟩

/-- a failing pull makes `readKeyRing` fail – with that very error unless the lock itself failed -/
theorem readKeyRing_err (c : CryptoOps) (sigKey : Bytes) (b : Backend) (path : Bytes) (e : LoadErr)
    (hp : pull c sigKey b path = .error e) :
    (readKeyRing c sigKey b path).out = .err e ∨ (readKeyRing c sigKey b path).out = .err .lock := by
  unfold readKeyRing
  by_cases hl : b.lockFails = true
  · rw [if_pos hl]; exact Or.inr rfl
  · rw [if_neg hl]
    simp only [hp]
    unfold withUnlock
    simp only
    split
    · exact Or.inl rfl
    · exact Or.inl rfl

/-- **`writeKeyRing` over a ring that does not load**: error, back end untouched, no `Put` / `Rename` –
whatever the error (here even "does not exist": a write-back never creates). -/
theorem writeKeyRing_no_load (c : CryptoOps) (sigKey : Bytes) (time : Int) (b : Backend) (path : Bytes)
    (apply : Bytes → Option Ring) (e : LoadErr) (hp : pull c sigKey b path = .error e) :
    (writeKeyRing c sigKey time b path apply).backend = b ∧
    (writeKeyRing c sigKey time b path apply).out.isErr = true ∧
    ∀ call ∈ (writeKeyRing c sigKey time b path apply).trace, call.isWrite = false := by
  unfold writeKeyRing
  by_cases hl : b.lockFails = true
  · rw [if_pos hl]
    exact ⟨rfl, rfl, no_write_of_all rfl⟩
  · rw [if_neg hl]
    simp only [hp]
    exact ⟨rfl, withUnlock_err _ _ _ rfl, no_write_of_all rfl⟩

/-- **`importKeyRing` over a ring that does not load** and whose error does not lead to `openKeyRing`: the
import fails, back end untouched -/
theorem importKeyRing_no_load (c : CryptoOps) (sigKey : Bytes) (time : Int) (b : Backend) (path : Bytes) (e : LoadErr)
    (onExisting : Backend → Bytes → Done) (k : Backend → Done) (hp : pull c sigKey b path = .error e)
    (hno : importOpensOn e = false) (hlock : importOpensOn .lock = false) :
    (importKeyRing c sigKey time b path onExisting k).failed = true ∧
    (importKeyRing c sigKey time b path onExisting k).backend = b := by
  unfold importKeyRing
  rcases readKeyRing_err c sigKey b path e hp with ho | ho
  · simp only [ho, hno, Bool.false_eq_true, if_false]
    exact ⟨trivial, (readKeyRing_pure c sigKey b path).1⟩
  · simp only [ho, hlock, Bool.false_eq_true, if_false]
    exact ⟨trivial, (readKeyRing_pure c sigKey b path).1⟩

/-- an entry point that opens its ring first returns the error of the open, with the back end the open left -/
theorem runEntry_of_err {shape : String} (hs : shape = "open-first-return-err") (c : CryptoOps) (sigKey : Bytes) (time : Int)
    (b : Backend) (path : Bytes) (rest : Backend → OpenOut → Done) (other : Backend → Done)
    (h : (openKeyRing c sigKey time b path).out.isErr = true) :
    runEntry shape c sigKey time b path rest other = ⟨(openKeyRing c sigKey time b path).backend, true⟩ := by
  unfold runEntry
  rw [if_pos hs]
  cases ho : (openKeyRing c sigKey time b path).out with
  | err e' => simp only [ho]
  | loaded x => rw [ho] at h; cases h
  | created => rw [ho] at h; cases h

end AcraModel.KeystoreSec.RingOpen
