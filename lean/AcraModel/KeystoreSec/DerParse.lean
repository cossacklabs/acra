import AcraModel.KeystoreSec.Notary
/-!
# Reading a signed container (`asn1.UnmarshalVerifiedContainer` = Go's `encoding/asn1.Unmarshal`
into `VerifiedContainer`)

Line-by-line model of the part of Go's DER reader (go1.23 `encoding/asn1/asn1.go`) that the key store
uses when it loads a ring file:

* `parseHdr`   = `parseTagAndLength` (single-byte and base-128 tags, definite minimal lengths only:
  indefinite length, leading zero length octets, a long form below 128 and a length of 2²³·256 or more
  are errors);
* `takeTLV`    = header + `invalidLength` check + the content slice;
* `parseOID`   = `parseObjectIdentifier` / `parseBase128Int` (minimal base-128, at most 5 octets and
  at most `MaxInt32` per arc);
* `parseInt64` = `checkInteger` + `parseInt64` (non-empty, minimal two's complement, ≤ 8 octets);
* `parseContainer`: `SEQUENCE { payload SEQUENCE { INTEGER contentType, INTEGER version, UTCTime |
  GeneralizedTime, ANY data }, SET OF SEQUENCE { OID, OCTET STRING } }`, nothing after the outer
  element (`ErrExtraData`).  As in Go, **bytes after the last field of a `SEQUENCE` that is read into
  a struct are ignored** ("we allow extra bytes at the end of the SEQUENCE") – inside the payload this
  is covered by the signature, after the signature set and inside a signature element it is not
  (`Props.C07.der_outside_span_counterexample`).

`RawContent` of the payload (what `Notary.Verify` feeds to the HMAC) is the payload element with its
header, exactly the bytes found in the file.

Not modelled: the text of the time stamp is not validated (`parseUTCTime`; it lies inside the signed
span, so a file that differs from this model there carries a valid signature over a malformed
payload – something only the holder of the signature key can make).
-/
namespace AcraModel.KeystoreSec.DerParse
open AcraModel.KeystoreSec

structure Hdr where
  /-- class: 0 universal, 1 application, 2 context specific, 3 private -/
  cls : Nat
  compound : Bool
  tag : Nat
  /-- content length -/
  len : Nat
deriving DecidableEq, Repr

/-- `parseBase128Int` from the current position: value and the bytes after it -/
def base128Aux : Nat → Nat → Bytes → Option (Nat × Bytes)
  | _, _, [] => none                                          -- truncated base 128 integer
  | shifted, acc, b :: rest =>
    if shifted = 5 then none                                  -- base 128 integer too large
    else if shifted = 0 ∧ b = 0x80 then none                  -- not minimally encoded
    else
      let acc' := acc * 128 + b.toNat % 128
      if b.toNat < 128 then (if acc' > 2147483647 then none else some (acc', rest))
      else base128Aux (shifted + 1) acc' rest

def base128 (b : Bytes) : Option (Nat × Bytes) := base128Aux 0 0 b

/-- the long form of a length: `n` octets, most significant first -/
def lenOctets : Nat → Nat → Bytes → Option (Nat × Bytes)
  | 0, acc, rest => some (acc, rest)
  | _ + 1, _, [] => none                                      -- truncated tag or length
  | n + 1, acc, b :: rest =>
    if acc ≥ 8388608 then none                                -- length too large (1 << 23)
    else
      let acc' := acc * 256 + b.toNat
      if acc' = 0 then none                                   -- superfluous leading zeros in length
      else lenOctets n acc' rest

/-- `parseTagAndLength`: header and the bytes after it -/
def parseHdr : Bytes → Option (Hdr × Bytes)
  | [] => none
  | b :: rest =>
    let cls := b.toNat / 64
    let compound := b.toNat / 32 % 2 = 1
    let tagRes : Option (Nat × Bytes) :=
      if b.toNat % 32 = 31 then
        (base128 rest).bind fun (t, r) => if t < 31 then none else some (t, r)   -- non-minimal tag
      else some (b.toNat % 32, rest)
    tagRes.bind fun (tag, rest) =>
      match rest with
      | [] => none                                            -- truncated tag or length
      | l :: rest =>
        if l.toNat < 128 then some (⟨cls, compound, tag, l.toNat⟩, rest)
        else
          let n := l.toNat % 128
          if n = 0 then none                                  -- indefinite length
          else (lenOctets n 0 rest).bind fun (len, rest) =>
            if len < 128 then none                            -- non-minimal length
            else some (⟨cls, compound, tag, len⟩, rest)

/-- one element: header, content, the bytes after the element (`invalidLength` → `none`) -/
def takeTLV (b : Bytes) : Option (Hdr × Bytes × Bytes) :=
  (parseHdr b).bind fun (h, r) => if h.len ≤ r.length then some (h, r.take h.len, r.drop h.len) else none

def Hdr.isUniv (h : Hdr) (compound : Bool) (tag : Nat) : Bool := h.cls == 0 && h.compound == compound && h.tag == tag

/-- the arcs after the first sub-identifier -/
def oidArcs : Nat → Bytes → Option (List Nat)
  | _, [] => some []
  | 0, _ :: _ => none
  | fuel + 1, b :: bs => (base128 (b :: bs)).bind fun (v, rest) => (oidArcs fuel rest).map (v :: ·)

/-- `parseObjectIdentifier` -/
def parseOID (b : Bytes) : Option (List Nat) :=
  if b = [] then none else
  (base128 b).bind fun (v, rest) =>
    (oidArcs rest.length rest).map fun arcs =>
      (if v < 80 then [v / 40, v % 40] else [2, v - 80]) ++ arcs

/-- big-endian value of the content octets -/
def beVal : Bytes → Nat → Nat
  | [], acc => acc
  | b :: bs, acc => beVal bs (acc * 256 + b.toNat)

/-- `checkInteger` + `parseInt64` -/
def parseInt64 (b : Bytes) : Option Int :=
  match b with
  | [] => none                                                -- empty integer
  | [x] => some (if x.toNat < 128 then (x.toNat : Int) else (x.toNat : Int) - 256)
  | x :: y :: rest =>
    if (x = 0 ∧ y.toNat < 128) ∨ (x = 0xff ∧ y.toNat ≥ 128) then none     -- not minimally encoded
    else if (x :: y :: rest).length > 8 then none             -- integer too large
    else
      let v := beVal (x :: y :: rest) 0
      some (if x.toNat < 128 then (v : Int) else (v : Int) - (256 ^ (x :: y :: rest).length : Nat))

/-- one `Signature` element: `SEQUENCE { OBJECT IDENTIFIER, OCTET STRING }` (content of the element);
bytes after the second field are ignored -/
def parseSig (content : Bytes) : Option Notary.Sig :=
  (takeTLV content).bind fun (h1, oid, r1) =>
    if !h1.isUniv false 6 then none else
    (parseOID oid).bind fun arcs =>
      (takeTLV r1).bind fun (h2, sig, _) =>
        if !h2.isUniv false 4 then none else some ⟨arcs, sig⟩

/-- `parseSequenceOf` for `[]Signature`: every element a universal constructed `SEQUENCE` -/
def parseSigs : Nat → Bytes → Option (List Notary.Sig)
  | _, [] => some []
  | 0, _ :: _ => none
  | fuel + 1, b :: bs =>
    (takeTLV (b :: bs)).bind fun (h, content, rest) =>
      if !h.isUniv true 16 then none else
      (parseSig content).bind fun s => (parseSigs fuel rest).map (s :: ·)

structure Payload where
  ctype : Int
  version : Int
  /-- `Data.FullBytes`: the data element with its header -/
  data : Bytes
deriving DecidableEq, Repr

/-- the fields of `VerifiedPayload` (content of the payload element); bytes after `Data` are ignored -/
def parsePayload (content : Bytes) : Option Payload :=
  (takeTLV content).bind fun (h1, c1, r1) =>
    if !h1.isUniv false 2 then none else
    (parseInt64 c1).bind fun ctype =>
      (takeTLV r1).bind fun (h2, c2, r2) =>
        if !h2.isUniv false 2 then none else
        (parseInt64 c2).bind fun version =>
          (takeTLV r2).bind fun (h3, _, r3) =>
            if !(h3.isUniv false 23 || h3.isUniv false 24) then none else
            (takeTLV r3).bind fun (_, _, r4) =>
              some ⟨ctype, version, r3.take (r3.length - r4.length)⟩

structure Parsed where
  /-- `Payload.RawContent`: the payload element as found in the file = the signed span -/
  raw : Bytes
  payload : Payload
  sigs : List Notary.Sig
deriving DecidableEq, Repr

/-- `asn1.UnmarshalVerifiedContainer` -/
def parseContainer (data : Bytes) : Option Parsed :=
  (takeTLV data).bind fun (h, content, rest) =>
    if !h.isUniv true 16 then none
    else if rest ≠ [] then none                               -- ErrExtraData
    else (takeTLV content).bind fun (hp, pc, r1) =>
      if !hp.isUniv true 16 then none else
      (parsePayload pc).bind fun p =>
        (takeTLV r1).bind fun (hs, sc, _) =>
          if !hs.isUniv true 17 then none else
          (parseSigs sc.length sc).map fun sigs => ⟨content.take (content.length - r1.length), p, sigs⟩

def Parsed.container (p : Parsed) : Notary.Container := ⟨p.raw, p.sigs⟩

end AcraModel.KeystoreSec.DerParse
