import AcraModel.KeystoreSec.ConcurrentOrder
import AcraModel.KeystoreSec.ConcurrentRefine
/-!
A stale snapshot is safe in the strong sense: a write prepared from a stale snapshot that passes the
optimistic checks under the lock is *exactly* the write a handle with a fresh snapshot would have
prepared (same transaction list, hence same stored result).

The order of sequence numbers is an invariant of the *atomic* store (`AOrd`, one induction over its
operations); the refinement (`run_sim`) carries it to every schedule of the concurrent model (`run_order`).
-/
namespace AcraModel.KeystoreSec.Conc

theorem modifyLast_none_iff (f : Key → Key) (s : Int) : ∀ ks, modifyLast f s ks = none ↔ findLast s ks = none
  | [] => by simp [modifyLast, findLast]
  | k :: r => by
    have ih := modifyLast_none_iff f s r
    unfold modifyLast findLast
    cases hm : modifyLast f s r with
    | some r' =>
      cases hf : findLast s r with
      | some k' => simp
      | none => rw [ih.mpr hf] at hm; cases hm
    | none =>
      rw [ih.mp hm]
      by_cases hk : k.seq = s <;> simp [hk]

theorem modifyLast_findLast (f : Key → Key) (hf : ∀ k, (f k).seq = k.seq) (s : Int) :
    ∀ ks ks', modifyLast f s ks = some ks' → ∃ k0, findLast s ks = some k0 ∧ findLast s ks' = some (f k0)
  | [], _, h => by simp [modifyLast] at h
  | k :: r, ks', h => by
    unfold modifyLast at h
    cases hm : modifyLast f s r with
    | some r' =>
      rw [hm] at h
      cases h
      obtain ⟨k0, h1, h2⟩ := modifyLast_findLast f hf s r r' hm
      exact ⟨k0, by simp [findLast, h1], by simp [findLast, h2]⟩
    | none =>
      rw [hm] at h
      have hn := (modifyLast_none_iff f s r).mp hm
      simp only at h
      split at h
      · next hk =>
        cases h
        exact ⟨k, by simp [findLast, hn, hk], by simp [findLast, hn, hf, hk]⟩
      · cases h

/-- **The successful write of a stale handle is the write of a fresh handle.** If the transactions a
handle prepared from the snapshot `snap` apply to the stored ring `ring` (all optimistic checks of
`keyRingTX.Apply` pass), and `snap` is a prefix of `ring` in the sense of the snapshot-prefix invariant,
then preparing the same operation from `ring` itself gives the same transactions. -/
theorem prepare_fresh (ring snap : Ring) (op : Op) (txs : List Tx) (r' : Ring) (hpre : SnapPrefix snap ring)
    (hp : prepare snap op = some txs) (ha : applyAll txs ring = some r') : prepare ring op = some txs := by
  have hs := prepare_some hp
  cases op with
  | importKeys | refresh | «open» => exact hp
  | addKey d =>
    rw [hs] at ha ⊢
    have hn := (add_apply _ ring r' ha).1
    simp only [prepare, Option.some.injEq]
    rw [nextSeq_eq ring, hpre.fresh hn, ← nextSeq_eq]
  | setCurrent s =>
    rw [hs, applyAll_singleton] at ha
    rw [hs, ← (Tx.apply_some ha).1]; rfl
  | setState s st =>
    obtain ⟨k, _, hv, e⟩ := hs
    rw [e, applyAll_singleton] at ha
    obtain ⟨_, _, _, k', hf', hst⟩ := Tx.apply_some ha
    rw [e]; simp [prepare, hf', hst, hv]
  | destroy s =>
    obtain ⟨k, _, hv, e⟩ := hs
    rw [e] at ha ⊢
    -- `destroyData` keeps the state of the key it wipes, so `changeState` finds the state the handle saw
    cases hd : (Tx.destroyData s).apply ring with
    | none => simp [applyAll, hd] at ha
    | some r1 =>
      rw [show applyAll [.destroyData s, .changeState s k.state stDestroyed] ring =
        applyAll [.changeState s k.state stDestroyed] r1 by simp only [applyAll, hd, Option.bind_some], applyAll_singleton] at ha
      obtain ⟨ks, hm, rfl⟩ := Tx.apply_some hd
      obtain ⟨_, _, _, k1, hf1, hst⟩ := Tx.apply_some ha
      obtain ⟨k0, h1, h2⟩ := modifyLast_findLast _ (by intro k; rfl) s ring.keys ks hm
      cases h2.symm.trans hf1
      simp [prepare, h1, show k0.state = k.state from hst, hv]

/-- the same at the level of the atomic specification -/
theorem atomicOp_fresh (ring snap : Ring) (op : Op) (txs : List Tx) (r' sn' : Ring) (hpre : SnapPrefix snap ring)
    (h : atomicOp ring snap op = (r', sn', some txs)) : atomicOp ring ring op = (r', sn', some txs) := by
  unfold atomicOp at h ⊢
  by_cases hop : op = .refresh
  · simpa [hop] using h
  · simp only [hop, if_false] at h ⊢
    cases hp : prepare snap op with
    | none => simp [hp] at h
    | some t =>
      simp only [hp] at h
      cases ha : applyAll t ring with
      | none => simp [ha] at h
      | some r1 =>
        simp only [ha] at h
        rw [prepare_fresh ring snap op t r1 hpre hp ha]
        simpa [ha] using h

theorem linPoint_event (s : St) (i : Nat) (e : Event) (h : linPoint s i = some e) :
    e.tid = i ∧ e.path = (s.h i).path ∧ e.op ∈ (s.h i).todo := by
  cases htodo : (s.h i).todo with
  | nil => rw [linPoint_nil htodo] at h; cases h
  | cons op rest =>
    -- every branch of `linPoint` is `none` or this event
    suffices e = ⟨i, (s.h i).path, op⟩ by rw [this]; exact ⟨rfl, rfl, .head _⟩
    rw [linPoint_cons htodo] at h
    generalize (s.h i).pc = pc at h
    cases pc <;> simp only [Option.ite_none_right_eq_some, Option.some.injEq, reduceCtorEq] at h
    · exact h.2.symm
    · repeat' split at h
      all_goals first | exact (Option.some.inj h).symm | cases h
    · exact h.2.symm
    · exact h.symm

theorem linTrace_events (s : St) (sched : List Nat) :
    ∀ e ∈ linTrace s sched, e.path = (s.h e.tid).path ∧ e.op ∈ (s.h e.tid).todo := by
  induction sched generalizing s with
  | nil => intro e he; cases he
  | cons i r ih =>
    intro e he
    rcases List.mem_append.mp he with he | he
    · obtain ⟨h1, h2, h3⟩ := linPoint_event s i e (Option.mem_toList.mp he)
      rw [h1]; exact ⟨h2, h3⟩
    · obtain ⟨h1, h2⟩ := ih (step s i) e he
      exact ⟨h1.trans (step_path s i _), step_todo s i _ _ h2⟩

/-- What an operation without import may do to the order of the ring `ring`, as a property of its outcome
(ring stored, view left to the handle, result): the ring stays strictly increasing, every prefix snapshot stays
one, the handle's new view is one, no sequence number goes away, and the keys a success added are there. -/
def OrdOutcome (ring : Ring) (o : Ring × Ring × Option (List Tx)) : Prop :=
  Incr o.1 ∧ SnapPrefix o.2.1 o.1 ∧ (∀ sn, SnapPrefix sn ring → SnapPrefix sn o.1) ∧ (∀ x ∈ ring.seqs, x ∈ o.1.seqs) ∧
  ∀ txs, o.2.2 = some txs → ∀ k, Tx.add k ∈ txs → k.seq ∈ o.1.seqs

theorem OrdOutcome.same {ring view : Ring} {res : Option (List Tx)} (hi : Incr ring) (hp : SnapPrefix view ring)
    (hres : ∀ txs, res = some txs → txs = []) : OrdOutcome ring (ring, view, res) :=
  ⟨hi, hp, fun _ x => x, fun _ x => x, fun txs e k hk => by rw [hres txs e] at hk; cases hk⟩

theorem atomicOp_ord {ring snap : Ring} {op : Op} (hop : NoImport op) (hi : Incr ring) (hp : SnapPrefix snap ring) :
    OrdOutcome ring (atomicOp ring snap op) := by
  by_cases hr : op = .refresh
  · rw [hr, atomicOp_refresh]; exact .same hi (snapPrefix_refl _) fun _ e => (Option.some.inj e).symm
  cases hprep : prepare snap op with
  | none => rw [atomicOp_reject hr hprep]; exact .same hi hp nofun
  | some txs =>
    cases happ : applyAll txs ring with
    | none => rw [atomicOp_stale hr hprep happ]; exact .same hi (snapPrefix_refl _) nofun
    | some r' =>
      rw [atomicOp_ok hr hprep happ]
      have hs : Shape txs ring := (prepare_shape snap op txs hop hprep).rebase hp happ
      refine ⟨hs.incr happ hi, snapPrefix_refl _, fun _ h => hs.prefix happ h, fun x hx => ?_, fun _ e k hk => ?_⟩
      · rcases hs.apply happ with e | e <;> rw [e]
        · exact hx
        · exact List.mem_append_left _ hx
      · cases e
        rcases hs with ⟨k', rfl, _⟩ | hkeep
        · cases List.mem_singleton.mp hk
          rw [(add_apply k ring r' happ).2]; exact List.mem_append_right _ (.head _)
        · exact absurd (hkeep _ hk) (by simp [SeqKeep])

/-- Order invariant of the atomic store for the ring path `p` (`path j` is the ring of handle `j`): the ring is
strictly increasing, every snapshot of a handle of `p` is a prefix of it, a missing ring is the empty ring, and
every key a successful operation on `p` added is in the ring. -/
structure AOrd (path : Nat → Nat) (p : Nat) (a : AState) : Prop where
  incr : Incr (a.cur p)
  pre : ∀ j, path j = p → SnapPrefix (a.snap j) (a.cur p)
  miss : a.ex p = false → a.cur p = emptyRing
  logPath : ∀ x ∈ a.log, x.1.path = path x.1.tid
  kept : ∀ x ∈ a.log, x.1.path = p → ∀ txs, x.2 = some txs → ∀ k, Tx.add k ∈ txs → k.seq ∈ (a.cur p).seqs

theorem outcome_ord {path : Nat → Nat} {a : AState} {e : Event} (hpath : e.path = path e.tid) (hno : NoImport e.op)
    (h : AOrd path e.path a) : OrdOutcome (a.cur e.path) (a.outcome e) := by
  have hpre := h.pre e.tid hpath.symm
  unfold AState.outcome
  split
  · exact atomicOp_ord hno h.incr hpre
  · next hex =>
    split
    · -- creation: the missing ring was the empty ring already
      rw [h.miss ((Bool.not_eq_true _).mp hex)]
      exact .same (by decide) (snapPrefix_refl _) fun _ e => (Option.some.inj e).symm
    · exact .same h.incr hpre nofun

theorem exec_aord {path : Nat → Nat} {p : Nat} {a : AState} (e : Event) (hpath : e.path = path e.tid)
    (hno : e.path = p → NoImport e.op) (h : AOrd path p a) : AOrd path p (a.exec e) := by
  have hlog : ∀ x ∈ (a.exec e).log, x ∈ a.log ∨ x = (e, (a.outcome e).2.2) := by
    intro x hx
    rw [AState.exec_log] at hx
    exact (List.mem_append.mp hx).imp_right List.mem_singleton.mp
  have hmiss : (a.exec e).ex p = false → (a.exec e).cur p = emptyRing := fun hex =>
    (AState.exec_ex_false hex).2.trans (h.miss (AState.exec_ex_false hex).1)
  have hlp : ∀ x ∈ (a.exec e).log, x.1.path = path x.1.tid := by
    intro x hx
    rcases hlog x hx with hx | hx
    · exact h.logPath x hx
    · rw [hx]; exact hpath
  by_cases hp : e.path = p
  · subst hp
    obtain ⟨h1, h2, h3, h4, h5⟩ := outcome_ord hpath (hno rfl) h
    have hc : (a.exec e).cur e.path = (a.outcome e).1 := by rw [AState.exec_cur, upd_same]
    refine ⟨hc ▸ h1, fun j hjp => ?_, hmiss, hlp, fun x hx hxp txs hres k hk => ?_⟩
    · rw [hc, AState.exec_snap]
      by_cases hje : j = e.tid
      · rw [hje, upd_same]; exact h2
      · rw [upd_other _ _ _ _ hje]; exact h3 _ (h.pre j hjp)
    · rw [hc]
      rcases hlog x hx with hx | hx
      · exact h4 _ (h.kept x hx hxp txs hres k hk)
      · rw [hx] at hres; exact h5 txs hres k hk
  · -- an operation on another ring, by a handle of another ring
    have hc : (a.exec e).cur p = a.cur p := by rw [AState.exec_cur, upd_other _ _ _ _ (Ne.symm hp)]
    refine ⟨hc ▸ h.incr, fun j hjp => ?_, hmiss, hlp, fun x hx hxp txs hres k hk => ?_⟩
    · rw [hc, AState.exec_snap, upd_other _ _ _ _ (fun e' => hp (by rw [hpath, ← e', hjp]))]
      exact h.pre j hjp
    · rw [hc]
      rcases hlog x hx with hx | hx
      · exact h.kept x hx hxp txs hres k hk
      · rw [hx] at hxp; exact absurd hxp hp

theorem atomicRun_aord {path : Nat → Nat} {p : Nat} (a : AState) (es : List Event)
    (hev : ∀ e ∈ es, e.path = path e.tid ∧ (e.path = p → NoImport e.op)) (h : AOrd path p a) :
    AOrd path p (atomicRun a es) := by
  induction es generalizing a with
  | nil => exact h
  | cons e r ih =>
    exact ih _ (fun e' he' => hev e' (List.mem_cons_of_mem _ he'))
      (exec_aord e (hev e (.head _)).1 (hev e (.head _)).2 h)

theorem atomicRun_after' (a : AState) (s : St) (i : Nat) : atomicRun a (linPoint s i).toList = a.after s i :=
  atomicRun_after a s i

/-- **The order of a ring without imports is the order of the sequential run.** From a state with idle
handles whose snapshots of ring `p` are prefixes of it, under every schedule: the atomic store reached by
the operations in linearisation order satisfies `AOrd`, and so the stored ring is strictly increasing and
every handle's snapshot (outside `Put`..`Rename`) is a prefix of it, and every key an operation that returned
success added is in it exactly once. -/
theorem run_order (c0 : Nat → Ring) (p : Nat) (s : St) (sched : List Nat) (hI : Inv c0 s) (hS : Sim s (AState.init s))
    (hincr : Incr (s.cur p)) (hsnap : ∀ i, (s.h i).path = p → SnapPrefix (s.h i).snap (s.cur p))
    (hno : ∀ i, (s.h i).path = p → ∀ op ∈ (s.h i).todo, NoImport op) :
    AOrd (fun j => (s.h j).path) p (atomicRun (AState.init s) (linTrace s sched)) ∧ Incr ((run s sched).cur p) ∧
    (∀ i, ((run s sched).h i).path = p → ((run s sched).h i).pc ≠ .put →
      SnapPrefix ((run s sched).h i).snap ((run s sched).cur p)) ∧
    ∀ i, (s.h i).path = p → ∀ op txs, (op, some txs) ∈ ((run s sched).h i).done → ∀ k, Tx.add k ∈ txs →
      ((run s sched).cur p).seqs.count k.seq = 1 := by
  have hA : AOrd (fun j => (s.h j).path) p (atomicRun (AState.init s) (linTrace s sched)) := by
    refine atomicRun_aord _ _ (fun e he => ?_) ⟨hincr, hsnap, fun hex => (hI.miss p hex).1, fun _ hx => (nomatch hx), fun _ hx => (nomatch hx)⟩
    obtain ⟨h1, h2⟩ := linTrace_events s sched e he
    exact ⟨h1, fun hp => hno e.tid (h1.symm.trans hp) e.op h2⟩
  have hsim := run_sim c0 s _ sched hI hS
  have hinv := run_inv c0 s sched hI
  have hincr' : Incr ((run s sched).cur p) := by rw [← hsim.cur p]; exact hA.incr
  refine ⟨hA, hincr', fun i hi hput => ?_, fun i hi op txs hdone k hk => ?_⟩
  · by_cases hgot : ((run s sched).h i).pc = .got
    · rw [(hinv.gotOk i hgot).1, hi]; exact snapPrefix_refl _
    · rw [← hsim.snap i hgot hput, ← hsim.cur p]
      exact hA.pre i (by rw [← run_path s sched i]; exact hi)
  · -- the successful operation is a result of the sequential run, of an event on this handle's ring
    have hres : (op, some txs) ∈ resultsOf (atomicRun (AState.init s) (linTrace s sched)).log i := by
      rw [hsim.res i]; exact List.mem_append_left _ hdone
    simp only [resultsOf, List.mem_map, List.mem_filter] at hres
    obtain ⟨x, ⟨hx, htid⟩, hxe⟩ := hres
    have htid : x.1.tid = i := by simpa using htid
    have hin := hA.kept x hx (by rw [hA.logPath x hx, htid]; exact hi) txs (Prod.mk.inj hxe).2 k hk
    rw [hsim.cur p] at hin
    have hnd : ((run s sched).cur p).seqs.Nodup := incr_nodup _ hincr'
    rw [hnd.count]; simp [hin]

end AcraModel.KeystoreSec.Conc
