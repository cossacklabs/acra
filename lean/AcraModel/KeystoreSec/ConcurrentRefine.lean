import AcraModel.KeystoreSec.ConcurrentLemmas
/-!
Refinement: the concurrent key-store model (handles as programs of back-end calls, any schedule)
refines the **atomic** key store in which every operation of a handle runs in one indivisible step.

* `atomicOp ring snap op` is the sequential meaning of one handle operation: prepare the transactions
  from the handle's snapshot, apply them to the stored ring; on success ring and snapshot become the
  new ring, on an optimistic-check failure the snapshot is refreshed and nothing is stored, an
  operation rejected during preparation changes nothing, a re-read refreshes the snapshot;
  `OpenKeyRingRW` of an existing ring loads it (success, empty transaction list). On a **missing** ring
  (`AState.exec`) `OpenKeyRingRW` creates the empty ring, every other operation fails and changes nothing.
* `linPoint s i` says whether the next step of thread `i` in state `s` is the *linearisation point* of
  its current operation (the atomic `Rename` for a successful write, the `Get` under the lock for a
  write that fails its optimistic checks, for a re-read, for an `OpenKeyRingRW` that finds its ring and
  for anything but `OpenKeyRingRW` on a missing ring; the preparation step for a rejected one).
  It is a step of the operation's own thread, between the operation's first and last step.
* `linTrace s sched` lists the operations in the order of their linearisation points.
* `Sim` relates a concurrent state to the atomic state reached by running `linTrace` sequentially.
-/
namespace AcraModel.KeystoreSec.Conc

structure Event where
  tid : Nat
  path : Nat
  op : Op
deriving DecidableEq, Repr

/-- one operation of a handle with snapshot `snap` on the stored ring `ring`, run atomically:
(stored ring afterwards, snapshot afterwards, result – `some txs` = success) -/
def atomicOp (ring snap : Ring) (op : Op) : Ring × Ring × Option (List Tx) :=
  if op = .refresh then (ring, ring, some [])
  else
    match prepare snap op with
    | none => (ring, snap, none)
    | some txs =>
      match applyAll txs ring with
      | none => (ring, ring, none)
      | some r' => (r', r', some txs)

theorem atomicOp_refresh (ring snap : Ring) : atomicOp ring snap .refresh = (ring, ring, some []) := rfl

theorem atomicOp_reject {ring snap : Ring} {op : Op} (hop : op ≠ .refresh) (hp : prepare snap op = none) :
    atomicOp ring snap op = (ring, snap, none) := by
  simp only [atomicOp, hop, if_false, hp]

theorem atomicOp_stale {ring snap : Ring} {op : Op} {txs : List Tx} (hop : op ≠ .refresh)
    (hp : prepare snap op = some txs) (ha : applyAll txs ring = none) :
    atomicOp ring snap op = (ring, ring, none) := by
  simp only [atomicOp, hop, if_false, hp, ha]

theorem atomicOp_ok {ring snap r' : Ring} {op : Op} {txs : List Tx} (hop : op ≠ .refresh)
    (hp : prepare snap op = some txs) (ha : applyAll txs ring = some r') :
    atomicOp ring snap op = (r', r', some txs) := by
  simp only [atomicOp, hop, if_false, hp, ha]

/-- state of the atomic key store: ring files (and whether they exist), snapshot per handle, and the
log of results -/
structure AState where
  cur : Nat → Ring
  snap : Nat → Ring
  log : List (Event × Option (List Tx))
  ex : Nat → Bool

/-- one operation, atomically. Ring there: `atomicOp`. Ring missing: `OpenKeyRingRW` creates the empty
ring (and succeeds with the empty transaction list), everything else fails without any effect. -/
def AState.exec (a : AState) (e : Event) : AState :=
  if a.ex e.path then
    let r := atomicOp (a.cur e.path) (a.snap e.tid) e.op
    { a with cur := upd a.cur e.path r.1, snap := upd a.snap e.tid r.2.1, log := a.log ++ [(e, r.2.2)] }
  else if e.op = .open then
    { cur := upd a.cur e.path emptyRing, snap := upd a.snap e.tid emptyRing, log := a.log ++ [(e, some [])],
      ex := upd a.ex e.path true }
  else
    { a with log := a.log ++ [(e, none)] }

def atomicRun (a : AState) (es : List Event) : AState := es.foldl AState.exec a

/-- what `exec` stores in the ring file, leaves the handle as its view, and returns -/
def AState.outcome (a : AState) (e : Event) : Ring × Ring × Option (List Tx) :=
  if a.ex e.path then atomicOp (a.cur e.path) (a.snap e.tid) e.op
  else if e.op = .open then (emptyRing, emptyRing, some [])
  else (a.cur e.path, a.snap e.tid, none)

theorem AState.exec_eq (a : AState) (e : Event) :
    a.exec e = ⟨upd a.cur e.path (a.outcome e).1, upd a.snap e.tid (a.outcome e).2.1, a.log ++ [(e, (a.outcome e).2.2)],
      upd a.ex e.path (a.ex e.path || decide (e.op = .open))⟩ := by
  by_cases hex : a.ex e.path = true
  · rw [AState.exec, AState.outcome, if_pos hex, if_pos hex, hex, Bool.true_or,
      (congrArg (upd a.ex e.path) hex).symm.trans (upd_self _ _)]
  · have hex' := (Bool.not_eq_true _).mp hex
    by_cases ho : e.op = .open
    · rw [AState.exec, AState.outcome, if_neg hex, if_neg hex, if_pos ho, if_pos ho, hex', decide_eq_true ho]; rfl
    · rw [AState.exec, AState.outcome, if_neg hex, if_neg hex, if_neg ho, if_neg ho, upd_self, upd_self, hex',
        decide_eq_false ho, Bool.or_false, (congrArg (upd a.ex e.path) hex').symm.trans (upd_self _ _)]

theorem AState.exec_cur (a : AState) (e : Event) : (a.exec e).cur = upd a.cur e.path (a.outcome e).1 := by
  rw [AState.exec_eq]

theorem AState.exec_snap (a : AState) (e : Event) : (a.exec e).snap = upd a.snap e.tid (a.outcome e).2.1 := by
  rw [AState.exec_eq]

theorem AState.exec_log (a : AState) (e : Event) : (a.exec e).log = a.log ++ [(e, (a.outcome e).2.2)] := by
  rw [AState.exec_eq]

/-- a ring that is missing after an operation was missing before, and still has its old content -/
theorem AState.exec_ex_false {a : AState} {e : Event} {p : Nat} (h : (a.exec e).ex p = false) :
    a.ex p = false ∧ (a.exec e).cur p = a.cur p := by
  rw [AState.exec_cur]
  rw [AState.exec_eq] at h
  have h : upd a.ex e.path (a.ex e.path || decide (e.op = .open)) p = false := h
  by_cases hp : p = e.path
  · subst hp
    rw [upd_same, Bool.or_eq_false_iff, decide_eq_false_iff_not] at h
    rw [upd_same, AState.outcome, if_neg (by rw [h.1]; nofun), if_neg h.2]
    exact ⟨h.1, rfl⟩
  · exact ⟨(upd_other _ _ _ _ hp).symm.trans h, upd_other _ _ _ _ hp⟩

theorem atomicRun_append (a : AState) (x y : List Event) : atomicRun a (x ++ y) = atomicRun (atomicRun a x) y := by
  simp [atomicRun, List.foldl_append]

def linPoint (s : St) (i : Nat) : Option Event :=
  let hd := s.h i
  match hd.todo with
  | [] => none
  | op :: _ =>
    match hd.pc with
    | .idle => if op ≠ .refresh ∧ (prepare hd.snap op).isNone then some ⟨i, hd.path, op⟩ else none
    | .locked =>
      if s.ex hd.path then
        if op = .open then some ⟨i, hd.path, op⟩
        else if (applyAll hd.txs (s.cur hd.path)).isNone then some ⟨i, hd.path, op⟩ else none
      else if op = .open then none else some ⟨i, hd.path, op⟩
    | .put => if (s.new hd.path).isSome then some ⟨i, hd.path, op⟩ else none
    | .rlocked => some ⟨i, hd.path, op⟩
    | _ => none

def linTrace (s : St) : List Nat → List Event
  | [] => []
  | i :: r => (linPoint s i).toList ++ linTrace (step s i) r

/-- the result of the operation a handle has linearised but not yet returned from -/
def pending (hd : Handle) : List (Op × Option (List Tx)) :=
  match hd.todo with
  | [] => []
  | op :: _ =>
    match hd.pc with
    | .renamed => [(op, some hd.txs)]
    | .failed => [(op, none)]
    | .rgot => [(op, some [])]
    | .rfailed => [(op, none)]
    | _ => []

/-- results of thread `i` in the sequential run, in order -/
def resultsOf (log : List (Event × Option (List Tx))) (i : Nat) : List (Op × Option (List Tx)) :=
  (log.filter (·.1.tid = i)).map fun x => (x.1.op, x.2)

/-- the successful writes of the sequential run, in order, as commit records -/
def committed (log : List (Event × Option (List Tx))) : List Commit :=
  log.filterMap fun x => if x.1.op = .refresh then none else x.2.map fun t => (⟨x.1.tid, x.1.path, t⟩ : Commit)

theorem resultsOf_snoc (log : List (Event × Option (List Tx))) (e : Event) (r : Option (List Tx)) (i : Nat) :
    resultsOf (log ++ [(e, r)]) i = resultsOf log i ++ (if e.tid = i then [(e.op, r)] else []) := by
  unfold resultsOf
  by_cases h : e.tid = i <;> simp [List.filter_append, h]

theorem committed_snoc (log : List (Event × Option (List Tx))) (e : Event) (r : Option (List Tx)) :
    committed (log ++ [(e, r)]) = committed log ++
      (if e.op = .refresh then [] else match r with | none => [] | some t => [(⟨e.tid, e.path, t⟩ : Commit)]) := by
  unfold committed
  by_cases h : e.op = .refresh
  · simp [List.filterMap_append, h]
  · cases r <;> simp [List.filterMap_append, h]

/-- The simulation relation. Ring files, results and commit log agree. The snapshots agree except between `Get`
and `Rename` of a write (`got`, `put`), where the concurrent handle already holds the pulled ring resp. the ring it
is about to store, while the atomic store still has the view the operation was prepared from – the one `atomicOp`
will need at the linearisation point; `prep` keeps "the handle's transactions are `prepare` of that view" until
then. -/
structure Sim (s : St) (a : AState) : Prop where
  cur : ∀ p, a.cur p = s.cur p
  snap : ∀ i, (s.h i).pc ≠ .got → (s.h i).pc ≠ .put → a.snap i = (s.h i).snap
  prep : ∀ i, ((s.h i).pc = .locked ∨ (s.h i).pc = .got ∨ (s.h i).pc = .put) →
    ∃ op rest, (s.h i).todo = op :: rest ∧ prepare (a.snap i) op = some (s.h i).txs
  res : ∀ i, resultsOf a.log i = (s.h i).done ++ pending (s.h i)
  commits : committed a.log = s.commits
  ex : ∀ p, a.ex p = s.ex p

/-- past the linearisation point of its operation and not yet returned: where `pending` is not empty -/
def PC.linearised : PC → Bool
  | .renamed | .failed | .rgot | .rfailed => true
  | _ => false

theorem pending_of_pc {hd : Handle} (h : hd.pc.linearised = false) : pending hd = [] := by
  unfold pending
  split
  · rfl
  · split <;> first | rfl | (rename_i e; rw [e] at h; cases h)

theorem pending_cons {hd : Handle} {op : Op} {rest : List Op} (h : hd.todo = op :: rest) :
    pending hd = match hd.pc with
      | .renamed => [(op, some hd.txs)]
      | .failed => [(op, none)]
      | .rgot => [(op, some [])]
      | .rfailed => [(op, none)]
      | _ => [] := by
  simp only [pending, h]

/-- a step that is not a linearisation point and changes neither the ring files nor the commit log -/
theorem sim_local (s s' : St) (a : AState) (i : Nat) (hd' : Handle) (h : Sim s a)
    (hc : s'.cur = s.cur) (hm : s'.commits = s.commits) (he : s'.ex = s.ex) (hh : s'.h = upd s.h i hd')
    (hsnap : hd'.pc ≠ .got → hd'.pc ≠ .put → a.snap i = hd'.snap)
    (hprep : (hd'.pc = .locked ∨ hd'.pc = .got ∨ hd'.pc = .put) →
      ∃ op rest, hd'.todo = op :: rest ∧ prepare (a.snap i) op = some hd'.txs)
    (hres : hd'.done ++ pending hd' = (s.h i).done ++ pending (s.h i)) : Sim s' a := by
  constructor
  · intro p; rw [hc]; exact h.cur p
  · intro j h1 h2
    rw [hh] at h1 h2 ⊢
    by_cases hji : j = i
    · subst hji; simp only [upd_same] at h1 h2 ⊢; exact hsnap h1 h2
    · simp only [upd, if_neg hji] at h1 h2 ⊢; exact h.snap j h1 h2
  · intro j h1
    rw [hh] at h1 ⊢
    by_cases hji : j = i
    · subst hji; simp only [upd_same] at h1 ⊢; exact hprep h1
    · simp only [upd, if_neg hji] at h1 ⊢; exact h.prep j h1
  · intro j
    rw [hh]
    by_cases hji : j = i
    · subst hji; simp only [upd_same]; rw [hres]; exact h.res j
    · simp only [upd, if_neg hji]; exact h.res j
  · rw [hm]; exact h.commits
  · intro p; rw [he]; exact h.ex p

/-- `sim_local` for a step that neither passes a linearisation point nor returns -/
theorem sim_move (s s' : St) (a : AState) (i : Nat) (hd' : Handle) (h : Sim s a)
    (hc : s'.cur = s.cur) (hm : s'.commits = s.commits) (he : s'.ex = s.ex) (hh : s'.h = upd s.h i hd')
    (hsnap : hd'.pc ≠ .got → hd'.pc ≠ .put → a.snap i = hd'.snap)
    (hprep : (hd'.pc = .locked ∨ hd'.pc = .got ∨ hd'.pc = .put) →
      ∃ op rest, hd'.todo = op :: rest ∧ prepare (a.snap i) op = some hd'.txs)
    (hl : (s.h i).pc.linearised = false) (hl' : hd'.pc.linearised = false) (hdone : hd'.done = (s.h i).done) :
    Sim s' a :=
  sim_local s s' a i hd' h hc hm he hh hsnap hprep (by rw [hdone, pending_of_pc hl, pending_of_pc hl'])

/-- A linearisation point of thread `i`: the atomic store executes the operation. `ho` names its outcome, with `r'`
the ring it stores on the handle's path; `hc`, `he`, `hm`: the concurrent step stores the same ring, creates the
file exactly when the atomic store does, and logs the commit of a successful write. -/
theorem sim_exec (s s' : St) (a : AState) (i : Nat) (hd' : Handle) (op : Op) (h : Sim s a) (r' : Ring)
    (res : Option (List Tx))
    (ho : a.outcome ⟨i, (s.h i).path, op⟩ = (r', hd'.snap, res))
    (hc : s'.cur = upd s.cur (s.h i).path r')
    (he : s'.ex = upd s.ex (s.h i).path (s.ex (s.h i).path || decide (op = .open)))
    (hm : s'.commits = s.commits ++
      (if op = .refresh then [] else match res with | none => [] | some t => [(⟨i, (s.h i).path, t⟩ : Commit)]))
    (hh : s'.h = upd s.h i hd')
    (hpc : hd'.pc ≠ .locked ∧ hd'.pc ≠ .got ∧ hd'.pc ≠ .put)
    (hl : (s.h i).pc.linearised = false) (hres : hd'.done ++ pending hd' = (s.h i).done ++ [(op, res)]) :
    Sim s' (a.exec ⟨i, (s.h i).path, op⟩) := by
  rw [AState.exec_eq, ho]
  refine ⟨fun p => ?_, fun j h1 h2 => ?_, fun j h1 => ?_, fun j => ?_, ?_, fun p => ?_⟩
  · show upd a.cur (s.h i).path r' p = s'.cur p
    rw [hc]
    by_cases hp : p = (s.h i).path
    · rw [hp, upd_same, upd_same]
    · rw [upd_other _ _ _ _ hp, upd_other _ _ _ _ hp]; exact h.cur p
  · show upd a.snap i hd'.snap j = (s'.h j).snap
    rw [hh] at h1 h2 ⊢
    by_cases hji : j = i
    · rw [hji, upd_same, upd_same]
    · rw [upd_other _ _ _ _ hji] at h1 h2 ⊢; rw [upd_other _ _ _ _ hji]; exact h.snap j h1 h2
  · show ∃ op rest, (s'.h j).todo = op :: rest ∧ prepare (upd a.snap i hd'.snap j) op = some (s'.h j).txs
    rw [hh] at h1 ⊢
    by_cases hji : j = i
    · rw [hji, upd_same] at h1
      rcases h1 with h1 | h1 | h1
      · exact absurd h1 hpc.1
      · exact absurd h1 hpc.2.1
      · exact absurd h1 hpc.2.2
    · rw [upd_other _ _ _ _ hji] at h1 ⊢; rw [upd_other _ _ _ _ hji]; exact h.prep j h1
  · show resultsOf (a.log ++ [(⟨i, (s.h i).path, op⟩, res)]) j = (s'.h j).done ++ pending (s'.h j)
    rw [hh, resultsOf_snoc]
    by_cases hji : j = i
    · rw [hji, upd_same, if_pos rfl, hres, h.res i, pending_of_pc hl, List.append_nil]
    · rw [upd_other _ _ _ _ hji, if_neg (Ne.symm hji), List.append_nil]; exact h.res j
  · show committed (a.log ++ [(⟨i, (s.h i).path, op⟩, res)]) = s'.commits
    rw [committed_snoc, hm, h.commits]
  · show upd a.ex (s.h i).path (a.ex (s.h i).path || decide (op = .open)) p = s'.ex p
    rw [he, h.ex (s.h i).path]
    by_cases hp : p = (s.h i).path
    · rw [hp, upd_same, upd_same]
    · rw [upd_other _ _ _ _ hp, upd_other _ _ _ _ hp]; exact h.ex p

/-- the atomic store after the next step of thread `i` in `s`: it runs the operation if that step is its
linearisation point -/
def AState.after (a : AState) (s : St) (i : Nat) : AState :=
  match linPoint s i with
  | none => a
  | some e => a.exec e

theorem linPoint_nil {s : St} {i : Nat} (h : (s.h i).todo = []) : linPoint s i = none := by
  simp only [linPoint, h]

theorem linPoint_cons {s : St} {i : Nat} {op : Op} {rest : List Op} (h : (s.h i).todo = op :: rest) :
    linPoint s i = match (s.h i).pc with
      | .idle => if op ≠ .refresh ∧ (prepare (s.h i).snap op).isNone then some ⟨i, (s.h i).path, op⟩ else none
      | .locked =>
        if s.ex (s.h i).path then
          if op = .open then some ⟨i, (s.h i).path, op⟩
          else if (applyAll (s.h i).txs (s.cur (s.h i).path)).isNone then some ⟨i, (s.h i).path, op⟩ else none
        else if op = .open then none else some ⟨i, (s.h i).path, op⟩
      | .put => if (s.new (s.h i).path).isSome then some ⟨i, (s.h i).path, op⟩ else none
      | .rlocked => some ⟨i, (s.h i).path, op⟩
      | _ => none := by
  simp only [linPoint, h]

theorem linPoint_linearised {s : St} {i : Nat} (hl : (s.h i).pc.linearised = true) : linPoint s i = none := by
  cases htodo : (s.h i).todo with
  | nil => exact linPoint_nil htodo
  | cons op rest =>
    rw [linPoint_cons htodo]
    generalize (s.h i).pc = pc at hl
    cases pc <;> first | rfl | cases hl

/-- `Unlock` / `RUnlock`: the result of the linearised operation moves from `pending` to `done` -/
theorem sim_finish (s s' : St) (a : AState) (i : Nat) (op : Op) (rest : List Op) (res : Option (List Tx)) (h : Sim s a)
    (hc : s'.cur = s.cur) (hm : s'.commits = s.commits) (he : s'.ex = s.ex)
    (hh : s'.h = upd s.h i (finish (s.h i) res)) (htodo : (s.h i).todo = op :: rest)
    (hpend : pending (s.h i) = [(op, res)]) : Sim s' (a.after s i) := by
  have hl : (s.h i).pc.linearised = true := by
    cases hl : (s.h i).pc.linearised
    · rw [pending_of_pc hl] at hpend; cases hpend
    · rfl
  rw [AState.after, linPoint_linearised hl, finish_cons htodo] at *
  refine sim_local s s' a i _ h hc hm he hh (fun _ _ => h.snap i ?_ ?_) (fun hc => by simp at hc) ?_
  · intro e; rw [e] at hl; cases hl
  · intro e; rw [e] at hl; cases hl
  · rw [hpend, pending_of_pc rfl]; exact List.append_nil _

/-- **Every step of every thread is simulated by the atomic store** (zero or one atomic operation). -/
theorem step_sim (c0 : Nat → Ring) (s : St) (a : AState) (i : Nat) (hI : Inv c0 s) (h : Sim s a) :
    Sim (step s i) (a.after s i) := by
  obtain ⟨c, hst⟩ := step_spec s i
  generalize step s i = s' at hst ⊢
  unfold AState.after
  -- per rule: `sim_move` (no linearisation point), `sim_exec` (linearisation point; its argument `ho` names what the
  -- atomic operation does there) or `sim_finish` (`Unlock` / `RUnlock`)
  have updSelf : ∀ (q : Nat), s.cur = upd s.cur q (s.cur q) := fun q => (upd_self s.cur q).symm
  -- what the atomic store does on this handle's ring when it exists / is missing, and to its existence
  have outEx : ∀ {op : Op}, s.ex (s.h i).path = true →
      a.outcome ⟨i, (s.h i).path, op⟩ = atomicOp (s.cur (s.h i).path) (a.snap i) op := by
    intro op hex; rw [AState.outcome, if_pos ((h.ex _).trans hex), h.cur]
  have outMiss : ∀ {op : Op}, s.ex (s.h i).path = false → op ≠ .open →
      a.outcome ⟨i, (s.h i).path, op⟩ = (s.cur (s.h i).path, a.snap i, none) := by
    intro op hex hop; rw [AState.outcome, if_neg (by rw [h.ex, hex]; nofun), if_neg hop, h.cur]
  have exT : ∀ {op : Op}, s.ex (s.h i).path = true →
      s.ex = upd s.ex (s.h i).path (s.ex (s.h i).path || decide (op = .open)) :=
    fun hex => (upd_eq_self (by rw [hex]; rfl)).symm
  have exF : ∀ {op : Op}, s.ex (s.h i).path = false → op ≠ .open →
      s.ex = upd s.ex (s.h i).path (s.ex (s.h i).path || decide (op = .open)) :=
    fun hex hop => (upd_eq_self (by rw [hex, decide_eq_false hop]; rfl)).symm
  have noCommit : ∀ {op : Op}, s.commits = s.commits ++ (if op = .refresh then [] else
      match (none : Option (List Tx)) with | none => [] | some t => [(⟨i, (s.h i).path, t⟩ : Commit)]) := by
    intro op; split <;> exact (List.append_nil _).symm
  cases hst with
  | done hpc htodo => rw [linPoint_nil htodo]; exact h
  | rwait hpc htodo hw => rw [linPoint_cons htodo, hpc]; exact h
  | wwait hpc htodo hop hprep hl =>
    simp only [linPoint_cons htodo, hpc, hprep, Option.isNone_some, Bool.false_eq_true, and_false, if_false]; exact h
  | rlock hpc htodo hw =>
    rw [linPoint_cons htodo, hpc]
    exact sim_move s _ a i _ h rfl rfl rfl rfl (fun _ _ => h.snap i (by rw [hpc]; nofun) (by rw [hpc]; nofun))
      (fun hc => by simp at hc) (by rw [hpc]; rfl) rfl rfl
  | lock hpc htodo hop hprep hw hr =>
    have hsn := h.snap i (by rw [hpc]; nofun) (by rw [hpc]; nofun)
    simp only [linPoint_cons htodo, hpc, hprep, Option.isNone_some, Bool.false_eq_true, and_false, if_false]
    exact sim_move s _ a i _ h rfl rfl rfl rfl (fun _ _ => hsn) (fun _ => ⟨_, _, htodo, by rw [hsn]; exact hprep⟩)
      (by rw [hpc]; rfl) rfl rfl
  | @reject op rest hpc htodo hop hprep =>
    have hsn := h.snap i (by rw [hpc]; nofun) (by rw [hpc]; nofun)
    simp only [linPoint_cons htodo, hpc, hprep, hop, ne_eq, not_false_eq_true, Option.isNone_none, and_self, if_true]
    rw [finish_cons htodo]
    cases hex : s.ex (s.h i).path with
    | true =>
      exact sim_exec s _ a i _ op h (s.cur (s.h i).path) none (by rw [outEx hex, hsn]; exact atomicOp_reject hop hprep)
        (updSelf _) (exT hex) noCommit rfl ⟨nofun, nofun, nofun⟩ (by rw [hpc]; rfl) (by rw [pending_of_pc rfl]; exact List.append_nil _)
    | false =>
      have hno : op ≠ .open := by intro e'; subst e'; simp [prepare] at hprep
      exact sim_exec s _ a i _ op h (s.cur (s.h i).path) none (by rw [outMiss hex hno, hsn]) (updSelf _) (exF hex hno)
        noCommit rfl ⟨nofun, nofun, nofun⟩ (by rw [hpc]; rfl) (by rw [pending_of_pc rfl]; exact List.append_nil _)
  | openFound hpc hex hop =>
    obtain ⟨op, rest, htodo, hprep⟩ := h.prep i (.inl hpc)
    rw [htodo, List.head?_cons, Option.some.injEq] at hop
    subst hop
    simp only [linPoint_cons htodo, hpc, hex, if_true]
    exact sim_exec s _ a i _ .open h (s.cur (s.h i).path) (some []) (by rw [outEx hex]; exact atomicOp_ok nofun rfl rfl)
      (updSelf _) (exT hex) rfl rfl ⟨nofun, nofun, nofun⟩ (by rw [hpc]; rfl) (by simp [pending, htodo])
  | getStale hpc hex hop happ =>
    obtain ⟨op, rest, htodo, hprep⟩ := h.prep i (.inl hpc)
    obtain ⟨_, _, htodo', hnr⟩ := hI.todoW i (by simp [inCS, hpc])
    rw [htodo] at htodo'; cases htodo'
    rw [htodo, List.head?_cons, ne_eq, Option.some.injEq] at hop
    simp only [linPoint_cons htodo, hpc, hex, hop, happ, Option.isNone_none, if_true, if_false]
    exact sim_exec s _ a i _ op h (s.cur (s.h i).path) none (by rw [outEx hex]; exact atomicOp_stale hnr hprep happ)
      (updSelf _) (exT hex) noCommit rfl ⟨nofun, nofun, nofun⟩ (by rw [hpc]; rfl) (by simp [pending, htodo])
  | get hpc hex hop happ =>
    obtain ⟨op, rest, htodo, hprep⟩ := h.prep i (.inl hpc)
    rw [htodo, List.head?_cons, ne_eq, Option.some.injEq] at hop
    simp only [linPoint_cons htodo, hpc, hex, hop, happ, Option.isNone_some, Bool.false_eq_true, if_true, if_false]
    exact sim_move s _ a i _ h rfl rfl rfl rfl (fun hc => absurd rfl hc) (fun _ => ⟨op, rest, htodo, hprep⟩)
      (by rw [hpc]; rfl) rfl rfl
  | openMissing hpc hex hop =>
    obtain ⟨op, rest, htodo, hprep⟩ := h.prep i (.inl hpc)
    rw [htodo, List.head?_cons, Option.some.injEq] at hop
    subst hop
    simp only [linPoint_cons htodo, hpc, hex, Bool.false_eq_true, if_true, if_false]
    exact sim_move s _ a i _ h rfl rfl rfl rfl (fun hc => absurd rfl hc) (fun _ => ⟨.open, rest, htodo, rfl⟩)
      (by rw [hpc]; rfl) rfl rfl
  | getMissing hpc hex hop =>
    obtain ⟨op, rest, htodo, hprep⟩ := h.prep i (.inl hpc)
    rw [htodo, List.head?_cons, ne_eq, Option.some.injEq] at hop
    simp only [linPoint_cons htodo, hpc, hex, hop, Bool.false_eq_true, if_false]
    exact sim_exec s _ a i _ op h (s.cur (s.h i).path) none
      (by rw [outMiss hex hop, h.snap i (by rw [hpc]; nofun) (by rw [hpc]; nofun)]) (updSelf _) (exF hex hop) noCommit rfl
      ⟨nofun, nofun, nofun⟩ (by rw [hpc]; rfl) (by simp [pending, htodo])
  | gotBad hpc happ => exact absurd (hI.gotOk i hpc).2 (by simp [happ])
  | putClash hpc happ hnew => rw [hI.got_noNew hpc] at hnew; cases hnew
  | put hpc happ hnew =>
    obtain ⟨op, rest, htodo, hprep⟩ := h.prep i (.inr (.inl hpc))
    rw [linPoint_cons htodo, hpc]
    exact sim_move s _ a i _ h rfl rfl rfl rfl (fun _ hc => absurd rfl hc) (fun _ => ⟨op, rest, htodo, hprep⟩)
      (by rw [hpc]; rfl) rfl rfl
  | renameBad hpc hnew => exact absurd (hI.putOk i hpc).1 (by simp [hnew])
  | rename hpc hnew =>
    obtain ⟨op, rest, htodo, hprep⟩ := h.prep i (.inr (.inr hpc))
    obtain ⟨_, _, htodo', hnr⟩ := hI.todoW i (by simp [inCS, hpc])
    rw [htodo] at htodo'; cases htodo'
    obtain ⟨hp1, hp2⟩ := hI.putOk i hpc
    cases hnew.symm.trans hp1
    simp only [linPoint_cons htodo, hpc, hp1, Option.isSome_some, if_true]
    have hm : s.commits ++ [(⟨i, (s.h i).path, (s.h i).txs⟩ : Commit)] = s.commits ++ (if op = .refresh then [] else
        match some (s.h i).txs with | none => [] | some t => [(⟨i, (s.h i).path, t⟩ : Commit)]) := by rw [if_neg hnr]
    cases hex : s.ex (s.h i).path with
    | true =>
      exact sim_exec s _ a i _ op h (s.h i).snap (some (s.h i).txs) (by rw [outEx hex]; exact atomicOp_ok hnr hprep hp2) rfl
        (by rw [hex]; rfl) hm rfl ⟨nofun, nofun, nofun⟩ (by rw [hpc]; rfl) (by simp [pending, htodo])
    | false =>
      -- a creating `OpenKeyRingRW`: it stores the empty ring with no transactions
      obtain ⟨hc1, hc2⟩ := hI.crt i (.inr hpc)
      obtain ⟨rest2, htodo2⟩ := hc1.mp hex
      rw [htodo] at htodo2; cases htodo2
      have hsnapE : (s.h i).snap = emptyRing := by
        rw [hc2 hex] at hp2
        exact ((Option.some.inj hp2).symm.trans (hI.miss _ hex).1)
      refine sim_exec s _ a i _ .open h (s.h i).snap (some (s.h i).txs) ?_ rfl (by rw [hex]; rfl) hm rfl
        ⟨nofun, nofun, nofun⟩ (by rw [hpc]; rfl) (by simp [pending, htodo])
      rw [AState.outcome, if_neg (by rw [h.ex, hex]; nofun), if_pos rfl, hc2 hex, hsnapE]
  | unlock hpc =>
    have hcs : inCS (s.h i).pc := by rcases hpc with ⟨e, _⟩ | ⟨e, _⟩ <;> simp [inCS, e]
    obtain ⟨op, rest, htodo, _⟩ := hI.todoW i hcs
    refine sim_finish s _ a i op rest _ h rfl rfl rfl rfl htodo ?_
    rcases hpc with ⟨e, rfl⟩ | ⟨e, rfl⟩ <;> rw [pending_cons htodo, e]
  | rget hpc hex =>
    obtain ⟨rest, htodo⟩ := hI.todoR i (by simp [isReader, hpc])
    rw [linPoint_cons htodo, hpc]
    exact sim_exec s _ a i _ .refresh h (s.cur (s.h i).path) (some []) (by rw [outEx hex]; exact atomicOp_refresh _ _)
      (updSelf _) (exT hex) (List.append_nil _).symm rfl ⟨nofun, nofun, nofun⟩ (by rw [hpc]; rfl) (by simp [pending, htodo])
  | rgetMissing hpc hex =>
    obtain ⟨rest, htodo⟩ := hI.todoR i (by simp [isReader, hpc])
    rw [linPoint_cons htodo, hpc]
    exact sim_exec s _ a i _ .refresh h (s.cur (s.h i).path) none
      (by rw [outMiss (op := .refresh) hex nofun, h.snap i (by rw [hpc]; nofun) (by rw [hpc]; nofun)]) (updSelf _) (exF (op := .refresh) hex nofun)
      (List.append_nil _).symm rfl ⟨nofun, nofun, nofun⟩ (by rw [hpc]; rfl) (by simp [pending, htodo])
  | runlock hpc =>
    have hrd : isReader (s.h i).pc := by rcases hpc with ⟨e, _⟩ | ⟨e, _⟩ <;> simp [isReader, e]
    obtain ⟨rest, htodo⟩ := hI.todoR i hrd
    refine sim_finish s _ a i _ rest _ h rfl rfl rfl rfl htodo ?_
    rcases hpc with ⟨e, rfl⟩ | ⟨e, rfl⟩ <;> rw [pending_cons htodo, e]

theorem atomicRun_after (a : AState) (s : St) (i : Nat) : atomicRun a (linPoint s i).toList = a.after s i := by
  unfold AState.after
  cases linPoint s i <;> rfl

/-- **Refinement.** Every schedule of the concurrent model is simulated by the sequential run of its
operations in linearisation order. -/
theorem run_sim (c0 : Nat → Ring) (s : St) (a : AState) (sched : List Nat) (hI : Inv c0 s) (h : Sim s a) :
    Sim (run s sched) (atomicRun a (linTrace s sched)) := by
  induction sched generalizing s a with
  | nil => exact h
  | cons i r ih =>
    simp only [linTrace, atomicRun_append, atomicRun_after]
    exact ih _ _ (step_inv c0 s i hI) (step_sim c0 s a i hI h)

/-- the atomic store at the start: the ring files and every handle's snapshot as they are in `s`, empty log -/
def AState.init (s : St) : AState := ⟨s.cur, fun i => (s.h i).snap, [], s.ex⟩

/-- before anything has run, a state with idle handles is simulated by the atomic store at its start -/
theorem sim_init (s : St) (hidle : ∀ i, (s.h i).pc = .idle) (hdone : ∀ i, (s.h i).done = [])
    (hc : s.commits = []) : Sim s (AState.init s) :=
  ⟨fun _ => rfl, fun _ _ _ => rfl, fun i hi => by simp [hidle i] at hi,
   fun i => by simp [resultsOf, AState.init, hdone i, pending_of_pc (show (s.h i).pc.linearised = false by rw [hidle i]; rfl)],
   by simp [committed, AState.init, hc], fun _ => rfl⟩

end AcraModel.KeystoreSec.Conc
