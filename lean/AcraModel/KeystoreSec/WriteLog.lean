import AcraModel.KeystoreSec.Der
import AcraModel.KeystoreSec.Basics
/-!
# What the v2 key store writes to its back end

`pushNewRingState` = `signKeyRing` + `pushASNring`: the bytes handed to `Backend.Put` for a ring are
the DER `SignedContainer` whose payload is `SignedPayload{TypeKeyRing, 2, time, KeyRing}` – the ring
with every private / symmetric item already encrypted by `addKeyData` – signed with HMAC-SHA-256
under the context `"AKSv2 keystore: key ring signature: <path>"`.

`ringFile` recomputes these bytes from (master key, signature key, time stamp, the ring in
plaintext, the nonces); the correspondence op `C07.ringfile` compares them with what the real key
store handed to `Put`, byte for byte.
-/
namespace AcraModel.KeystoreSec.WriteLog
open AcraModel.KeystoreSec.Export

/-- the stored (encrypted) form of a ring given in plaintext: `newKey` / `copyKey` → `addKeyData` -/
def storedRing (c : CryptoOps) (ν : Nonces) (master : Bytes) (x : Ring) : Option Ring :=
  (x.keys.mapM fun (k : Key) => (k.data.mapM (addKeyData c ν master x.purpose k.seq)).map fun ds => { k with data := ds }).map
    fun ks => { x with keys := ks }

/-- payload bytes (the signed span) of a ring file -/
def ringPayload (time : Int) (stored : Ring) : Bytes :=
  Der.derPayload Der.typeKeyRing time (Der.derRing stored)

/-- the bytes written by `Put(<path>.keyring.new, …)` -/
def ringFile (c : CryptoOps) (ν : Nonces) (master sigKey : Bytes) (time : Int) (x : Ring) : Option Bytes :=
  (storedRing c ν master x).map fun r =>
    Der.derContainer (Notary.sign c sigKey (sigCtx x.purpose) (ringPayload time r))

/-- A stored key-data item is *sealed* w.r.t. its plaintext `d`: the public key is stored as given
and each secret part is either absent or an AEAD output under the master key and the context of
this ring, sequence number and purpose. -/
def SealedData (c : CryptoOps) (master path : Bytes) (seq : Int) (d e : KeyData) : Prop :=
  (e.priv = [] ∨ ∃ n, c.enc master (privCtx path seq) d.priv n = some e.priv) ∧
  (e.sym = [] ∨ ∃ n, c.enc master (symCtx path seq) d.sym n = some e.sym) ∧
  (e.pub = [] ∨ e.pub = d.pub)

theorem addKeyData_sealed (c : CryptoOps) (ν : Nonces) (master path : Bytes) (seq : Int) (d e : KeyData)
    (h : addKeyData c ν master path seq d = some e) : SealedData c master path seq d e := by
  unfold addKeyData at h
  split at h
  · split at h
    · cases h
    · split at h
      · cases h; exact ⟨Or.inl rfl, Or.inl rfl, Or.inr rfl⟩
      · cases he : c.enc master (privCtx path seq) d.priv (ν (privCtx path seq) d.priv) with
        | none => simp [he] at h
        | some ct =>
          simp [he] at h; cases h
          exact ⟨Or.inr ⟨_, he⟩, Or.inl rfl, Or.inr rfl⟩
  · split at h
    · split at h
      · cases h
      · cases he : c.enc master (symCtx path seq) d.sym (ν (symCtx path seq) d.sym) with
        | none => simp [he] at h
        | some ct =>
          simp [he] at h; cases h
          exact ⟨Or.inl rfl, Or.inr ⟨_, he⟩, Or.inl rfl⟩
    · cases h

theorem sigCtx_inj (p q : Bytes) (h : sigCtx p = sigCtx q) : p = q := by
  simp only [sigCtx, ksCtx] at h
  exact List.append_cancel_left (List.append_cancel_left h)

/-- what `sign` hashes, `context ‖ ": " ‖ data`, splits back into path and data once the data lengths or the
paths are known to agree (the path itself may contain `": "`) -/
theorem signed_string_inj {p p' raw raw' : Bytes}
    (h : sigCtx p' ++ (Path.ofStr ": " ++ raw') = sigCtx p ++ (Path.ofStr ": " ++ raw))
    (hlen : raw'.length = raw.length ∨ p' = p) : raw' = raw ∧ p' = p := by
  simp only [sigCtx, ksCtx, List.append_assoc] at h
  have h3 := List.append_cancel_left (List.append_cancel_left h)
  have hp : p' = p := hlen.elim (fun hl => (List.append_inj h3 (by
    have := congrArg List.length h3
    simp only [List.length_append] at this
    omega)).1) id
  subst hp
  exact ⟨List.append_cancel_left (List.append_cancel_left h3), rfl⟩

end AcraModel.KeystoreSec.WriteLog
