import AcraModel.KeystoreSec.FileLock
/-! Invariants of the lock-file life cycle (`FileLock.lean`) and its refinement of the abstract lock. -/
namespace AcraModel.KeystoreSec.FileLock

theorem compat_ex (o : Option Mode) : compat .ex o = true ↔ o = none := by
  rcases o with _ | _ | _ <;> simp [compat]

theorem compat_sh (o : Option Mode) : compat .sh o = true ↔ o ≠ some .ex := by
  rcases o with _ | _ | _ <;> simp [compat]

theorem compat_of_ex (m : Mode) : compat m (some .ex) = false := by cases m <;> rfl

theorem canFlock_spec (s : LState) (i : Nat) (m : Mode) :
    canFlock s i m = true ↔
      ∀ j, j < s.n → j ≠ i → (s.h j).ino = (s.h i).ino → compat m (s.h j).held = true := by
  unfold canFlock
  simp only [List.all_eq_true, List.mem_range, Bool.or_eq_true, beq_iff_eq, bne_iff_ne, ne_eq]
  refine forall_congr' fun j => imp_congr_right fun _ => ?_
  by_cases hji : j = i
  · simp [hji]
  · by_cases hino : (s.h j).ino = (s.h i).ino <;> simp [hji, hino]

theorem upd_comp {α β} (g : α → β) (f : Nat → α) (i k : Nat) (v : α) :
    g (upd f i v k) = if k = i then g v else g (f k) := by
  unfold upd; split <;> rfl

/-- `lstep` as a transition relation, one rule per thing that can happen; the tests that enable it are the
premises. `Close` may unlink the path (`cu`) whether or not it still has something to close: `path'`. -/
inductive LStep (cu : Bool) (s : LState) : LState → Prop
  | openOld {p} (hp : s.path = some p) :
    LStep cu s { s with n := s.n + 1, h := upd s.h s.n ⟨p, true, false, none, none⟩ }
  | openNew (hp : s.path = none) :
    LStep cu s { s with path := some s.next, next := s.next + 1, n := s.n + 1,
                        h := upd s.h s.n ⟨s.next, true, false, none, none⟩ }
  /-- a blocked `flock`, a busy mutex, a closed or unknown handle -/
  | idle {path'} (hp : path' = s.path ∨ (cu = true ∧ path' = none)) : LStep cu s { s with path := path' }
  | close {i path'} (ho : (s.h i).isOpen = true) (hp : path' = s.path ∨ (cu = true ∧ path' = none)) :
    LStep cu s { s with path := path', h := upd s.h i { s.h i with isOpen := false, want := none, held := none } }
  | enter {i} (m : Mode) (ho : (s.h i).isOpen = true) (hm : (s.h i).mutex = false) :
    LStep cu s { s with h := upd s.h i { s.h i with mutex := true, want := some m } }
  | acquire {i m} (hw : (s.h i).want = some m) (ho : (s.h i).isOpen = true) (hc : canFlock s i m = true) :
    LStep cu s { s with h := upd s.h i { s.h i with want := none, held := some m } }
  | release {i} (ho : (s.h i).isOpen = true) (hh : (s.h i).held ≠ none) :
    LStep cu s { s with h := upd s.h i { s.h i with held := none, mutex := false } }

theorem lstep_spec (cu : Bool) (s : LState) (op : LOp) : LStep cu s (lstep cu s op) := by
  cases op with
  | openH =>
    simp only [lstep]
    split
    · next p hp => exact .openOld hp
    · next hp => exact .openNew hp
  | closeH i =>
    simp only [lstep]
    split
    · next hc =>
      split
      · next ho => exact .close ho (.inr ⟨hc.1, rfl⟩)
      · exact .idle (.inr ⟨hc.1, rfl⟩)
    · split
      · next ho => exact .close ho (.inl rfl)
      · exact .idle (.inl rfl)
  | enter i m =>
    simp only [lstep]
    split
    · next hc => exact .enter m hc.1 hc.2
    · exact .idle (.inl rfl)
  | acquire i =>
    simp only [lstep]
    split
    · next m hw =>
      split
      · next hc => exact .acquire hw hc.1 hc.2
      · exact .idle (.inl rfl)
    · exact .idle (.inl rfl)
  | release i =>
    simp only [lstep]
    split
    · next hc => exact .release hc.1 hc.2
    · exact .idle (.inl rfl)

/-- The invariant of the life-cycle model, for either behaviour of `Close`. -/
structure LInv (s : LState) : Prop where
  /-- handle ids that were never handed out are closed dummies -/
  out : ∀ i, s.n ≤ i → s.h i = closedHandle
  freshP : ∀ p, s.path = some p → p < s.next
  freshH : ∀ i, i < s.n → (s.h i).ino < s.next
  heldOpen : ∀ i, (s.h i).held ≠ none → (s.h i).isOpen = true ∧ (s.h i).mutex = true ∧ (s.h i).want = none
  wantOpen : ∀ i, (s.h i).want ≠ none → (s.h i).isOpen = true ∧ (s.h i).mutex = true ∧ (s.h i).held = none
  /-- `flock(2)`: next to an exclusive lock no other open file description **of the same inode** holds a lock -/
  excl : ∀ i j, i ≠ j → (s.h i).ino = (s.h j).ino → (s.h i).held = some .ex → (s.h j).held = none

theorem linit_inv (p : Option Nat) : LInv (linit p) where
  out := fun _ _ => rfl
  freshP := by
    intro q hq
    cases p with
    | none => simp [linit] at hq
    | some k => simp [linit] at hq ⊢; omega
  freshH := by intro i hi; simp [linit] at hi
  heldOpen := by intro i hi; simp [linit, closedHandle] at hi
  wantOpen := by intro i hi; simp [linit, closedHandle] at hi
  excl := by intro i j _ _ h; simp [linit, closedHandle] at h

theorem lt_of_open {s : LState} (h : LInv s) {i : Nat} (ho : (s.h i).isOpen = true) : i < s.n := by
  apply Nat.lt_of_not_le
  intro hle
  rw [h.out i hle] at ho
  simp [closedHandle] at ho

theorem lt_of_held {s : LState} (h : LInv s) {i : Nat} (hh : (s.h i).held ≠ none) : i < s.n :=
  lt_of_open h (h.heldOpen i hh).1

/-- a granted `flock` is compatible with what every other handle of the inode holds – also the ids not yet
handed out, which hold nothing -/
theorem LInv.compat_of_canFlock {s : LState} (h : LInv s) {i : Nat} {m : Mode} (hc : canFlock s i m = true) (j : Nat)
    (hji : j ≠ i) (hino : j < s.n → (s.h j).ino = (s.h i).ino) : compat m (s.h j).held = true := by
  by_cases hjn : j < s.n
  · exact (canFlock_spec s i m).mp hc j hjn hji (hino hjn)
  · rw [h.out j (Nat.le_of_not_lt hjn)]; cases m <;> rfl

/-- replacing handle `i` (one of those handed out) by `hd'` -/
theorem inv_updH (s : LState) (i : Nat) (hd' : LHandle) (h : LInv s) (hi : i < s.n) (hino : hd'.ino < s.next)
    (h1 : hd'.held ≠ none → hd'.isOpen = true ∧ hd'.mutex = true ∧ hd'.want = none)
    (h2 : hd'.want ≠ none → hd'.isOpen = true ∧ hd'.mutex = true ∧ hd'.held = none)
    (h3 : hd'.held = some .ex → ∀ j, j ≠ i → (s.h j).ino = hd'.ino → (s.h j).held = none)
    (h4 : hd'.held ≠ none → ∀ j, j ≠ i → (s.h j).ino = hd'.ino → (s.h j).held ≠ some .ex) :
    LInv { s with h := upd s.h i hd' } := by
  constructor
  · intro k hk
    have hki : k ≠ i := by intro e; subst e; exact absurd hi (Nat.not_lt.mpr hk)
    simp only [upd, if_neg hki]; exact h.out k hk
  · exact h.freshP
  · intro k hk
    by_cases hki : k = i
    · subst hki; simp only [upd_same]; exact hino
    · simp only [upd, if_neg hki]; exact h.freshH k hk
  · intro k hk
    by_cases hki : k = i
    · subst hki; simp only [upd_same] at hk ⊢; exact h1 hk
    · simp only [upd, if_neg hki] at hk ⊢; exact h.heldOpen k hk
  · intro k hk
    by_cases hki : k = i
    · subst hki; simp only [upd_same] at hk ⊢; exact h2 hk
    · simp only [upd, if_neg hki] at hk ⊢; exact h.wantOpen k hk
  · intro a b hab hino' hex
    by_cases hai : a = i
    · subst hai
      have hb : b ≠ a := fun e => hab e.symm
      simp only [upd_same, upd_other _ _ _ _ hb] at hino' hex ⊢
      exact h3 hex b hb hino'.symm
    · by_cases hbi : b = i
      · subst hbi
        simp only [upd_same, upd_other _ _ _ _ hai] at hino' hex ⊢
        cases hh : hd'.held with
        | none => rfl
        | some m => exact absurd hex (h4 (by simp [hh]) a hai hino')
      · simp only [upd_other _ _ _ _ hai, upd_other _ _ _ _ hbi] at hino' hex ⊢
        exact h.excl a b hab hino' hex

/-- `inv_updH` for a new handle that holds no `flock` -/
theorem inv_updH_free (s : LState) (i : Nat) (hd' : LHandle) (h : LInv s) (hi : i < s.n) (hino : hd'.ino < s.next)
    (hheld : hd'.held = none) (hw : hd'.want ≠ none → hd'.isOpen = true ∧ hd'.mutex = true) :
    LInv { s with h := upd s.h i hd' } :=
  inv_updH s i hd' h hi hino (fun e => absurd hheld e) (fun e => ⟨(hw e).1, (hw e).2, hheld⟩)
    (fun e => by rw [hheld] at e; cases e) (fun e => absurd hheld e)

theorem inv_setPath (s : LState) (h : LInv s) (path' : Option Nat) (hp : path' = s.path ∨ path' = none) :
    LInv { s with path := path' } := by
  refine ⟨h.out, fun p e => ?_, h.freshH, h.heldOpen, h.wantOpen, h.excl⟩
  have e : path' = some p := e
  rcases hp with hp | hp <;> rw [hp] at e
  · exact h.freshP p e
  · cases e

/-- counting one more handle id as handed out: its slot still holds the closed dummy, whose inode 0 is below any
positive counter -/
theorem inv_grow (s : LState) (h : LInv s) (next' : Nat) (path' : Option Nat) (hn : s.next ≤ next') (hpos : 0 < next')
    (hp : ∀ p, path' = some p → p < next') : LInv { path := path', next := next', n := s.n + 1, h := s.h } := by
  refine ⟨fun k hk => h.out k (Nat.le_of_succ_le hk), hp, fun k _ => ?_, h.heldOpen, h.wantOpen, h.excl⟩
  by_cases hkn : k < s.n
  · exact Nat.lt_of_lt_of_le (h.freshH k hkn) hn
  · rw [h.out k (Nat.le_of_not_lt hkn)]; exact hpos

/-- handing out the next handle id, on an inode `q` older than the (possibly advanced) fresh-inode counter -/
theorem inv_open (s : LState) (h : LInv s) (q next' : Nat) (path' : Option Nat) (hn : s.next ≤ next') (hq : q < next')
    (hp : ∀ p, path' = some p → p < next') :
    LInv { path := path', next := next', n := s.n + 1, h := upd s.h s.n ⟨q, true, false, none, none⟩ } :=
  inv_updH_free _ s.n _ (inv_grow s h next' path' hn (Nat.zero_lt_of_lt hq) hp) (Nat.lt_succ_self _) hq rfl nofun

theorem lstep_inv (cu : Bool) (s : LState) (op : LOp) (h : LInv s) : LInv (lstep cu s op) := by
  have hst := lstep_spec cu s op
  generalize lstep cu s op = s' at hst ⊢
  -- an open handle is one of those handed out, on an inode that exists
  have old : ∀ {i}, (s.h i).isOpen = true → i < s.n ∧ (s.h i).ino < s.next :=
    fun ho => ⟨lt_of_open h ho, h.freshH _ (lt_of_open h ho)⟩
  cases hst with
  | openOld hp => exact inv_open s h _ s.next s.path (Nat.le_refl _) (h.freshP _ hp) h.freshP
  | openNew hp =>
    exact inv_open s h s.next (s.next + 1) (some s.next) (Nat.le_succ _) (Nat.lt_succ_self _)
      (fun p hp => by cases hp; exact Nat.lt_succ_self _)
  | idle hp => exact inv_setPath s h _ (hp.imp_right And.right)
  | @close i path' ho hp =>
    refine inv_setPath { s with h := upd s.h i { s.h i with isOpen := false, want := none, held := none } } ?_ _
      (hp.imp_right And.right)
    exact inv_updH_free s i _ h (old ho).1 (old ho).2 rfl (fun e => absurd rfl e)
  | @enter i m ho hm =>
    have hheld : (s.h i).held = none := Decidable.byContradiction fun hh => by
      have := (h.heldOpen i hh).2.1
      rw [hm] at this; cases this
    exact inv_updH_free s i _ h (old ho).1 (old ho).2 hheld (fun _ => ⟨ho, rfl⟩)
  | @acquire i m hw ho hc =>
    have hmx := (h.wantOpen i (by simp [hw])).2.1
    have hcompat := fun j hji hino => h.compat_of_canFlock hc j hji fun _ => hino
    refine inv_updH s i _ h (old ho).1 (old ho).2 (fun _ => ⟨ho, hmx, rfl⟩) (by simp) ?_ ?_
    · intro hex j hji hino
      simp only [Option.some.injEq] at hex; subst hex
      exact (compat_ex _).mp (hcompat j hji hino)
    · intro _ j hji hino hjex
      have := hcompat j hji hino
      rw [hjex, compat_of_ex] at this; cases this
  | @release i ho hh =>
    exact inv_updH_free s i _ h (old ho).1 (old ho).2 rfl (fun e => absurd (h.heldOpen i hh).2.2 e)

theorem lrun_inv (cu : Bool) (s : LState) (ops : List LOp) (h : LInv s) : LInv (lrun cu s ops) := by
  induction ops generalizing s with
  | nil => exact h
  | cons op rest ih => exact ih _ (lstep_inv cu s op h)

/-- every handle ever opened refers to the inode the path names now -/
def Single (s : LState) : Prop := ∀ i, i < s.n → s.path = some (s.h i).ino

theorem Single.ino_eq {s : LState} (hs : Single s) {i j : Nat} (hi : i < s.n) (hj : j < s.n) :
    (s.h i).ino = (s.h j).ino :=
  Option.some.inj ((hs i hi).symm.trans (hs j hj))

theorem single_updH {s : LState} (hs : Single s) (i : Nat) (hd' : LHandle) (hino : hd'.ino = (s.h i).ino) :
    Single { s with h := upd s.h i hd' } := by
  intro k hk
  show s.path = some (upd s.h i hd' k).ino
  by_cases hki : k = i
  · subst hki; rw [upd_same, hino]; exact hs k hk
  · rw [upd_other _ _ _ _ hki]; exact hs k hk

theorem lstep_single (s : LState) (op : LOp) (hs : Single s) : Single (lstep false s op) := by
  have hst := lstep_spec false s op
  generalize lstep false s op = s' at hst ⊢
  have keep : ∀ {path' : Option Nat}, path' = s.path ∨ (false = true ∧ path' = none) → path' = s.path :=
    fun hp => hp.resolve_right (fun e => Bool.noConfusion e.1)
  cases hst with
  | @openOld p hp =>
    intro k hk
    show s.path = some (upd s.h s.n _ k).ino
    by_cases hkn : k = s.n
    · subst hkn; rw [upd_same, hp]
    · rw [upd_other _ _ _ _ hkn]; exact hs k (by have : k < s.n + 1 := hk; omega)
  | openNew hp =>
    intro k hk
    show some s.next = some (upd s.h s.n _ k).ino
    by_cases hkn : k = s.n
    · subst hkn; rw [upd_same]
    · have := hs k (by have : k < s.n + 1 := hk; omega)
      rw [hp] at this; cases this
  | idle hp => rw [keep hp]; exact hs
  | close ho hp => rw [keep hp]; exact single_updH hs _ _ rfl
  | enter | acquire | release => exact single_updH hs _ _ rfl

theorem lrun_single (s : LState) (ops : List LOp) (hs : Single s) : Single (lrun false s ops) := by
  induction ops generalizing s with
  | nil => exact hs
  | cons op rest ih => exact ih _ (lstep_single s op hs)

theorem linit_single (p : Option Nat) : Single (linit p) := by intro i hi; simp [linit] at hi

/-- one inode ⇒ the per-inode exclusion of `flock(2)` is exclusion among ALL handles -/
theorem global_excl {s : LState} (h : LInv s) (hs : Single s) (i j : Nat) (hij : i ≠ j)
    (hex : (s.h i).held = some .ex) : (s.h j).held = none :=
  Decidable.byContradiction fun hj =>
    hj (h.excl i j hij (hs.ino_eq (lt_of_held h (by simp [hex])) (lt_of_held h hj)) hex)

/-- `Abs` as a predicate of the table of held locks alone, which is all the abstraction looks at -/
def AbsF (f : Nat → Option Mode) (a : ALock) : Prop :=
  (∀ i, a.writer = some i ↔ f i = some .ex) ∧ (∀ i, a.reader i = true ↔ f i = some .sh)

theorem abs_iff (s : LState) (a : ALock) : Abs s a ↔ AbsF (fun k => (s.h k).held) a := Iff.rfl

/-- what one step of the life cycle does to the table of held locks when all handles share one inode
(`lstep_heldStep`): nothing, one entry cleared (close, release), or one empty entry set to a mode compatible with
all others (a granted `flock`) -/
inductive HeldStep (f g : Nat → Option Mode) : Prop where
  | same (h : ∀ k, g k = f k)
  | clear (i : Nat) (h : ∀ k, g k = if k = i then none else f k)
  | set (i : Nat) (m : Mode) (hi : f i = none) (hc : ∀ k, k ≠ i → compat m (f k) = true)
      (h : ∀ k, g k = if k = i then some m else f k)

/-- the abstraction of a lock table that differs from `f` at handle `i` only -/
theorem AbsF.upd {f g : Nat → Option Mode} {a b : ALock} {i : Nat} {v : Option Mode} (ha : AbsF f a)
    (h : ∀ k, g k = if k = i then v else f k)
    (hwi : b.writer = some i ↔ v = some .ex) (hw : ∀ k, k ≠ i → (b.writer = some k ↔ a.writer = some k))
    (hri : b.reader i = true ↔ v = some .sh) (hr : ∀ k, k ≠ i → b.reader k = a.reader k) : AbsF g b := by
  refine ⟨fun k => ?_, fun k => ?_⟩ <;> rw [h k] <;> split
  · next e => rw [e]; exact hwi
  · next e => exact (hw k e).trans (ha.1 k)
  · next e => rw [e]; exact hri
  · next e => rw [hr k e]; exact ha.2 k

theorem heldStep_refines (f g : Nat → Option Mode) (a : ALock) (ha : AbsF f a) (hst : HeldStep f g) :
    ∃ b, AbsF g b ∧ AStep a b := by
  -- what `a` says of a handle whose entry in `f` is known
  have notW : ∀ {k o}, f k = o → o ≠ some .ex → a.writer ≠ some k := fun hk ho e => ho (hk.symm.trans ((ha.1 _).mp e))
  have notR : ∀ {k o}, f k = o → o ≠ some .sh → a.reader k = false :=
    fun hk ho => (Bool.not_eq_true _).mp fun e => ho (hk.symm.trans ((ha.2 _).mp e))
  cases hst with
  | same h => exact ⟨a, (funext h : g = f) ▸ ha, .stutter rfl (fun _ => rfl)⟩
  | clear i h =>
    cases hfi : f i with
    | none =>
      exact ⟨a, ha.upd h (by simp [notW hfi nofun]) (fun _ _ => Iff.rfl) (by simp [notR hfi nofun])
        (fun _ _ => rfl), .stutter rfl (fun _ => rfl)⟩
    | some m =>
      cases m with
      | ex =>
        have haw := (ha.1 i).mpr hfi
        exact ⟨⟨none, a.reader⟩, ha.upd h (by simp) (fun k hk => by simp [haw, Ne.symm hk])
          (by simp [notR hfi nofun]) (fun _ _ => rfl), .unlock i haw rfl (fun _ => rfl)⟩
      | sh =>
        exact ⟨⟨a.writer, fun j => if j = i then false else a.reader j⟩,
          ha.upd h (by simp [notW hfi nofun]) (fun _ _ => Iff.rfl) (by simp) (fun k hk => if_neg hk),
          .runlock i ((ha.2 i).mpr hfi) rfl (fun _ => rfl)⟩
  | set i m hi hc h =>
    have hnoex : ∀ k, f k ≠ some .ex := by
      intro k e
      have hk : k ≠ i := by intro e2; subst e2; rw [hi] at e; cases e
      have := hc k hk
      rw [e, compat_of_ex] at this; cases this
    have hw : a.writer = none := Option.eq_none_iff_forall_ne_some.mpr fun k => notW rfl (hnoex k)
    cases m with
    | ex =>
      have hr : ∀ j, a.reader j = false := by
        intro j
        by_cases hji : j = i
        · subst hji; exact notR hi nofun
        · exact notR rfl fun e => by have := (compat_ex _).mp (hc j hji); rw [e] at this; cases this
      exact ⟨⟨some i, a.reader⟩, ha.upd h (by simp) (fun k hk => by simp [hw, Ne.symm hk]) (by simp [hr i]) (fun _ _ => rfl),
        .lock i hw hr rfl (fun _ => rfl)⟩
    | sh =>
      exact ⟨⟨a.writer, fun j => if j = i then true else a.reader j⟩,
        ha.upd h (by simp [hw]) (fun _ _ => Iff.rfl) (by simp) (fun k hk => if_neg hk), .rlock i hw rfl (fun _ => rfl)⟩

/-- with one inode for all handles, every step of the life cycle changes the held locks like a move of
the abstract lock -/
theorem lstep_heldStep (s : LState) (op : LOp) (h : LInv s) (hs : Single s) :
    HeldStep (fun k => (s.h k).held) (fun k => ((lstep false s op).h k).held) := by
  have hst := lstep_spec false s op
  generalize lstep false s op = s' at hst ⊢
  -- a handle that keeps its `flock`, or a new one (the slot `s.n` held nothing)
  have same : ∀ (i : Nat) (hd' : LHandle), hd'.held = (s.h i).held →
      HeldStep (fun k => (s.h k).held) (fun k => (upd s.h i hd' k).held) := by
    intro i hd' e
    refine .same fun k => ?_
    rw [upd_comp LHandle.held, e]
    split
    · next hk => rw [hk]
    · rfl
  have hnew : (s.h s.n).held = none := by rw [h.out s.n (Nat.le_refl _)]; rfl
  cases hst with
  | openOld | openNew => exact same s.n _ hnew.symm
  | idle => exact .same fun _ => rfl
  | @close i _ ho => exact .clear i fun k => upd_comp LHandle.held s.h i k _
  | @enter i m => exact same i _ rfl
  | @acquire i m hw ho hc =>
    exact .set i m (h.wantOpen i (by simp [hw])).2.2
      (fun k hki => h.compat_of_canFlock hc k hki fun hkn => hs.ino_eq hkn (lt_of_open h ho))
      (fun k => upd_comp LHandle.held s.h i k _)
  | @release i => exact .clear i fun k => upd_comp LHandle.held s.h i k _

theorem lstep_refines (s : LState) (op : LOp) (h : LInv s) (hs : Single s) (a : ALock) (ha : Abs s a) :
    ∃ b, Abs (lstep false s op) b ∧ AStep a b :=
  heldStep_refines _ _ a ha (lstep_heldStep s op h hs)

theorem lrun_refines (s : LState) (ops : List LOp) (h : LInv s) (hs : Single s) (a0 a : ALock)
    (hr : AReach a0 a) (ha : Abs s a) :
    ∃ b, Abs (lrun false s ops) b ∧ AReach a0 b := by
  induction ops generalizing s a with
  | nil => exact ⟨a, ha, hr⟩
  | cons op rest ih =>
    obtain ⟨b, hb, hstep⟩ := lstep_refines s op h hs a ha
    exact ih _ (lstep_inv false s op h) (lstep_single s op hs) b (.step hr hstep) hb

theorem linit_abs (p : Option Nat) : Abs (linit p) ALock.free :=
  ⟨by intro i; simp [ALock.free, linit, closedHandle], by intro i; simp [ALock.free, linit, closedHandle]⟩

end AcraModel.KeystoreSec.FileLock
