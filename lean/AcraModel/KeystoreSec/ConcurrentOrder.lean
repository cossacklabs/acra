import AcraModel.KeystoreSec.ConcurrentSeq
/-!
Sequence numbers stay strictly increasing: **snapshot prefixes** and well-shaped transaction logs.

A (possibly stale) snapshot is a *prefix* of the stored ring when what the stored ring has beyond it is
numbered consecutively from the snapshot's `nextSeqnum` on. Hence the number a stale handle computed before
taking the lock is either already in the stored ring (→ `errTxKeyExists`) or exactly the stored ring's own
`nextSeqnum`. This needs that no import runs on the ring (`txSetKeys` replaces the key list without any
check). That every snapshot stays a prefix under every schedule is `run_order` in `ConcurrentFresh.lean`.
-/
namespace AcraModel.KeystoreSec.Conc

def Ring.seqs (r : Ring) : List Int := r.keys.map (·.seq)

def Incr (r : Ring) : Prop := r.seqs.Pairwise (· < ·)

instance (r : Ring) : Decidable (Incr r) := by unfold Incr; infer_instance

/-- `nextSeqnum` as a function of the list of sequence numbers -/
def nextOf (l : List Int) : Int :=
  match l.getLast? with
  | none => 1
  | some s => s + 1

theorem nextSeq_eq (r : Ring) : r.nextSeq = nextOf r.seqs := by
  unfold Ring.nextSeq nextOf Ring.seqs
  rw [List.getLast?_map]
  cases r.keys.getLast? <;> rfl

/-- `n, n+1, …, n+m-1` -/
def runFrom (n : Int) : Nat → List Int
  | 0 => []
  | m + 1 => n :: runFrom (n + 1) m

theorem runFrom_snoc (n : Int) (m : Nat) : runFrom n (m + 1) = runFrom n m ++ [n + m] := by
  induction m generalizing n with
  | zero => simp [runFrom]
  | succ m ih =>
    rw [runFrom, ih (n + 1)]
    simp only [runFrom, List.cons_append, List.cons.injEq, true_and, List.append_cancel_left_eq]
    exact ⟨by omega, trivial⟩

theorem nextOf_snoc (l : List Int) (a : Int) : nextOf (l ++ [a]) = a + 1 := by
  simp [nextOf]

theorem nextOf_run (l : List Int) (m : Nat) : nextOf (l ++ runFrom (nextOf l) m) = nextOf l + m := by
  cases m with
  | zero => simp [runFrom]
  | succ m =>
    rw [runFrom_snoc, ← List.append_assoc, nextOf_snoc]
    omega

theorem lt_nextOf : ∀ (l : List Int), l.Pairwise (· < ·) → ∀ x ∈ l, x < nextOf l
  | [], _, x, hx => by cases hx
  | [a], _, x, hx => by
    simp at hx; subst hx; simp only [nextOf, List.getLast?_singleton]; omega
  | a :: b :: r, hp, x, hx => by
    have hn : nextOf (a :: b :: r) = nextOf (b :: r) := by simp [nextOf, List.getLast?_cons_cons]
    rw [hn]
    rw [List.pairwise_cons] at hp
    have ih := lt_nextOf (b :: r) hp.2
    rcases List.mem_cons.mp hx with rfl | hx
    · exact Int.lt_trans (hp.1 b (by simp)) (ih b (by simp))
    · exact ih x hx

theorem incr_snoc (l : List Int) (h : l.Pairwise (· < ·)) : (l ++ [nextOf l]).Pairwise (· < ·) := by
  rw [List.pairwise_append]
  refine ⟨h, by simp, ?_⟩
  intro a ha b hb
  simp at hb; subst hb
  exact lt_nextOf l h a ha

theorem nextOf_runFrom_succ (a : Int) (k : Nat) : nextOf (runFrom a (k + 1)) = a + (k + 1 : Nat) := by
  rw [runFrom_snoc, nextOf_snoc]; omega

theorem runFrom_add (a : Int) (n m : Nat) : runFrom a (n + m) = runFrom a n ++ runFrom (a + n) m := by
  induction n generalizing a with
  | zero => simp [runFrom]
  | succ n ih =>
    rw [show n + 1 + m = (n + m) + 1 by omega]
    simp only [runFrom, List.cons_append, List.cons.injEq, true_and]
    rw [ih]
    congr 2
    omega

theorem runFrom_incr (a : Int) (k : Nat) : (runFrom a k).Pairwise (· < ·) := by
  induction k with
  | zero => exact .nil
  | succ k ih =>
    have h1 := incr_snoc _ ih
    cases k with
    | zero => simp [runFrom]
    | succ k =>
      rw [runFrom_snoc]
      rwa [nextOf_runFrom_succ] at h1

theorem incr_nodup (r : Ring) (h : Incr r) : RingOK r := by
  unfold RingOK
  exact List.Pairwise.imp (fun {a b} (hab : a < b) => Int.ne_of_lt hab) h

/-- **snapshot prefix**: the stored ring `cur` is the snapshot `snap` extended by keys numbered
consecutively from the snapshot's next sequence number -/
def SnapPrefix (snap cur : Ring) : Prop := ∃ m : Nat, cur.seqs = snap.seqs ++ runFrom snap.nextSeq m

theorem snapPrefix_of_seqs_eq {snap cur : Ring} (h : cur.seqs = snap.seqs) : SnapPrefix snap cur :=
  ⟨0, by simp [runFrom, h]⟩

theorem snapPrefix_refl (r : Ring) : SnapPrefix r r := snapPrefix_of_seqs_eq rfl

theorem SnapPrefix.keep {snap cur cur' : Ring} (h : SnapPrefix snap cur) (e : cur'.seqs = cur.seqs) : SnapPrefix snap cur' := by
  obtain ⟨m, hm⟩ := h
  exact ⟨m, by rw [e, hm]⟩

theorem SnapPrefix.snap_keep {snap snap' cur : Ring} (h : SnapPrefix snap cur) (e : snap'.seqs = snap.seqs) : SnapPrefix snap' cur := by
  obtain ⟨m, hm⟩ := h
  exact ⟨m, by rw [hm, nextSeq_eq, nextSeq_eq, e]⟩

theorem SnapPrefix.nextSeq {snap cur : Ring} (h : SnapPrefix snap cur) : ∃ m : Nat, cur.nextSeq = snap.nextSeq + m := by
  obtain ⟨m, hm⟩ := h
  refine ⟨m, ?_⟩
  rw [nextSeq_eq cur, hm, nextSeq_eq snap, nextOf_run]

theorem SnapPrefix.append {snap cur cur' : Ring} (h : SnapPrefix snap cur) (e : cur'.seqs = cur.seqs ++ [cur.nextSeq]) :
    SnapPrefix snap cur' := by
  obtain ⟨m, hm⟩ := h
  refine ⟨m + 1, ?_⟩
  rw [e, runFrom_snoc, ← List.append_assoc, ← hm]
  congr 2
  rw [nextSeq_eq cur, hm, nextSeq_eq snap, nextOf_run]

/-- the number computed from the snapshot is not in the stored ring ⇒ the snapshot is up to date
(as far as sequence numbers go) -/
theorem SnapPrefix.fresh {snap cur : Ring} (h : SnapPrefix snap cur) (hn : snap.nextSeq ∉ cur.seqs) : cur.seqs = snap.seqs := by
  obtain ⟨m, hm⟩ := h
  cases m with
  | zero => simpa [runFrom] using hm
  | succ m =>
    exfalso
    apply hn
    rw [hm]
    simp [runFrom]

/-- rings numbered `1..n` (what `AddKey` alone produces) with a snapshot that is a prefix -/
theorem snapPrefix_of_numbered (snap cur : Ring) (n m : Nat) (hs : snap.seqs = runFrom 1 n) (hc : cur.seqs = runFrom 1 (n + m)) :
    SnapPrefix snap cur := by
  refine ⟨m, ?_⟩
  rw [hc, hs, nextSeq_eq, hs, runFrom_add]
  cases n with
  | zero => simp [runFrom, nextOf]
  | succ n => rw [nextOf_runFrom_succ]

/-- transactions that keep the list of sequence numbers -/
def SeqKeep : Tx → Prop
  | .add _ => False
  | .setKeys _ _ => False
  | _ => True

def NoImport : Op → Prop
  | .importKeys _ _ => False
  | _ => True

instance : DecidablePred NoImport := fun op => by cases op <;> unfold NoImport <;> infer_instance

theorem apply_keep (t : Tx) (r r' : Ring) (ht : SeqKeep t) (h : t.apply r = some r') : r'.seqs = r.seqs := by
  have hs := Tx.apply_some h
  cases t with
  | add k => cases ht
  | setKeys ks c => cases ht
  | setCurrent old new => obtain ⟨_, _, rfl⟩ := hs; rfl
  | changeState s old new => obtain ⟨ks, hm, rfl, _⟩ := hs; exact modifyLast_seqs _ (by intro k; rfl) s r.keys ks hm
  | destroyData s => obtain ⟨ks, hm, rfl⟩ := hs; exact modifyLast_seqs _ (by intro k; rfl) s r.keys ks hm

theorem applyAll_keep : ∀ (ts : List Tx) (r r' : Ring), (∀ t ∈ ts, SeqKeep t) → applyAll ts r = some r' → r'.seqs = r.seqs
  | [], r, r', _, h => by simp [applyAll] at h; subst h; rfl
  | t :: ts, r, r', ht, h => by
    simp only [applyAll] at h
    cases ha : t.apply r with
    | none => simp [ha] at h
    | some r1 =>
      simp [ha] at h
      rw [applyAll_keep ts r1 r' (fun t' h' => ht t' (by simp [h'])) h, apply_keep t r r1 (ht t (by simp)) ha]

/-- what a handle may have on its transaction log, relative to the ring `base` it is going to be
applied to: a single `txAddKey` carrying `base`'s next sequence number, or transactions that leave
the list of sequence numbers alone -/
def Shape (txs : List Tx) (base : Ring) : Prop :=
  (∃ k, txs = [.add k] ∧ k.seq = base.nextSeq) ∨ (∀ t ∈ txs, SeqKeep t)

theorem prepare_shape (snap : Ring) (op : Op) (txs : List Tx) (ho : NoImport op) (h : prepare snap op = some txs) :
    Shape txs snap := by
  have hs := prepare_some h
  cases op with
  | importKeys ks c => cases ho
  | addKey d => exact .inl ⟨_, hs, rfl⟩
  | setCurrent s => rw [hs]; exact .inr fun t ht => by rw [List.mem_singleton.mp ht]; trivial
  | refresh | «open» => rw [hs]; exact .inr fun t ht => by cases ht
  | setState s st =>
    obtain ⟨k, _, _, e⟩ := hs
    rw [e]; exact .inr fun t ht => by rw [List.mem_singleton.mp ht]; trivial
  | destroy s =>
    obtain ⟨k, _, _, e⟩ := hs
    rw [e]
    refine .inr fun t ht => ?_
    rcases List.mem_cons.mp ht with e | ht
    · rw [e]; trivial
    · rw [List.mem_singleton.mp ht]; trivial

theorem add_apply (k : Key) (r r' : Ring) (h : applyAll [.add k] r = some r') :
    k.seq ∉ r.seqs ∧ r'.seqs = r.seqs ++ [k.seq] := by
  cases ha : (Tx.add k).apply r with
  | none => simp [applyAll, ha] at h
  | some r1 =>
    simp only [applyAll, ha, Option.bind_some, Option.some.injEq] at h
    obtain ⟨hn, rfl⟩ := Tx.apply_some ha
    exact ⟨(hasSeq_false_iff r k.seq).mp hn, by rw [← h]; simp [Ring.seqs]⟩

theorem Shape.apply {txs : List Tx} {base r' : Ring} (h : Shape txs base) (ha : applyAll txs base = some r') :
    r'.seqs = base.seqs ∨ r'.seqs = base.seqs ++ [base.nextSeq] := by
  rcases h with ⟨k, rfl, hk⟩ | hkeep
  · right; rw [← hk]; exact (add_apply k base r' ha).2
  · left; exact applyAll_keep txs base r' hkeep ha

/-- a log prepared from a stale snapshot that *applies* to the stored ring is well-shaped for the
stored ring: the optimistic check of `txAddKey` succeeded, so the snapshot was not behind -/
theorem Shape.rebase {txs : List Tx} {snap cur r' : Ring} (h : Shape txs snap) (hp : SnapPrefix snap cur)
    (ha : applyAll txs cur = some r') : Shape txs cur := by
  rcases h with ⟨k, rfl, hk⟩ | hkeep
  · left
    refine ⟨k, rfl, ?_⟩
    have hn := (add_apply k cur r' ha).1
    rw [hk] at hn
    rw [hk, nextSeq_eq, nextSeq_eq, hp.fresh hn]
  · exact Or.inr hkeep

theorem Shape.incr {txs : List Tx} {base r' : Ring} (h : Shape txs base) (ha : applyAll txs base = some r')
    (hi : Incr base) : Incr r' := by
  unfold Incr at *
  rcases h.apply ha with e | e
  · rw [e]; exact hi
  · rw [e, nextSeq_eq]; exact incr_snoc _ hi

theorem Shape.prefix {txs : List Tx} {base r' snap : Ring} (h : Shape txs base) (ha : applyAll txs base = some r')
    (hp : SnapPrefix snap base) : SnapPrefix snap r' := by
  rcases h.apply ha with e | e
  · exact hp.keep e
  · exact hp.append e

end AcraModel.KeystoreSec.Conc
