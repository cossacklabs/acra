import AcraModel.KeystoreSec.ConcurrentRefine
import AcraModel.KeystoreSec.ConcurrentSeq
/-!
The current marker under replay of committed transaction lists: it is the one written by the last
committed `txSetKeyCurrent` / `txSetKeys`, and a committed `txSetKeyCurrent{old, new}` found the stored
marker equal to `old` at its commit point (the optimistic check of `Apply`).
-/
namespace AcraModel.KeystoreSec.Conc

/-- the current marker after a transaction applied successfully to a ring whose marker was `c` -/
def Tx.currentAfter (c : Int) : Tx → Int
  | .setCurrent _ new => new
  | .setKeys _ c' => c'
  | _ => c

def currentAfterAll (c : Int) (ts : List Tx) : Int := ts.foldl Tx.currentAfter c

/-- the marker after a sequence of committed transaction lists: the one of the last `setCurrent` /
`setKeys` among them, `c` when there is none -/
def lastCurrent (c : Int) (cs : List (List Tx)) : Int := cs.foldl currentAfterAll c

theorem Tx.apply_current {r r' : Ring} {t : Tx} (h : t.apply r = some r') :
    r'.current = t.currentAfter r.current := by
  have hs := Tx.apply_some h
  cases t with
  | add k => obtain ⟨_, rfl⟩ := hs; rfl
  | setCurrent old new => obtain ⟨_, _, rfl⟩ := hs; rfl
  | changeState s old new => obtain ⟨ks, _, rfl, _⟩ := hs; rfl
  | destroyData s => obtain ⟨ks, _, rfl⟩ := hs; rfl
  | setKeys ks c => cases hs; rfl

theorem applyAll_current : ∀ (ts : List Tx) (r r' : Ring), applyAll ts r = some r' →
    r'.current = currentAfterAll r.current ts
  | [], r, r', h => by simp [applyAll] at h; subst h; rfl
  | t :: ts, r, r', h => by
    simp only [applyAll] at h
    cases ht : t.apply r with
    | none => simp [ht] at h
    | some r1 =>
      simp only [ht, Option.bind_some] at h
      rw [applyAll_current ts r1 r' h, Tx.apply_current ht]
      rfl

theorem replay_current : ∀ (cs : List (List Tx)) (r r' : Ring), replay r cs = some r' →
    r'.current = lastCurrent r.current cs
  | [], r, r', h => by simp [replay] at h; subst h; rfl
  | ts :: cs, r, r', h => by
    simp only [replay] at h
    cases ht : applyAll ts r with
    | none => simp [ht] at h
    | some r1 =>
      simp only [ht, Option.bind_some] at h
      rw [replay_current cs r1 r' h, applyAll_current ts r r1 ht]
      rfl

/-- what a successful `txSetKeyCurrent.Apply` found: the stored marker is the one the handle had seen,
the new key exists; only the marker changes -/
theorem setCurrent_apply_pre {r r' : Ring} {old new : Int} (h : (Tx.setCurrent old new).apply r = some r') :
    r.current = old ∧ r.hasSeq new = true ∧ r' = { r with current := new } :=
  Tx.apply_some h

end AcraModel.KeystoreSec.Conc
