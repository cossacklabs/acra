import AcraModel.Generated.KeyPerms
/-!
# Permission discipline of the two key store formats

What the key stores ask the operating system for when they create files and directories
(`keystore/filesystem/{server_keystore,storage,filesystem_backup}.go`,
`keystore/v2/keystore/filesystem/backend/{filesystem,file_lock}.go`), and what they check on things
that already exist. The call table `Generated.KeyPerms.permCalls` (every `MkdirAll / WriteFile / TempFile /
TempDir / OpenFile / Create / Chmod / Symlink / Readlink / EvalSymlinks / Lstat` call of the two packages
and the key store's own `Write…Key…` wrappers, with the text of the mode argument) and the constants are
regenerated from the source; this file *interprets* them.

POSIX: `open(O_CREAT, perm)` and `mkdir(perm)` create with `perm & ~umask`; `chmod(perm)` sets exactly
`perm`; a hard link shares the inode (and the mode) of its source.

* v1 `WriteKeyFile(path, data, mode)`: `FileStorage.TempFile` = `ioutil.TempFile` (created 0600) then
  `Chmod(mode)` – the final mode is exactly `mode` whatever the umask; `WriteFile` goes to the existing
  temporary file (no mode change); `Rename` keeps the inode. History: `Link` (same inode) or `Copy`
  (`OpenFile(dst, O_CREATE|O_EXCL, mode of the source)`).
* v1 directories: `MkdirAll(dir, keyDirMode)`.
* v2 `Put`: `MkdirAll(dir, keyDirPerm)`, `OpenFile(path, O_CREATE|O_EXCL|O_WRONLY, keyFilePerm)`; the
  `version` file (constant text) with `versionPerm`, the `.lock` file (empty) with `os.Create` = 0666.
* checks: v1 `newFilesystemKeyStore` refuses an existing private key folder whose permission string is
  not `-rwx------`; `loadPrivateKey` refuses a private key file whose permission bits are *numerically
  greater* than 0600; v2 `Create/OpenDirectoryBackend` refuse a root whose permission bits are not 0700.
-/
namespace AcraModel.KeystoreSec.Perms
open AcraModel.Generated.KeyPerms

/-- the nine permission bits -/
def permMask : Nat := 0o777
/-- group and other bits -/
def groupOther : Nat := 0o077

/-- `open(O_CREAT, perm)` / `mkdir(perm)` under a umask -/
def created (perm umask : Nat) : Nat := perm &&& (permMask ^^^ (umask &&& permMask))
/-- `chmod(perm)` -/
def chmodded (perm : Nat) : Nat := perm &&& permMask

/-- no group / other bit is set -/
def ownerOnly (m : Nat) : Bool := m &&& groupOther == 0

/-- where the key stores create something -/
inductive Site
  | v1Dir | v1Private | v1Public | v2Dir | v2File | v2Version | v2Lock
deriving DecidableEq, Repr

def Site.ofName : String → Option Site
  | "v1.dir" => some .v1Dir | "v1.private" => some .v1Private | "v1.public" => some .v1Public
  | "v2.dir" => some .v2Dir | "v2.file" => some .v2File | "v2.version" => some .v2Version | "v2.lock" => some .v2Lock
  | _ => none

/-- does the site hold private material (sealed keys, signed rings) or the directories leading to it -/
def Site.holdsKeys : Site → Bool
  | .v1Dir | .v1Private | .v2Dir | .v2File => true
  | .v1Public | .v2Version | .v2Lock => false

/-- mode of what is created at the site under a umask -/
def effectiveAt (s : Site) (umask : Nat) : Nat :=
  match s with
  | .v1Dir => created v1KeyDirMode umask
  | .v1Private => chmodded v1PrivateFileMode
  | .v1Public => chmodded v1PublicFileMode
  | .v2Dir => created v2KeyDirPerm umask
  | .v2File => created v2KeyFilePerm umask
  | .v2Version => created v2VersionPerm umask
  | .v2Lock => created 0o666 umask

/-- `os.FileMode.String()` of permission bits only: `-` and nine `rwx` letters -/
def permString (m : Nat) : String :=
  let bit (i : Nat) (c : Char) : Char := if m.testBit i then c else '-'
  String.mk ['-', bit 8 'r', bit 7 'w', bit 6 'x', bit 5 'r', bit 4 'w', bit 3 'x', bit 2 'r', bit 1 'w', bit 0 'x']

/-- the string the source compares with (a Go string literal: strip the quotes) -/
def expectedPermission : String :=
  match v1ExpectedPermission with
  | [s] => String.mk ((s.toList.drop 1).dropLast)
  | _ => ""

/-- `newFilesystemKeyStore` over an existing private key folder of mode `m` (Linux) -/
def v1OpenAccepts (m : Nat) : Bool := permString (m &&& permMask) == expectedPermission

/-- `CreateDirectoryBackend` / `OpenDirectoryBackend` over an existing root of mode `m` -/
def v2OpenAccepts (m : Nat) : Bool := (m &&& permMask) == v2KeyDirPerm

/-- `loadPrivateKey` on a key file of mode `m`: `fi.Mode().Perm() > PrivateFileMode` is refused; then
the file must be readable (always, for uid 0) -/
def v1LoadAccepts (m : Nat) (uid0 : Bool) : Bool :=
  !decide ((m &&& permMask) > v1PrivateFileMode) && (uid0 || (m &&& 0o400 != 0))

abbrev Row := String × String × String × String

def modeConst : String → Option Nat
  | "keyDirMode" => some v1KeyDirMode
  | "PrivateFileMode" => some v1PrivateFileMode
  | "publicFileMode" => some v1PublicFileMode
  | "keyDirPerm" => some v2KeyDirPerm
  | "keyFilePerm" => some v2KeyFilePerm
  | "versionPerm" => some v2VersionPerm
  | _ => none

inductive Kind
  /-- a directory created with a constant mode -/
  | dir (mode : Nat)
  /-- a file created / written with a constant mode -/
  | file (mode : Nat)
  /-- the mode is a parameter of the enclosing function (`WriteKeyFile.mode`, `Import.filePermission`) -/
  | param (name : String)
  /-- `WritePrivateKey` / `WritePublicKey`: wrappers of `WriteKeyFile` with a constant mode -/
  | wrapper (mode : Nat)
  /-- `FileStorage`: the storage implementation executes the mode it is handed -/
  | storage
  /-- the lock file: `os.Create` (0666), never holds data -/
  | lock
  | unknown
deriving DecidableEq, Repr

def kindOf (r : Row) : Kind :=
  let (file, fn, callee, arg) := r
  if file = "storage.go" then .storage
  else if callee = "os.Create" then (if file = "file_lock.go" then .lock else .unknown)
  else if callee = "store.WritePrivateKey" then .wrapper v1PrivateFileMode
  else if callee = "store.WritePublicKey" then .wrapper v1PublicFileMode
  else if callee = "store.fs.MkdirAll" || callee = "store.storage.MkdirAll" || callee = "os.MkdirAll" then
    match modeConst arg with
    | some m => .dir m
    | none => .unknown
  else if callee = "store.WriteKeyFile" || callee = "os.OpenFile" then
    match modeConst arg with
    | some m => .file m
    | none => .unknown
  else if (callee = "store.fs.TempFile" || callee = "store.fs.WriteFile") && fn = "KeyStore.WriteKeyFile" && arg = "mode" then .param "WriteKeyFile.mode"
  else if (callee = "store.storage.WriteFile" || callee = "store.storage.TempFile") && fn = "KeyBackuper.Import" && arg = "filePermission" then .param "Import.filePermission"
  else .unknown

/-- functions that may create a world-readable (0644) file: they write public keys or the constant
version string -/
def publicWriters : List String := ["KeyStore.WritePublicKey", "createVersionFile"]

/-- the whole table obeys the discipline: every call is classified; directories are created 0700;
files with a constant mode are 0600, or 0644 inside a public writer; the mode parameters are fed by
`WritePrivateKey` (0600) / `WritePublicKey` (0644) / direct `WriteKeyFile(…, PrivateFileMode)` calls and,
for `Import`, by `publicFileMode` unless the key is private; nothing creates, reads or resolves a
symbolic link -/
def disciplined (rows : List Row) : Bool :=
  rows.all fun r =>
    match kindOf r with
    | .dir m => m == 0o700
    | .file m => m == 0o600 || (m == 0o644 && publicWriters.contains r.2.1)
    | .wrapper m => m == 0o600 || m == 0o644
    | .param _ | .storage | .lock => true
    | .unknown => false

/-- callees that create or resolve symbolic links -/
def linkCallees : List String := ["Symlink", "Readlink", "EvalSymlinks", "Lstat"]

def noSymlinkCalls (rows : List Row) : Bool :=
  rows.all fun r => linkCallees.all fun l => !(r.2.2.1 == l || r.2.2.1 == "os." ++ l || r.2.2.1 == "filepath." ++ l)

theorem created_ownerOnly (perm umask : Nat) (h : ownerOnly perm = true) : ownerOnly (created perm umask) = true := by
  simp only [ownerOnly, beq_iff_eq] at *
  unfold created
  rw [Nat.and_assoc, Nat.and_comm (permMask ^^^ (umask &&& permMask)), ← Nat.and_assoc, h, Nat.zero_and]

theorem created_sub (perm umask : Nat) (i : Nat) (h : (created perm umask).testBit i = true) : perm.testBit i = true := by
  unfold created at h
  rw [Nat.testBit_and] at h
  simp only [Bool.and_eq_true] at h
  exact h.1

theorem letter_inj {p q : Bool} {c : Char} (hc : c ≠ '-')
    (h : (if p = true then c else '-') = (if q = true then c else '-')) : p = q := by
  cases p <;> cases q
  · rfl
  · exact absurd h.symm hc
  · exact absurd h hc
  · rfl

/-- The nine letters fix the nine bits: different nine-bit modes have different permission strings. -/
theorem permString_inj {a b : Nat} (ha : a < 512) (hb : b < 512) (h : permString a = permString b) : a = b := by
  have h := String.ofList_inj.mp h
  simp only [List.cons.injEq, true_and, and_true] at h
  obtain ⟨h8, h7, h6, h5, h4, h3, h2, h1, h0⟩ := h
  have high : ∀ {n}, n < 512 → ∀ i, n.testBit (i + 9) = false := fun hn i =>
    Nat.testBit_lt_two_pow (Nat.lt_of_lt_of_le hn (Nat.pow_le_pow_right (n := 2) (by decide) (Nat.le_add_left 9 i)))
  refine Nat.eq_of_testBit_eq fun i => ?_
  match i with
  | 0 => exact letter_inj (by decide) h0
  | 1 => exact letter_inj (by decide) h1
  | 2 => exact letter_inj (by decide) h2
  | 3 => exact letter_inj (by decide) h3
  | 4 => exact letter_inj (by decide) h4
  | 5 => exact letter_inj (by decide) h5
  | 6 => exact letter_inj (by decide) h6
  | 7 => exact letter_inj (by decide) h7
  | 8 => exact letter_inj (by decide) h8
  | i + 9 => rw [high ha, high hb]

end AcraModel.KeystoreSec.Perms
