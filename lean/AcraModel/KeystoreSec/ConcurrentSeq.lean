import AcraModel.KeystoreSec.ConcurrentLemmas
/-! Sequence numbers stay unique: well-formedness of transactions and its preservation. -/
namespace AcraModel.KeystoreSec.Conc

def RingOK (r : Ring) : Prop := (r.keys.map (·.seq)).Nodup

/-- `TxOK` / `OpOK`: an imported key list has pairwise different sequence numbers – `txSetKeys` is the only
transaction that can bring duplicates into a ring (`apply_ok`) -/
def TxOK : Tx → Prop
  | .setKeys ks _ => (ks.map (·.seq)).Nodup
  | _ => True

def OpOK : Op → Prop
  | .importKeys ks _ => (ks.map (·.seq)).Nodup
  | _ => True

theorem modifyLast_seqs (f : Key → Key) (hf : ∀ k, (f k).seq = k.seq) (s : Int) :
    ∀ (ks ks' : List Key), modifyLast f s ks = some ks' → ks'.map (·.seq) = ks.map (·.seq)
  | [], ks', h => by simp [modifyLast] at h
  | k :: r, ks', h => by
    unfold modifyLast at h
    cases hm : modifyLast f s r with
    | some r' =>
      rw [hm] at h
      cases h
      simp [modifyLast_seqs f hf s r r' hm]
    | none =>
      rw [hm] at h
      simp only at h
      split at h
      · cases h; simp [hf]
      · cases h

theorem hasSeq_false_iff (r : Ring) (s : Int) : r.hasSeq s = false ↔ s ∉ r.keys.map (·.seq) := by
  simp [Ring.hasSeq]

/-- what a successful `Apply` found and did, per kind of transaction -/
theorem Tx.apply_some {t : Tx} {r r' : Ring} (h : t.apply r = some r') :
    match t with
    | .add k => r.hasSeq k.seq = false ∧ r' = { r with keys := r.keys ++ [k] }
    | .setCurrent old new => r.current = old ∧ r.hasSeq new = true ∧ r' = { r with current := new }
    | .changeState s old new =>
      ∃ ks, modifyLast (fun k => { k with state := new }) s r.keys = some ks ∧ r' = { r with keys := ks } ∧
        ∃ k, findLast s r.keys = some k ∧ k.state = old
    | .destroyData s => ∃ ks, modifyLast (fun k => { k with data := 0 }) s r.keys = some ks ∧ r' = { r with keys := ks }
    | .setKeys ks c => r' = ⟨ks, c⟩ := by
  cases t with
  | add k =>
    simp only [Tx.apply] at h
    split at h
    · cases h
    · next hh => cases h; exact ⟨by simpa using hh, rfl⟩
  | setCurrent old new =>
    simp only [Tx.apply] at h
    split at h
    · cases h
    · next hc =>
      split at h
      · cases h
      · split at h
        · cases h
        · next hn => cases h; exact ⟨by simpa using hc, by simpa using hn, rfl⟩
  | changeState s old new =>
    simp only [Tx.apply] at h
    split at h
    · cases h
    · next k hk =>
      split at h
      · cases h
      · next hst =>
        cases hm : modifyLast (fun k => { k with state := new }) s r.keys with
        | none => simp [hm] at h
        | some ks => simp [hm] at h; exact ⟨ks, hm, h.symm, k, hk, by simpa using hst⟩
  | destroyData s =>
    simp only [Tx.apply] at h
    cases hm : modifyLast (fun k => { k with data := 0 }) s r.keys with
    | none => simp [hm] at h
    | some ks => simp [hm] at h; exact ⟨ks, hm, h.symm⟩
  | setKeys ks c => exact (Option.some.inj h).symm

theorem applyAll_singleton (t : Tx) (r : Ring) : applyAll [t] r = t.apply r := by
  simp only [applyAll]; cases t.apply r <;> rfl

theorem apply_ok (t : Tx) (r r' : Ring) (ht : TxOK t) (hr : RingOK r) (h : t.apply r = some r') : RingOK r' := by
  have hs := Tx.apply_some h
  cases t with
  | add k =>
    obtain ⟨hn, rfl⟩ := hs
    have := (hasSeq_false_iff r k.seq).mp hn
    simp only [RingOK, List.map_append, List.map_cons, List.map_nil]
    exact List.nodup_append.mpr ⟨hr, by simp, by
      intro a ha b hb
      simp at hb; subst hb
      intro e; subst e; exact this ha⟩
  | setCurrent old new => obtain ⟨_, _, rfl⟩ := hs; exact hr
  | changeState s old new =>
    obtain ⟨ks, hm, rfl, _⟩ := hs
    have := modifyLast_seqs _ (by intro k; rfl) s r.keys ks hm
    simp only [RingOK, this]; exact hr
  | destroyData s =>
    obtain ⟨ks, hm, rfl⟩ := hs
    have := modifyLast_seqs _ (by intro k; rfl) s r.keys ks hm
    simp only [RingOK, this]; exact hr
  | setKeys ks c => cases hs; exact ht

theorem applyAll_ok : ∀ (ts : List Tx) (r r' : Ring), (∀ t ∈ ts, TxOK t) → RingOK r → applyAll ts r = some r' → RingOK r'
  | [], r, r', _, hr, h => by simp [applyAll] at h; subst h; exact hr
  | t :: ts, r, r', ht, hr, h => by
    simp only [applyAll] at h
    cases ha : t.apply r with
    | none => simp [ha] at h
    | some r1 =>
      simp [ha] at h
      exact applyAll_ok ts r1 r' (fun t' h' => ht t' (by simp [h'])) (apply_ok t r r1 (ht t (by simp)) hr ha) h

theorem replay_ok : ∀ (cs : List (List Tx)) (r r' : Ring), (∀ ts ∈ cs, ∀ t ∈ ts, TxOK t) → RingOK r → replay r cs = some r' → RingOK r'
  | [], r, r', _, hr, h => by simp [replay] at h; subst h; exact hr
  | c :: cs, r, r', hc, hr, h => by
    simp only [replay] at h
    cases ha : applyAll c r with
    | none => simp [ha] at h
    | some r1 =>
      simp [ha] at h
      exact replay_ok cs r1 r' (fun ts h' => hc ts (by simp [h'])) (applyAll_ok c r r1 (hc c (by simp)) hr ha) h

/-- what `prepare` made when it did not reject the operation -/
theorem prepare_some {snap : Ring} {op : Op} {txs : List Tx} (h : prepare snap op = some txs) :
    match op with
    | .addKey d => txs = [.add ⟨snap.nextSeq, stPreActive, d⟩]
    | .setCurrent s => txs = [.setCurrent snap.current s]
    | .setState s st =>
      ∃ k, findLast s snap.keys = some k ∧ transitionValid k.state st = true ∧ txs = [.changeState s k.state st]
    | .destroy s =>
      ∃ k, findLast s snap.keys = some k ∧ transitionValid k.state stDestroyed = true ∧
        txs = [.destroyData s, .changeState s k.state stDestroyed]
    | .importKeys ks c => txs = [.setKeys ks c]
    | .refresh => txs = []
    | .open => txs = [] := by
  cases op with
  | setState s st =>
    simp only [prepare] at h
    split at h
    · cases h
    · next k hk =>
      split at h
      · next hv => exact ⟨k, hk, hv, (Option.some.inj h).symm⟩
      · cases h
  | destroy s =>
    simp only [prepare] at h
    split at h
    · cases h
    · next k hk =>
      split at h
      · next hv => exact ⟨k, hk, hv, (Option.some.inj h).symm⟩
      · cases h
  | _ => exact (Option.some.inj h).symm

theorem prepare_ok (snap : Ring) (op : Op) (txs : List Tx) (ho : OpOK op) (h : prepare snap op = some txs) : ∀ t ∈ txs, TxOK t := by
  have hs := prepare_some h
  intro t ht
  cases op with
  | importKeys ks c => rw [hs] at ht; rw [List.mem_singleton.mp ht]; exact ho
  | setState s st => obtain ⟨k, _, _, e⟩ := hs; rw [e] at ht; rw [List.mem_singleton.mp ht]; trivial
  | destroy s =>
    obtain ⟨k, _, _, e⟩ := hs
    rw [e] at ht
    rcases List.mem_cons.mp ht with e | ht
    · rw [e]; trivial
    · rw [List.mem_singleton.mp ht]; trivial
  | addKey | setCurrent => rw [hs] at ht; rw [List.mem_singleton.mp ht]; trivial
  | refresh | «open» => rw [hs] at ht; cases ht

/-- every operation still to run, every transaction in flight and every committed one is well-formed: an
invariant of the concurrent model that needs neither `Inv` nor the lock -/
structure TxInv (s : St) : Prop where
  todo : ∀ i, ∀ op ∈ (s.h i).todo, OpOK op
  txs : ∀ i, ∀ t ∈ (s.h i).txs, TxOK t
  commits : ∀ c ∈ s.commits, ∀ t ∈ c.txs, TxOK t

theorem step_txinv (s : St) (i : Nat) (h : TxInv s) : TxInv (step s i) := by
  obtain ⟨c, hst⟩ := step_spec s i
  obtain ⟨hd', hh, _, htodo, htxs⟩ := hst.handle
  refine ⟨fun j op hop => ?_, fun j t ht => ?_, fun c hc t ht => ?_⟩
  · rw [hh] at hop
    by_cases hji : j = i
    · subst hji; rw [upd_same] at hop; exact h.todo j op (htodo op hop)
    · rw [upd_other _ _ _ _ hji] at hop; exact h.todo j op hop
  · rw [hh] at ht
    by_cases hji : j = i
    · subst hji
      rw [upd_same] at ht
      rcases htxs with e | e | ⟨op, hop, e⟩
      · rw [e] at ht; exact h.txs j t ht
      · rw [e] at ht; cases ht
      · exact prepare_ok _ op _ (h.todo j op hop) e t ht
    · rw [upd_other _ _ _ _ hji] at ht; exact h.txs j t ht
  · rcases hst.effect with ⟨e, _⟩ | ⟨_, e, _⟩ | ⟨_, _, _, e, _⟩ <;> rw [e] at hc
    · exact h.commits c hc t ht
    · rcases List.mem_append.mp hc with hc | hc
      · exact h.commits c hc t ht
      · rw [List.mem_singleton.mp hc] at ht; cases ht
    · rcases List.mem_append.mp hc with hc | hc
      · exact h.commits c hc t ht
      · rw [List.mem_singleton.mp hc] at ht; exact h.txs i t ht

theorem run_txinv (s : St) (sched : List Nat) (h : TxInv s) : TxInv (run s sched) := by
  induction sched generalizing s with
  | nil => exact h
  | cons i r ih => exact ih _ (step_txinv s i h)

end AcraModel.KeystoreSec.Conc
