import AcraModel.Basic.Bytes
/-!
# Key path → OS path (`keystore/v2/keystore/filesystem/backend/filesystem.go`)

Model of `pathSeparators.Replace`, Go's `filepath.Clean` / `filepath.Join` / `filepath.Rel` (Unix
flavour, as compiled on the platforms Acra supports) and of `DirectoryBackend.osPath`, both as it is
on the pinned tree (`osPathPinned`: the "conservative check" compares a cleaned path with itself and
never fires) and as repaired (`osPath`: the cleaned path must stay below the root).

Paths are byte strings; a *cleaned path* is kept as `CPath` = rooted flag + list of components, and
only rendered to a string at the very end. `filepath.Rel` re-cleans its arguments; the model passes
the already cleaned `CPath` instead (validated by the correspondence ops `C07.clean/join/rel/ospath`).
-/
namespace AcraModel.KeystoreSec.Path

/-- byte string of an ASCII string literal (reduces by `decide`/`rfl`) -/
def ofStr (s : String) : Bytes := s.toList.map fun c => UInt8.ofNat c.toNat

def slash : UInt8 := 47
def dot : UInt8 := 46
def backslash : UInt8 := 92

/-- `..` -/
def dd : Bytes := [dot, dot]

/-- `pathSeparators.Replace`: both `/` and `\` become the OS separator (`/`). -/
def replaceSeps (p : Bytes) : Bytes := p.map fun c => if c = backslash then slash else c

/-- split at every `/` (like `strings.Split(p, "/")`: n separators give n+1 pieces) -/
def splitSlash : Bytes → List Bytes
  | [] => [[]]
  | c :: r =>
    if c = slash then [] :: splitSlash r
    else match splitSlash r with
      | [] => [[c]]           -- unreachable: splitSlash never returns []
      | h :: t => (c :: h) :: t

def joinSlash : List Bytes → Bytes
  | [] => []
  | [c] => c
  | c :: r => c ++ slash :: joinSlash r

/-- a cleaned path: `rooted` = starts with `/`; `comps` = its components in order -/
structure CPath where
  rooted : Bool
  comps : List Bytes
deriving DecidableEq, Repr

/-- One step of `filepath.Clean`'s loop on the component stack (top of the stack first).
Empty and `.` components are dropped; `..` removes the previous real component, is dropped at the
root of a rooted path, and is kept (stacked) in front of a relative path. -/
def pushComp (rooted : Bool) (stack : List Bytes) (c : Bytes) : List Bytes :=
  if c = [] ∨ c = [dot] then stack
  else if c = dd then
    match stack with
    | t :: r => if t = dd then (if rooted then stack else dd :: stack) else r
    | [] => if rooted then [] else [dd]
  else c :: stack

def cleanStack (rooted : Bool) (stack : List Bytes) (cs : List Bytes) : List Bytes :=
  cs.foldl (pushComp rooted) stack

/-- `filepath.Clean` up to rendering -/
def cleanP (p : Bytes) : CPath :=
  let rooted := p.head? = some slash
  ⟨rooted, (cleanStack rooted [] (splitSlash p)).reverse⟩

def render (c : CPath) : Bytes :=
  if c.rooted then slash :: joinSlash c.comps
  else if c.comps = [] then [dot] else joinSlash c.comps

/-- `filepath.Clean` -/
def clean (p : Bytes) : Bytes := render (cleanP p)

/-- `filepath.Join(a, b)` as a cleaned path; `none` = the empty string (both elements empty) -/
def joinP (a b : Bytes) : Option CPath :=
  if a = [] ∧ b = [] then none
  else if a = [] then some (cleanP b)
  else some (cleanP (a ++ slash :: b))

def join2 (a b : Bytes) : Bytes :=
  match joinP a b with
  | none => []
  | some c => render c

/-- strip the common leading components -/
def stripCommon : List Bytes → List Bytes → List Bytes × List Bytes
  | b :: bs, t :: ts => if b = t then stripCommon bs ts else (b :: bs, t :: ts)
  | bs, ts => (bs, ts)

/-- `filepath.Rel(base, targ)` on cleaned paths: components of the result, `none` = error.
(Go quirk kept: a base of `.` is treated as empty, a target of `.` is *not* – `Rel("a", ".") = "../."`.) -/
def relP (b t : CPath) : Option (List Bytes) :=
  if t = b then some [[dot]]
  else if b.rooted ≠ t.rooted then none
  else
    let tc := if t.rooted = false ∧ t.comps = [] then [[dot]] else t.comps
    let (b', t') := stripCommon b.comps tc
    if b'.head? = some dd then none
    else some (b'.map (fun _ => dd) ++ t')

/-- `filepath.Rel` on strings (driver op `C07.rel`) -/
def rel (base targ : Bytes) : Option Bytes := (relP (cleanP base) (cleanP targ)).map joinSlash

/-- does the relative path leave its base: `rel == ".." || strings.HasPrefix(rel, "../")` -/
def escapes (r : Bytes) : Bool := r = dd ∨ r.take 3 = dd ++ [slash]

/-- join a (key) path to a root and refuse it when the joined, cleaned path leaves the root:
`full := filepath.Join(root, p); rel, err := filepath.Rel(root, full); err != nil || rel == ".." ||
strings.HasPrefix(rel, "../")` – the check of `DirectoryBackend.osPath` (after `pathSeparators.Replace`)
and of `KeyBackuper.Import`'s `isInsideFolder` (v1, repair 52). -/
def containedJoin (root p : Bytes) : Out Bytes :=
  match joinP root p with
  | none => .err          -- empty root and empty path: Rel("", "") = "." is fine in Go, but Acra never has an empty root; conservative
  | some full =>
    match relP (cleanP root) full with
    | none => .err
    | some r => if escapes (joinSlash r) then .err else .ok (render full)

/-- `DirectoryBackend.osPath` as repaired: the joined, cleaned path must not leave the root. -/
def osPath (root p : Bytes) : Out Bytes := containedJoin root (replaceSeps p)

/-- where `KeyBackuper.Import` (v1) writes the key named `name` of a bundle into the key folder `root`:
refused when `isInsideFolder(root, name)` is false, else `filepath.Join(root, name)` -/
def importPath (root name : Bytes) : Out Bytes := containedJoin root name

/-- `KeyBackuper.Import` on the pinned tree: `filepath.Join(root, name)` unchecked -/
def importPathPinned (root name : Bytes) : Bytes := join2 root name

/-- `DirectoryBackend.osPath` on the pinned tree: `fullPath != filepath.Clean(fullPath)` can never
hold because `filepath.Join` already cleans – every path is accepted. -/
def osPathPinned (root p : Bytes) : Out Bytes :=
  let full := join2 root (replaceSeps p)
  if full ≠ clean full then .err else .ok full

end AcraModel.KeystoreSec.Path
