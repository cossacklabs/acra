import AcraModel.KeystoreSec.V1Names
/-!
Lemmas about the v1 file names: what `keystore.ValidateID` guarantees, which names are (not)
historical / public / private, path components of the names the key store builds.
-/
namespace AcraModel.KeystoreSec.V1
open AcraModel.KeystoreSec.Path

theorem hasSuffix_append (a suf : Bytes) : hasSuffix (a ++ suf) suf = true := by
  simp only [hasSuffix, List.isSuffixOf_iff_suffix]
  exact List.suffix_append a suf

theorem dropSuffix_append (a suf : Bytes) : dropSuffix (a ++ suf) suf = a := by
  simp [dropSuffix]

theorem trimSuffix_append (a suf : Bytes) : trimSuffix (a ++ suf) suf = a := by
  simp [trimSuffix, hasSuffix_append, dropSuffix_append]

theorem hasSuffix_getLast {s suf : Bytes} {c : UInt8} (h : hasSuffix s suf = true) (hc : suf.getLast? = some c) :
    s.getLast? = some c := by
  simp only [hasSuffix, List.isSuffixOf_iff_suffix] at h
  obtain ⟨t, rfl⟩ := h
  cases suf with
  | nil => simp at hc
  | cons x r => rw [List.getLast?_append]; simp [hc]

theorem getLast_append_singleton (a : Bytes) (c : UInt8) : (a ++ [c]).getLast? = some c := by simp

theorem getLast_append_suffix {suf : Bytes} {c : UInt8} (a : Bytes) (h : suf.getLast? = some c) : (a ++ suf).getLast? = some c := by
  rw [List.getLast?_append, h]; rfl

theorem rev_ne_slash {t : Bytes} (hs : slash ∉ t) : ∀ x ∈ t.reverse, decide (x ≠ slash) = true :=
  fun _ hx => decide_eq_true fun e => hs (e ▸ List.mem_reverse.mp hx)

theorem afterLastSlash_noslash {p : Bytes} (hs : slash ∉ p) : afterLastSlash p = p := by
  rw [afterLastSlash, ← List.append_nil p.reverse, List.takeWhile_append_of_pos (rev_ne_slash hs)]
  simp

theorem afterLastSlash_append (a : Bytes) {t : Bytes} (hs : slash ∉ t) : afterLastSlash (a ++ slash :: t) = t := by
  rw [afterLastSlash, List.reverse_append, List.reverse_cons, List.append_assoc,
    List.takeWhile_append_of_pos (rev_ne_slash hs)]
  simp

theorem uptoLastSlash_noslash {p : Bytes} (hs : slash ∉ p) : uptoLastSlash p = [] := by
  rw [uptoLastSlash, ← List.append_nil p.reverse, List.dropWhile_append_of_pos (rev_ne_slash hs)]
  rfl

theorem uptoLastSlash_append (a : Bytes) {t : Bytes} (hs : slash ∉ t) : uptoLastSlash (a ++ slash :: t) = a ++ [slash] := by
  rw [uptoLastSlash, List.reverse_append, List.reverse_cons, List.append_assoc,
    List.dropWhile_append_of_pos (rev_ne_slash hs)]
  simp

/-- for a name that does not end in a separator `filepath.Base` is what follows the last separator; it keeps the last byte -/
theorem base_of_last {n : Bytes} {c : UInt8} (hn : n.getLast? = some c) (hc : c ≠ slash) :
    base n = afterLastSlash n ∧ (afterLastSlash n).getLast? = some c := by
  obtain ⟨q, rfl⟩ := List.getLast?_eq_some_iff.mp hn
  have ha : afterLastSlash (q ++ [c]) = (q.reverse.takeWhile (· ≠ slash)).reverse ++ [c] := by
    simp [afterLastSlash, hc]
  have hs : stripTrailingSlashes (q ++ [c]) = q ++ [c] := by
    simp [stripTrailingSlashes, hc]
  rw [base, if_neg (by simp), hs, ha, if_neg (by simp)]
  exact ⟨rfl, List.getLast?_concat⟩

theorem base_noslash (p : Bytes) (hne : p ≠ []) (hs : slash ∉ p) : base p = p := by
  have hl := List.getLast?_eq_some_getLast hne
  rw [(base_of_last hl fun e => hs (e ▸ List.mem_of_getLast? hl)).1, afterLastSlash_noslash hs]

/-- the last component of `a/t` -/
theorem base_append_slash (a t : Bytes) (ht : t ≠ []) (hs : slash ∉ t) : base (a ++ slash :: t) = t := by
  have hl : (a ++ slash :: t).getLast? = some (t.getLast ht) := by
    rw [List.getLast?_append, List.getLast?_cons, List.getLast?_eq_some_getLast ht]; rfl
  rw [(base_of_last hl fun e => hs (e ▸ List.getLast_mem ht)).1, afterLastSlash_append a hs]

theorem isTimestamp_chars {b : Bytes} (h : isTimestamp b = true) : ∀ c ∈ b, tsChar c = true := by
  simp only [isTimestamp, Bool.and_eq_true, List.all_eq_true] at h
  exact h.1

theorem year4_length {b : Bytes} {r : Nat × Bytes} (h : year4 b = some r) : 4 ≤ b.length := by
  match b with
  | _ :: _ :: _ :: _ :: _ => exact Nat.le_add_left 4 _
  | [] | [_] | [_, _] | [_, _, _] => cases h

theorem isTimestamp_length {ts : Bytes} (h : isTimestamp ts = true) : 4 ≤ ts.length := by
  have hp : (parseTimestamp ts).isSome = true := (Bool.and_eq_true _ _ ▸ h).2
  cases hy : year4 ts with
  | some r => exact year4_length hy
  | none => rw [parseTimestamp, hy] at hp; cases hp

theorem goodComp_of_length {c : Bytes} (hl : 3 ≤ c.length) (hs : slash ∉ c) : GoodComp c := by
  refine ⟨?_, ?_, ?_, hs⟩ <;>
  · intro e; rw [e] at hl; exact absurd hl (by decide)

theorem isTimestamp_good {ts : Bytes} (h : isTimestamp ts = true) : GoodComp ts :=
  goodComp_of_length (Nat.le_of_succ_le (isTimestamp_length h)) fun hm => absurd (isTimestamp_chars h _ hm) (by decide)

/-- a name whose last byte cannot occur in a timestamp is not a rotated-key name -/
theorem not_isHistorical_of_last {n : Bytes} {c : UInt8} (hn : n.getLast? = some c) (hc : c ≠ slash) (ht : tsChar c = false) :
    isHistorical n = false := by
  obtain ⟨hb, hl⟩ := base_of_last hn hc
  cases h : isTimestamp (base n) with
  | false => exact h
  | true => exact absurd (isTimestamp_chars h c (List.mem_of_getLast? (hb ▸ hl))) (ht ▸ Bool.false_ne_true)

theorem isPrivate_pub (a : Bytes) : isPrivate (a ++ sPub) = false := by
  have hlast : (a ++ sPub).getLast? = some 98 := getLast_append_suffix a rfl  -- the `b` of `.pub`
  have hh : isHistorical (a ++ sPub) = false := not_isHistorical_of_last hlast (by decide) (by decide)
  have hpoison : a ++ sPub ≠ poisonKey := by
    intro e
    rw [e] at hlast
    exact absurd hlast (by decide)
  unfold isPrivate
  simp only [hh, Bool.false_eq_true, if_false, hpoison]
  simp [isPublic, hasSuffix_append]

theorem validateID_chars {id : Bytes} (h : validateID id = true) : ∀ c ∈ id, validChar c = true := by
  simp only [validateID, Bool.and_eq_true, List.all_eq_true] at h
  exact h.2

theorem validateID_len {id : Bytes} (h : validateID id = true) : 5 ≤ id.length ∧ id.length ≤ 256 := by
  simp only [validateID, Bool.and_eq_true, minClientIDLength, maxClientIDLength] at h
  exact ⟨of_decide_eq_true h.1.1, of_decide_eq_true h.1.2⟩

theorem validChar_ne_slash {c : UInt8} (h : validChar c = true) : c ≠ slash := by
  intro e; subst e; revert h; decide

theorem validChar_ne_dot {c : UInt8} (h : validChar c = true) : c ≠ dot := by
  intro e; subst e; revert h; decide

theorem validateID_noslash {id : Bytes} (h : validateID id = true) : slash ∉ id :=
  fun hm => validChar_ne_slash (validateID_chars h _ hm) rfl

theorem goodComp_valid_append {id : Bytes} (h : validateID id = true) (suf : Bytes) (hs : slash ∉ suf) :
    GoodComp (id ++ suf) := by
  refine goodComp_of_length ?_ fun hm => (List.mem_append.mp hm).elim (validateID_noslash h) hs
  rw [List.length_append]
  exact Nat.le_trans (Nat.le_trans (by decide) (validateID_len h).1) (Nat.le_add_right ..)

theorem splitSlash_noslash_eq (p : Bytes) (h : slash ∉ p) : splitSlash p = [p] := by
  induction p with
  | nil => rfl
  | cons c r ih =>
    have hc : c ≠ slash := fun e => h (by simp [e])
    have hr : slash ∉ r := fun hm => h (List.mem_cons_of_mem _ hm)
    unfold splitSlash
    rw [if_neg hc, ih hr]

theorem noslash_append {a b : Bytes} (ha : slash ∉ a) (hb : slash ∉ b) : slash ∉ a ++ b :=
  fun h => (List.mem_append.mp h).elim ha hb

/-- A file-name stem: with any separator-free text appended it is one ordinary path component. A valid client id is
one, and a stem followed by a separator-free suffix is one: every per-client file name of the key store. -/
def Stem (f : Bytes) : Prop := ∀ t : Bytes, slash ∉ t → GoodComp (f ++ t)

theorem Stem.of_valid {id : Bytes} (hv : validateID id = true) : Stem id := goodComp_valid_append hv

theorem Stem.append {f s : Bytes} (hf : Stem f) (hs : slash ∉ s) : Stem (f ++ s) :=
  fun t ht => List.append_assoc f s t ▸ hf _ (noslash_append hs ht)

theorem Stem.good {f : Bytes} (hf : Stem f) : GoodComp f := List.append_nil f ▸ hf [] List.not_mem_nil

theorem Stem.path {f : Bytes} (hf : Stem f) : ∀ comp ∈ splitSlash f, GoodComp comp := by
  intro comp hc
  rw [splitSlash_noslash_eq _ hf.good.2.2.2] at hc
  exact List.mem_singleton.mp hc ▸ hf.good

/-- `<stem>/<component>` -/
theorem Stem.path_sub {f n : Bytes} (hf : Stem f) (hn : GoodComp n) : ∀ comp ∈ splitSlash (f ++ slash :: n), GoodComp comp := by
  intro comp hc
  rw [splitSlash_append, splitSlash_noslash_eq _ hf.good.2.2.2, splitSlash_noslash_eq _ hn.2.2.2] at hc
  rcases List.mem_cons.mp hc with rfl | hc
  · exact hf.good
  · exact List.mem_singleton.mp hc ▸ hn

theorem noslash_sStorage : slash ∉ sStorage := by decide
theorem noslash_sSym : slash ∉ sSym := by decide
theorem noslash_sHmac : slash ∉ sHmac := by decide
theorem noslash_sServer : slash ∉ sServer := by decide
theorem noslash_sTranslator : slash ∉ sTranslator := by decide
theorem noslash_sPub : slash ∉ sPub := by decide
theorem noslash_sOld : slash ∉ sOld := by decide

/-- decidable form of `GoodComp` -/
def goodCompB (c : Bytes) : Bool := decide (c ≠ []) && decide (c ≠ [dot]) && decide (c ≠ dd) && !c.contains slash

theorem goodCompB_sound {c : Bytes} (h : goodCompB c = true) : GoodComp c := by
  simp only [goodCompB, Bool.and_eq_true, decide_eq_true_eq, Bool.not_eq_true', List.contains_eq_mem,
    decide_eq_false_iff_not] at h
  exact ⟨h.1.1.1, h.1.1.2, h.1.2, h.2⟩

theorem splitSlash_all_good {p : Bytes} (h : (splitSlash p).all goodCompB = true) : ∀ comp ∈ splitSlash p, GoodComp comp := by
  intro comp hc
  exact goodCompB_sound (List.all_eq_true.mp h comp hc)

theorem not_hasSuffix_of_last {s suf : Bytes} {c d : UInt8} (hs : s.getLast? = some c) (hd : suf.getLast? = some d)
    (hne : c ≠ d) : hasSuffix s suf = false := by
  cases h : hasSuffix s suf with
  | false => rfl
  | true =>
    have := hasSuffix_getLast h hd
    rw [hs] at this
    exact absurd (Option.some.inj this) hne

theorem ne_of_slash {a b : Bytes} (ha : slash ∉ a) (hb : slash ∈ b) : a ≠ b := fun e => ha (e ▸ hb)

theorem slash_mem_poisonKey : slash ∈ poisonKey := by decide +kernel

theorem slash_mem_poisonSym : slash ∈ poisonSym := by decide +kernel

/-- a separator-free name `n` ending in a byte that no timestamp contains is classified by `ctxOfBase n` -/
theorem ctxOfName_plain {n : Bytes} {c : UInt8} (hn : n.getLast? = some c) (hc : tsChar c = false) (hs : slash ∉ n) :
    ctxOfName n = ctxOfBase n := by
  have hcs : c ≠ slash := fun e => hs (List.mem_of_getLast? (e ▸ hn))
  unfold ctxOfName
  simp only [not_isHistorical_of_last hn hcs hc, Bool.false_eq_true, if_false]
  rw [if_neg (ne_of_slash hs slash_mem_poisonKey), if_neg (ne_of_slash hs slash_mem_poisonSym)]

theorem valid_name_noslash {id : Bytes} (hv : validateID id = true) (suf : Bytes) (hs : slash ∉ suf) : slash ∉ id ++ suf :=
  (goodComp_valid_append hv suf hs).2.2.2

theorem valid_name_ne_nil {id : Bytes} (hv : validateID id = true) (suf : Bytes) : id ++ suf ≠ [] :=
  fun e => absurd (List.append_eq_nil_iff.mp e).1 (fun e => by rw [e] at hv; exact absurd hv (by decide))

/-- `ctxOfBase` on a separator-free name that does not end in `.old` -/
theorem ctxOfBase_plain (n : Bytes) (hne : n ≠ []) (hs : slash ∉ n) (hold : hasSuffix n sOld = false) :
    ctxOfBase n =
      if hasSuffix n sHmac then CrossClient.newClientIDKeyContext pSearchHMAC (dropSuffix n sHmac)
      else if hasSuffix n sServer then CrossClient.newClientIDKeyContext pLegacy (dropSuffix n sServer)
      else if hasSuffix n sTranslator then CrossClient.newClientIDKeyContext pLegacy (dropSuffix n sTranslator)
      else if hasSuffix n sStorage then CrossClient.newClientIDKeyContext pStoragePrivate (dropSuffix n sStorage)
      else if hasSuffix n sStorageSym then CrossClient.newClientIDKeyContext pStorageSym (dropSuffix n sStorageSym)
      else CrossClient.newKeyContext pUndefined n := by
  unfold ctxOfBase
  rw [base_noslash n hne hs]
  simp only [hold, Bool.false_eq_true, if_false]

/-- The name `id ++ suf` of a valid client's key file, `suf` separator-free and ending in a byte `c` that no
timestamp contains and that is not the `d` of `.old`, is classified by the suffix chain of `ctxOfBase`. -/
theorem ctxOfName_valid {id suf : Bytes} {c : UInt8} (hv : validateID id = true) (hs : slash ∉ suf)
    (hlast : suf.getLast? = some c) (hc : tsChar c = false) (hd : c ≠ 100) :
    ctxOfName (id ++ suf) =
      if hasSuffix (id ++ suf) sHmac then CrossClient.newClientIDKeyContext pSearchHMAC (dropSuffix (id ++ suf) sHmac)
      else if hasSuffix (id ++ suf) sServer then CrossClient.newClientIDKeyContext pLegacy (dropSuffix (id ++ suf) sServer)
      else if hasSuffix (id ++ suf) sTranslator then CrossClient.newClientIDKeyContext pLegacy (dropSuffix (id ++ suf) sTranslator)
      else if hasSuffix (id ++ suf) sStorage then CrossClient.newClientIDKeyContext pStoragePrivate (dropSuffix (id ++ suf) sStorage)
      else if hasSuffix (id ++ suf) sStorageSym then CrossClient.newClientIDKeyContext pStorageSym (dropSuffix (id ++ suf) sStorageSym)
      else CrossClient.newKeyContext pUndefined (id ++ suf) := by
  have hl := getLast_append_suffix id hlast
  have hns := valid_name_noslash hv suf hs
  rw [ctxOfName_plain hl hc hns,
    ctxOfBase_plain _ (valid_name_ne_nil hv suf) hns (not_hasSuffix_of_last hl (d := 100) rfl hd)]

/-- `Export`/`Import` derive, from the file names the key store gives a valid client's keys, the
key context the key store itself uses for them: the client id -/
theorem ctxOfName_client (id : Bytes) (hv : validateID id = true) :
    ctxOfName (storageName id) = CrossClient.newClientIDKeyContext pStoragePrivate id ∧
    ctxOfName (symName id) = CrossClient.newClientIDKeyContext pStorageSym id ∧
    ctxOfName (hmacName id) = CrossClient.newClientIDKeyContext pSearchHMAC id := by
  -- the suffixes tried before the right one end in another byte: `_hmac` in 99 = `c`, `_server` and `_translator` in
  -- 114 = `r`, `_storage` in 101 = `e`, `_storage_sym` in 109 = `m`
  have no (suf s : Bytes) {c d : UInt8} (hc : suf.getLast? = some c) (hd : s.getLast? = some d) (hne : c ≠ d) :
      hasSuffix (id ++ suf) s = false := not_hasSuffix_of_last (getLast_append_suffix id hc) hd hne
  refine ⟨?_, ?_, ?_⟩
  · rw [storageName, ctxOfName_valid hv (by decide) (c := 101) rfl (by decide) (by decide),
      no _ sHmac (d := 99) rfl rfl (by decide), no _ sServer (d := 114) rfl rfl (by decide),
      no _ sTranslator (d := 114) rfl rfl (by decide), hasSuffix_append, dropSuffix_append]
    rfl
  · rw [symName, List.append_assoc, ctxOfName_valid hv (by decide) (c := 109) rfl (by decide) (by decide),
      no _ sHmac (d := 99) rfl rfl (by decide), no _ sServer (d := 114) rfl rfl (by decide),
      no _ sTranslator (d := 114) rfl rfl (by decide), no _ sStorage (d := 101) rfl rfl (by decide),
      show sStorage ++ sSym = sStorageSym from by decide, hasSuffix_append, dropSuffix_append]
    rfl
  · rw [hmacName, ctxOfName_valid hv (by decide) (c := 99) rfl (by decide) (by decide), hasSuffix_append, dropSuffix_append]
    rfl

/-- `filepath.Clean("m/")` = `m` for one ordinary component -/
theorem clean_comp_slash (m : Bytes) (hm : GoodComp m) : clean (m ++ [slash]) = m := by
  have hhead : (m ++ [slash]).head? ≠ some slash := by
    cases m with
    | nil => exact absurd rfl hm.1
    | cons x r => exact fun e => hm.2.2.2 (Option.some.inj e ▸ List.mem_cons_self)
  have hsplit : splitSlash (m ++ [slash]) = [m, []] := by
    rw [splitSlash_append m [], splitSlash_noslash_eq m hm.2.2.2]; rfl
  rw [clean, cleanP, hsplit, decide_eq_false hhead]
  simp [cleanStack, pushComp, hm.1, hm.2.1, hm.2.2.1, render, joinSlash]

/-- a rotated key `<n>.old/<ts>` of a one-component key file: a history name, in directory `<n>.old`, called `<ts>` -/
theorem histName_parts (n ts : Bytes) (hn : GoodComp (n ++ sOld)) (hts : isTimestamp ts = true) :
    isHistorical (histName n ts) = true ∧ dirOf (histName n ts) = n ++ sOld ∧ base (histName n ts) = ts := by
  have hg := isTimestamp_good hts
  have hb : base (histName n ts) = ts := base_append_slash _ _ hg.1 hg.2.2.2
  refine ⟨by unfold isHistorical; rw [hb]; exact hts, ?_, hb⟩
  unfold dirOf histName
  rw [uptoLastSlash_append _ hg.2.2.2, clean_comp_slash _ hn]

/-- **A rotated key gets the context of its key file.** For a key file name `n` that is one
ordinary component (every per-client file of a valid id) and a timestamp `ts`:
`getContextFromFilename("<n>.old/<ts>") = getContextFromFilename("<n>")`. -/
theorem ctxOfName_hist (n ts : Bytes) (hn : GoodComp (n ++ sOld)) (hnh : isHistorical n = false)
    (hts : isTimestamp ts = true) : ctxOfName (histName n ts) = ctxOfName n := by
  obtain ⟨hh, hdir, _⟩ := histName_parts n ts hn hts
  unfold ctxOfName
  simp only [hh, if_true, hdir, trimSuffix_append, hnh, Bool.false_eq_true, if_false]

/-- rotated keys of a valid client: same context as the current file, i.e. the client id -/
theorem ctxOfName_client_hist (id ts : Bytes) (hv : validateID id = true) (hts : isTimestamp ts = true) :
    ctxOfName (histName (storageName id) ts) = CrossClient.newClientIDKeyContext pStoragePrivate id ∧
    ctxOfName (histName (symName id) ts) = CrossClient.newClientIDKeyContext pStorageSym id ∧
    ctxOfName (histName (hmacName id) ts) = CrossClient.newClientIDKeyContext pSearchHMAC id := by
  obtain ⟨h1, h2, h3⟩ := ctxOfName_client id hv
  -- a key file name is a stem (so `<name>.old` is one component) and, by its last byte, not itself a history name
  have hist {n : Bytes} (c : UInt8) (hn : Stem n) (hc : n.getLast? = some c) (hcs : c ≠ slash) (ht : tsChar c = false) :
      ctxOfName (histName n ts) = ctxOfName n :=
    ctxOfName_hist _ ts (hn.append noslash_sOld).good (not_isHistorical_of_last hc hcs ht) hts
  have S := (Stem.of_valid hv).append noslash_sStorage
  refine ⟨?_, ?_, ?_⟩
  · rw [← h1]; exact hist 101 S (getLast_append_suffix id rfl) (by decide) (by decide)
  · rw [← h2]; exact hist 109 (S.append noslash_sSym) (getLast_append_suffix _ rfl) (by decide) (by decide)
  · rw [← h3]; exact hist 99 ((Stem.of_valid hv).append noslash_sHmac) (getLast_append_suffix id rfl) (by decide) (by decide)

/-- **A rotated public key is not private.** For a public key file `<n>.pub` that is one ordinary
component and a timestamp `ts`: `isPrivate("<n>.pub.old/<ts>") = false` – the decision is taken on the
name of the history directory (`….pub.old`), not on the timestamp. -/
theorem isPrivate_hist_pub (n ts : Bytes) (hn : GoodComp (n ++ sPub ++ sOld))
    (hts : isTimestamp ts = true) (hne : ts ≠ []) : isPrivate (histName (n ++ sPub) ts) = false := by
  obtain ⟨hh, hdir, _⟩ := histName_parts (n ++ sPub) ts hn hts
  have hbase : base (n ++ sPub ++ sOld) = n ++ sPub ++ sOld := base_noslash _ hn.1 hn.2.2.2
  have hpoison : n ++ sPub ++ sOld ≠ poisonKey := ne_of_slash hn.2.2.2 slash_mem_poisonKey
  have hpub : isPublic (n ++ sPub ++ sOld) = true := by
    have : n ++ sPub ++ sOld = n ++ sPubOld := by simp [sPub, sOld, sPubOld, ofStr]
    rw [this]; simp [isPublic, hasSuffix_append]
  unfold isPrivate
  simp only [hh, if_true, hdir, hbase, hpoison, if_false, hpub, Bool.not_true]

/-- … whereas the timestamp alone (the base name of a rotated key) is classified as private: a
timestamp contains neither `.pub` nor is it a history name of anything. -/
theorem isPrivate_timestamp (ts : Bytes) (hts : isTimestamp ts = true) (hne : ts ≠ []) : isPrivate ts = true := by
  have hslash : slash ∉ ts := (isTimestamp_good hts).2.2.2
  have hb : base ts = ts := base_noslash ts hne hslash
  have hh : isHistorical ts = true := by unfold isHistorical; rw [hb]; exact hts
  have hdir : dirOf ts = [dot] := by rw [dirOf, uptoLastSlash_noslash hslash]; decide
  unfold isPrivate
  simp only [hh, if_true, hdir]
  decide

/-- rotated storage public key of a valid client: public by its history directory; its base name is the timestamp -/
theorem isPrivate_hist_storagePub (id ts : Bytes) (hv : validateID id = true) (hts : isTimestamp ts = true) (hne : ts ≠ []) :
    isPrivate (histName (storagePubName id) ts) = false ∧ base (histName (storagePubName id) ts) = ts := by
  have hgood : GoodComp (id ++ sStorage ++ sPub ++ sOld) :=
    ((((Stem.of_valid hv).append noslash_sStorage).append noslash_sPub).append noslash_sOld).good
  exact ⟨isPrivate_hist_pub (id ++ sStorage) ts hgood hts hne, (histName_parts _ ts hgood hts).2.2⟩

end AcraModel.KeystoreSec.V1
