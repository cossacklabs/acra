import AcraModel.KeystoreSec.V1WriteLog
import AcraModel.KeystoreSec.V1Methods
/-!
The write log of a v1 operation: its shape, and that its file names are made of ordinary components.
-/
namespace AcraModel.KeystoreSec.V1WriteLog
open AcraModel.KeystoreSec.Path AcraModel.KeystoreSec.V1 AcraModel.KeystoreSec.V1Methods
open AcraModel.CrossClient (keyEncrypt)

/-- a write log that exists: the id was accepted, the secret was sealed, and the log is the private
write followed by the public one of a key pair -/
theorem writes_some {c : CryptoOps} {master nonce : Bytes} {op : Op} {ws : List Write}
    (h : writes c master nonce op = some ws) :
    op.rejected = false ∧ ∃ ct, keyEncrypt c master op.ctx op.secret nonce = some ct ∧
      ws = ⟨op.file, ct, true⟩ :: (match op.public with | some pub => [⟨op.file ++ sPub, pub, false⟩] | none => []) := by
  unfold writes at h
  cases hr : op.rejected with
  | true => rw [hr, if_pos rfl] at h; cases h
  | false =>
    rw [hr, if_neg Bool.false_ne_true] at h
    cases he : keyEncrypt c master op.ctx op.secret nonce with
    | none => rw [he] at h; cases h
    | some ct => rw [he] at h; exact ⟨rfl, ct, rfl, (Option.some.inj h).symm⟩

theorem mem_log {op : Op} {ct : Bytes} {w : Write}
    (hw : w ∈ (⟨op.file, ct, true⟩ : Write) :: (match op.public with | some pub => [⟨op.file ++ sPub, pub, false⟩] | none => [])) :
    w = ⟨op.file, ct, true⟩ ∨ ∃ pub, op.public = some pub ∧ w = ⟨op.file ++ sPub, pub, false⟩ := by
  rcases List.mem_cons.mp hw with rfl | hw
  · exact Or.inl rfl
  · cases hpub : op.public with
    | none => rw [hpub] at hw; cases hw
    | some pub => rw [hpub] at hw; exact Or.inr ⟨pub, rfl, List.mem_singleton.mp hw⟩

/-- The file of an accepted operation, and the public file next to it, consist of ordinary components:
a per-client name is a valid id with a separator-free suffix, the key store's own names are constants. -/
theorem Op.file_good (op : Op) (h : op.rejected = false) : AllGood [op.file, op.file ++ sPub] := by
  have client (id : Bytes) {f : Bytes} (hv : (!validateID id) = false) (hf : Stem id → Stem f) : AllGood [f, f ++ sPub] :=
    have hf := hf (Stem.of_valid (by simpa using hv))
    allGood_cons hf.path (allGood_cons (hf.append noslash_sPub).path allGood_nil)
  have own (f : Bytes) (hf : ([f, f ++ sPub].all fun p => (splitSlash p).all goodCompB) = true) : AllGood [f, f ++ sPub] :=
    fun p hp => splitSlash_all_good (List.all_eq_true.mp hf p hp)
  cases op with
  | genDataKeys id _ _ => exact client id h (·.append noslash_sStorage)
  | saveDataKeys id _ _ => exact client id h (·.append noslash_sStorage)
  | genSymKey id _ => exact client id h fun hid => (hid.append noslash_sStorage).append noslash_sSym
  | genHmacKey id _ => exact client id h (·.append noslash_sHmac)
  | genLogKey _ => exact own logKey (by decide +kernel)
  | genPoisonPair _ _ => exact own poisonKey (by decide +kernel)
  | genPoisonSym _ => exact own poisonSym (by decide +kernel)

end AcraModel.KeystoreSec.V1WriteLog
