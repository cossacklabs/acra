import AcraModel.KeystoreSec.ConcurrentLemmas
import AcraModel.KeystoreSec.FileLockLemmas
/-!
The lock the concurrency model (`Concurrent.lean`) consults – `St.writer`, `St.readers` – moves only by the
moves of the abstract lock `FileLock.ALock`, the same abstract lock the life-cycle model of the lock file
(`FileLock.lean`) is shown to implement.
-/
namespace AcraModel.KeystoreSec.Conc
open FileLock (ALock AStep AReach)

def LockView (s : St) (a : ALock) : Prop := a.writer = s.writer ∧ ∀ j, a.reader j = decide (j ∈ s.readers)

/-- in this order: nothing, `Lock`, `Unlock`, `RLock`, `RUnlock` -/
theorem step_lock_cases (s : St) (i : Nat) :
    ((step s i).writer = s.writer ∧ (step s i).readers = s.readers) ∨
    (s.writer = none ∧ s.readers = [] ∧ (step s i).writer = some i ∧ (step s i).readers = s.readers) ∨
    (inCS (s.h i).pc ∧ (step s i).writer = none ∧ (step s i).readers = s.readers) ∨
    (s.writer = none ∧ (step s i).writer = s.writer ∧ (step s i).readers = i :: s.readers) ∨
    (isReader (s.h i).pc ∧ (step s i).writer = s.writer ∧ (step s i).readers = s.readers.erase i) := by
  obtain ⟨c, hst⟩ := step_spec s i
  generalize step s i = s' at hst ⊢
  cases hst with
  | lock _ _ _ _ hw hr => exact .inr (.inl ⟨hw, hr, rfl, rfl⟩)
  | unlock hpc =>
    refine .inr (.inr (.inl ⟨?_, rfl, rfl⟩))
    rcases hpc with ⟨e, _⟩ | ⟨e, _⟩ <;> simp [inCS, e]
  | rlock _ _ hw => exact .inr (.inr (.inr (.inl ⟨hw, rfl, rfl⟩)))
  | runlock hpc =>
    refine .inr (.inr (.inr (.inr ⟨?_, rfl, rfl⟩)))
    rcases hpc with ⟨e, _⟩ | ⟨e, _⟩ <;> simp [isReader, e]
  | _ => exact .inl ⟨rfl, rfl⟩

theorem step_lockView (c0 : Nat → Ring) (s : St) (i : Nat) (h : Inv c0 s) (a : ALock) (ha : LockView s a) :
    ∃ b, LockView (step s i) b ∧ AStep a b := by
  rcases step_lock_cases s i with ⟨hw, hr⟩ | ⟨hw0, hr0, hw, hr⟩ | ⟨hcs, hw, hr⟩ | ⟨hw0, hw, hr⟩ | ⟨hrd, hw, hr⟩
  · exact ⟨a, ⟨by rw [hw]; exact ha.1, by intro j; rw [hr]; exact ha.2 j⟩, .stutter rfl (fun _ => rfl)⟩
  · refine ⟨⟨some i, a.reader⟩, ⟨by rw [hw], by intro j; rw [hr]; exact ha.2 j⟩, ?_⟩
    exact .lock i (by rw [ha.1, hw0]) (by intro j; rw [ha.2 j, hr0]; simp) rfl (fun _ => rfl)
  · refine ⟨⟨none, a.reader⟩, ⟨by rw [hw], by intro j; rw [hr]; exact ha.2 j⟩, ?_⟩
    exact .unlock i (by rw [ha.1]; exact h.holder i hcs) rfl (fun _ => rfl)
  · refine ⟨⟨a.writer, fun j => if j = i then true else a.reader j⟩, ⟨by rw [hw]; exact ha.1, ?_⟩, ?_⟩
    · intro j
      rw [hr]
      by_cases hji : j = i
      · subst hji; simp
      · simp [hji, ha.2 j]
    · exact .rlock i (by rw [ha.1, hw0]) rfl (fun _ => rfl)
  · refine ⟨⟨a.writer, fun j => if j = i then false else a.reader j⟩, ⟨by rw [hw]; exact ha.1, ?_⟩, ?_⟩
    · intro j
      rw [hr]
      by_cases hji : j = i
      · subst hji; simp [h.rdNodup.mem_erase_iff]
      · simp [hji, ha.2 j, h.rdNodup.mem_erase_iff]
    · exact .runlock i (by rw [ha.2 i]; simpa using (h.rd i).mpr hrd) rfl (fun _ => rfl)

theorem run_lockView (c0 : Nat → Ring) (s : St) (sched : List Nat) (h : Inv c0 s) (a0 a : ALock)
    (hr : AReach a0 a) (ha : LockView s a) :
    ∃ b, LockView (run s sched) b ∧ AReach a0 b := by
  induction sched generalizing s a with
  | nil => exact ⟨a, ha, hr⟩
  | cons i rest ih =>
    obtain ⟨b, hb, hstep⟩ := step_lockView c0 s i h a ha
    exact ih (step s i) (step_inv c0 s i h) b (.step hr hstep) hb

end AcraModel.KeystoreSec.Conc
