import AcraModel.KeystoreSec.ExportV1
/-!
A concrete serialisation of record lists with the round-trip law – it stands in for `encoding/gob`
in non-vacuity examples (the theorems hold for every codec with `Codec.Ok`).

Numbers in unary (`1`ⁿ `0`), a byte string as its length followed by its bytes, a record as name
then content, a list as its length followed by the records.
-/
namespace AcraModel.KeystoreSec.ExportV1

def encNat : Nat → Bytes
  | 0 => [0]
  | n + 1 => 1 :: encNat n

def decNat : Bytes → Option (Nat × Bytes)
  | [] => none
  | c :: r =>
    if c = 0 then some (0, r)
    else if c = 1 then (decNat r).map fun p => (p.1 + 1, p.2)
    else none

theorem decNat_encNat (n : Nat) (r : Bytes) : decNat (encNat n ++ r) = some (n, r) := by
  induction n with
  | zero => simp [encNat, decNat]
  | succ n ih => simp [encNat, decNat, ih]

def encBytes (x : Bytes) : Bytes := encNat x.length ++ x

def decBytes (b : Bytes) : Option (Bytes × Bytes) :=
  (decNat b).bind fun p => if p.1 ≤ p.2.length then some (p.2.take p.1, p.2.drop p.1) else none

theorem decBytes_encBytes (x r : Bytes) : decBytes (encBytes x ++ r) = some (x, r) := by
  simp [decBytes, encBytes, List.append_assoc, decNat_encNat]

def encRecord (r : Record) : Bytes := encBytes r.1 ++ encBytes r.2

def decRecord (b : Bytes) : Option (Record × Bytes) :=
  (decBytes b).bind fun p => (decBytes p.2).map fun q => ((p.1, q.1), q.2)

theorem decRecord_encRecord (x : Record) (r : Bytes) : decRecord (encRecord x ++ r) = some (x, r) := by
  simp [decRecord, encRecord, List.append_assoc, decBytes_encBytes]

def encRecords : List Record → Bytes
  | [] => []
  | x :: xs => encRecord x ++ encRecords xs

def decRecords : Nat → Bytes → Option (List Record × Bytes)
  | 0, b => some ([], b)
  | n + 1, b => (decRecord b).bind fun p => (decRecords n p.2).map fun q => (p.1 :: q.1, q.2)

theorem decRecords_encRecords (l : List Record) (r : Bytes) : decRecords l.length (encRecords l ++ r) = some (l, r) := by
  induction l with
  | nil => simp [decRecords, encRecords]
  | cons x xs ih => simp [decRecords, encRecords, List.append_assoc, decRecord_encRecord, ih]

def simpleCodec : Codec where
  ser l := encNat l.length ++ encRecords l
  deser b := (decNat b).bind fun p => (decRecords p.1 p.2).bind fun q => if q.2 = [] then some q.1 else none

theorem simpleCodec_ok : simpleCodec.Ok := by
  constructor
  intro l
  have := decRecords_encRecords l []
  simp only [List.append_nil] at this
  simp [simpleCodec, decNat_encNat, this]

end AcraModel.KeystoreSec.ExportV1
