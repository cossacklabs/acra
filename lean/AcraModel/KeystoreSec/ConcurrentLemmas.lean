import AcraModel.KeystoreSec.ConcurrentStep
/-! Invariant of the concurrent key-store model, preserved by every step of every thread. -/
namespace AcraModel.KeystoreSec.Conc

def inCS (pc : PC) : Prop := pc = .locked ∨ pc = .got ∨ pc = .put ∨ pc = .renamed ∨ pc = .failed
def isReader (pc : PC) : Prop := pc = .rlocked ∨ pc = .rgot ∨ pc = .rfailed

instance (pc : PC) : Decidable (inCS pc) := by unfold inCS; infer_instance
instance (pc : PC) : Decidable (isReader pc) := by unfold isReader; infer_instance

theorem replay_append (r : Ring) (a b : List (List Tx)) :
    replay r (a ++ b) = (replay r a).bind fun r1 => replay r1 b := by
  induction a generalizing r with
  | nil => simp [replay]
  | cons x xs ih =>
    simp only [List.cons_append, replay]
    cases applyAll x r with
    | none => simp
    | some r' => simp [ih]

/-- The invariant. `c0` is the initial content of the ring files. The theorems of `Props/C17` read off `lin` (the
stored ring is the replay of the commits on its path: no lost update) and `mine` (a thread's commits are its
successful writes: exactly once); the other fields are what carries these two through a step. -/
structure Inv (c0 : Nat → Ring) (s : St) : Prop where
  holder : ∀ i, inCS (s.h i).pc → s.writer = some i
  rd : ∀ i, i ∈ s.readers ↔ isReader (s.h i).pc
  rdNodup : s.readers.Nodup
  excl : s.writer ≠ none → s.readers = []
  todoW : ∀ i, inCS (s.h i).pc → ∃ op rest, (s.h i).todo = op :: rest ∧ op ≠ .refresh
  todoR : ∀ i, isReader (s.h i).pc → ∃ rest, (s.h i).todo = .refresh :: rest
  gotOk : ∀ i, (s.h i).pc = .got → (s.h i).snap = s.cur (s.h i).path ∧ (applyAll (s.h i).txs (s.h i).snap).isSome
  putOk : ∀ i, (s.h i).pc = .put → s.new (s.h i).path = some (s.h i).snap ∧
            applyAll (s.h i).txs (s.cur (s.h i).path) = some (s.h i).snap
  noNew : ∀ p, s.new p ≠ none → ∃ i, (s.h i).pc = .put ∧ (s.h i).path = p
  lin : ∀ p, replay (c0 p) (commitsOn s p) = some (s.cur p)
  mine : ∀ i, commitsBy s i = okWrites (s.h i).done ++ (if (s.h i).pc = .renamed then [(s.h i).txs] else [])
  /-- a missing ring file is represented by the empty ring and nothing was ever committed on its path -/
  miss : ∀ p, s.ex p = false → s.cur p = emptyRing ∧ commitsOn s p = []
  /-- between `Get` and `Rename` the ring is missing exactly when the operation is `OpenKeyRingRW`
  (which then pushes no transactions): only `openKeyRing` creates, and only a ring that is not there -/
  crt : ∀ i, ((s.h i).pc = .got ∨ (s.h i).pc = .put) →
    ((s.ex (s.h i).path = false ↔ ∃ rest, (s.h i).todo = .open :: rest) ∧
     (s.ex (s.h i).path = false → (s.h i).txs = []))

theorem okWrites_snoc_none (d : List (Op × Option (List Tx))) (op : Op) :
    okWrites (d ++ [(op, none)]) = okWrites d := by
  simp [okWrites, List.filterMap_append]

theorem okWrites_snoc_refresh (d : List (Op × Option (List Tx))) (r : Option (List Tx)) :
    okWrites (d ++ [(.refresh, r)]) = okWrites d := by
  simp [okWrites, List.filterMap_append]

theorem okWrites_snoc_some (d : List (Op × Option (List Tx))) (op : Op) (t : List Tx) (h : op ≠ .refresh) :
    okWrites (d ++ [(op, some t)]) = okWrites d ++ [t] := by
  simp [okWrites, List.filterMap_append, h]

theorem cs_unique {c0 : Nat → Ring} {s : St} (h : Inv c0 s) {i j : Nat} (hi : inCS (s.h i).pc) (hj : inCS (s.h j).pc) : i = j :=
  Option.some.inj ((h.holder i hi).symm.trans (h.holder j hj))

theorem Inv.got_noNew {c0 : Nat → Ring} {s : St} (h : Inv c0 s) {i : Nat} (hpc : (s.h i).pc = .got) :
    s.new (s.h i).path = none :=
  Classical.byContradiction fun hnew => by
    obtain ⟨j, hj1, _⟩ := h.noNew _ hnew
    cases cs_unique h (.inr (.inl hpc)) (show inCS (s.h j).pc from .inr (.inr (.inl hj1)))
    rw [hpc] at hj1; cases hj1

theorem commitsOn_snoc {s s' : St} {c : Commit} (h : s'.commits = s.commits ++ [c]) (p : Nat) :
    commitsOn s' p = commitsOn s p ++ if c.path = p then [c.txs] else [] := by
  unfold commitsOn
  rw [h, List.filter_append, List.map_append]
  by_cases hp : c.path = p <;> simp [hp]

theorem commitsBy_snoc {s s' : St} {c : Commit} (h : s'.commits = s.commits ++ [c]) (j : Nat) :
    commitsBy s' j = commitsBy s j ++ if c.tid = j then [c.txs] else [] := by
  unfold commitsBy
  rw [h, List.filter_append, List.map_append]
  by_cases hj : c.tid = j <;> simp [hj]

/-- The part of `Inv` that speaks of one handle: `hd` is the handle of thread `j` in state `s`. It depends
on `s` only through the lock, the files of `hd`'s path and the commits of `j`. -/
structure HInv (s : St) (j : Nat) (hd : Handle) : Prop where
  holder : inCS hd.pc → s.writer = some j
  rd : j ∈ s.readers ↔ isReader hd.pc
  todoW : inCS hd.pc → ∃ op rest, hd.todo = op :: rest ∧ op ≠ .refresh
  todoR : isReader hd.pc → ∃ rest, hd.todo = .refresh :: rest
  gotOk : hd.pc = .got → hd.snap = s.cur hd.path ∧ (applyAll hd.txs hd.snap).isSome
  putOk : hd.pc = .put → s.new hd.path = some hd.snap ∧ applyAll hd.txs (s.cur hd.path) = some hd.snap
  mine : commitsBy s j = okWrites hd.done ++ (if hd.pc = .renamed then [hd.txs] else [])
  crt : (hd.pc = .got ∨ hd.pc = .put) →
    ((s.ex hd.path = false ↔ ∃ rest, hd.todo = .open :: rest) ∧ (s.ex hd.path = false → hd.txs = []))

theorem Inv.handle {c0 : Nat → Ring} {s : St} (h : Inv c0 s) (j : Nat) : HInv s j (s.h j) :=
  ⟨h.holder j, h.rd j, h.todoW j, h.todoR j, h.gotOk j, h.putOk j, h.mine j, h.crt j⟩

/-- an idle handle owes the invariant only its reader flag and its commit count -/
theorem HInv.idle {s : St} {j : Nat} {hd : Handle} (hpc : hd.pc = .idle) (hrd : j ∉ s.readers)
    (hmine : commitsBy s j = okWrites hd.done) : HInv s j hd := by
  refine ⟨?_, ?_, ?_, ?_, ?_, ?_, ?_, ?_⟩ <;> rw [hpc]
  · intro hc; simp [inCS] at hc
  · simp [isReader, hrd]
  · intro hc; simp [inCS] at hc
  · intro hc; simp [isReader] at hc
  · intro hc; cases hc
  · intro hc; cases hc
  · simpa using hmine
  · intro hc; simp at hc

/-- a handle inside the exclusive section, not between `Get` and `Rename` -/
theorem HInv.cs {s : St} {j : Nat} {hd : Handle} (hpc : hd.pc = .locked ∨ hd.pc = .renamed ∨ hd.pc = .failed)
    (hw : s.writer = some j) (hrd : j ∉ s.readers) (htodo : ∃ op rest, hd.todo = op :: rest ∧ op ≠ .refresh)
    (hmine : commitsBy s j = okWrites hd.done ++ (if hd.pc = .renamed then [hd.txs] else [])) : HInv s j hd := by
  have hnr : ¬ isReader hd.pc := by rcases hpc with e | e | e <;> simp [isReader, e]
  refine ⟨fun _ => hw, ⟨fun e => absurd e hrd, fun e => absurd e hnr⟩, fun _ => htodo, fun e => absurd e hnr,
    fun e => ?_, fun e => ?_, hmine, fun e => ?_⟩
  · rcases hpc with e' | e' | e' <;> simp [e'] at e
  · rcases hpc with e' | e' | e' <;> simp [e'] at e
  · rcases hpc with e' | e' | e' <;> simp [e'] at e

/-- a handle inside the shared section -/
theorem HInv.reader {s : St} {j : Nat} {hd : Handle} (hpc : isReader hd.pc) (hrd : j ∈ s.readers)
    (htodo : ∃ rest, hd.todo = .refresh :: rest) (hmine : commitsBy s j = okWrites hd.done) : HInv s j hd := by
  have hnc : ¬ inCS hd.pc := by rcases hpc with e | e | e <;> simp [inCS, e]
  exact ⟨fun e => absurd e hnc, ⟨fun _ => hpc, fun _ => hrd⟩, fun e => absurd e hnc, fun _ => htodo,
    fun e => absurd (.inr (.inl e)) hnc, fun e => absurd (.inr (.inr (.inl e))) hnc,
    by rw [hmine, if_neg fun e => hnc (.inr (.inr (.inr (.inl e)))), List.append_nil],
    fun e => absurd (.inr (e.imp_right .inl)) hnc⟩

/-- what happens elsewhere does not concern a handle: outside the exclusive section it does not look at
writer and files at all -/
theorem HInv.frame {s s' : St} {j : Nat} {hd : Handle} (h : HInv s j hd)
    (hcs : inCS hd.pc → s'.writer = s.writer ∧ s'.cur = s.cur ∧ s'.new = s.new ∧ s'.ex = s.ex)
    (hr : j ∈ s'.readers ↔ j ∈ s.readers) (hc : commitsBy s' j = commitsBy s j) : HInv s' j hd := by
  refine ⟨fun e => ?_, hr.trans h.rd, h.todoW, h.todoR, fun e => ?_, fun e => ?_, hc ▸ h.mine, fun e => ?_⟩
  · rw [(hcs e).1]; exact h.holder e
  · rw [(hcs (by simp [inCS, e])).2.1]; exact h.gotOk e
  · obtain ⟨_, e1, e2, _⟩ := hcs (by simp [inCS, e])
    rw [e1, e2]; exact h.putOk e
  · rw [(hcs (by rcases e with e | e <;> simp [inCS, e])).2.2.2]; exact h.crt e

/-- One step of thread `i`, in general: its handle becomes `hd'`, which satisfies its part of the invariant
in the new state; writer and files change only while no other thread is in the exclusive section; the other
threads' reader flags and commits stay; the facts about the shared state are re-established. -/
theorem inv_step {c0 : Nat → Ring} {s s' : St} {i : Nat} {hd' : Handle} (h : Inv c0 s)
    (hh : s'.h = upd s.h i hd') (hi : HInv s' i hd')
    (hframe : (s'.writer = s.writer ∧ s'.cur = s.cur ∧ s'.new = s.new ∧ s'.ex = s.ex) ∨
      ∀ j, j ≠ i → ¬ inCS (s.h j).pc)
    (hr : ∀ j, j ≠ i → (j ∈ s'.readers ↔ j ∈ s.readers))
    (hc : ∀ j, j ≠ i → commitsBy s' j = commitsBy s j)
    (rdNodup : s'.readers.Nodup) (excl : s'.writer ≠ none → s'.readers = [])
    (noNew : ∀ p, s'.new p ≠ none →
      (hd'.pc = .put ∧ hd'.path = p) ∨ (s.new p ≠ none ∧ ¬ ((s.h i).pc = .put ∧ (s.h i).path = p)))
    (lin : ∀ p, replay (c0 p) (commitsOn s' p) = some (s'.cur p))
    (miss : ∀ p, s'.ex p = false → s'.cur p = emptyRing ∧ commitsOn s' p = []) : Inv c0 s' := by
  have hall : ∀ j, HInv s' j (s'.h j) := by
    intro j
    rw [hh]
    by_cases hji : j = i
    · subst hji; rw [upd_same]; exact hi
    · rw [upd_other _ _ _ _ hji]
      refine (h.handle j).frame (fun hj => ?_) (hr j hji) (hc j hji)
      rcases hframe with e | e
      · exact e
      · exact absurd hj (e j hji)
  refine ⟨fun j => (hall j).holder, fun j => (hall j).rd, rdNodup, excl, fun j => (hall j).todoW,
    fun j => (hall j).todoR, fun j => (hall j).gotOk, fun j => (hall j).putOk, fun p hp => ?_, lin,
    fun j => (hall j).mine, miss, fun j => (hall j).crt⟩
  rcases noNew p hp with ⟨e1, e2⟩ | ⟨e1, e2⟩
  · exact ⟨i, by rw [hh, upd_same]; exact e1, by rw [hh, upd_same]; exact e2⟩
  · obtain ⟨j, hj1, hj2⟩ := h.noNew p e1
    have hji : j ≠ i := fun e => e2 (e ▸ ⟨hj1, hj2⟩)
    exact ⟨j, by rw [hh, upd_other _ _ _ _ hji]; exact hj1, by rw [hh, upd_other _ _ _ _ hji]; exact hj2⟩

theorem Inv.alone {c0 : Nat → Ring} {s : St} (h : Inv c0 s) {i : Nat}
    (hi : inCS (s.h i).pc ∨ s.writer = none) : ∀ j, j ≠ i → ¬ inCS (s.h j).pc := by
  intro j hji hj
  rcases hi with hi | hi
  · exact hji (cs_unique h hj hi)
  · rw [h.holder j hj] at hi; cases hi

/-- a step that changes nothing but thread `i`'s handle, which was not between `Put` and `Rename` -/
theorem inv_local {c0 : Nat → Ring} {s : St} {i : Nat} {hd' : Handle} (h : Inv c0 s) (hi : HInv s i hd')
    (hnp : (s.h i).pc ≠ .put) : Inv c0 { s with h := upd s.h i hd' } :=
  inv_step h rfl (hi.frame (fun _ => ⟨rfl, rfl, rfl, rfl⟩) Iff.rfl rfl) (.inl ⟨rfl, rfl, rfl, rfl⟩) (fun _ _ => Iff.rfl)
    (fun _ _ => rfl) h.rdNodup h.excl
    (fun _ hp => .inr ⟨hp, fun e => hnp e.1⟩) h.lin h.miss

theorem step_inv (c0 : Nat → Ring) (s : St) (i : Nat) (h : Inv c0 s) : Inv c0 (step s i) := by
  obtain ⟨c, hst⟩ := step_spec s i
  generalize step s i = s' at hst ⊢
  have hH := h.handle i
  -- per rule: the new `HInv` of thread `i` (`.idle`, `.cs`, `.reader`, or field by field), then `inv_local` when
  -- only its handle changes, `inv_step` when lock, files or commit log change too
  cases hst with
  | done | rwait | wwait => exact h
  | @rlock rest hpc htodo hw =>
    have hni : i ∉ s.readers := by rw [h.rd i]; simp [hpc, isReader]
    refine inv_step h rfl (.reader (.inl rfl) (.head _) ⟨rest, htodo⟩ ?_) (.inl ⟨rfl, rfl, rfl, rfl⟩) (fun j hji => ?_)
      (fun _ _ => rfl) (List.nodup_cons.mpr ⟨hni, h.rdNodup⟩) (fun hc => absurd hw hc)
      (fun _ hp => .inr ⟨hp, by simp [hpc]⟩) h.lin h.miss
    · simpa [hpc, commitsBy] using hH.mine
    · exact List.mem_cons.trans ⟨fun e => e.resolve_left hji, .inr⟩
  | reject hpc htodo hop hprep =>
    rw [finish_cons htodo]
    refine inv_local h (.idle rfl ?_ ?_) (by simp [hpc])
    · rw [hH.rd]; simp [hpc, isReader]
    · simpa [hpc, commitsBy, okWrites_snoc_none] using hH.mine
  | @lock op rest txs hpc htodo hop hprep hw hr =>
    refine inv_step h rfl (.cs (.inl rfl) rfl (by simp [hr]) ⟨op, rest, htodo, hop⟩ ?_) (.inr (h.alone (.inr hw)))
      (fun _ _ => Iff.rfl) (fun _ _ => rfl) h.rdNodup (fun _ => hr) (fun _ hp => .inr ⟨hp, by simp [hpc]⟩) h.lin h.miss
    simpa [hpc, commitsBy] using hH.mine
  | openFound hpc hex hop =>
    have hcsi : inCS (s.h i).pc := by simp [inCS, hpc]
    have hni : i ∉ s.readers := by rw [h.rd i]; simp [hpc, isReader]
    have hpath : ∀ p, s.ex p = false → (s.h i).path ≠ p := by intro p hp e; rw [e, hp] at hex; cases hex
    refine inv_step h rfl (.cs (.inr (.inl rfl)) (h.holder i hcsi) hni (h.todoW i hcsi) ?_) (.inl ⟨rfl, rfl, rfl, rfl⟩)
      (fun _ _ => Iff.rfl) (fun j hji => ?_) h.rdNodup h.excl (fun _ hp => .inr ⟨hp, by simp [hpc]⟩) (fun p => ?_)
      (fun p hp => ⟨(h.miss p hp).1, ?_⟩)
    · rw [commitsBy_snoc rfl, hH.mine]; simp [hpc]
    · rw [commitsBy_snoc rfl, if_neg (Ne.symm hji), List.append_nil]
    · rw [commitsOn_snoc rfl]
      split
      · rw [replay_append, h.lin p]; rfl
      · rw [List.append_nil]; exact h.lin p
    · rw [commitsOn_snoc rfl, if_neg (hpath p hp), List.append_nil]; exact (h.miss p hp).2
  | getStale hpc | getMissing hpc =>
    have hcsi : inCS (s.h i).pc := .inl hpc
    refine inv_local h (.cs (.inr (.inr rfl)) (h.holder i hcsi) ?_ (h.todoW i hcsi) ?_) (by simp [hpc])
    · rw [h.rd i]; simp [hpc, isReader]
    · simpa [hpc, commitsBy] using hH.mine
  | get hpc hex hop happ =>
    have hcsi : inCS (s.h i).pc := by simp [inCS, hpc]
    obtain ⟨op, rest, htodo, hnr⟩ := h.todoW i hcsi
    rw [htodo, List.head?_cons, ne_eq, Option.some.injEq] at hop
    refine inv_local h ⟨fun _ => h.holder i hcsi, ?_, fun _ => h.todoW i hcsi, ?_, fun _ => ⟨rfl, by simp [happ]⟩, ?_, ?_,
      fun _ => ?_⟩ (by simp [hpc])
    · rw [h.rd i]; simp [hpc, isReader]
    · intro hc; simp [isReader] at hc
    · intro hc; cases hc
    · simpa [hpc, commitsBy] using hH.mine
    · simp [hex, htodo, hop]
  | openMissing hpc hex hop =>
    have hcsi : inCS (s.h i).pc := by simp [inCS, hpc]
    obtain ⟨op, rest, htodo, hnr⟩ := h.todoW i hcsi
    rw [htodo, List.head?_cons, Option.some.injEq] at hop
    refine inv_local h ⟨fun _ => h.holder i hcsi, ?_, fun _ => h.todoW i hcsi, ?_,
      fun _ => ⟨((h.miss _ hex).1).symm, rfl⟩, ?_, ?_, fun _ => ?_⟩ (by simp [hpc])
    · rw [h.rd i]; simp [hpc, isReader]
    · intro hc; simp [isReader] at hc
    · intro hc; cases hc
    · simpa [hpc, commitsBy] using hH.mine
    · simp [hex, htodo, hop]
  | gotBad hpc happ => exact absurd (h.gotOk i hpc).2 (by simp [happ])
  | putClash hpc happ hnew => rw [h.got_noNew hpc] at hnew; cases hnew
  | @put r' hpc happ hnew =>
    have hcsi : inCS (s.h i).pc := by simp [inCS, hpc]
    refine inv_step h rfl ⟨fun _ => h.holder i hcsi, ?_, fun _ => h.todoW i hcsi, ?_, ?_, fun _ => ⟨upd_same _ _ _, ?_⟩, ?_,
      fun _ => h.crt i (.inl hpc)⟩ (.inr (h.alone (.inl hcsi))) (fun _ _ => Iff.rfl) (fun _ _ => rfl) h.rdNodup h.excl
      (fun p hp => ?_) h.lin h.miss
    · rw [h.rd i]; simp [hpc, isReader]
    · intro hc; simp [isReader] at hc
    · intro hc; cases hc
    · rw [← (h.gotOk i hpc).1]; exact happ
    · simpa [hpc, commitsBy] using hH.mine
    · by_cases hpp : p = (s.h i).path
      · exact .inl ⟨rfl, hpp.symm⟩
      · exact .inr ⟨by simpa [upd, hpp] using hp, by simp [hpc]⟩
  | renameBad hpc hnew => exact absurd (h.putOk i hpc).1 (by simp [hnew])
  | @rename r' hpc hnew =>
    have hcsi : inCS (s.h i).pc := by simp [inCS, hpc]
    have hni : i ∉ s.readers := by rw [h.rd i]; simp [hpc, isReader]
    obtain ⟨hp1, hp2⟩ := h.putOk i hpc
    cases hnew.symm.trans hp1
    refine inv_step h rfl (.cs (.inr (.inl rfl)) (h.holder i hcsi) hni (h.todoW i hcsi) ?_) (.inr (h.alone (.inl hcsi)))
      (fun _ _ => Iff.rfl) (fun j hji => ?_) h.rdNodup h.excl (fun p hp => ?_) (fun p => ?_) (fun p hp => ?_)
    · rw [commitsBy_snoc rfl, hH.mine]; simp [hpc]
    · rw [commitsBy_snoc rfl, if_neg (Ne.symm hji), List.append_nil]
    · by_cases hpp : p = (s.h i).path
      · subst hpp; simp at hp
      · exact .inr ⟨by simpa [upd, hpp] using hp, fun e => hpp e.2.symm⟩
    · rw [commitsOn_snoc rfl]
      by_cases hpp : (s.h i).path = p
      · subst hpp
        rw [if_pos rfl, replay_append, h.lin, Option.bind_some, replay, hp2]
        exact congrArg some (upd_same _ _ _).symm
      · rw [if_neg hpp, List.append_nil, h.lin p]
        exact congrArg some (upd_other _ _ _ _ (Ne.symm hpp)).symm
    · by_cases hpp : p = (s.h i).path
      · subst hpp; simp [upd] at hp
      · have hp' : s.ex p = false := by simpa [upd, hpp] using hp
        rw [commitsOn_snoc rfl, if_neg (Ne.symm hpp), List.append_nil]
        exact ⟨(upd_other _ _ _ _ hpp).trans (h.miss p hp').1, (h.miss p hp').2⟩
  | @unlock res hpc =>
    have hcsi : inCS (s.h i).pc := by rcases hpc with ⟨e, _⟩ | ⟨e, _⟩ <;> simp [inCS, e]
    obtain ⟨op, rest, htodo, hop⟩ := h.todoW i hcsi
    rw [finish_cons htodo]
    refine inv_step h rfl (.idle rfl ?_ ?_) (.inr (h.alone (.inl hcsi))) (fun _ _ => Iff.rfl) (fun _ _ => rfl) h.rdNodup
      (fun hc => absurd rfl hc) (fun _ hp => .inr ⟨hp, ?_⟩) h.lin h.miss
    · rw [h.rd i]; rcases hpc with ⟨e, _⟩ | ⟨e, _⟩ <;> simp [e, isReader]
    · rcases hpc with ⟨e, rfl⟩ | ⟨e, rfl⟩
      · simpa [e, commitsBy, okWrites_snoc_some _ _ _ hop] using hH.mine
      · simpa [e, commitsBy, okWrites_snoc_none] using hH.mine
    · rcases hpc with ⟨e, _⟩ | ⟨e, _⟩ <;> simp [e]
  | rget hpc | rgetMissing hpc =>
    have hri : isReader (s.h i).pc := .inl hpc
    refine inv_local h (.reader (by simp [isReader]) ((h.rd i).mpr hri) (h.todoR i hri) ?_) (by simp [hpc])
    simpa [hpc, commitsBy] using hH.mine
  | @runlock res hpc =>
    have hri : isReader (s.h i).pc := by rcases hpc with ⟨e, _⟩ | ⟨e, _⟩ <;> simp [isReader, e]
    obtain ⟨rest, htodo⟩ := h.todoR i hri
    rw [finish_cons htodo]
    refine inv_step h rfl (.idle rfl ?_ ?_) (.inl ⟨rfl, rfl, rfl, rfl⟩) (fun j hji => List.mem_erase_of_ne hji)
      (fun _ _ => rfl) (h.rdNodup.erase i) (fun hc => by simp [h.excl hc]) (fun _ hp => .inr ⟨hp, ?_⟩) h.lin h.miss
    · simp [h.rdNodup.mem_erase_iff]
    · have hnr : (s.h i).pc ≠ .renamed := by rcases hpc with ⟨e, _⟩ | ⟨e, _⟩ <;> simp [e]
      simpa [hnr, commitsBy, okWrites_snoc_refresh] using hH.mine
    · rcases hpc with ⟨e, _⟩ | ⟨e, _⟩ <;> simp [e]

theorem run_inv (c0 : Nat → Ring) (s : St) (sched : List Nat) (h : Inv c0 s) : Inv c0 (run s sched) := by
  induction sched generalizing s with
  | nil => exact h
  | cons i r ih => exact ih _ (step_inv c0 s i h)

end AcraModel.KeystoreSec.Conc
