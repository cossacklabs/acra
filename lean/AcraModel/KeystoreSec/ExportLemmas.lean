import AcraModel.KeystoreSec.Export
import AcraModel.KeystoreSec.Basics
namespace AcraModel.KeystoreSec.Export
open AcraModel.KeystoreSec.Path (ofStr)

def NoncesOk (ν : Nonces) : Prop := ∀ x m, (ν x m).length = nonceLen

/-- a ciphertext is never the empty string (implied by `SealLen`; `Box`, which cannot have `SealLen`, satisfies
it too). Needed for the round trip because
`decryptKeyData` takes an empty `priv`/`sym` field, which holds the ciphertext, for "no such part". -/
def EncNonEmpty (c : CryptoOps) : Prop := ∀ k x m n, c.enc k x m n ≠ some []

theorem encNonEmpty_of_len (c : CryptoOps) (h : SealLen c) : EncNonEmpty c := by
  intro k x m n e
  have := h.enc_len k x m n [] e
  simp [sealOverhead] at this

/-- key data in the plaintext form the API produces: exactly the fields of its format -/
def NormalData (d : KeyData) : Prop :=
  (d.format = fmtPair ∧ d.pub ≠ [] ∧ d.sym = [] ∧ d.priv.length < maxMsgLen) ∨
  (d.format = fmtSym ∧ d.sym ≠ [] ∧ d.pub = [] ∧ d.priv = [] ∧ d.sym.length < maxMsgLen)

/-- what `copyKey` demands of an exported key -/
structure ImportableKey (k : Key) : Prop where
  period : k.since ≤ k.until_
  nonempty : k.data ≠ [] ∨ k.state = stDestroyed
  formats : (k.data.map (·.format)).Nodup
  normal : ∀ d ∈ k.data, NormalData d

theorem add_then_decrypt (c : CryptoOps) (hl : SealLaws c) (hne : EncNonEmpty c) (ν : Nonces) (hν : NoncesOk ν)
    (master path : Bytes) (seq : Int) (hm : master ≠ []) (d : KeyData) (hd : NormalData d) :
    ∃ e, addKeyData c ν master path seq d = some e ∧ decryptKeyData c master path seq true e = .ok d := by
  rcases hd with ⟨hf, hp, hs, hb⟩ | ⟨hf, hs, hp, hpr, hb⟩
  · by_cases hpriv : d.priv = []
    · refine ⟨⟨fmtPair, d.pub, [], []⟩, by simp [addKeyData, hf, hp, hpriv], ?_⟩
      simp [decryptKeyData]
      cases d; simp_all
    · obtain ⟨ct, hct⟩ := enc_some hl (x := privCtx path seq) hm hpriv (hν (privCtx path seq) d.priv) hb
      refine ⟨⟨fmtPair, d.pub, ct, []⟩, by simp [addKeyData, hf, hp, hpriv, hct], ?_⟩
      have hdec := hl.dec_enc _ _ _ _ _ hct
      have hcne : ct ≠ [] := by intro e; subst e; exact hne _ _ _ _ hct
      simp [decryptKeyData, hcne, hdec]
      cases d; simp_all
  · have hf1 : fmtSym ≠ fmtPair := by decide
    obtain ⟨ct, hct⟩ := enc_some hl (x := symCtx path seq) hm hs (hν (symCtx path seq) d.sym) hb
    refine ⟨⟨fmtSym, [], [], ct⟩, by simp [addKeyData, hf, hf1, hs, hct], ?_⟩
    have hdec := hl.dec_enc _ _ _ _ _ hct
    have hcne : ct ≠ [] := by intro e; subst e; exact hne _ _ _ _ hct
    simp [decryptKeyData, hcne, hdec]
    cases d; simp_all

theorem addAll_then_decryptAll (c : CryptoOps) (hl : SealLaws c) (hne : EncNonEmpty c) (ν : Nonces) (hν : NoncesOk ν)
    (master path : Bytes) (seq : Int) (hm : master ≠ []) :
    ∀ (ds : List KeyData), (∀ d ∈ ds, NormalData d) →
      ∃ es, ds.mapM (addKeyData c ν master path seq) = some es ∧ decryptAll c master path seq true es = .ok ds
  | [], _ => ⟨[], by simp, by simp [decryptAll]⟩
  | d :: ds, h => by
    obtain ⟨e, he1, he2⟩ := add_then_decrypt c hl hne ν hν master path seq hm d (h d (by simp))
    obtain ⟨es, hes1, hes2⟩ := addAll_then_decryptAll c hl hne ν hν master path seq hm ds (fun d' h' => h d' (by simp [h']))
    refine ⟨e :: es, by simp [List.mapM_cons, he1, hes1], ?_⟩
    simp [decryptAll, he2, hes2]

theorem copy_then_export (c : CryptoOps) (hl : SealLaws c) (hne : EncNonEmpty c) (ν : Nonces) (hν : NoncesOk ν)
    (master path : Bytes) (hm : master ≠ []) (k : Key) (hk : ImportableKey k) :
    ∃ k', copyKey c ν master path k = some k' ∧ k'.seq = k.seq ∧ k'.state = k.state ∧ k'.since = k.since ∧ k'.until_ = k.until_ ∧
      decryptAll c master path k.seq true k'.data = .ok k.data := by
  obtain ⟨es, h1, h2⟩ := addAll_then_decryptAll c hl hne ν hν master path k.seq hm k.data hk.normal
  refine ⟨{ k with data := es }, ?_, rfl, rfl, rfl, rfl, h2⟩
  have hp : ¬ k.since > k.until_ := by have := hk.period; omega
  have hne' : ¬ (k.data = [] ∧ k.state ≠ stDestroyed) := by
    intro ⟨a, b⟩
    rcases hk.nonempty with h | h
    · exact h a
    · exact b h
  simp only [copyKey, if_neg hp, if_neg hne', hk.formats, not_true_eq_false, if_false, h1, Option.map_some]

theorem copyAll_then_export (c : CryptoOps) (hl : SealLaws c) (hne : EncNonEmpty c) (ν : Nonces) (hν : NoncesOk ν)
    (master path : Bytes) (hm : master ≠ []) :
    ∀ (ks : List Key), (∀ k ∈ ks, ImportableKey k) →
      ∃ ks', ks.mapM (copyKey c ν master path) = some ks' ∧ exportKeys c master path true ks' = .ok ks
  | [], _ => ⟨[], by simp, by simp [exportKeys]⟩
  | k :: ks, h => by
    obtain ⟨k', hk1, hs, hst, hsi, hu, hk2⟩ := copy_then_export c hl hne ν hν master path hm k (h k (by simp))
    obtain ⟨ks', hks1, hks2⟩ := copyAll_then_export c hl hne ν hν master path hm ks (fun k' h' => h k' (by simp [h']))
    refine ⟨k' :: ks', by simp [List.mapM_cons, hk1, hks1], ?_⟩
    simp only [exportKeys, hs, hk2, hks2]
    cases k; cases k'; simp_all

/-- ring level: importing a plaintext ring into a target and exporting it again (with private
data) gives the ring back – same keys, same order, same states, validity, material and current marker -/
theorem import_then_export_ring (c : CryptoOps) (hl : SealLaws c) (hne : EncNonEmpty c) (ν : Nonces) (hν : NoncesOk ν)
    (master : Bytes) (hm : master ≠ []) (x : Ring) (hx : ∀ k ∈ x.keys, ImportableKey k) :
    ∃ r, importASN1 c ν master x.purpose x = some r ∧ exportRing c master x.purpose true r = .ok x := by
  obtain ⟨ks', h1, h2⟩ := copyAll_then_export c hl hne ν hν master x.purpose hm x.keys hx
  refine ⟨⟨x.purpose, ks', x.current⟩, by simp [importASN1, h1], ?_⟩
  simp [exportRing, h2]

theorem importRings_ok (c : CryptoOps) (hl : SealLaws c) (hne : EncNonEmpty c) (ν : Nonces) (hν : NoncesOk ν) :
    ∀ (xs : List Ring) (T : Store), T.master ≠ [] → (∀ x ∈ xs, ∀ k ∈ x.keys, ImportableKey k) →
      (xs.map (·.purpose)).Nodup → (∀ x ∈ xs, T.get x.purpose = none) →
      ∃ T', importRings c ν T xs = (T', true) ∧ T'.master = T.master ∧
        (∀ x ∈ xs, ∃ r, T'.get x.purpose = some r ∧ exportRing c T.master x.purpose true r = .ok x) ∧
        (∀ q, q ∉ xs.map (·.purpose) → T'.get q = T.get q)
  | [], T, _, _, _, _ => ⟨T, by simp [importRings], rfl, by simp, by simp⟩
  | x :: xs, T, hm, hk, hnd, hfree => by
    obtain ⟨r, hr1, hr2⟩ := import_then_export_ring c hl hne ν hν T.master hm x (hk x (by simp))
    have hget : T.get x.purpose = none := hfree x (by simp)
    let T1 := (T.put x.purpose ⟨x.purpose, [], -1⟩).put x.purpose r
    have hstep : importKeyRing c ν T x = (T1, true) := by simp [importKeyRing, hget, hr1, T1]
    have hnd' := List.nodup_cons.mp hnd
    have hT1other : ∀ q, q ≠ x.purpose → T1.get q = T.get q := by
      intro q hq
      simp only [T1]
      rw [Store.get_put_other _ _ _ _ hq, Store.get_put_other _ _ _ _ hq]
    have hfree1 : ∀ y ∈ xs, T1.get y.purpose = none := by
      intro y hy
      have hne' : y.purpose ≠ x.purpose := fun e => hnd'.1 (List.mem_map.mpr ⟨y, hy, e⟩)
      rw [hT1other _ hne']
      exact hfree y (by simp [hy])
    obtain ⟨T', h1, h2, h3, h4⟩ := importRings_ok c hl hne ν hν xs T1 (by simpa [T1] using hm)
      (fun y hy => hk y (by simp [hy])) hnd'.2 hfree1
    refine ⟨T', by simp [importRings, hstep, h1], by simpa [T1] using h2, ?_, ?_⟩
    · intro y hy
      simp at hy
      rcases hy with rfl | hy
      · refine ⟨r, ?_, hr2⟩
        -- the purposes are pairwise distinct, so the rest of the loop leaves the ring just imported alone
        rw [h4 _ hnd'.1]
        simp [T1]
      · have := h3 y hy
        simpa [T1] using this
    · intro q hq
      simp at hq
      rw [h4 q (by simpa using hq.2)]
      exact hT1other q hq.1

theorem encryptAndSign_some {c : CryptoOps} {cd : Codec} {ak : AccessKeys} {time : Int} {nonce : Bytes} {rs : List Ring}
    {b : Notary.Container} (h : encryptAndSign c cd ak time nonce rs = some b) :
    ∃ e, c.enc ak.encKey exportCtx (cd.ser rs) nonce = some e ∧ b = Notary.sign c ak.sigKey exportCtx (cd.serPayload time e) := by
  obtain ⟨e, he, rfl⟩ := Option.map_eq_some_iff.mp h
  exact ⟨e, he, rfl⟩

theorem bundle_roundtrip (c : CryptoOps) (hl : SealLaws c) (cd : Codec) (hcd : cd.Ok) (ak : AccessKeys) (time : Int)
    (nonce : Bytes) (rs : List Ring) (b : Notary.Container)
    (h : encryptAndSign c cd ak time nonce rs = some b) : decryptAndVerify c cd ak b = some rs := by
  obtain ⟨e, he, rfl⟩ := encryptAndSign_some h
  have hraw : (Notary.sign c ak.sigKey exportCtx (cd.serPayload time e)).raw = cd.serPayload time e := rfl
  simp [decryptAndVerify, Notary.verify_sign, hraw, hcd.payload, hl.dec_enc _ _ _ _ _ he, hcd.rings]

theorem importBundle_none {c : CryptoOps} {cd : Codec} {ak : AccessKeys} {b : Notary.Container} (ν : Nonces) (T : Store)
    (h : decryptAndVerify c cd ak b = none) : importBundle c cd ν T ak b = none := by
  rw [importBundle, h]; rfl

end AcraModel.KeystoreSec.Export
