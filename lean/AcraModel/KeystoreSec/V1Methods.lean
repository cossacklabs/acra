import AcraModel.KeystoreSec.V1NamesLemmas
import AcraModel.Generated.V1Methods
/-!
# Which paths the id-taking methods of the v1 key store touch

`keystore/filesystem/server_keystore.go` (`KeyStore`) and `translator_keystore.go`
(`TranslatorFileSystemKeyStore`): every exported method that builds a file name from a caller-supplied
client id. The table of these methods – and whether each starts with the `keystore.ValidateID` guard –
is regenerated from the source (`Generated.V1Methods.v1IdMethods`); `Method.validates` *looks the
method up in that table*, so the model rejects an id exactly where the source has the guard.

`touched m id e` is the list of paths, relative to the key folder, handed to the `Storage`
(`Stat/Exists/ReadFile/ReadDir/Remove/MkdirAll/TempFile/WriteFile/Link/Rename`) by method `m` for
client id `id` – reads included – with the key cache switched off. What the method cannot know by
itself comes from the environment `e`: the names `ReadDir` returns for the history directories, the
digits `TempFile` appends, the time stamp of the history copy, whether the key exists. Touches of the
key folder itself (`MkdirAll(filepath.Dir(file))`) are not listed. The harness op `C07.v1.access`
compares this list with what a recording `Storage` under the real key store saw.

File names (filenames.go, key_names.go): `<id>_storage[.pub]`, `<id>_storage_sym`, `<id>_hmac`,
`<id>_server[.pub]`, `<id>_translator[.pub]`, `<id>[.pub]` (connector), history `<file>.old/<name>`.
-/
namespace AcraModel.KeystoreSec.V1Methods
open AcraModel.KeystoreSec.Path AcraModel.KeystoreSec.V1

/-- the id-taking methods, in source order -/
inductive Method
  | getClientIDEncryptionPublicKey | getPeerPublicKey | getPrivateKey | getServerDecryptionPrivateKey
  | getServerDecryptionPrivateKeys | generateConnectorKeys | generateServerKeys | generateTranslatorKeys
  | generateDataEncryptionKeys | saveDataEncryptionKeys | getHMACSecretKey | generateHmacKey
  | generateClientIDSymmetricKey | getClientIDSymmetricKeys | getClientIDSymmetricKey
  | destroyClientIDEncryptionKeyPair | destroyClientIDSymmetricKey | destroyHmacSecretKey
  | destroyRotatedClientIDEncryptionKeyPair | destroyRotatedClientIDSymmetricKey | destroyRotatedHmacSecretKey
  | translatorCheckIfPrivateKeyExists | translatorGetPrivateKey
deriving DecidableEq, Repr

open Method in
def Method.all : List Method :=
  [getClientIDEncryptionPublicKey, getPeerPublicKey, getPrivateKey, getServerDecryptionPrivateKey,
   getServerDecryptionPrivateKeys, generateConnectorKeys, generateServerKeys, generateTranslatorKeys,
   generateDataEncryptionKeys, saveDataEncryptionKeys, getHMACSecretKey, generateHmacKey,
   generateClientIDSymmetricKey, getClientIDSymmetricKeys, getClientIDSymmetricKey,
   destroyClientIDEncryptionKeyPair, destroyClientIDSymmetricKey, destroyHmacSecretKey,
   destroyRotatedClientIDEncryptionKeyPair, destroyRotatedClientIDSymmetricKey, destroyRotatedHmacSecretKey,
   translatorCheckIfPrivateKeyExists, translatorGetPrivateKey]

/-- `Receiver.Method` as in the source -/
def Method.goName : Method → String
  | .getClientIDEncryptionPublicKey => "KeyStore.GetClientIDEncryptionPublicKey"
  | .getPeerPublicKey => "KeyStore.GetPeerPublicKey"
  | .getPrivateKey => "KeyStore.GetPrivateKey"
  | .getServerDecryptionPrivateKey => "KeyStore.GetServerDecryptionPrivateKey"
  | .getServerDecryptionPrivateKeys => "KeyStore.GetServerDecryptionPrivateKeys"
  | .generateConnectorKeys => "KeyStore.GenerateConnectorKeys"
  | .generateServerKeys => "KeyStore.GenerateServerKeys"
  | .generateTranslatorKeys => "KeyStore.GenerateTranslatorKeys"
  | .generateDataEncryptionKeys => "KeyStore.GenerateDataEncryptionKeys"
  | .saveDataEncryptionKeys => "KeyStore.SaveDataEncryptionKeys"
  | .getHMACSecretKey => "KeyStore.GetHMACSecretKey"
  | .generateHmacKey => "KeyStore.GenerateHmacKey"
  | .generateClientIDSymmetricKey => "KeyStore.GenerateClientIDSymmetricKey"
  | .getClientIDSymmetricKeys => "KeyStore.GetClientIDSymmetricKeys"
  | .getClientIDSymmetricKey => "KeyStore.GetClientIDSymmetricKey"
  | .destroyClientIDEncryptionKeyPair => "KeyStore.DestroyClientIDEncryptionKeyPair"
  | .destroyClientIDSymmetricKey => "KeyStore.DestroyClientIDSymmetricKey"
  | .destroyHmacSecretKey => "KeyStore.DestroyHmacSecretKey"
  | .destroyRotatedClientIDEncryptionKeyPair => "KeyStore.DestroyRotatedClientIDEncryptionKeyPair"
  | .destroyRotatedClientIDSymmetricKey => "KeyStore.DestroyRotatedClientIDSymmetricKey"
  | .destroyRotatedHmacSecretKey => "KeyStore.DestroyRotatedHmacSecretKey"
  | .translatorCheckIfPrivateKeyExists => "TranslatorFileSystemKeyStore.CheckIfPrivateKeyExists"
  | .translatorGetPrivateKey => "TranslatorFileSystemKeyStore.GetPrivateKey"

def Method.ofGoName (s : String) : Option Method := Method.all.find? (·.goName = s)

/-- does the method's first statement refuse ids `keystore.ValidateID` rejects – read off the
regenerated table (a method missing from the table counts as unguarded) -/
def validatesIn (table : List (String × Bool × List String)) (m : Method) : Bool :=
  match table.find? (·.1 = m.goName) with
  | some (_, g, _) => g
  | none => false

def Method.validates (m : Method) : Bool := validatesIn Generated.V1Methods.v1IdMethods m

/-- the guard table of the pinned tree with `repo-patches/50` but without
`repo-patches/51-fix-v1-readers-destroyers-validate-client-id` (only the writers and `GetPeerPublicKey` guarded),
used by `Props.C07.v1_readers_pinned_counterexample` -/
def pinnedTable : List (String × Bool × List String) :=
  Generated.V1Methods.v1IdMethods.map fun (n, _, fs) =>
    (n, decide (n ∈ ["KeyStore.GetPeerPublicKey", "KeyStore.GenerateConnectorKeys", "KeyStore.GenerateServerKeys",
      "KeyStore.GenerateTranslatorKeys", "KeyStore.GenerateDataEncryptionKeys", "KeyStore.SaveDataEncryptionKeys",
      "KeyStore.GenerateHmacKey", "KeyStore.GenerateClientIDSymmetricKey"]), fs)

/-- what the file system, the clock and the temporary-name generator contribute -/
structure Env where
  /-- the key (and, for the rotated destroyers, its history directory) exists and opens -/
  present : Bool
  /-- names `ReadDir(<private file>.old)` returns (regular files only), in directory order -/
  privHist : List Bytes
  /-- names `ReadDir(<public file>.old)` returns -/
  pubHist : List Bytes
  /-- what `TempFile` appends to the private / public file name -/
  tmpPriv : Bytes
  tmpPub : Bytes
  /-- the time stamps `getNewHistoricalFileName` formats for the private / public file -/
  tsPriv : Bytes
  tsPub : Bytes
  /-- index argument of the `DestroyRotated…` methods -/
  index : Nat
deriving Repr

/-- names a real directory listing, the time formatter and `ioutil.TempFile` can produce: directory
entries are ordinary components; the temporary suffix (digits in Go) holds no separator; the time stamp
parses back under the history format -/
structure Env.WellFormed (e : Env) : Prop where
  privHist : ∀ n ∈ e.privHist, GoodComp n
  pubHist : ∀ n ∈ e.pubHist, GoodComp n
  tmpPriv : slash ∉ e.tmpPriv
  tmpPub : slash ∉ e.tmpPub
  tsPriv : isTimestamp e.tsPriv = true
  tsPub : isTimestamp e.tsPub = true

def serverName (id : Bytes) : Bytes := id ++ sServer
def translatorName (id : Bytes) : Bytes := id ++ sTranslator
def oldDir (f : Bytes) : Bytes := f ++ sOld
def histFile (f n : Bytes) : Bytes := f ++ sOld ++ slash :: n

/-- `WriteKeyFile(f)`: `TempFile(f)`, `WriteFile(tmp)`, `Stat(f)`, if it exists `MkdirAll(f.old)` and
`Link/Copy(f, f.old/<time stamp>)`, `Rename(tmp, f)` -/
def writeKeyFile (f tmp ts : Bytes) (existed : Bool) : List Bytes :=
  [f ++ tmp, f] ++ (if existed then [oldDir f, histFile f ts] else [])

/-- `SaveKeyPairWithFilename(f)`: the private file, then `<f>.pub` -/
def savePair (f : Bytes) (e : Env) : List Bytes :=
  writeKeyFile f e.tmpPriv e.tsPriv e.present ++ writeKeyFile (f ++ sPub) e.tmpPub e.tsPub e.present

/-- `GetHistoricalPrivateKeyFilenames(f)` + one read per name (newest first); a failing first read
ends the loop -/
def readAll (f : Bytes) (e : Env) : List Bytes :=
  [oldDir f, f] ++ (if e.present then e.privHist.reverse.map (histFile f) else [])

/-- `destroyRotatedKeyByIndex(f, index)` over the listing `hist` -/
def destroyRotated (f : Bytes) (hist : List Bytes) (index : Nat) : List Bytes × Bool :=
  if 2 ≤ index ∧ index ≤ hist.length + 1 then
    match hist[index - 2]? with
    | some n => ([oldDir f, histFile f n], true)
    | none => ([oldDir f], false)
  else ([oldDir f], false)

/-- the paths method `m` hands to the storage for client id `id` (relative to the key folder) -/
def touched (m : Method) (id : Bytes) (e : Env) : List Bytes :=
  match m with
  | .getClientIDEncryptionPublicKey => [storagePubName id]
  | .getPeerPublicKey => [id ++ sPub]
  | .getPrivateKey => [serverName id]
  | .getServerDecryptionPrivateKey => [storageName id]
  | .getServerDecryptionPrivateKeys => readAll (storageName id) e
  | .generateConnectorKeys => savePair id e
  | .generateServerKeys => savePair (serverName id) e
  | .generateTranslatorKeys => savePair (translatorName id) e
  | .generateDataEncryptionKeys | .saveDataEncryptionKeys => savePair (storageName id) e
  | .getHMACSecretKey => [hmacName id]
  | .generateHmacKey => writeKeyFile (hmacName id) e.tmpPriv e.tsPriv e.present
  | .generateClientIDSymmetricKey => writeKeyFile (symName id) e.tmpPriv e.tsPriv e.present
  | .getClientIDSymmetricKeys => readAll (symName id) e
  | .getClientIDSymmetricKey => [symName id]
  | .destroyClientIDEncryptionKeyPair => [storageName id, storagePubName id]
  | .destroyClientIDSymmetricKey => [symName id]
  | .destroyHmacSecretKey => [hmacName id, hmacName id ++ sPub]
  | .destroyRotatedClientIDEncryptionKeyPair =>
    if e.present then
      let d := destroyRotated (storageName id) e.privHist e.index
      if d.2 then d.1 ++ (destroyRotated (storagePubName id) e.pubHist e.index).1 else d.1
    else [oldDir (storageName id)]
  | .destroyRotatedClientIDSymmetricKey =>
    if e.present then (destroyRotated (symName id) e.privHist e.index).1 else [oldDir (symName id)]
  | .destroyRotatedHmacSecretKey =>
    if e.present then (destroyRotated (hmacName id) e.privHist e.index).1 else [oldDir (hmacName id)]
  | .translatorCheckIfPrivateKeyExists | .translatorGetPrivateKey => [translatorName id]

/-- one call: `none` = refused with `ErrInvalidClientID` before anything is touched -/
def accessWith (table : List (String × Bool × List String)) (m : Method) (id : Bytes) (e : Env) : Option (List Bytes) :=
  if validatesIn table m && !validateID id then none else some (touched m id e)

def access (m : Method) (id : Bytes) (e : Env) : Option (List Bytes) := accessWith Generated.V1Methods.v1IdMethods m id e

theorem validatesIn_of_all {table : List (String × Bool × List String)} {m : Method}
    (hm : m.goName ∈ table.map (·.1)) (hall : (table.all fun r => r.2.1) = true) : validatesIn table m = true := by
  obtain ⟨r, hr, hrn⟩ := List.mem_map.mp hm
  unfold validatesIn
  cases hf : table.find? (·.1 = m.goName) with
  | none => exact absurd (decide_eq_true hrn) (List.find?_eq_none.mp hf r hr)
  | some x => exact List.all_eq_true.mp hall x (List.mem_of_find?_eq_some hf)

theorem access_some {m : Method} {id : Bytes} {e : Env} {ps : List Bytes} (hm : m.validates = true)
    (h : access m id e = some ps) : validateID id = true ∧ ps = touched m id e := by
  rw [access, accessWith, show validatesIn _ m = true from hm] at h
  cases hid : validateID id with
  | false => rw [hid] at h; cases h
  | true => rw [hid] at h; exact ⟨rfl, (Option.some.inj h).symm⟩

/-- all paths of a list are made of ordinary components -/
def AllGood (ps : List Bytes) : Prop := ∀ p ∈ ps, ∀ comp ∈ splitSlash p, GoodComp comp

theorem allGood_append {a b : List Bytes} (ha : AllGood a) (hb : AllGood b) : AllGood (a ++ b) :=
  fun p hp => (List.mem_append.mp hp).elim (ha p) (hb p)

theorem allGood_nil : AllGood [] := fun _ hp => nomatch hp

theorem allGood_cons {p : Bytes} {ps : List Bytes} (hp : ∀ comp ∈ splitSlash p, GoodComp comp) (hps : AllGood ps) : AllGood (p :: ps) := by
  intro q hq
  rcases List.mem_cons.mp hq with rfl | h
  · exact hp
  · exact hps q h

/-- the history directory of a stem and a file in it -/
theorem hist_good {f n : Bytes} (hf : Stem f) (hn : GoodComp n) : AllGood [oldDir f, histFile f n] :=
  allGood_cons (hf.append noslash_sOld).path (allGood_cons ((hf.append noslash_sOld).path_sub hn) allGood_nil)

theorem writeKeyFile_good {f : Bytes} (hf : Stem f) {tmp ts : Bytes} (ex : Bool) (htmp : slash ∉ tmp)
    (hts : isTimestamp ts = true) : AllGood (writeKeyFile f tmp ts ex) := by
  refine allGood_append (allGood_cons (hf.append htmp).path (allGood_cons hf.path allGood_nil)) ?_
  cases ex
  · exact allGood_nil
  · exact hist_good hf (isTimestamp_good hts)

theorem savePair_good {f : Bytes} (hf : Stem f) {e : Env} (he : e.WellFormed) : AllGood (savePair f e) :=
  allGood_append (writeKeyFile_good hf _ he.tmpPriv he.tsPriv) (writeKeyFile_good (hf.append noslash_sPub) _ he.tmpPub he.tsPub)

theorem readAll_good {f : Bytes} (hf : Stem f) (e : Env) (hh : ∀ n ∈ e.privHist, GoodComp n) : AllGood (readAll f e) := by
  refine allGood_append (allGood_cons (hf.append noslash_sOld).path (allGood_cons hf.path allGood_nil)) ?_
  cases e.present
  · exact allGood_nil
  · intro p hp
    obtain ⟨n, hn, rfl⟩ := List.mem_map.mp hp
    exact (hf.append noslash_sOld).path_sub (hh n (List.mem_reverse.mp hn))

theorem destroyRotated_good {f : Bytes} (hf : Stem f) (hist : List Bytes) (i : Nat) (hh : ∀ n ∈ hist, GoodComp n) :
    AllGood (destroyRotated f hist i).1 := by
  have hold : AllGood [oldDir f] := allGood_cons (hf.append noslash_sOld).path allGood_nil
  unfold destroyRotated
  split
  · cases hg : hist[i - 2]? with
    | none => exact hold
    | some n => exact hist_good hf (hh n (List.mem_of_getElem? hg))
  · exact hold

/-- every path a method touches for a valid id is made of ordinary components: the names are stems -/
theorem touched_good {id : Bytes} (hv : validateID id = true) {e : Env} (he : e.WellFormed) (m : Method) :
    AllGood (touched m id e) := by
  have hid := Stem.of_valid hv
  have S : Stem (storageName id) := hid.append noslash_sStorage
  have SP : Stem (storagePubName id) := S.append noslash_sPub
  have Sym : Stem (symName id) := S.append noslash_sSym
  have H : Stem (hmacName id) := hid.append noslash_sHmac
  have Sv : Stem (serverName id) := hid.append noslash_sServer
  have T : Stem (translatorName id) := hid.append noslash_sTranslator
  have one {f : Bytes} (hf : Stem f) : AllGood [f] := allGood_cons hf.path allGood_nil
  cases m
  case getClientIDEncryptionPublicKey => exact one SP
  case getPeerPublicKey => exact one (hid.append noslash_sPub)
  case getPrivateKey => exact one Sv
  case getServerDecryptionPrivateKey => exact one S
  case getServerDecryptionPrivateKeys => exact readAll_good S e he.privHist
  case generateConnectorKeys => exact savePair_good hid he
  case generateServerKeys => exact savePair_good Sv he
  case generateTranslatorKeys => exact savePair_good T he
  case generateDataEncryptionKeys => exact savePair_good S he
  case saveDataEncryptionKeys => exact savePair_good S he
  case getHMACSecretKey => exact one H
  case generateHmacKey => exact writeKeyFile_good H _ he.tmpPriv he.tsPriv
  case generateClientIDSymmetricKey => exact writeKeyFile_good Sym _ he.tmpPriv he.tsPriv
  case getClientIDSymmetricKeys => exact readAll_good Sym e he.privHist
  case getClientIDSymmetricKey => exact one Sym
  case destroyClientIDEncryptionKeyPair => exact allGood_cons S.path (one SP)
  case destroyClientIDSymmetricKey => exact one Sym
  case destroyHmacSecretKey => exact allGood_cons H.path (one (H.append noslash_sPub))
  case destroyRotatedClientIDEncryptionKeyPair =>
    have h1 := destroyRotated_good S e.privHist e.index he.privHist
    simp only [touched]
    split
    · split
      · exact allGood_append h1 (destroyRotated_good SP e.pubHist e.index he.pubHist)
      · exact h1
    · exact one (S.append noslash_sOld)
  case destroyRotatedClientIDSymmetricKey =>
    simp only [touched]
    split
    · exact destroyRotated_good Sym e.privHist e.index he.privHist
    · exact one (Sym.append noslash_sOld)
  case destroyRotatedHmacSecretKey =>
    simp only [touched]
    split
    · exact destroyRotated_good H e.privHist e.index he.privHist
    · exact one (H.append noslash_sOld)
  case translatorCheckIfPrivateKeyExists => exact one T
  case translatorGetPrivateKey => exact one T

end AcraModel.KeystoreSec.V1Methods
