/-!
# acra-censor inside the proxies: what a session forwards and how responses stay paired

Model of the client→database loop of the PostgreSQL proxy
(`/repo/decryptor/postgresql/pg_decryptor.go`: `ProxyClientConnection`, `handleClientPacket` case
`SimpleQueryPacket`, `handleQueryPacket`, `sendClientError`) together with the part of the
database→client side that consumes the pending-statement queue (`protocol.go`:
`HandleDatabasePacket` on CommandComplete/EmptyQuery/PortalSuspended/ErrorResponse removes the front
entry; `handleQueryDataPacket` processes data rows with the *front* entry's SQL text), and of the
MySQL loop (`/repo/decryptor/mysql/response_proxy.go`: `ProxyClientConnection`, cases
`CommandQuery`/`CommandStatementPrepare`).

The firewall is a parameter `denied : String → Bool` (instantiated with `Chain.handleQuery` in
`Props/C05.lean`). Whether the statement is remembered as pending *before* the firewall is asked is a
parameter too (`addFirst`) – its value for the current source is the regenerated fact
`Generated.CensorTable.pgSimpleQueryCalls`.
-/
namespace AcraModel.Censor.Session

/-- What happens on the two connections of a session. -/
inductive Ev where
  /-- the client sends a statement (PostgreSQL `Query` message / MySQL `COM_QUERY`) -/
  | query (q : String)
  /-- the database reports the end of the oldest outstanding statement (CommandComplete, ErrorResponse …) -/
  | dbDone
deriving Repr, DecidableEq

/-- Observable effects. -/
inductive Obs where
  /-- the statement's packet is written to the database connection (`packet.sendPacket()`) -/
  | forwardDb (q : String)
  /-- `sendClientError`: ErrorResponse … -/
  | clientError
  /-- … followed by ReadyForQuery -/
  | clientReady
  /-- a database response was processed with this statement's text (`none`: no pending entry) -/
  | paired (q : Option String)
deriving Repr, DecidableEq

/-- `PgProtocolState.pendingQueryPackets` restricted to `queryPacket`s of simple queries (a FIFO). -/
structure St where
  pending : List String
deriving Repr, DecidableEq

variable (denied : String → Bool) (addFirst : Bool)

/-- One client statement: `handleClientPacket` (case `SimpleQueryPacket`) then the `if censored`
branch of `ProxyClientConnection`. -/
def stepQuery (st : St) (q : String) : St × List Obs :=
  if addFirst then
    -- pinned tree before the repair: `pendingQueryPackets.Add` precedes `handleQueryPacket`
    let st' : St := ⟨st.pending ++ [q]⟩
    if denied q then (st', [.clientError, .clientReady]) else (st', [.forwardDb q])
  else
    if denied q then (st, [.clientError, .clientReady]) else (⟨st.pending ++ [q]⟩, [.forwardDb q])

/-- One end-of-statement from the database: the response is processed with the front entry, which is then removed
(`GetPendingPacket` / `RemoveNextPendingPacket`). -/
def stepDone (st : St) : St × List Obs :=
  match st.pending with
  | [] => (st, [.paired none])
  | q :: r => (⟨r⟩, [.paired (some q)])

def step (st : St) : Ev → St × List Obs
  | .query q => stepQuery denied addFirst st q
  | .dbDone => stepDone st

def run : St → List Ev → St × List Obs
  | st, [] => (st, [])
  | st, e :: es =>
    let (st', o) := step denied addFirst st e
    let (st'', os) := run st' es
    (st'', o ++ os)

/-- Statements that reached the database, in order. -/
def forwarded : List Obs → List String
  | [] => []
  | .forwardDb q :: r => q :: forwarded r
  | _ :: r => forwarded r

/-- The statements database responses were processed with, in order. -/
def pairedWith : List Obs → List (Option String)
  | [] => []
  | .paired q :: r => q :: pairedWith r
  | _ :: r => pairedWith r

/-- Number of error+ready pairs sent to the client. -/
def clientErrors : List Obs → Nat
  | [] => 0
  | .clientError :: .clientReady :: r => clientErrors r + 1
  | _ :: r => clientErrors r

/-- The statements of an event list the firewall lets through, in order. -/
def allowedOf : List Ev → List String
  | [] => []
  | .query q :: r => if denied q then allowedOf r else q :: allowedOf r
  | .dbDone :: r => allowedOf r

def deniedCount : List Ev → Nat
  | [] => 0
  | .query q :: r => (if denied q then 1 else 0) + deniedCount r
  | .dbDone :: r => deniedCount r

def doneCount : List Ev → Nat
  | [] => 0
  | .query _ :: r => doneCount r
  | .dbDone :: r => doneCount r + 1

/-- The database answers only statements it received: with `n` statements outstanding, no prefix of the
event list contains more `dbDone` than `n` + the statements forwarded so far. -/
def wellFormed : Nat → List Ev → Bool
  | _, [] => true
  | n, .query q :: r => wellFormed (if denied q then n else n + 1) r
  | n, .dbDone :: r => n > 0 && wellFormed (n - 1) r

/-- "the statement is remembered only after the censor": in the ordered call list of the `SimpleQueryPacket` case no
`Add` comes before `handleQueryPacket` (and both occur). -/
def addAfterCensor (calls : List String) : Bool :=
  (calls.takeWhile (· != "handleQueryPacket")).all (· != "Add") && calls.contains "handleQueryPacket" && calls.contains "Add"

/-! ### MySQL (`response_proxy.go`, cases CommandQuery / CommandStatementPrepare)

No queue: a denied statement gets one ERR packet and the loop continues before a response handler is installed and
before the packet is written to the database; an allowed one is written to the database. -/

def myStep (q : String) : List Obs :=
  if denied q then [.clientError] else [.forwardDb q]

def myRun : List String → List Obs
  | [] => []
  | q :: qs => myStep denied q ++ myRun qs

theorem forwarded_myRun (qs : List String) : forwarded (myRun denied qs) = qs.filter (fun q => !denied q) := by
  induction qs with
  | nil => rfl
  | cons q qs ih =>
    simp only [myRun, myStep]
    cases hd : denied q <;> simp [forwarded, ih, hd]

@[simp] theorem forwarded_append (a b : List Obs) : forwarded (a ++ b) = forwarded a ++ forwarded b := by
  induction a with
  | nil => rfl
  | cons x xs ih => cases x <;> simp [forwarded, ih]

@[simp] theorem pairedWith_append (a b : List Obs) : pairedWith (a ++ b) = pairedWith a ++ pairedWith b := by
  induction a with
  | nil => rfl
  | cons x xs ih => cases x <;> simp [pairedWith, ih]

/-- The database-side trace is exactly the allowed statements – whatever the order of `Add`. -/
theorem forwarded_run (st : St) (evs : List Ev) :
    forwarded (run denied addFirst st evs).2 = allowedOf denied evs := by
  induction evs generalizing st with
  | nil => rfl
  | cons e es ih =>
    cases e with
    | query q =>
      simp only [run, step, stepQuery, allowedOf]
      cases addFirst <;> cases hd : denied q <;> simp [forwarded, ih]
    | dbDone =>
      simp only [run, step, stepDone, allowedOf]
      cases st.pending <;> simp [forwarded, ih]

theorem not_mem_allowedOf {q : String} (hq : denied q = true) : ∀ evs : List Ev, q ∉ allowedOf denied evs
  | [] => List.not_mem_nil
  | .dbDone :: es => not_mem_allowedOf hq es
  | .query x :: es => by
    rw [allowedOf]
    split
    · exact not_mem_allowedOf hq es
    · next hx =>
      rw [List.mem_cons, not_or]
      exact ⟨fun e => hx (e ▸ hq), not_mem_allowedOf hq es⟩

theorem clientErrors_run (st : St) (evs : List Ev) :
    clientErrors (run denied addFirst st evs).2 = deniedCount denied evs := by
  induction evs generalizing st with
  | nil => rfl
  | cons e es ih =>
    cases e with
    | query q =>
      simp only [run, step, stepQuery, deniedCount]
      cases addFirst <;> cases hd : denied q <;> simp [clientErrors, ih] <;> omega
    | dbDone =>
      simp only [run, step, stepDone, deniedCount]
      cases st.pending <;> simp [clientErrors, ih]

/-- With `Add` after the firewall: the queue always holds the allowed statements not yet answered, and the
responses are processed with the allowed statements in order. -/
theorem aligned_run (st : St) (evs : List Ev) (hwf : wellFormed denied st.pending.length evs = true) :
    (run denied false st evs).1.pending = (st.pending ++ allowedOf denied evs).drop (doneCount evs)
    ∧ pairedWith (run denied false st evs).2
        = ((st.pending ++ allowedOf denied evs).take (doneCount evs)).map some := by
  induction evs generalizing st with
  | nil => simp [run, allowedOf, doneCount, pairedWith]
  | cons e es ih =>
    cases e with
    | query q =>
      simp only [run, step, stepQuery, allowedOf, doneCount, wellFormed] at hwf ⊢
      cases hd : denied q
      · simp only [hd] at hwf
        have := ih ⟨st.pending ++ [q]⟩ (by simpa using hwf)
        simpa [pairedWith, hd] using this
      · simp only [hd] at hwf
        have := ih st (by simpa using hwf)
        simpa [pairedWith, hd] using this
    | dbDone =>
      simp only [wellFormed, Bool.and_eq_true, decide_eq_true_eq] at hwf
      obtain ⟨hpos, hwf⟩ := hwf
      match hp : st.pending with
      | [] => simp [hp] at hpos
      | p :: ps =>
        have hlen : ps.length = st.pending.length - 1 := by simp [hp]
        have := ih ⟨ps⟩ (by simpa [hlen] using hwf)
        simp only [run, step, stepDone, hp, doneCount, allowedOf]
        simpa [pairedWith] using this

end AcraModel.Censor.Session
