/-!
# acra-censor: the handler chain (`AcraCensor.HandleQuery`)

Model of `/repo/acra-censor/acra-censor_implementation.go` (`HandleQuery`) and of the `CheckQuery`
methods in `/repo/acra-censor/handlers/{allow,deny,allowall,denyall,queryignore,querycapture}_handler.go`,
followed line by line. The parser (`sqlparser.Parser.HandleRawSQLQuery`) is *not* modelled: a statement
arrives as its raw text plus – when the parser accepted it – the normalised text (`sqlparser.String` of
the parse tree) and the parse tree itself. How a parse tree is matched against table rules and
patterns is a parameter (`Sem`); `Censor/Match.lean` provides the concrete instance over `Tree`.
-/
namespace AcraModel.Censor

/-- Rule set of an allow/deny handler: `queries` holds the *normalised* texts
(`AddQueries` stores `HandleRawSQLQuery(q).normalizedQuery`), `tables` the configured names,
`patterns` the parsed patterns (`common.ParsePatterns`). Go keeps the first two as `map[string]bool`;
only membership is ever asked, so a list is the same thing. -/
structure Rules (P : Type) where
  queries : List String
  tables : List String
  patterns : List P
deriving Repr

/-- The six handler kinds of `LoadConfiguration`'s switch. `ignore` carries the key set of
`QueryIgnoreHandler.ignoredQueries` (each configured text and – when it parses – its normal form). -/
inductive Handler (P : Type) where
  | allow (r : Rules P)
  | deny (r : Rules P)
  | allowAll
  | denyAll
  | ignore (qs : List String)
  | capture
deriving Repr

structure Cfg (P : Type) where
  /-- `ignore_parse_error` -/
  ignoreParseError : Bool
  /-- `parse_errors_log` is set (`unparsedQueriesWriter != nil`) -/
  hasParseErrLog : Bool
  handlers : List (Handler P)
deriving Repr

/-- What the parser returns for an accepted statement. -/
structure Parsed (A : Type) where
  norm : String
  ast : A
deriving Repr

structure Stmt (A : Type) where
  raw : String
  /-- `none` ⇔ `HandleRawSQLQuery` returned `ErrQuerySyntaxError` (then `normalizedQuery = ""`, `parsedQuery = nil`). -/
  parsed : Option (Parsed A)
deriving Repr

/-- Matching of parse trees: `tables a T` = `common.CheckTableNamesMatch(a, T)` =
(at least one table of the statement is in `T`, all tables are in `T`); `pat a p` =
`checkSinglePatternMatch(a, p)`. -/
structure Sem (A P : Type) where
  tables : A → List String → Bool × Bool
  pat : A → P → Bool

inductive Verdict where
  | allow
  | deny
deriving Repr, DecidableEq

/-- Result of one handler: `(continueHandling = false, err = nil)`, `(_, err ≠ nil)`, `(true, nil)`. -/
inductive Step where
  | allow
  | deny
  | next
deriving Repr, DecidableEq

variable {A P : Type}

/-- The three checks of `AllowHandler.CheckQuery` / `DenyHandler.CheckQuery` in source order; `pick`
selects the component of `CheckTableNamesMatch`'s result the handler looks at
(`allTablesInWhitelist` for allow, `atLeastOneTableInBlacklist` for deny). -/
def rulesHit (sem : Sem A P) (pick : Bool × Bool → Bool) (r : Rules P) (p : Parsed A) : Bool :=
  (!r.queries.isEmpty && r.queries.contains p.norm)
  || (!r.tables.isEmpty && pick (sem.tables p.ast r.tables))
  || (!r.patterns.isEmpty && r.patterns.any (sem.pat p.ast))

/-- `sqlparser.String(nil)`: what `QueryIgnoreHandler.CheckQuery` computes as `normalizedQ` for a
statement that did not parse (`parsedQuery = nil`). -/
def nilString : String := "<nil>"

/-- `sqlparser.String(parsedQuery)` as computed by `QueryIgnoreHandler.CheckQuery(rawQuery, parsedQuery)`. -/
def Stmt.normOrNil (s : Stmt A) : String :=
  match s.parsed with
  | some p => p.norm
  | none => nilString

/-- One handler, as dispatched inside the loop of `HandleQuery`. -/
def Handler.check (sem : Sem A P) (s : Stmt A) : Handler P → Step
  | .capture => .next
  | .ignore qs => if qs.contains s.normOrNil || qs.contains s.raw then .allow else .next
  | .allowAll => .allow
  | .denyAll => .deny
  | .allow r =>
    match s.parsed with
    | none => .next
    | some p => if rulesHit sem (·.2) r p then .allow else .next
  | .deny r =>
    match s.parsed with
    | none => .next
    | some p => if rulesHit sem (·.1) r p then .deny else .next

/-- The `for _, handler := range acraCensor.handlers` loop; falling off the end allows. -/
def runChain (sem : Sem A P) (s : Stmt A) : List (Handler P) → Verdict
  | [] => .allow
  | h :: hs =>
    match h.check sem s with
    | .allow => .allow
    | .deny => .deny
    | .next => runChain sem s hs

/-- A censor without handlers and without a parse-error log "won't work" (first `if` of `HandleQuery`). -/
def Cfg.active (cfg : Cfg P) : Bool := !(cfg.handlers.isEmpty && !cfg.hasParseErrLog)

/-- `AcraCensor.HandleQuery`. -/
def handleQuery (sem : Sem A P) (cfg : Cfg P) (s : Stmt A) : Verdict :=
  if !cfg.active then .allow
  else if s.parsed.isNone && !cfg.ignoreParseError then .deny
  else runChain sem s cfg.handlers

def Step.toVerdict? : Step → Option Verdict
  | .allow => some .allow
  | .deny => some .deny
  | .next => none

/-- a non-empty rule list of one of the three kinds that the statement hits -/
theorem rulesHit_of {sem : Sem A P} {pick : Bool × Bool → Bool} {r : Rules P} {p : Parsed A}
    (hit : r.queries.contains p.norm = true ∨ pick (sem.tables p.ast r.tables) = true ∧ r.tables ≠ []
            ∨ r.patterns.any (sem.pat p.ast) = true) : rulesHit sem pick r p = true := by
  have ne {α : Type} {l : List α} (h : l ≠ []) : l.isEmpty = false := by cases l <;> simp_all
  unfold rulesHit
  rcases hit with h | ⟨h, hne⟩ | h
  · simp only [h, ne (l := r.queries) (by rintro e; simp [e] at h), Bool.not_false, Bool.and_self, Bool.true_or]
  · simp only [h, ne hne, Bool.not_false, Bool.and_self, Bool.true_or, Bool.or_true]
  · simp only [h, ne (l := r.patterns) (by rintro e; simp [e] at h), Bool.not_false, Bool.and_self, Bool.or_true]

theorem runChain_append_next (sem : Sem A P) (s : Stmt A) (pre post : List (Handler P))
    (h : ∀ x ∈ pre, x.check sem s = .next) :
    runChain sem s (pre ++ post) = runChain sem s post := by
  induction pre with
  | nil => rfl
  | cons x xs ih =>
    have hx := h x (by simp)
    simp only [List.cons_append, runChain, hx]
    exact ih (fun y hy => h y (by simp [hy]))

theorem runChain_decisive (sem : Sem A P) (s : Stmt A) (pre post : List (Handler P)) (d : Handler P) (v : Verdict)
    (h : ∀ x ∈ pre, x.check sem s = .next) (hd : (d.check sem s).toVerdict? = some v) :
    runChain sem s (pre ++ d :: post) = v := by
  rw [runChain_append_next sem s pre _ h]
  simp only [runChain]
  cases hc : d.check sem s <;> simp [hc, Step.toVerdict?] at hd ⊢ <;> exact hd

/-- No handler of the list stops with "allow" ⇒ the chain never allows before its end. -/
theorem runChain_no_allow_then_deny (sem : Sem A P) (s : Stmt A) (pre post : List (Handler P))
    (h : ∀ x ∈ pre, x.check sem s ≠ .allow) :
    runChain sem s (pre ++ .denyAll :: post) = .deny := by
  induction pre with
  | nil => simp [runChain, Handler.check]
  | cons x xs ih =>
    have hx := h x (by simp)
    simp only [List.cons_append, runChain]
    cases hc : x.check sem s with
    | allow => exact absurd hc hx
    | deny => rfl
    | next => exact ih (fun y hy => h y (by simp [hy]))

/-- The raw text is looked at by `ignore` handlers only. -/
theorem check_raw_irrelevant (sem : Sem A P) (s₁ s₂ : Stmt A) (hp : s₁.parsed = s₂.parsed) (h : Handler P)
    (hi : ∀ qs, h = .ignore qs → (qs.contains s₁.raw = qs.contains s₂.raw)) :
    h.check sem s₁ = h.check sem s₂ := by
  cases h with
  | ignore qs =>
    have := hi qs rfl
    have hn : s₁.normOrNil = s₂.normOrNil := by simp [Stmt.normOrNil, hp]
    simp only [Handler.check, this, hn]
  | allow r => simp [Handler.check, hp]
  | deny r => simp [Handler.check, hp]
  | _ => rfl

theorem runChain_raw_irrelevant (sem : Sem A P) (s₁ s₂ : Stmt A) (hp : s₁.parsed = s₂.parsed) (hs : List (Handler P))
    (hi : ∀ qs, Handler.ignore qs ∈ hs → (qs.contains s₁.raw = qs.contains s₂.raw)) :
    runChain sem s₁ hs = runChain sem s₂ hs := by
  induction hs with
  | nil => rfl
  | cons x xs ih =>
    have hx := check_raw_irrelevant sem s₁ s₂ hp x (fun qs e => hi qs (by simp [e]))
    simp only [runChain, hx]
    cases x.check sem s₂ <;> simp
    exact ih (fun qs hq => hi qs (by simp [hq]))

end AcraModel.Censor
