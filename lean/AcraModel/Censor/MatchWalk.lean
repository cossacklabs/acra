import AcraModel.Censor.MatchTyping
/-!
# The lock-step walk of (statement, pattern): executable definitions only

Definitions used by the driver (`C05.identsound`, `C05.tableok`) and by the theorems of `MatchSound.lean` /
`MatchIdent.lean`. No proofs and no `decide`d facts about the regenerated table live here, so the model driver builds
whatever the table of the current source looks like. See `MatchIdent.lean` for what is proved about them.
-/
namespace AcraModel.Censor.Match
open AcraModel AcraModel.Censor Generated.CensorTable

variable (call : String → Tree → Tree → Bool) (esc : String → Tree → Bool) (q p : Tree)

def Res.isPass : Res → Bool
  | .pass => true
  | _ => false

def Res.isRetTrue : Res → Bool
  | .ret true => true
  | _ => false

/-- every atom of the step (at every loop index) passes -/
def cstepPasses : CStep → Bool
  | .atom a => (atomAt call esc q p none a).isPass
  | .range o body =>
    match selO none q p o with
    | none => false
    | some l => (List.range l.kids.length).all fun i => body.all fun a => (atomAt call esc q p (some i) a).isPass

/-- some atom of the step (at some loop index) stops the function with `true` -/
def cstepRetTrue : CStep → Bool
  | .atom a => (atomAt call esc q p none a).isRetTrue
  | .range o body =>
    match selO none q p o with
    | none => false
    | some l => (List.range l.kids.length).any fun i => body.any fun a => (atomAt call esc q p (some i) a).isRetTrue

end AcraModel.Censor.Match

namespace AcraModel.Censor.Match
open AcraModel AcraModel.Censor Generated.CensorTable

/-- `(a, b)` = (`query.X`, `pattern.X`): the same selector on the two different trees -/
def pairQP (a b : Opnd) : Bool := a.onQ && !b.onQ && a.rootIdx == b.rootIdx && a.path == b.path

def atomPairs : AStep → Bool
  | .len a b => pairQP a b
  | .ne a b => pairQP a b
  | .cmp _ a b => pairQP a b
  | .cmpNeg _ a b => pairQP a b
  | .cmpEsc _ ea _ a b => pairQP a b && !ea.onQ
  | .shortcut o _ => !o.onQ
  | _ => true

def cstepPairs : CStep → Bool
  | .atom a => atomPairs a
  | .range o body => !o.onQ && body.all atomPairs

def switchRowPairs (c : String × String × String × String) : Bool :=
  c.2.1 == "special" || pairQP (parseOpnd c.2.2.1) (parseOpnd c.2.2.2)

/-- **every comparison of the regenerated table compares a part of the query with the same part of the pattern** -/
def tablePairsOk : Bool :=
  compiled.all (fun e => e.2.2.all cstepPairs) && typeSwitches.all (fun e => e.2.all switchRowPairs)

/-- the operand pairs of the table, for reading: (function, [(query operand, pattern operand)]) -/
def operandPairs : List (String × List (String × String)) :=
  comparators.map fun e => (e.1, (e.2.2.filter fun r => r.2.2.2 != "" && r.1 != "cast" && r.1 != "shortcut").map fun r => (r.2.2.1, r.2.2.2))

/-- `x`, `x[i]`, then the path components: the operand `o` read on the tree `x` (whichever side `o` names) -/
def selSide (i : Option Nat) (x : Tree) (o : Opnd) : Option Tree :=
  o.path.foldl (fun acc c => acc.bind fun t => stepComp i t c) (if o.rootIdx then i.bind (x.kids[·]?) else some x)

/-- the comparison (callee, query-side operand, pattern-side operand) that has to succeed for the body to go on -/
def atomSite : AStep → Option (String × Opnd × Opnd)
  | .cmp c a b => some (c, a, b)
  | .cmpEsc _ _ c a b => some (c, a, b)
  | .ne a b => some ("reflect.DeepEqual", a, b)
  | _ => none

/-- `(callee, x, y)`: the query-side operand of the site read on the statement **and on the pattern** -/
def sitePair (i : Option Nat) (q p : Tree) (s : String × Opnd × Opnd) : Option (String × Tree × Tree) :=
  match selSide i q s.2.1, selSide i p s.2.1 with
  | some x, some y => some (s.1, x, y)
  | _, _ => none

def atomSub (i : Option Nat) (q p : Tree) (a : AStep) : Option (String × Tree × Tree) :=
  (atomSite a).bind (sitePair i q p)

/-- the calls one step of a comparator body makes (lock-step) -/
def cstepSubs (q p : Tree) : CStep → List (String × Tree × Tree)
  | .atom a => (atomSub none q p a).toList
  | .range o body =>
    match selSide none p o with
    | none => []
    | some l => (List.range l.kids.length).flatMap fun i => body.filterMap (atomSub (some i) q p)

def switchSubs (fn : String) (q p : Tree) : List (String × Tree × Tree) :=
  match (typeSwitches.lookup fn).bind (·.find? (·.1 == p.kind)) with
  | some (_, callee, qa, _) =>
    if callee == "special" then []
    else
      match selSide none q (parseOpnd qa), selSide none p (parseOpnd qa) with
      | some x, some y => [(callee, x, y)]
      | _, _ => []
  | none => []

def zipCalls (c : String) (qs ps : List Tree) : List (String × Tree × Tree) := (qs.zip ps).map fun e => (c, e.1, e.2)

def loneStar (p : Tree) : Bool := p.kids.length == 1 && (p.kids.head?.map (·.kind)) == some "StarExpr"

def specialSubs (fn : String) (q p : Tree) : List (String × Tree × Tree) :=
  if fn == "areEqualSubquery" then [("areEqualSelectStatement", fld q "Select", fld p "Select")]
  else if fn == "areEqualValTuple" then zipCalls "areEqualExpr" q.kids p.kids
  else if fn == "areEqualSelectExprs" then zipCalls "areEqualSelectExpr" q.kids p.kids
  else if fn == "areEqualSelectExpr" then
    if p.kind == "StarExpr" then [("areEqualTableName", fld q "TableName", fld p "TableName")]
    else if p.kind == "AliasedExpr" then (if q.kind == "AliasedExpr" then [("areEqualAliasedExpr", q, p)] else [])
    else switchSubs fn q p
  else if fn == "areEqualInsertRows" then
    if p.kind == "Values" then zipCalls "areEqualValTuple" q.kids p.kids else switchSubs fn q p
  else if fn == "areEqualExpr" then
    if p.kind == "SQLVal" then (if q.kind == "SQLVal" then [("areEqualSQLVal", q, p)] else [])
    else if p.kind == "ColName" then (if q.kind == "ColName" then [("areEqualColName", q, p)] else [])
    else switchSubs fn q p
  else []

/-- the call `fn(q, p)` is answered `true` without (all of) its comparisons: a placeholder escape -/
def earlyTrue (call : String → Tree → Tree → Bool) (fn : String) (q p : Tree) : Bool :=
  if fn == "areEqualSubquery" then fld p "Select" == subqueryPattern
  else if fn == "areEqualSelectExprs" then loneStar p
  else if specialFns.contains fn then false
  else
    match compiled.lookup fn with
    | some (_, steps) => steps.any (cstepRetTrue call (escEval call) q p)
    | none => false

/-- the calls `fn(q, p)` makes one level down (lock-step) -/
def subs (fn : String) (q p : Tree) : List (String × Tree × Tree) :=
  if specialFns.contains fn then specialSubs fn q p
  else
    match compiled.lookup fn with
    | some (_, steps) => steps.flatMap (cstepSubs q p)
    | none => switchSubs fn q p

/-- every call `(fuel, callee, part of the statement, the same part of the pattern)` the matcher makes below `fn(q, p)`,
not descending below placeholder escapes and built-in comparisons -/
def reach : Nat → String → Tree → Tree → List (Nat × String × Tree × Tree)
  | 0, fn, q, p => [(0, fn, q, p)]
  | f + 1, fn, q, p =>
    (f + 1, fn, q, p) ::
      (if builtinCmp fn || earlyTrue (evalFn f) fn q p then []
       else (subs fn q p).flatMap fun e => reach f e.1 e.2.1 e.2.2)

/-- the walk for a whole pattern / statement pair (`checkSinglePatternMatch`) -/
def compared (t p : Tree) : List (Nat × String × Tree × Tree) :=
  match patternDispatch.lookup p.kind with
  | some h => reach (fuelFor p) h t p
  | none => []

/-- what "equal table identifiers" means to the matcher: equal after `CompliantName()` up to ASCII letter case -/
def identEq (q p : Tree) : Bool :=
  lowerBytes (compliantName (fld q "v").leafBytes) == lowerBytes (compliantName (fld p "v").leafBytes)

/-- the table-level facts the typing judgement rests on hold for the current source (what `fact_comparators_ok`,
`fact_table_typed`, `fact_switches_typed`, `fact_comparators_compare_pattern_with_query` state): when they do not, an
"ill-typed tree" says nothing about the tree -/
def tableFactsOk : Bool :=
  comparators.all comparatorOk && tablePairsOk && switchFns.all switchTyped
    && (compiled.filter fun e => !okRegular e.1).all fun e => e.2.2 == [.atom (.cmp "reflect.DeepEqual" qWhole pWhole)]

/-- the conclusion of `match_sound_on_identifiers` / `match_sound_on_literals_reached` as a test of one entry of the
lock-step walk `compared` (the driver op `identsound` reports the first entry that fails it) -/
def leafHolds (e : Nat × String × Tree × Tree) : Bool :=
  if e.2.1 == "areEqualTableIdent" then identEq e.2.2.1 e.2.2.2
  else if e.2.1 == "areEqualColIdent" then
    isColumnPattern e.2.2.2 || lowerBytes (fld e.2.2.1 "val").leafBytes == lowerBytes (fld e.2.2.2 "val").leafBytes
  else if e.2.1 == "areEqualSQLVal" then
    isValuePattern e.2.2.2 || isListOfValuesPattern e.2.2.2
      || ((fld e.2.2.1 "Type").leafBytes == (fld e.2.2.2 "Type").leafBytes && (fld e.2.2.1 "Val").leafBytes == (fld e.2.2.2 "Val").leafBytes)
  else true

end AcraModel.Censor.Match
