import AcraModel.Censor.Tree
/-!
# Well-typed parse trees

The typing judgement for the generic trees of `Censor/Tree.lean`, driven by the tables regenerated from
`sqlparser/ast.go` (`Generated.CensorTable.{structFields, fieldTypes, namedTypes, interfaces}`): a tree is
*well typed* when every struct node has exactly the fields of its Go type, every field / slice element holds a
value its static Go type admits (a leaf for strings, booleans, integers and byte strings; a node of the named
type; a node of an implementing type – or nil – for an interface; …).

`harness/internal/c05/ops.go: treeOf` produces the trees by reflection over the real parse tree; the driver op
`C05.typed` runs `wellTypedM` on every tree the harness ships (reported in the evidence).
-/
namespace AcraModel.Censor
open AcraModel Generated.CensorTable

/-- static Go types as far as the reflection dump distinguishes them -/
inductive Ty where
  | leaf
  | struct (k : String)
  | ptr (k : String)
  | iface (i : String)
  | named (n : String)
  | list (elem : Ty)
  | other
deriving Repr, DecidableEq, Inhabited

/-- descriptor `(mode, name, elem)` of the generated tables → `Ty` -/
def tyOfDesc (d : String × String × String) : Ty :=
  let base (mode name : String) : Ty :=
    if mode == "leaf" then .leaf
    else if mode == "struct" then .struct name
    else if mode == "ptr" then .ptr name
    else if mode == "iface" then .iface name
    else if mode == "named" then .named name
    else .other
  if d.1 == "list" then .list (base d.2.2 d.2.1) else base d.1 d.2.1

/-- field types of a struct kind, in declaration order -/
def fieldTys (k : String) : Option (List Ty) :=
  (fieldTypes.lookup k).map fun fs => fs.map fun f => tyOfDesc f.2

/-- static type of field `f` of struct `k` -/
def fieldTy (k f : String) : Option Ty :=
  (fieldTypes.lookup k).bind fun fs => (fs.lookup f).map tyOfDesc

/-- what a named non-struct type is: `some (some e)` a slice of `e`, `some none` a scalar wrapper -/
def namedTy (n : String) : Option (Option Ty) :=
  (namedTypes.lookup n).map fun d => if d.1 == "list" then some (tyOfDesc (d.2.2, d.2.1, "")) else none

def impls (i : String) : List String := (interfaces.lookup i).getD []

def Tree.isNilNode : Tree → Bool
  | .node k ks => k == "nil" && ks.isEmpty
  | .leaf _ => false

def Tree.isLeaf : Tree → Bool
  | .leaf _ => true
  | .node _ _ => false

/-- shallow conformance of a value to a static type: looks at the root kind only (and, for an anonymous
slice, at the kinds of its elements) -/
def conforms : Ty → Tree → Bool
  | .leaf, t => t.isLeaf
  | .struct k, t => t.kind == k
  | .ptr k, t => t.isNilNode || t.kind == k
  | .iface i, t => t.isNilNode || (impls i).contains t.kind
  | .named n, t => t.kind == n
  | .list e, t =>
    t.kind == "list" && (match e with
      | .list _ => false
      | e => t.kids.all fun x =>
        match e with
        | .leaf => x.isLeaf
        | .struct k => x.kind == k
        | .ptr k => x.isNilNode || x.kind == k
        | .iface i => x.isNilNode || (impls i).contains x.kind
        | .named n => x.kind == n
        | _ => false)
  | .other, _ => false

/-- the content of a named scalar (`BoolVal`, `ListArg`): one leaf -/
def isSingleLeaf : List Tree → Bool
  | [.leaf _] => true
  | _ => false

mutual
/-- every node below `t` is a well-formed value of its own (dynamic) type -/
def wf : Tree → Bool
  | .leaf _ => true
  | .node k ks =>
    if k == "nil" then ks.isEmpty
    else if k == "list" then wfAll ks
    else match fieldTys k with
      | some tys => wfFields tys ks
      | none =>
        match namedTy k with
        | some (some e) => wfElems e ks
        | some none => isSingleLeaf ks
        | none => false
/-- the fields of a struct: as many as the type has, each conforming to its static type and well formed -/
def wfFields : List Ty → List Tree → Bool
  | [], [] => true
  | ty :: tys, x :: xs => conforms ty x && wf x && wfFields tys xs
  | _, _ => false
/-- the elements of a named slice -/
def wfElems (e : Ty) : List Tree → Bool
  | [] => true
  | x :: xs => conforms e x && wf x && wfElems e xs
def wfAll : List Tree → Bool
  | [] => true
  | x :: xs => wf x && wfAll xs
end

/-- statement kinds whose patterns support placeholders (the others are compared with `reflect.DeepEqual`) -/
def dmlKinds : List String := ["Select", "Union", "Insert", "Update", "Delete"]

/-- a well-typed statement tree -/
def wellTyped (t : Tree) : Bool := conforms (.iface "Statement") t && !t.isNilNode && wf t

/-- **The typing judgement.** -/
def WellTyped (t : Tree) : Prop := wellTyped t = true

/-- the node kinds the comparators of `matching_logic.go` look at: parameter types of the `handle*`/`areEqual*`
functions (struct, pointer and named types), the cases of their type switches and of `checkSinglePatternMatch` -/
def tableKinds : List String :=
  ((comparatorParams.filterMap fun (_, mode, name, _) => if mode == "iface" then none else some name)
    ++ (typeSwitches.flatMap fun (_, cases) => cases.map (·.1))
    ++ patternDispatch.map (·.1)).eraseDups

mutual
/-- node kinds occurring in a tree (with repetitions) -/
def kindsOf : Tree → List String
  | .leaf _ => []
  | .node k ks => k :: kindsOfList ks
def kindsOfList : List Tree → List String
  | [] => []
  | x :: xs => kindsOf x ++ kindsOfList xs
end

end AcraModel.Censor
