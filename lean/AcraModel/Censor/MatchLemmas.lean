import AcraModel.Censor.MatchTyping
/-!
# Lemmas for the proof of `match_generalise`

1. the interpreter: a comparator body none of whose steps stops with `false` returns `true`;
2. `isGen`: shape of a generalisation (placeholder or node-by-node), alignment of children, rigidity;
3. `wf`: children conform to their declared types.
-/
namespace AcraModel.Censor.Match
open AcraModel AcraModel.Censor Generated.CensorTable

def Res.notFalse : Res → Bool
  | .ret false => false
  | _ => true

variable (call : String → Tree → Tree → Bool) (esc : String → Tree → Bool) (q p : Tree)

theorem eachAt_notFalse (i : Nat) (body : List AStep)
    (h : ∀ a ∈ body, (atomAt call esc q p (some i) a).notFalse = true) :
    (eachAt call esc q p i body).notFalse = true := by
  induction body with
  | nil => rfl
  | cons a as ih =>
    simp only [eachAt]
    have ha := h a (List.mem_cons_self ..)
    split
    · exact ih fun a' ha' => h a' (List.mem_cons_of_mem _ ha')
    · next b hb => rw [hb] at ha; exact ha

theorem loopOver_notFalse (body : List AStep) (is : List Nat)
    (h : ∀ i ∈ is, ∀ a ∈ body, (atomAt call esc q p (some i) a).notFalse = true) :
    (loopOver call esc q p body is).notFalse = true := by
  induction is with
  | nil => rfl
  | cons i is ih =>
    simp only [loopOver]
    have hi := eachAt_notFalse call esc q p i body (h i (List.mem_cons_self ..))
    split
    · exact ih fun j hj => h j (List.mem_cons_of_mem _ hj)
    · next b hb => rw [hb] at hi; exact hi

/-- a step that does not stop with `false` -/
def cstepGood : CStep → Prop
  | .atom a => (atomAt call esc q p none a).notFalse = true
  | .range o body => ∃ l, selO none q p o = some l ∧
      ∀ i, i < l.kids.length → ∀ a ∈ body, (atomAt call esc q p (some i) a).notFalse = true

/-- **no step stops with `false` ⇒ the body returns `true`** -/
theorem runC_true (steps : List CStep) (h : ∀ s ∈ steps, cstepGood call esc q p s) :
    runC call esc q p true steps = true := by
  induction steps with
  | nil => rfl
  | cons s rest ih =>
    have hs := h s (List.mem_cons_self ..)
    have hrest := ih fun s' hs' => h s' (List.mem_cons_of_mem _ hs')
    cases s with
    | atom a =>
      simp only [runC]
      simp only [cstepGood] at hs
      split
      · exact hrest
      · next b hb =>
        rw [hb] at hs
        cases b with
        | true => rfl
        | false => simp [Res.notFalse] at hs
    | range o body =>
      obtain ⟨l, hl, hall⟩ := hs
      simp only [runC, hl]
      have := loopOver_notFalse call esc q p body (List.range l.kids.length)
        (fun i hi a ha => hall i (List.mem_range.mp hi) a ha)
      split
      · exact hrest
      · next b hb =>
        rw [hb] at this
        cases b with
        | true => rfl
        | false => simp [Res.notFalse] at this

/-- a prefix of passing steps followed by a step that stops with `true` -/
theorem runC_true_of_ret (fin : Bool) (pre : List CStep) (a : AStep) (post : List CStep)
    (hpre : ∀ s ∈ pre, ∃ a', s = .atom a' ∧ atomAt call esc q p none a' = .pass)
    (ha : atomAt call esc q p none a = .ret true) :
    runC call esc q p fin (pre ++ .atom a :: post) = true := by
  induction pre with
  | nil => simp [runC, ha]
  | cons s rest ih =>
    obtain ⟨a', rfl, hp⟩ := hpre s (List.mem_cons_self ..)
    simp only [List.cons_append, runC, hp]
    exact ih fun s' hs' => hpre s' (List.mem_cons_of_mem _ hs')

end AcraModel.Censor.Match

namespace AcraModel.Censor
open AcraModel Generated.CensorTable AcraModel.Censor.Match

theorem isGen_leaf {aw wh : Bool} {p : Tree} {b : Bytes} (h : isGen aw wh p (.leaf b) = true) : p = .leaf b := by
  rw [isGen.eq_1] at h
  simpa using h

theorem isGen_node {aw wh : Bool} {p : Tree} {k : String} {ks : List Tree} (h : isGen aw wh p (.node k ks) = true) :
    p ∈ placeholdersFor wh k ∨ ∃ ps, p = .node k ps ∧ isGenKids aw k 0 ps ks = true := by
  rw [isGen.eq_2] at h
  simp only [Bool.or_eq_true, List.contains_iff_mem, Bool.and_eq_true, beq_iff_eq, Bool.not_eq_true'] at h
  rcases h with h | h
  · exact Or.inl h
  · cases p with
    | leaf b => simp [Tree.isLeaf] at h
    | node k' ps =>
      simp only [Tree.kind, Tree.kids] at h
      exact Or.inr ⟨ps, by rw [h.1.2], h.2⟩

theorem isGen_of_structural {aw wh : Bool} {k : String} {ps ks : List Tree} (h : isGenKids aw k 0 ps ks = true) :
    isGen aw wh (.node k ps) (.node k ks) = true := by
  rw [isGen.eq_2]
  simp [Tree.isLeaf, Tree.kind, Tree.kids, h]

theorem isGen_of_placeholder {aw wh : Bool} {p : Tree} {k : String} {ks : List Tree} (h : p ∈ placeholdersFor wh k) :
    isGen aw wh p (.node k ks) = true := by
  rw [isGen.eq_2]
  simp [h]

theorem mem_placeholdersFor {wh : Bool} {k : String} {p : Tree} : p ∈ placeholdersFor wh k ↔
    (valueLike k = true ∧ p = valuePattern) ∨ (k = "ColIdent" ∧ p = columnPattern) ∨ (k = "Subquery" ∧ p = subqueryNode)
    ∨ (k = "SelectExprs" ∧ p = starList) ∨ stmtPattern k = some p ∨ (wh = true ∧ p = wherePattern) := by
  simp only [placeholdersFor, List.mem_append, List.mem_ite_nil_right, List.mem_singleton, beq_iff_eq, Option.mem_toList,
    or_assoc]

theorem stmtPattern_kind {k : String} {p : Tree} : stmtPattern k = some p → p.kind = k := by
  fun_cases stmtPattern k <;> rintro ⟨⟩ <;> exact (eq_of_beq (by assumption)).symm

theorem placeholdersFor_true {p : Tree} {k : String} (h : p ∈ placeholdersFor true k) :
    p = wherePattern ∨ p ∈ placeholdersFor false k := by
  simp only [placeholdersFor, List.mem_append] at h ⊢
  rcases h with h | h
  · exact Or.inr (Or.inl h)
  · simp at h; exact Or.inl h

/-- in the WHERE slot a generalisation is `%%WHERE%%` or an ordinary generalisation -/
theorem isGen_wh {aw : Bool} {p t : Tree} (h : isGen aw true p t = true) : p = wherePattern ∨ isGen aw false p t = true := by
  cases t with
  | leaf b => exact Or.inr (by rw [isGen.eq_1] at h ⊢; exact h)
  | node k ks =>
    rcases isGen_node h with h | ⟨ps, rfl, hk⟩
    · rcases placeholdersFor_true h with h | h
      · exact Or.inl h
      · exact Or.inr (isGen_of_placeholder h)
    · exact Or.inr (isGen_of_structural hk)

theorem whereSlot_false (k : String) (j : Nat) : whereSlot false k j = false := by simp [whereSlot]

/-- children of a node that is not a tuple: same number, pairwise generalisations -/
theorem isGenKids_plain {aw : Bool} {k : String} (hk : k ≠ "ValTuple") :
    ∀ (j : Nat) (ps ks : List Tree), isGenKids aw k j ps ks = true →
      ps.length = ks.length ∧ ∀ i x y, ks[i]? = some x → ps[i]? = some y → isGen aw (whereSlot aw k (j + i)) y x = true
  | j, ps, [], h => by
    rw [isGenKids.eq_1, List.isEmpty_iff] at h
    subst h
    exact ⟨rfl, fun i x y hx => by simp at hx⟩
  | j, ps, x :: xs, h => by
    rw [isGenKids.eq_2] at h
    simp only [Bool.or_eq_true, Bool.and_eq_true, beq_iff_eq] at h
    rcases h with h | h
    · exact absurd h.1.1 hk
    · cases ps with
      | nil => simp at h
      | cons y ys =>
        simp only [List.headD_cons, List.tail_cons] at h
        obtain ⟨hlen, hall⟩ := isGenKids_plain hk (j + 1) ys xs h.2
        refine ⟨by simp [hlen], fun i x' y' hx hy => ?_⟩
        cases i with
        | zero =>
          simp only [List.getElem?_cons_zero, Option.some.injEq] at hx hy
          subst hx; subst hy
          simpa using h.1.2
        | succ i =>
          simp only [List.getElem?_cons_succ] at hx hy
          have := hall i x' y' hx hy
          rwa [show j + 1 + i = j + (i + 1) by omega] at this

/-- a list of leaves generalises to itself only -/
theorem isGenKids_leaves {aw : Bool} {k : String} :
    ∀ (j : Nat) (ps ks : List Tree), (∀ x ∈ ks, x.isLeaf = true) → isGenKids aw k j ps ks = true → ps = ks
  | j, ps, [], _, h => by rw [isGenKids.eq_1, List.isEmpty_iff] at h; exact h
  | j, ps, x :: xs, hl, h => by
    have hx : x.isLeaf = true := hl x (List.mem_cons_self ..)
    cases x with
    | node _ _ => simp [Tree.isLeaf] at hx
    | leaf b =>
      rw [isGenKids.eq_2] at h
      simp only [Tree.kind, Bool.or_eq_true, Bool.and_eq_true] at h
      rcases h with h | h
      · have : valueLike "leaf" = false := by decide +kernel
        simp [this] at h
      · cases ps with
        | nil => simp at h
        | cons y ys =>
          simp only [List.headD_cons, List.tail_cons] at h
          rw [isGen_leaf h.1.2, isGenKids_leaves (j + 1) ys xs (fun x hx => hl x (List.mem_cons_of_mem _ hx)) h.2]

theorem wfFields_get : ∀ (tys : List Ty) (ks : List Tree), wfFields tys ks = true →
    tys.length = ks.length ∧ ∀ (j : Nat) (ty : Ty) (x : Tree), tys[j]? = some ty → ks[j]? = some x → conforms ty x = true ∧ wf x = true
  | [], [], _ => by
    refine ⟨rfl, ?_⟩
    intro j ty x h
    simp at h
  | [], _ :: _, h => by simp [wfFields] at h
  | _ :: _, [], h => by simp [wfFields] at h
  | ty :: tys, x :: xs, h => by
    simp only [wfFields, Bool.and_eq_true] at h
    obtain ⟨hl, hall⟩ := wfFields_get tys xs h.2
    refine ⟨by simp [hl], fun j ty' x' hty hx => ?_⟩
    cases j with
    | zero =>
      simp only [List.getElem?_cons_zero, Option.some.injEq] at hty hx
      subst hty; subst hx; exact h.1
    | succ j =>
      simp only [List.getElem?_cons_succ] at hty hx
      exact hall j ty' x' hty hx

theorem wfElems_mem (e : Ty) : ∀ (ks : List Tree), wfElems e ks = true → ∀ x ∈ ks, conforms e x = true ∧ wf x = true
  | [], _, x, hx => by cases hx
  | y :: ys, h, x, hx => by
    simp only [wfElems, Bool.and_eq_true] at h
    rcases List.mem_cons.mp hx with e' | e'
    · subst e'; exact h.1
    · exact wfElems_mem e ys h.2 x e'

theorem wfAll_mem : ∀ (ks : List Tree), wfAll ks = true → ∀ x ∈ ks, wf x = true
  | [], _, x, hx => by cases hx
  | y :: ys, h, x, hx => by
    simp only [wfAll, Bool.and_eq_true] at h
    rcases List.mem_cons.mp hx with e' | e'
    · subst e'; exact h.1
    · exact wfAll_mem ys h.2 x e'

theorem isSingleLeaf_leaves {ks : List Tree} (h : isSingleLeaf ks = true) : ∀ x ∈ ks, x.isLeaf = true := by
  cases ks with
  | nil => intro x hx; cases hx
  | cons y ys =>
    cases y with
    | node _ _ => simp [isSingleLeaf] at h
    | leaf b =>
      cases ys with
      | nil => intro x hx; simp only [List.mem_singleton] at hx; subst hx; rfl
      | cons _ _ => simp [isSingleLeaf] at h

/-- well-formedness is hereditary -/
theorem wf_kid {k : String} {ks : List Tree} (h : wf (.node k ks) = true) {x : Tree} (hx : x ∈ ks) : wf x = true := by
  rw [wf.eq_2] at h
  split at h
  · simp only [List.isEmpty_iff] at h; subst h; cases hx
  · split at h
    · exact wfAll_mem ks h x hx
    · split at h
      · next tys _ =>
        obtain ⟨i, hi⟩ := List.getElem?_of_mem hx
        have hl := (wfFields_get tys ks h).1
        have : i < tys.length := by
          rw [hl]; exact (List.getElem?_eq_some_iff.mp hi).1
        exact ((wfFields_get tys ks h).2 i tys[i] x (List.getElem?_eq_getElem this) hi).2
      · split at h
        · next e _ => exact (wfElems_mem e ks h x hx).2
        · have hl := isSingleLeaf_leaves h x hx
          cases x with
          | leaf b => rfl
          | node _ _ => cases hl
        · simp at h

/-- a struct node: its children conform to the declared field types -/
theorem wf_struct {k : String} {ks : List Tree} {tys : List Ty} (h : wf (.node k ks) = true) (hk : fieldTys k = some tys)
    (hn : (k == "nil") = false) (hl : (k == "list") = false) : wfFields tys ks = true := by
  rw [wf.eq_2] at h
  simp only [hn, hl, hk] at h
  simpa using h

/-- a named slice: its elements conform to the element type -/
theorem wf_named {k : String} {ks : List Tree} {e : Ty} (h : wf (.node k ks) = true) (hf : fieldTys k = none)
    (hk : namedTy k = some (some e)) (hn : (k == "nil") = false) (hl : (k == "list") = false) : wfElems e ks = true := by
  rw [wf.eq_2] at h
  simp only [hn, hl, hf, hk] at h
  simpa using h

theorem accList_mem : ∀ (ks : List Tree), Match.accList ks = true → ∀ x ∈ ks, Match.acc x = true
  | [], _, x, hx => by cases hx
  | y :: ys, h, x, hx => by
    rw [Match.accList.eq_2, Bool.and_eq_true] at h
    rcases List.mem_cons.mp hx with e | e
    · subst e; exact h.1
    · exact accList_mem ys h.2 x e

theorem acc_kid {k : String} {ks : List Tree} (h : Match.acc (.node k ks) = true) {x : Tree} (hx : x ∈ ks) : Match.acc x = true := by
  rw [Match.acc.eq_2, Bool.and_eq_true] at h
  exact accList_mem ks h.2 x hx

theorem acc_node {k : String} {ks : List Tree} (h : Match.acc (.node k ks) = true) : Match.accNode k ks = true := by
  rw [Match.acc.eq_2, Bool.and_eq_true] at h; exact h.1

end AcraModel.Censor
