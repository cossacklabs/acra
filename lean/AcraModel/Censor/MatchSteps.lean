import AcraModel.Censor.MatchProof
/-! # `match_generalise`: every well-typed step of a field-by-field comparator succeeds; the comparators -/
namespace AcraModel.Censor.Match
open AcraModel AcraModel.Censor Generated.CensorTable

/-- the rank-1 functions on the node itself (proved before the field-by-field comparators) -/
def H1 (k : String) (ks : List Tree) (p : Tree) (f : Nat) : Prop :=
  ∀ c, rank1Fns.contains c = true → (domOf c).kinds.contains k = true → evalFn f c (.node k ks) p = true

theorem pair_good_none {aw : Bool} {k c : String} {ks ps : List Tree} {f : Nat} {esc : String → Tree → Bool} {a b : Opnd}
    (cx : Ctx aw k ks ps f) (h1 : H1 k ks (.node k ps) f)
    (hty : pairTyped k .none c a b = true) (hne : (c == "!=") = false) (hacc : pairAcc k ks c a = true) :
    (atomAt (evalFn f) esc (.node k ks) (.node k ps) none (.cmp c a b)).notFalse = true := by
  simp only [pairTyped, Bool.or_eq_true, Bool.and_eq_true, List.any_eq_true, beq_iff_eq, bne_iff_ne, ne_eq] at hty
  rcases hty with (⟨⟨⟨ha, hb⟩, hef⟩, hw⟩ | ⟨fn, _, ⟨⟨⟨⟨⟨ha, hb⟩, hfn⟩, _⟩, hws⟩, hok⟩⟩) | ⟨⟨⟨ha, hb⟩, hc⟩, hd⟩
  · subst ha; subst hb
    have hne' : c ≠ "!=" := by simpa using hne
    split at hw
    · next hr =>
      have := whole_rigid hw cx.wfq cx.gen
      subst this
      refine cmp_pass (selO_qWhole ..) (selO_pWhole ..) ?_
      rcases hr with (h | h) | h
      · subst h; simp [opCmp]
      · subst h; simp [opCmp]
      · exact absurd h hne'
    · next hr =>
      simp only [Bool.and_eq_true] at hw
      refine cmp_pass (selO_qWhole ..) (selO_pWhole ..) ?_
      simp only [not_or] at hr
      have e1 : (c == "strings.EqualFold") = false := by simpa using hef
      have e2 : (c == "reflect.DeepEqual") = false := by simpa using hr.1.1
      have e3 : (c == "bytes.Equal") = false := by simpa using hr.1.2
      simp only [opCmp, e1, e2, e3, Bool.false_eq_true, if_false, Bool.or_self]
      exact h1 c hw.1 hw.2
  · subst ha; subst hb
    exact field_cmp_good cx hfn hws hok hne hacc
  · subst ha; subst hb; subst hc
    exact compliant_good cx hd

theorem ne_good_none {aw : Bool} {k : String} {ks ps : List Tree} {f : Nat} {esc : String → Tree → Bool} {a b : Opnd}
    (cx : Ctx aw k ks ps f) (hty : pairTyped k .none "!=" a b = true) :
    (atomAt (evalFn f) esc (.node k ks) (.node k ps) none (.ne a b)).notFalse = true := by
  simp only [pairTyped, Bool.or_eq_true, Bool.and_eq_true, List.any_eq_true, beq_iff_eq, bne_iff_ne, ne_eq] at hty
  rcases hty with (⟨⟨⟨ha, hb⟩, _⟩, hw⟩ | ⟨fn, _, ⟨⟨⟨⟨⟨ha, hb⟩, hfn⟩, _⟩, hws⟩, hok⟩⟩) | ⟨⟨⟨_, _⟩, hc⟩, _⟩
  · subst ha; subst hb
    simp only [or_true, if_true] at hw
    have := whole_rigid hw cx.wfq cx.gen
    subst this
    exact ne_pass (selO_qWhole ..) (selO_pWhole ..)
  · subst ha; subst hb
    exact field_ne_good cx hfn hws hok
  · exact absurd hc (by decide +kernel)

/-- the two shapes of a comparison inside `for i := range p`: the elements themselves, or a field of struct elements -/
theorem pairTyped_whole {k c : String} {a b : Opnd} (hty : pairTyped k .whole c a b = true) :
    fieldTys k = none ∧ plainList k = true ∧
      ((a = qElem ∧ b = pElem ∧ builtinCmp c = false ∧ c ≠ "!=" ∧ calleeKeepsKind c = true)
      ∨ ∃ ek fn, elemKindOf (.named k) = some ek ∧ placeholdersFor false ek = [] ∧ ek ≠ "Select"
          ∧ a = qElemField fn ∧ b = pElemField fn ∧ fn ≠ "CompliantName()" ∧ partOk c (declTy ek fn) = true) := by
  simp only [pairTyped, Bool.and_eq_true, Bool.or_eq_true, Option.isNone_iff_eq_none, beq_iff_eq, Bool.not_eq_true', bne_iff_ne, ne_eq] at hty
  obtain ⟨hft, hty⟩ := hty
  rcases hty with ⟨⟨⟨⟨⟨ha, hb⟩, hpl⟩, hnb⟩, hc⟩, hkeep⟩ | hty
  · exact ⟨hft, hpl, .inl ⟨ha, hb, hnb, hc, hkeep⟩⟩
  · cases hn : namedTy k with
    | none => simp [hn] at hty
    | some oe =>
      cases oe with
      | none => simp [hn] at hty
      | some e =>
        simp only [hn] at hty
        cases hek : elemKindOf (.named k) with
        | none => simp [hek] at hty
        | some ek =>
          simp only [hek, Bool.and_eq_true, List.isEmpty_iff, bne_iff_ne, ne_eq, List.any_eq_true, beq_iff_eq] at hty
          obtain ⟨⟨⟨⟨⟨hpl, hph⟩, hsel⟩, _⟩, _⟩, fn, _, ⟨⟨⟨⟨ha, hb⟩, hfn⟩, _⟩, hok⟩⟩ := hty
          exact ⟨hft, hpl, .inr ⟨ek, fn, rfl, hph, hsel, ha, hb, hfn, hok⟩⟩

theorem pair_good_whole {aw : Bool} {k c : String} {ks ps : List Tree} {f : Nat} {esc : String → Tree → Bool} {a b : Opnd}
    (cx : Ctx aw k ks ps f) (hty : pairTyped k .whole c a b = true) (hne : (c == "!=") = false) (hacc : pairAcc k ks c a = true)
    (i : Nat) (hi : i < ps.length) :
    (atomAt (evalFn f) esc (.node k ks) (.node k ps) (some i) (.cmp c a b)).notFalse = true := by
  obtain ⟨hft, hpl, ⟨rfl, rfl, hnb, _, hkeep⟩ | ⟨ek, fn, hek, hph, hsel, rfl, rfl, hfn, hok⟩⟩ := pairTyped_whole hty
  · exact elem_cmp_good cx hpl hnb hne hkeep hacc i hi
  · exact elemField_cmp_good cx hpl hft hek hph hsel hfn hok hne hacc i hi

theorem ne_good_whole {aw : Bool} {k : String} {ks ps : List Tree} {f : Nat} {esc : String → Tree → Bool} {a b : Opnd}
    (cx : Ctx aw k ks ps f) (hty : pairTyped k .whole "!=" a b = true) (hacc : pairAcc k ks "!=" a = true)
    (i : Nat) (hi : i < ps.length) :
    (atomAt (evalFn f) esc (.node k ks) (.node k ps) (some i) (.ne a b)).notFalse = true := by
  obtain ⟨hft, hpl, ⟨_, _, _, hc, _⟩ | ⟨ek, fn, hek, hph, hsel, rfl, rfl, hfn, hok⟩⟩ := pairTyped_whole hty
  · exact absurd rfl hc
  · exact elemField_ne_good cx hpl hft hek hph hsel hfn hok hacc i hi

/-- a field declared as a plain list -/
theorem plainListField {k fn : String}
    (h : (match (declTy k fn).bind listKindOf with | some l => plainList l | none => false) = true) :
    ∃ ty l, declTy k fn = some ty ∧ listKindOf ty = some l ∧ plainList l = true := by
  cases hd : declTy k fn with
  | none => simp [hd] at h
  | some ty =>
    cases hlk : listKindOf ty with
    | none => simp [hd, hlk] at h
    | some l => exact ⟨ty, l, rfl, hlk, by simpa [hd, hlk] using h⟩

/-- a typed `shortcut` step compares the whole pattern with the statement its placeholder stands for -/
theorem atomAt_shortcut {k : String} {o : Opnd} {ph : String} (hty : atomTyped k .none (.shortcut o ph) = true)
    (call : String → Tree → Tree → Bool) (esc : String → Tree → Bool) (q p : Tree) :
    ∃ c, placeholderStmt ph = some c ∧
      atomAt call esc q p none (.shortcut o ph) = if p == c then Res.ret true else Res.pass := by
  simp only [atomTyped, Bool.and_eq_true, beq_iff_eq] at hty
  obtain ⟨⟨_, rfl⟩, hs⟩ := hty
  obtain ⟨c, hp⟩ := Option.isSome_iff_exists.mp hs
  exact ⟨c, hp, by simp only [atomAt, selO_pWhole, hp]⟩

theorem atom_good_none {aw : Bool} {k : String} {ks ps : List Tree} {f : Nat} (cx : Ctx aw k ks ps f)
    (h1 : H1 k ks (.node k ps) f) {a : AStep} (hty : atomTyped k .none a = true) (hacc : atomAcc k ks a = true) :
    (atomAt (evalFn f) (escEval (evalFn f)) (.node k ks) (.node k ps) none a).notFalse = true := by
  cases a with
  | cast onQ k' =>
    simp only [atomTyped, Bool.and_eq_true, beq_iff_eq] at hty
    cases onQ <;> simp [atomAt, Tree.kind, hty.2, Res.notFalse]
  | shortcut o ph =>
    obtain ⟨c, _, h⟩ := atomAt_shortcut hty (evalFn f) (escEval (evalFn f)) (.node k ks) (.node k ps)
    rw [h]
    split <;> rfl
  | len a b =>
    simp only [atomTyped, Bool.and_eq_true, Bool.or_eq_true, List.any_eq_true, beq_iff_eq, bne_iff_ne, ne_eq] at hty
    rcases hty.2 with ⟨⟨⟨ha, hb⟩, hpl⟩, _⟩ | ⟨fn, _, ⟨⟨⟨⟨⟨ha, hb⟩, hfn⟩, _⟩, hws⟩, hl⟩⟩
    · subst ha; subst hb
      exact whole_len_good cx hpl
    · subst ha; subst hb
      obtain ⟨ty, l, hd, hlk, hpl⟩ := plainListField hl
      exact field_len_good cx hfn hd hws hlk hpl
  | ne a b => exact ne_good_none cx hty
  | cmp c a b =>
    simp only [atomTyped, Bool.and_eq_true, bne_iff_ne, ne_eq] at hty
    exact pair_good_none cx h1 hty.2 (by simpa using hty.1) hacc
  | cmpEsc e ea c a b =>
    simp only [atomTyped, Bool.and_eq_true, beq_iff_eq, Bool.not_eq_true', bne_iff_ne, ne_eq, List.any_eq_true, Option.isSome_iff_ne_none] at hty
    obtain ⟨⟨⟨⟨⟨_, he⟩, hnb⟩, hne⟩, hkeep⟩, fn, _, ⟨⟨⟨⟨⟨ha, hb⟩, hea⟩, hfn⟩, _⟩, hd⟩⟩ := hty
    subst he; subst ha; subst hb; subst hea
    exact field_esc_good cx hfn (by simpa [Option.isSome_iff_ne_none] using hd) hnb (by simpa using hne) hkeep hacc
  | _ => simp [atomTyped] at hty

theorem atom_good_whole {aw : Bool} {k : String} {ks ps : List Tree} {f : Nat} {esc : String → Tree → Bool} (cx : Ctx aw k ks ps f)
    {a : AStep} (hty : atomTyped k .whole a = true) (hacc : atomAcc k ks a = true) (i : Nat) (hi : i < ps.length) :
    (atomAt (evalFn f) esc (.node k ks) (.node k ps) (some i) a).notFalse = true := by
  cases a with
  | ne a b => exact ne_good_whole cx hty hacc i hi
  | cmp c a b =>
    simp only [atomTyped, Bool.and_eq_true, bne_iff_ne, ne_eq] at hty
    exact pair_good_whole cx hty.2 (by simpa using hty.1) hacc i hi
  | _ => simp [atomTyped] at hty

theorem atom_good_field {aw : Bool} {k f0 l : String} {ks ps : List Tree} {f : Nat} {esc : String → Tree → Bool} {ty : Ty} (cx : Ctx aw k ks ps f)
    (hfn : f0 ≠ "") (hd : declTy k f0 = some ty) (hws : ((Tree.fieldIndex k f0).all fun j => !whereSlot true k j) = true)
    (hl : listKindOf ty = some l) (hpl : plainList l = true)
    {a : AStep} (hty : atomTyped k (.field f0) a = true) (hacc : atomAcc k ks a = true)
    {yl : Tree} (hy : (Tree.node k ps).field f0 = some yl) (i : Nat) (hi : i < yl.kids.length) :
    (atomAt (evalFn f) esc (.node k ks) (.node k ps) (some i) a).notFalse = true := by
  cases a with
  | cmp c a b =>
    simp only [atomTyped, pairTyped, Bool.and_eq_true, bne_iff_ne, ne_eq, beq_iff_eq, Bool.not_eq_true'] at hty
    obtain ⟨_, ⟨⟨⟨⟨⟨⟨ha, hb⟩, _⟩, _⟩, hnb⟩, hne⟩, hkeep⟩, _⟩ := hty
    subst ha; subst hb
    exact fieldElem_cmp_good cx hfn hd hws hl hpl hnb (by simpa using hne) hkeep hacc hy i hi
  | ne a b => simp [atomTyped, pairTyped] at hty
  | _ => simp [atomTyped] at hty

/-- **every well-typed step of a comparator is good** on a well-typed node and a node-by-node generalisation of it -/
theorem cstep_good {aw : Bool} {k : String} {ks ps : List Tree} {f : Nat} (cx : Ctx aw k ks ps f)
    (h1 : H1 k ks (.node k ps) f) {s : CStep} (hty : cstepTyped k s = true) (hacc : cstepAcc k ks s = true) :
    cstepGood (evalFn f) (escEval (evalFn f)) (.node k ks) (.node k ps) s := by
  cases s with
  | atom a => exact atom_good_none cx h1 hty hacc
  | range o body =>
    simp only [cstepTyped, Bool.or_eq_true, Bool.and_eq_true, beq_iff_eq, List.all_eq_true, List.any_eq_true, bne_iff_ne, ne_eq] at hty
    simp only [cstepAcc, List.all_eq_true] at hacc
    rcases hty with ⟨⟨⟨ho, _⟩, _⟩, hb⟩ | ⟨f0, _, ⟨⟨⟨⟨⟨ho, hfc⟩, hfn⟩, hws⟩, hl⟩, hb⟩⟩
    · subst ho
      exact ⟨.node k ps, selO_pWhole .., fun i hi a ha => atom_good_whole cx (hb a ha) (hacc a ha) i hi⟩
    · subst ho
      obtain ⟨ty, l, hd, hlk, hpl⟩ := plainListField hl
      obtain ⟨xl, yl, _, hy, _, _, _, _, _⟩ := locate_list cx hd hws hlk hpl
      refine ⟨yl, ?_, fun i hi a ha => atom_good_field cx hfn hd hws hlk hpl (hb a ha) (hacc a ha) hy i hi⟩
      rw [selO_pField _ _ _ hfc]; exact hy

end AcraModel.Censor.Match
