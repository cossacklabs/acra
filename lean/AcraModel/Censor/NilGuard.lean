import AcraModel.Basic.Bytes
import AcraModel.Generated.CensorNil
import AcraModel.Sql.Forms
/-!
# Pointer operands of the acra-censor comparators (C14)

The matcher model of C05 (`Censor/Match.lean`) is total by construction: selecting a field of a `nil` tree yields
"no match". The Go code is not: a comparator with two POINTER parameters that looks at `query.F` while `query` is nil
panics inside `AcraCensor.HandleQuery`, i.e. in the client's connection handler. This file keeps the nil cases explicit.

* `Generated/CensorNil.lean` (factgen `censornil.go`) holds, per comparator with pointer parameters, the outcome of
  an abstract execution of its body for the three combinations with a nil operand (`nilGuards`), the call sites
  that hand a *field* of two parse-tree nodes to such a comparator (`ptrFieldCalls`) and the pointer-typed fields of
  `ast.go` (`ptrFields`).
* Whether a pointer field can be nil in a tree built from client SQL is read from the grammar table of C13
  (`Generated/SqlForms.lean`): some alternative of `sql.y` that builds the node leaves the field empty
  (`canBeNil`).
* `ptrCompare g body` is the comparator at the pointer level: `Option` operands (`none` = nil pointer), outcome
  `panic` when the body is reached with a nil operand the guards `g` do not catch.

`ptrCompare_total` / `call_never_panics` : with the regenerated guards no call site that can see a nil field
panics, whatever the two operands are; `Props.C14.seeded_guard_counterexample` : with the guard for "query nil, pattern set"
removed (`if pattern == nil { return query == nil }`) the model panics on exactly that combination.
-/
namespace AcraModel.Censor.NilGuard
open AcraModel AcraModel.Generated

/-- what a comparator does for one combination with a nil operand -/
inductive NilOut
  | retTrue | retFalse | deref | other
  deriving DecidableEq, Repr

def NilOut.ofString (s : String) : NilOut :=
  if s == "true" then .retTrue else if s == "false" then .retFalse else if s == "other" then .other else .deref

/-- the outcome as a Go result: a dereference of nil is a run-time panic; `other` is a returned value the
analysis does not know (`err` stands for "some Bool") -/
def NilOut.run : NilOut → Out Bool
  | .retTrue => .ok true
  | .retFalse => .ok false
  | .deref => .panic
  | .other => .err

structure Guards where
  both : NilOut
  qNil : NilOut
  pNil : NilOut
  deriving DecidableEq, Repr

/-- the regenerated guards of a comparator; a function that is not in the table has none (every nil combination
reaches a dereference) -/
def guardsOf (fn : String) : Guards :=
  match CensorNil.nilGuards.find? (·.1 == fn) with
  | some r => ⟨.ofString r.2.2.1, .ofString r.2.2.2.1, .ofString r.2.2.2.2⟩
  | none => ⟨.deref, .deref, .deref⟩

/-- **A comparator with two pointer parameters, at the pointer level.** `body q p` is what the function computes once
both pointers are known to be non-nil; a nil combination ends as the guards say. -/
def ptrCompare {α : Type} (g : Guards) (body : α → α → Bool) : Option α → Option α → Out Bool
  | some q, some p => .ok (body q p)
  | none, none => g.both.run
  | none, some _ => g.qNil.run
  | some _, none => g.pNil.run

/-- the guards catch every nil combination (and say what Go's `==` on the pointers would say: nil equals only nil) -/
def Guards.total (g : Guards) : Bool := g.both == .retTrue && g.qNil == .retFalse && g.pNil == .retFalse

/-- a pointer field that the grammar can leave nil: some alternative of `sql.y` that builds a node of the kind does
not always fill the field -/
def canBeNil (kind field : String) : Bool :=
  Sql.Forms.prods.any fun p => p.kind == kind && !(Sql.Forms.mustFill p).contains field

/-- the call sites `callee(x.F, y.F)` whose field can be nil on either side: (caller, callee, kind, field) -/
def optionalCalls : List (String × String × String × String) :=
  CensorNil.ptrFieldCalls.filter fun c => c.2.2.1 == "?" || canBeNil c.2.2.1 c.2.2.2

/-- the finite check: every call site that can see a nil field calls a comparator whose guards are total -/
def optionalCallsGuarded : Bool := optionalCalls.all fun c => (guardsOf c.2.1).total

theorem ptrCompare_total {α : Type} {g : Guards} (h : g.total = true) (body : α → α → Bool) (q p : Option α) :
    ptrCompare g body q p ≠ .panic ∧
      (ptrCompare g body q p = .ok (match q, p with
        | some a, some b => body a b
        | none, none => true
        | _, _ => false)) := by
  simp only [Guards.total, Bool.and_eq_true, beq_iff_eq] at h
  obtain ⟨⟨h1, h2⟩, h3⟩ := h
  cases q <;> cases p <;> simp [ptrCompare, h1, h2, h3, NilOut.run]

/-- lifting the finite check: for every call site of the regenerated list that can see a nil field, the callee
never panics and compares nil pointers like Go's `==` -/
theorem call_never_panics (hok : optionalCallsGuarded = true) {c : String × String × String × String}
    (hc : c ∈ optionalCalls) {α : Type} (body : α → α → Bool) (q p : Option α) :
    ptrCompare (guardsOf c.2.1) body q p ≠ .panic := by
  simp only [optionalCallsGuarded, List.all_eq_true] at hok
  exact (ptrCompare_total (hok c hc) body q p).1

end AcraModel.Censor.NilGuard
