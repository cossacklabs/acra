import AcraModel.Censor.MatchLemmas
/-!
# `match_generalise`: the induction

`P aw t` – every covered function that accepts `t` returns `true` on `(t, p)` for every generalisation `p` of `t`,
given enough fuel. Proved for all well-typed `t` by induction on the depth of `t`:
field-by-field comparators generically from the typing of the regenerated table (`regular_ok`), the hand-written
functions one by one, the type switches generically over their regenerated case lists.
-/
namespace AcraModel.Censor.Match
open AcraModel AcraModel.Censor Generated.CensorTable

/-- the expression of the `%%WHERE%%` constant (`isWherePattern` runs `areEqualExpr` on it) -/
def wexpr : Tree := fld wherePattern "Expr"

/-- `isWherePattern` recognises the `%%WHERE%%` constant (needed only when `%%WHERE%%` is allowed) -/
def HW (aw : Bool) : Prop :=
  aw = true → ∀ fuel, 3 * wexpr.depth + 3 ≤ fuel → evalFn fuel "areEqualExpr" wexpr wexpr = true

/-- The measure of the induction, and the fuel a call needs: a call on the same node goes to a function of lower rank
(type switch 3, field-by-field comparator 2, leaf function 1), every other call goes to a child. -/
def need (fn : String) (p : Tree) : Nat := 3 * p.depth + rankOf fn

def P (aw : Bool) (t : Tree) : Prop :=
  ∀ fn p fuel, accepts fn t = true → isGen aw false p t = true → (rankOf fn = 2 → p.kind = t.kind) →
    need fn p ≤ fuel → evalFn fuel fn t p = true

theorem rankOf_le (fn : String) : rankOf fn ≤ 3 := by
  unfold rankOf; split
  · omega
  · split <;> omega

theorem rankOf_pos (fn : String) : 1 ≤ rankOf fn := by
  unfold rankOf; split
  · omega
  · split <;> omega

theorem rank_of_rank1 {c : String} (h : rank1Fns.contains c = true) : rankOf c = 1 := by
  unfold rankOf; rw [if_pos h]

theorem selO_qWhole (i : Option Nat) (q p : Tree) : selO i q p qWhole = some q := rfl
theorem selO_pWhole (i : Option Nat) (q p : Tree) : selO i q p pWhole = some p := rfl

theorem selO_qField (q p : Tree) (f : String) (hf : f ≠ "CompliantName()") :
    selO none q p (qField f) = q.field f := by
  simp [selO, qField, stepComp, hf]

theorem selO_pField (q p : Tree) (f : String) (hf : f ≠ "CompliantName()") :
    selO none q p (pField f) = p.field f := by
  simp [selO, pField, stepComp, hf]

theorem selO_qCompliant (q p : Tree) :
    selO none q p (qField "CompliantName()") = (q.field "v").map fun v => .leaf (compliantName v.leafBytes) := by
  simp [selO, qField, stepComp]

theorem selO_pCompliant (q p : Tree) :
    selO none q p (pField "CompliantName()") = (p.field "v").map fun v => .leaf (compliantName v.leafBytes) := by
  simp [selO, pField, stepComp]

theorem selO_qElem (i : Nat) (q p : Tree) : selO (some i) q p qElem = q.kids[i]? := by
  simp [selO, qElem]

theorem selO_pElem (i : Nat) (q p : Tree) : selO (some i) q p pElem = p.kids[i]? := by
  simp [selO, pElem]

theorem selO_qElemField (i : Nat) (q p : Tree) (f : String) (hf : f ≠ "CompliantName()") :
    selO (some i) q p (qElemField f) = (q.kids[i]?).bind (·.field f) := by
  simp [selO, qElemField, stepComp, hf]

theorem selO_pElemField (i : Nat) (q p : Tree) (f : String) (hf : f ≠ "CompliantName()") :
    selO (some i) q p (pElemField f) = (p.kids[i]?).bind (·.field f) := by
  simp [selO, pElemField, stepComp, hf]

theorem selO_qFieldElem (i : Nat) (q p : Tree) (f : String) (hf : f ≠ "") :
    selO (some i) q p (qFieldElem f) = (q.field f).bind (·.kids[i]?) := by
  simp [selO, qFieldElem, stepComp, hf]

theorem selO_pFieldElem (i : Nat) (q p : Tree) (f : String) (hf : f ≠ "") :
    selO (some i) q p (pFieldElem f) = (p.field f).bind (·.kids[i]?) := by
  simp [selO, pFieldElem, stepComp, hf]

theorem fieldTys_valTuple : fieldTys "ValTuple" = none := by decide +kernel
theorem fieldTys_nil : fieldTys "nil" = none := by decide +kernel
theorem fieldTys_list : fieldTys "list" = none := by decide +kernel

theorem struct_kind_ne {k : String} {tys : List Ty} (h : fieldTys k = some tys) :
    k ≠ "ValTuple" ∧ (k == "nil") = false ∧ (k == "list") = false :=
  have ne {s : String} (hs : fieldTys s = none) : k ≠ s := ne_of_apply_ne fieldTys (by simp [h, hs])
  ⟨ne fieldTys_valTuple, beq_false_of_ne (ne fieldTys_nil), beq_false_of_ne (ne fieldTys_list)⟩

/-- the children of a struct node and of a node-by-node generalisation of it, field by field -/
theorem field_align {aw : Bool} {k f : String} {ks ps : List Tree} {ty : Ty}
    (hwf : wf (.node k ks) = true) (hgen : isGenKids aw k 0 ps ks = true) (hd : declTy k f = some ty) :
    ∃ j x y, Tree.fieldIndex k f = some j ∧ (Tree.node k ks).field f = some x ∧ (Tree.node k ps).field f = some y
      ∧ ks[j]? = some x ∧ ps[j]? = some y ∧ conforms ty x = true ∧ wf x = true ∧ isGen aw (whereSlot aw k j) y x = true := by
  unfold declTy at hd
  cases hj : Tree.fieldIndex k f with
  | none => simp [hj] at hd
  | some j =>
    cases ht : fieldTys k with
    | none => simp [hj, ht] at hd
    | some tys =>
      simp only [hj, ht, Option.bind_some] at hd
      obtain ⟨hne, hn, hl⟩ := struct_kind_ne ht
      have hwff := wf_struct hwf ht hn hl
      obtain ⟨hlen, hall⟩ := wfFields_get tys ks hwff
      have hjk : j < ks.length := hlen ▸ (List.getElem?_eq_some_iff.mp hd).1
      obtain ⟨hlen2, hall2⟩ := isGenKids_plain hne 0 ps ks hgen
      have hjp : j < ps.length := hlen2 ▸ hjk
      have hx : ks[j]? = some ks[j] := List.getElem?_eq_getElem hjk
      have hy : ps[j]? = some ps[j] := List.getElem?_eq_getElem hjp
      refine ⟨j, ks[j], ps[j], rfl, ?_, ?_, hx, hy, (hall j ty _ hd hx).1, (hall j ty _ hd hx).2, ?_⟩
      · simp [Tree.field, hj, hx]
      · simp [Tree.field, hj, hy]
      · simpa using hall2 j _ _ hx hy

theorem whereSlot_ne_select {aw : Bool} {k : String} (h : k ≠ "Select") (j : Nat) : whereSlot aw k j = false := by
  simp [whereSlot, h]

/-- the elements of a node other than a `ValTuple` or a `Select`: generalised one by one, none by `%%WHERE%%` -/
theorem isGenKids_elems {aw : Bool} {k : String} {ps ks : List Tree} (hvt : k ≠ "ValTuple") (hsel : k ≠ "Select")
    (h : isGenKids aw k 0 ps ks = true) :
    ps.length = ks.length ∧ ∀ (i : Nat) x y, ks[i]? = some x → ps[i]? = some y → isGen aw false y x = true := by
  obtain ⟨hlen, hall⟩ := isGenKids_plain hvt 0 ps ks h
  refine ⟨hlen, fun i x y hx hy => ?_⟩
  have := hall i x y hx hy
  rwa [whereSlot_ne_select hsel] at this

theorem whereSlot_mono {aw : Bool} {k : String} {j : Nat} (h : whereSlot true k j = false) : whereSlot aw k j = false := by
  cases aw
  · simp [whereSlot]
  · exact h

theorem isNilNode_eq {t : Tree} (h : t.isNilNode = true) : t = Tree.nil := by
  cases t with
  | leaf b => simp [Tree.isNilNode] at h
  | node k ks =>
    simp only [Tree.isNilNode, Bool.and_eq_true, beq_iff_eq, List.isEmpty_iff] at h
    rw [h.1, h.2]; rfl

/-- a node of a kind without placeholder is generalised node by node only -/
theorem isGen_node_plain {aw : Bool} {p : Tree} {k : String} {ks : List Tree} (h : isGen aw false p (.node k ks) = true)
    (hph : placeholdersFor false k = []) : ∃ ps, p = .node k ps ∧ isGenKids aw k 0 ps ks = true := by
  rcases isGen_node h with h | h
  · rw [hph] at h; cases h
  · exact h

/-- a generalisation of nil is nil -/
theorem isGen_nil {aw : Bool} {p : Tree} (h : isGen aw false p Tree.nil = true) : p = Tree.nil := by
  obtain ⟨ps, rfl, hk⟩ := isGen_node_plain (k := "nil") (ks := []) h (by decide +kernel)
  rw [isGenKids.eq_1, List.isEmpty_iff] at hk
  subst hk; rfl

/-- a generalisation keeps the kind unless it turns a `BoolVal`/`NullVal`/`FuncExpr` into `%%VALUE%%` -/
theorem isGen_kind {aw : Bool} {p t : Tree} (h : isGen aw false p t = true) (hk : kindChanging t.kind = false) :
    p.kind = t.kind := by
  cases t with
  | leaf b => rw [isGen_leaf h]
  | node k ks =>
    rcases isGen_node h with h | ⟨ps, rfl, _⟩
    · rcases mem_placeholdersFor.mp h with ⟨hv, rfl⟩ | ⟨rfl, rfl⟩ | ⟨rfl, rfl⟩ | ⟨rfl, rfl⟩ | hs | ⟨hw, _⟩
      · simp only [Tree.kind, kindChanging, hv, Bool.true_and, bne_eq_false_iff_eq] at hk
        rw [hk]; rfl
      · rfl
      · rfl
      · rfl
      · exact stmtPattern_kind hs
      · cases hw
    · rfl

/-- a part of a rigid type generalises to itself only -/
theorem isGen_rigid {aw : Bool} {ty : Ty} {x y : Tree} (hc : conforms ty x = true) (hw : wf x = true)
    (hr : rigidTy ty = true) (h : isGen aw false y x = true) : y = x := by
  cases ty with
  | leaf =>
    cases x with
    | leaf b => exact isGen_leaf h
    | node _ _ => simp [conforms, Tree.isLeaf] at hc
  | iface i =>
    simp only [rigidTy, beq_iff_eq] at hr
    subst hr
    have : impls "" = [] := by decide +kernel
    simp only [conforms, this, List.contains_nil, Bool.or_false] at hc
    rw [isNilNode_eq hc] at h ⊢
    exact isGen_nil h
  | named n =>
    simp only [rigidTy, Bool.and_eq_true, beq_iff_eq] at hr
    obtain ⟨hn, _⟩ := hr
    subst hn
    cases x with
    | leaf b => simp [conforms, Tree.kind] at hc
    | node k ks =>
      simp only [conforms, Tree.kind, beq_iff_eq] at hc
      subst hc
      obtain ⟨ps, rfl, hk⟩ := isGen_node_plain h (by decide +kernel)
      have hf : fieldTys "Comments" = none := by decide +kernel
      have hn : namedTy "Comments" = some (some .leaf) := by decide +kernel
      have hel := wf_named hw hf hn (by decide +kernel) (by decide +kernel)
      have hleaves : ∀ x ∈ ks, x.isLeaf = true := fun x hx => by
        have := (wfElems_mem _ ks hel x hx).1
        simpa [conforms] using this
      rw [isGenKids_leaves 0 ps ks hleaves hk]
  | _ => simp [rigidTy] at hr

theorem kindChanging_nil : kindChanging "nil" = false := by decide +kernel

/-- a function called on a part below the node: the induction hypothesis applies -/
theorem kid_call {aw : Bool} {q p x y : Tree} {c : String} {f : Nat}
    (IH : ∀ x, x.depth < q.depth → wf x = true → acc x = true → P aw x)
    (hxd : x.depth < q.depth) (hyd : y.depth + 1 ≤ p.depth) (hwfx : wf x = true) (haccx : acc x = true)
    (hacc : accepts c x = true) (hgen : isGen aw false y x = true) (hkeep : calleeKeepsKind c = true)
    (hfuel : 3 * p.depth + 2 ≤ f + 1) : evalFn f c x y = true := by
  apply IH x hxd hwfx haccx c y f hacc hgen
  · intro hr
    apply isGen_kind hgen
    simp only [calleeKeepsKind, hr, bne_self_eq_false, Bool.false_or, List.all_eq_true] at hkeep
    simp only [accepts, Bool.and_eq_true, Bool.or_eq_true] at hacc
    rcases hacc.2 with h | h
    · rw [isNilNode_eq h.1]; exact kindChanging_nil
    · have := hkeep x.kind (by simpa using h.2)
      simpa using this
  · unfold need
    have := rankOf_le c
    omega

/-- the same for a child `x` of `node k ks` and a child `y` of its generalisation `node k' ps` -/
theorem child_call {aw : Bool} {k k' c : String} {ks ps : List Tree} {x y : Tree} {f : Nat}
    (IH : ∀ x, x.depth < (Tree.node k ks).depth → wf x = true → acc x = true → P aw x)
    (hwf : wf (.node k ks) = true) (hacc : acc (.node k ks) = true) (hx : x ∈ ks) (hy : y ∈ ps)
    (ha : accepts c x = true) (hgen : isGen aw false y x = true) (hkeep : calleeKeepsKind c = true)
    (hfuel : 3 * (Tree.node k' ps).depth + 2 ≤ f + 1) : evalFn f c x y = true :=
  kid_call IH (Nat.lt_of_succ_le (Tree.depth_kid hx)) (Tree.depth_kid hy) (wf_kid hwf hx) (acc_kid hacc hx) ha hgen hkeep hfuel

theorem foldEq_self_leaf {x : Tree} (h : x.isLeaf = true) : foldEq x x = true := by
  cases x with
  | leaf b => simp [foldEq]
  | node _ _ => simp [Tree.isLeaf] at h

/-- one comparison of a part `x` of the statement with the corresponding part `y` of the pattern succeeds -/
theorem part_cmp {aw : Bool} {q p x y : Tree} {c : String} {ty : Ty} {f : Nat}
    (IH : ∀ x, x.depth < q.depth → wf x = true → acc x = true → P aw x)
    (hxd : x.depth < q.depth) (hyd : y.depth + 1 ≤ p.depth) (hc : conforms ty x = true) (hwfx : wf x = true) (haccx : acc x = true)
    (hok : partOk c (some ty) = true) (hne : (c == "!=") = false)
    (hacc : (builtinCmp c || c == "!=" || accepts c x) = true) (hgen : isGen aw false y x = true)
    (hfuel : 3 * p.depth + 2 ≤ f + 1) : opCmp (evalFn f) c x y = true := by
  unfold opCmp
  simp only [partOk] at hok
  split
  · next h1 =>
    simp only [h1, if_true, beq_iff_eq] at hok
    subst hok
    have hl : x.isLeaf = true := by simpa [conforms] using hc
    cases x with
    | leaf b => rw [isGen_leaf hgen]; simp [foldEq]
    | node _ _ => simp [Tree.isLeaf] at hl
  · next h1 =>
    simp only [h1, Bool.false_eq_true, if_false] at hok
    split
    · next h2 =>
      have : (c == "reflect.DeepEqual" || c == "bytes.Equal" || c == "!=") = true := by
        simp only [Bool.or_eq_true] at h2 ⊢; exact Or.inl h2
      simp only [this, if_true] at hok
      rw [isGen_rigid hc hwfx hok hgen]
      exact Tree.beq_refl x
    · next h2 =>
      have h2' : (c == "reflect.DeepEqual" || c == "bytes.Equal" || c == "!=") = false := by
        simp only [Bool.not_eq_true, Bool.or_eq_false_iff] at h2
        simp [h2.1, h2.2, hne]
      simp only [h2', Bool.false_eq_true, if_false] at hok
      have hb : builtinCmp c = false := by
        simp only [Bool.not_eq_true] at h1 h2
        simp only [Bool.or_eq_false_iff] at h2
        simp [builtinCmp, h1, h2.1, h2.2]
      simp only [hb, hne, Bool.false_or] at hacc
      exact kid_call IH hxd hyd hwfx haccx hacc hgen hok hfuel

/-- `!=` on a part: the two parts are equal -/
theorem part_ne {aw : Bool} {x y : Tree} {ty : Ty} (hc : conforms ty x = true) (hwfx : wf x = true)
    (hok : partOk "!=" (some ty) = true) (hgen : isGen aw false y x = true) : y = x := by
  have : rigidTy ty = true := by
    simp only [partOk] at hok
    simpa using hok
  exact isGen_rigid hc hwfx this hgen

/-- what the generic step lemmas assume: `q = node k ks` is well typed, `p = node k ps` generalises it child by child,
the induction hypothesis holds below `q`, and there is fuel for `p` -/
structure Ctx (aw : Bool) (k : String) (ks ps : List Tree) (f : Nat) : Prop where
  hw : HW aw
  wfq : wf (.node k ks) = true
  accq : acc (.node k ks) = true
  gen : isGenKids aw k 0 ps ks = true
  IH : ∀ x, x.depth < (Tree.node k ks).depth → wf x = true → acc x = true → P aw x
  fuel : 3 * (Tree.node k ps).depth + 2 ≤ f + 1

/-- field `fn` of `q` and of `p`, outside the WHERE slot -/
theorem locate_field {aw : Bool} {k fn : String} {ks ps : List Tree} {f : Nat} {ty : Ty} (cx : Ctx aw k ks ps f)
    (hd : declTy k fn = some ty) (hws : ((Tree.fieldIndex k fn).all fun j => !whereSlot true k j) = true) :
    ∃ x y, (Tree.node k ks).field fn = some x ∧ (Tree.node k ps).field fn = some y ∧ x ∈ ks ∧ y ∈ ps
      ∧ conforms ty x = true ∧ wf x = true ∧ acc x = true ∧ isGen aw false y x = true := by
  obtain ⟨j, x, y, hj, hx, hy, hkx, hky, hc, hwx, hg⟩ := field_align cx.wfq cx.gen hd
  have hxm : x ∈ ks := List.mem_of_getElem? hkx
  have hws' : whereSlot aw k j = false := by
    apply whereSlot_mono
    simp only [hj, Option.all_some, Bool.not_eq_true'] at hws
    exact hws
  rw [hws'] at hg
  exact ⟨x, y, hx, hy, hxm, List.mem_of_getElem? hky, hc, hwx, acc_kid cx.accq hxm, hg⟩

theorem pairAcc_field {k fn c : String} {ks : List Tree} {x : Tree} (hfn : fn ≠ "CompliantName()")
    (h : pairAcc k ks c (qField fn) = true) (hx : (Tree.node k ks).field fn = some x) :
    (builtinCmp c || c == "!=" || accepts c x) = true := by
  have hb : (fn == "CompliantName()") = false := by simpa using hfn
  simp only [pairAcc, qField, List.isEmpty_cons, Bool.false_eq_true, if_false, hb, hx, Option.map_some, Option.getD_some] at h
  exact h

theorem opCmp_fn {call : String → Tree → Tree → Bool} {c : String} (hnb : builtinCmp c = false) (x y : Tree) :
    opCmp call c x y = call c x y := by
  simp only [builtinCmp, Bool.or_eq_false_iff] at hnb
  simp [opCmp, hnb.1.1, hnb.1.2, hnb.2]

theorem cmp_pass {call : String → Tree → Tree → Bool} {esc : String → Tree → Bool} {q p x y : Tree} {i : Option Nat} {c : String} {a b : Opnd}
    (ha : selO i q p a = some x) (hb : selO i q p b = some y) (h : opCmp call c x y = true) :
    (atomAt call esc q p i (.cmp c a b)).notFalse = true := by
  simp [atomAt, ha, hb, h, Res.notFalse]

theorem ne_pass {call : String → Tree → Tree → Bool} {esc : String → Tree → Bool} {q p x : Tree} {i : Option Nat} {a b : Opnd}
    (ha : selO i q p a = some x) (hb : selO i q p b = some x) :
    (atomAt call esc q p i (.ne a b)).notFalse = true := by
  simp [atomAt, ha, hb, Res.notFalse]

/-- `c(q.F, p.F)` -/
theorem field_cmp_good {aw : Bool} {k fn c : String} {ks ps : List Tree} {f : Nat} {esc : String → Tree → Bool} (cx : Ctx aw k ks ps f)
    (hfn : fn ≠ "CompliantName()") (hws : ((Tree.fieldIndex k fn).all fun j => !whereSlot true k j) = true)
    (hok : partOk c (declTy k fn) = true) (hne : (c == "!=") = false) (hacc : pairAcc k ks c (qField fn) = true) :
    (atomAt (evalFn f) esc (.node k ks) (.node k ps) none (.cmp c (qField fn) (pField fn))).notFalse = true := by
  cases hd : declTy k fn with
  | none => simp [hd, partOk] at hok
  | some ty =>
    rw [hd] at hok
    obtain ⟨x, y, hx, hy, hxm, hym, hc, hwx, hax, hg⟩ := locate_field cx hd hws
    refine cmp_pass (by rw [selO_qField _ _ _ hfn]; exact hx) (by rw [selO_pField _ _ _ hfn]; exact hy) ?_
    exact part_cmp cx.IH (Nat.lt_of_succ_le (Tree.depth_kid hxm)) (Tree.depth_kid hym) hc hwx hax hok hne
      (pairAcc_field hfn hacc hx) hg cx.fuel

/-- `q.F != p.F` -/
theorem field_ne_good {aw : Bool} {k fn : String} {ks ps : List Tree} {f : Nat} {esc : String → Tree → Bool} (cx : Ctx aw k ks ps f)
    (hfn : fn ≠ "CompliantName()") (hws : ((Tree.fieldIndex k fn).all fun j => !whereSlot true k j) = true)
    (hok : partOk "!=" (declTy k fn) = true) :
    (atomAt (evalFn f) esc (.node k ks) (.node k ps) none (.ne (qField fn) (pField fn))).notFalse = true := by
  cases hd : declTy k fn with
  | none => simp [hd, partOk] at hok
  | some ty =>
    rw [hd] at hok
    obtain ⟨x, y, hx, hy, _, _, hc, hwx, _, hg⟩ := locate_field cx hd hws
    have := part_ne hc hwx hok hg
    subst this
    exact ne_pass (by rw [selO_qField _ _ _ hfn]; exact hx) (by rw [selO_pField _ _ _ hfn]; exact hy)

theorem wherePattern_depth : wherePattern.depth = wexpr.depth + 1 := by decide +kernel
theorem wherePattern_notNil : wherePattern.isNil = false := by decide +kernel
theorem wherePattern_type : foldEq (fld wherePattern "Type") (fld wherePattern "Type") = true := by decide +kernel

/-- `isWherePattern(%%WHERE%%)` -/
theorem esc_wherePattern {aw : Bool} (hw : HW aw) (haw : aw = true) {f : Nat} (hf : 3 * wexpr.depth + 3 ≤ f) :
    escEval (evalFn f) "isWherePattern" wherePattern = true := by
  simp only [escEval, wherePattern_notNil, wherePattern_type, beq_self_eq_true, Bool.not_false, Bool.true_and]
  exact hw haw f hf

/-- `areEqualWhere(q.Where, p.Where)` with the `%%WHERE%%` escape -/
theorem field_esc_good {aw : Bool} {k fn c : String} {ks ps : List Tree} {f : Nat} (cx : Ctx aw k ks ps f)
    (hfn : fn ≠ "CompliantName()") (hd : (declTy k fn).isSome = true)
    (hnb : builtinCmp c = false) (hne : (c == "!=") = false) (hkeep : calleeKeepsKind c = true)
    (hacc : pairAcc k ks c (qField fn) = true) :
    (atomAt (evalFn f) (escEval (evalFn f)) (.node k ks) (.node k ps) none
      (.cmpEsc "isWherePattern" (pField fn) c (qField fn) (pField fn))).notFalse = true := by
  cases hdt : declTy k fn with
  | none => simp [hdt] at hd
  | some ty =>
    obtain ⟨j, x, y, hj, hx, hy, hkx, hky, hc, hwx, hg⟩ := field_align cx.wfq cx.gen hdt
    have hxm : x ∈ ks := List.mem_of_getElem? hkx
    have hym : y ∈ ps := List.mem_of_getElem? hky
    have ha : selO none (.node k ks) (.node k ps) (qField fn) = some x := by rw [selO_qField _ _ _ hfn]; exact hx
    have hb : selO none (.node k ks) (.node k ps) (pField fn) = some y := by rw [selO_pField _ _ _ hfn]; exact hy
    have hacc' := pairAcc_field hfn hacc hx
    simp only [hnb, hne, Bool.false_or] at hacc'
    have call_ok : isGen aw false y x = true → opCmp (evalFn f) c x y = true := fun hg' => by
      rw [opCmp_fn hnb]
      exact child_call cx.IH cx.wfq cx.accq hxm hym hacc' hg' hkeep cx.fuel
    simp only [atomAt, ha, hb]
    cases hwh : whereSlot aw k j with
    | false =>
      rw [hwh] at hg
      simp [call_ok hg, Res.notFalse]
    | true =>
      rw [hwh] at hg
      have haw : aw = true := by
        cases aw
        · simp [whereSlot] at hwh
        · rfl
      rcases isGen_wh hg with hy' | hg'
      · cases hcmp : opCmp (evalFn f) c x y with
        | true => simp [Res.notFalse]
        | false =>
          have hd1 := Tree.depth_kid (k := k) hym
          have hfu := cx.fuel
          rw [hy', wherePattern_depth] at hd1
          have : escEval (evalFn f) "isWherePattern" y = true := by
            rw [hy']; exact esc_wherePattern cx.hw haw (by omega)
          simp [this, Res.notFalse]
      · simp [call_ok hg', Res.notFalse]

/-- `strings.EqualFold(q.CompliantName(), p.CompliantName())` -/
theorem compliant_good {aw : Bool} {k : String} {ks ps : List Tree} {f : Nat} {esc : String → Tree → Bool} (cx : Ctx aw k ks ps f)
    (hd : declTy k "v" = some .leaf) :
    (atomAt (evalFn f) esc (.node k ks) (.node k ps) none
      (.cmp "strings.EqualFold" (qField "CompliantName()") (pField "CompliantName()"))).notFalse = true := by
  obtain ⟨j, x, y, _, hx, hy, _, _, hc, _, hg⟩ := field_align cx.wfq cx.gen hd
  cases x with
  | node _ _ => simp [conforms, Tree.isLeaf] at hc
  | leaf b =>
    have := isGen_leaf hg
    subst this
    refine cmp_pass (x := .leaf (compliantName b)) (y := .leaf (compliantName b)) ?_ ?_ ?_
    · rw [selO_qCompliant, hx]; rfl
    · rw [selO_pCompliant, hy]; rfl
    · simp [opCmp, foldEq]

theorem namedTy_nil : namedTy "nil" = none := by decide +kernel
theorem namedTy_list : namedTy "list" = none := by decide +kernel

theorem named_kind_ne {k : String} {e : Option Ty} (h : namedTy k = some e) : (k == "nil") = false ∧ (k == "list") = false :=
  have ne {s : String} (hs : namedTy s = none) : (k == s) = false :=
    beq_false_of_ne (ne_of_apply_ne namedTy (by simp [h, hs]))
  ⟨ne namedTy_nil, ne namedTy_list⟩

/-- a node all of whose declared parts are rigid generalises (node by node) to itself only -/
theorem whole_rigid {aw : Bool} {k : String} {ks ps : List Tree} (hr : wholeRigid k = true)
    (hwf : wf (.node k ks) = true) (hgen : isGenKids aw k 0 ps ks = true) : ps = ks := by
  simp only [wholeRigid, Bool.and_eq_true, bne_iff_ne, ne_eq] at hr
  obtain ⟨hsel, hr⟩ := hr
  -- pointwise argument shared by the struct and the slice case
  have pointwise : k ≠ "ValTuple" → (∀ (j : Nat) (x : Tree), ks[j]? = some x → ∃ ty, rigidTy ty = true ∧ conforms ty x = true ∧ wf x = true) → ps = ks := by
    intro hvt hall
    obtain ⟨hlen, hk⟩ := isGenKids_elems hvt hsel hgen
    apply List.ext_getElem hlen
    intro j h1 h2
    have hx : ks[j]? = some ks[j] := List.getElem?_eq_getElem h2
    obtain ⟨ty, hrt, hc, hw⟩ := hall j _ hx
    exact isGen_rigid hc hw hrt (hk j _ _ hx (List.getElem?_eq_getElem h1))
  cases ht : fieldTys k with
  | some tys =>
    rw [ht] at hr
    obtain ⟨hvt, hn, hl⟩ := struct_kind_ne ht
    obtain ⟨hlen, hall⟩ := wfFields_get tys ks (wf_struct hwf ht hn hl)
    apply pointwise hvt
    intro j x hx
    have hj : j < tys.length := by rw [hlen]; exact (List.getElem?_eq_some_iff.mp hx).1
    refine ⟨tys[j], ?_, hall j _ x (List.getElem?_eq_getElem hj) hx⟩
    exact List.all_eq_true.mp hr _ (List.getElem_mem hj)
  | none =>
    rw [ht] at hr
    cases hn : namedTy k with
    | none => simp [hn] at hr
    | some oe =>
      obtain ⟨hnn, hnl⟩ := named_kind_ne hn
      cases oe with
      | some e =>
        simp only [hn, Bool.and_eq_true, bne_iff_ne, ne_eq] at hr
        have hel := wf_named hwf ht hn hnn hnl
        apply pointwise hr.2
        intro j x hx
        have := wfElems_mem e ks hel x (List.mem_of_getElem? hx)
        exact ⟨e, hr.1, this.1, this.2⟩
      | none =>
        have hs : isSingleLeaf ks = true := by
          have := hwf
          rw [wf.eq_2] at this
          simpa [hnn, hnl, ht, hn] using this
        exact isGenKids_leaves 0 ps ks (isSingleLeaf_leaves hs) hgen

theorem plainList_spec {l : String} (h : plainList l = true) :
    placeholdersFor false l = [] ∧ l ≠ "ValTuple" ∧ l ≠ "Select" := by
  simp only [plainList, Bool.and_eq_true, List.isEmpty_iff, bne_iff_ne, ne_eq] at h
  exact ⟨h.1.1, h.1.2, h.2⟩

/-- elements of a plain list and of a node-by-node generalisation of it -/
theorem elems_align {aw : Bool} {l : String} {ks ps : List Tree} (hpl : plainList l = true)
    (hgen : isGenKids aw l 0 ps ks = true) :
    ps.length = ks.length ∧ ∀ i, i < ps.length → ∃ x y, ks[i]? = some x ∧ ps[i]? = some y ∧ x ∈ ks ∧ y ∈ ps ∧ isGen aw false y x = true := by
  obtain ⟨_, hvt, hsel⟩ := plainList_spec hpl
  obtain ⟨hlen, hk⟩ := isGenKids_elems hvt hsel hgen
  refine ⟨hlen, fun i hi => ?_⟩
  have hik : i < ks.length := hlen ▸ hi
  have hx : ks[i]? = some ks[i] := List.getElem?_eq_getElem hik
  have hy : ps[i]? = some ps[i] := List.getElem?_eq_getElem hi
  exact ⟨ks[i], ps[i], hx, hy, List.getElem_mem _, List.getElem_mem _, hk i _ _ hx hy⟩

/-- `c(q[i], p[i])` inside `for i := range p` -/
theorem elem_cmp_good {aw : Bool} {k c : String} {ks ps : List Tree} {f : Nat} {esc : String → Tree → Bool} (cx : Ctx aw k ks ps f)
    (hpl : plainList k = true) (hnb : builtinCmp c = false) (hne : (c == "!=") = false) (hkeep : calleeKeepsKind c = true)
    (hacc : pairAcc k ks c qElem = true) (i : Nat) (hi : i < ps.length) :
    (atomAt (evalFn f) esc (.node k ks) (.node k ps) (some i) (.cmp c qElem pElem)).notFalse = true := by
  obtain ⟨_, hall⟩ := elems_align hpl cx.gen
  obtain ⟨x, y, hx, hy, hxm, hym, hg⟩ := hall i hi
  refine cmp_pass (by rw [selO_qElem]; exact hx) (by rw [selO_pElem]; exact hy) ?_
  rw [opCmp_fn hnb]
  have hax : accepts c x = true := by
    simp only [pairAcc, qElem, List.isEmpty_nil, if_true, List.all_eq_true] at hacc
    have := hacc x hxm
    simpa [hnb, hne] using this
  exact child_call cx.IH cx.wfq cx.accq hxm hym hax hg hkeep cx.fuel

theorem structFields_nil : structFields.lookup "nil" = none := by decide +kernel

theorem field_nil (fn : String) : Tree.nil.field fn = none := by
  simp [Tree.nil, Tree.field, Tree.fieldIndex, structFields_nil]

/-- a context for a child that is itself generalised node by node -/
theorem Ctx.down {aw : Bool} {k k0 : String} {ks ps ks0 ps0 : List Tree} {f : Nat} (cx : Ctx aw k ks ps f)
    (hx : Tree.node k0 ks0 ∈ ks) (hy : Tree.node k0 ps0 ∈ ps) (hg : isGenKids aw k0 0 ps0 ks0 = true) : Ctx aw k0 ks0 ps0 f where
  hw := cx.hw
  wfq := wf_kid cx.wfq hx
  accq := acc_kid cx.accq hx
  gen := hg
  IH := fun x hxd => cx.IH x (Nat.lt_trans hxd (Nat.lt_of_succ_le (Tree.depth_kid hx)))
  fuel := by
    have := Tree.depth_kid (k := k) hy
    have := cx.fuel
    omega

/-- the elements of a named slice of (pointers to) structs `ek` -/
theorem elem_struct {aw : Bool} {k ek fn : String} {ks ps : List Tree} {f : Nat} (cx : Ctx aw k ks ps f)
    (hft : fieldTys k = none) (hek : elemKindOf (.named k) = some ek)
    (hph : placeholdersFor false ek = []) {x0 y0 v : Tree} (hxm : x0 ∈ ks) (hym : y0 ∈ ps) (hg : isGen aw false y0 x0 = true)
    (hfld : x0.field fn = some v) :
    ∃ ks0 ps0, x0 = .node ek ks0 ∧ y0 = .node ek ps0 ∧ isGenKids aw ek 0 ps0 ks0 = true := by
  -- the element conforms to the element type
  simp only [elemKindOf] at hek
  cases hn : namedTy k with
  | none => simp [hn] at hek
  | some oe =>
    cases oe with
    | none => simp [hn] at hek
    | some e =>
      obtain ⟨hnn, hnl⟩ := named_kind_ne hn
      have hc := (wfElems_mem e ks (wf_named cx.wfq hft hn hnn hnl) x0 hxm).1
      have hkind : x0.isNilNode = true ∨ x0.kind = ek := by
        simp only [hn] at hek
        cases e with
        | ptr k' =>
          simp only [Option.some.injEq] at hek; subst hek
          simpa [conforms] using hc
        | struct k' =>
          simp only [Option.some.injEq] at hek; subst hek
          right; simpa [conforms] using hc
        | _ => simp at hek
      rcases hkind with hnil | hkind
      · rw [isNilNode_eq hnil, field_nil] at hfld; cases hfld
      · cases x0 with
        | leaf b => simp [Tree.field] at hfld
        | node k0 ks0 =>
          simp only [Tree.kind] at hkind
          subst hkind
          obtain ⟨ps0, rfl, hk⟩ := isGen_node_plain hg hph
          exact ⟨ks0, ps0, rfl, rfl, hk⟩

/-- field `fn` of the `i`-th element of `q` and of `p` -/
theorem locate_elemField {aw : Bool} {k ek fn c : String} {ks ps : List Tree} {f : Nat} (cx : Ctx aw k ks ps f)
    (hpl : plainList k = true) (hft : fieldTys k = none) (hek : elemKindOf (.named k) = some ek)
    (hph : placeholdersFor false ek = []) (hsel : ek ≠ "Select") (hfn : fn ≠ "CompliantName()")
    (hok : partOk c (declTy ek fn) = true) (hacc : pairAcc k ks c (qElemField fn) = true) (i : Nat) (hi : i < ps.length) :
    ∃ ty v y, declTy ek fn = some ty
      ∧ selO (some i) (.node k ks) (.node k ps) (qElemField fn) = some v
      ∧ selO (some i) (.node k ks) (.node k ps) (pElemField fn) = some y
      ∧ v.depth < (Tree.node k ks).depth ∧ y.depth + 1 ≤ (Tree.node k ps).depth
      ∧ conforms ty v = true ∧ wf v = true ∧ acc v = true
      ∧ (builtinCmp c || c == "!=" || accepts c v) = true ∧ isGen aw false y v = true := by
  obtain ⟨_, hall⟩ := elems_align hpl cx.gen
  obtain ⟨x0, y0, hx0, hy0, hxm, hym, hg⟩ := hall i hi
  have hacc0 : ((x0.field fn).map fun x => builtinCmp c || c == "!=" || accepts c x).getD false = true := by
    simp only [pairAcc, qElemField, List.isEmpty_cons, Bool.false_eq_true, if_false, if_true, List.all_eq_true] at hacc
    exact hacc x0 hxm
  cases hv : x0.field fn with
  | none => simp [hv] at hacc0
  | some v =>
    obtain ⟨ks0, ps0, rfl, rfl, hk0⟩ := elem_struct cx hft hek hph hxm hym hg hv
    cases hd : declTy ek fn with
    | none => simp [hd, partOk] at hok
    | some ty =>
      have hws : ((Tree.fieldIndex ek fn).all fun j => !whereSlot true ek j) = true := by
        cases Tree.fieldIndex ek fn with
        | none => rfl
        | some j => simp [whereSlot_ne_select hsel]
      obtain ⟨x, y, hx, hy, hxm', hym', hc, hwx, hax, hg'⟩ := locate_field (cx.down hxm hym hk0) hd hws
      rw [hv] at hx; cases hx
      have d1 := Tree.depth_kid (k := ek) hxm'
      have d2 := Tree.depth_kid (k := k) hxm
      have d3 := Tree.depth_kid (k := ek) hym'
      have d4 := Tree.depth_kid (k := k) hym
      refine ⟨ty, v, y, rfl, ?_, ?_, by omega, by omega, hc, hwx, hax, by simpa [hv] using hacc0, hg'⟩
      · rw [selO_qElemField _ _ _ _ hfn]; simp [Tree.kids, hx0, hv]
      · rw [selO_pElemField _ _ _ _ hfn]; simp [Tree.kids, hy0, hy]

/-- `c(q[i].F, p[i].F)` inside `for i := range p` -/
theorem elemField_cmp_good {aw : Bool} {k ek fn c : String} {ks ps : List Tree} {f : Nat} {esc : String → Tree → Bool} (cx : Ctx aw k ks ps f)
    (hpl : plainList k = true) (hft : fieldTys k = none) (hek : elemKindOf (.named k) = some ek)
    (hph : placeholdersFor false ek = []) (hsel : ek ≠ "Select") (hfn : fn ≠ "CompliantName()")
    (hok : partOk c (declTy ek fn) = true) (hne : (c == "!=") = false)
    (hacc : pairAcc k ks c (qElemField fn) = true) (i : Nat) (hi : i < ps.length) :
    (atomAt (evalFn f) esc (.node k ks) (.node k ps) (some i) (.cmp c (qElemField fn) (pElemField fn))).notFalse = true := by
  obtain ⟨ty, v, y, hd, ha, hb, d1, d2, hc, hwx, hax, hacc', hg⟩ := locate_elemField cx hpl hft hek hph hsel hfn hok hacc i hi
  rw [hd] at hok
  exact cmp_pass ha hb (part_cmp cx.IH d1 d2 hc hwx hax hok hne hacc' hg cx.fuel)

/-- `q[i].F != p[i].F` never occurs in the table but is a shape of the typing: covered for completeness -/
theorem elemField_ne_good {aw : Bool} {k ek fn : String} {ks ps : List Tree} {f : Nat} {esc : String → Tree → Bool} (cx : Ctx aw k ks ps f)
    (hpl : plainList k = true) (hft : fieldTys k = none) (hek : elemKindOf (.named k) = some ek)
    (hph : placeholdersFor false ek = []) (hsel : ek ≠ "Select") (hfn : fn ≠ "CompliantName()")
    (hok : partOk "!=" (declTy ek fn) = true)
    (hacc : pairAcc k ks "!=" (qElemField fn) = true) (i : Nat) (hi : i < ps.length) :
    (atomAt (evalFn f) esc (.node k ks) (.node k ps) (some i) (.ne (qElemField fn) (pElemField fn))).notFalse = true := by
  obtain ⟨ty, v, y, hd, ha, hb, _, _, hc, hwx, _, _, hg⟩ := locate_elemField cx hpl hft hek hph hsel hfn hok hacc i hi
  rw [hd] at hok
  have := part_ne hc hwx hok hg
  subst this
  exact ne_pass ha hb

/-- a list-valued field of `q` and of `p` -/
theorem locate_list {aw : Bool} {k f0 l : String} {ks ps : List Tree} {f : Nat} {ty : Ty} (cx : Ctx aw k ks ps f)
    (hd : declTy k f0 = some ty) (hws : ((Tree.fieldIndex k f0).all fun j => !whereSlot true k j) = true)
    (hl : listKindOf ty = some l) (hpl : plainList l = true) :
    ∃ xl yl, (Tree.node k ks).field f0 = some xl ∧ (Tree.node k ps).field f0 = some yl ∧ xl ∈ ks ∧ yl ∈ ps
      ∧ wf xl = true ∧ acc xl = true
      ∧ ((xl.kids = [] ∧ yl.kids = []) ∨ ∃ ks1 ps1, xl = .node l ks1 ∧ yl = .node l ps1 ∧ isGenKids aw l 0 ps1 ks1 = true) := by
  obtain ⟨xl, yl, hx, hy, hxm, hym, hc, hwx, hax, hg⟩ := locate_field cx hd hws
  refine ⟨xl, yl, hx, hy, hxm, hym, hwx, hax, ?_⟩
  cases xl with
  | leaf b => left; rw [isGen_leaf hg]; exact ⟨rfl, rfl⟩
  | node k1 ks1 =>
    right
    have hk1 : k1 = l := by
      cases ty with
      | named n =>
        simp only [listKindOf] at hl
        have : n = l := by
          cases hn : namedTy n with
          | none => simp [hn] at hl
          | some oe => cases oe with
            | none => simp [hn] at hl
            | some e => simpa [hn] using hl
        subst this
        simpa [conforms, Tree.kind] using hc
      | list e =>
        simp only [listKindOf, Option.some.injEq] at hl
        subst hl
        simp only [conforms, Tree.kind, Bool.and_eq_true, beq_iff_eq] at hc
        exact hc.1
      | _ => simp [listKindOf] at hl
    subst hk1
    obtain ⟨ps1, rfl, hk⟩ := isGen_node_plain hg (plainList_spec hpl).1
    exact ⟨ks1, ps1, rfl, rfl, hk⟩

/-- `c(q.F[i], p.F[i])` inside `for i := range p.F` -/
theorem fieldElem_cmp_good {aw : Bool} {k f0 l c : String} {ks ps : List Tree} {f : Nat} {esc : String → Tree → Bool} {ty : Ty}
    (cx : Ctx aw k ks ps f) (hfn : f0 ≠ "") (hd : declTy k f0 = some ty)
    (hws : ((Tree.fieldIndex k f0).all fun j => !whereSlot true k j) = true)
    (hl : listKindOf ty = some l) (hpl : plainList l = true)
    (hnb : builtinCmp c = false) (hne : (c == "!=") = false) (hkeep : calleeKeepsKind c = true)
    (hacc : pairAcc k ks c (qFieldElem f0) = true) {yl : Tree} (hy : (Tree.node k ps).field f0 = some yl) (i : Nat) (hi : i < yl.kids.length) :
    (atomAt (evalFn f) esc (.node k ks) (.node k ps) (some i) (.cmp c (qFieldElem f0) (pFieldElem f0))).notFalse = true := by
  obtain ⟨xl, yl', hx, hy', hxm, hym, hwx, hax, hcase⟩ := locate_list cx hd hws hl hpl
  rw [hy] at hy'; cases hy'
  rcases hcase with ⟨_, h0⟩ | ⟨ks1, ps1, rfl, rfl, hk⟩
  · rw [h0] at hi; cases hi
  · obtain ⟨_, hall⟩ := elems_align hpl hk
    obtain ⟨x, y, hx1, hy1, hxm1, hym1, hg⟩ := hall i hi
    refine cmp_pass (x := x) (y := y) ?_ ?_ ?_
    · rw [selO_qFieldElem _ _ _ _ hfn, hx]; simpa [Tree.kids] using hx1
    · rw [selO_pFieldElem _ _ _ _ hfn, hy]; simpa [Tree.kids] using hy1
    · rw [opCmp_fn hnb]
      have hacc' : accepts c x = true := by
        simp only [pairAcc, qFieldElem, List.isEmpty_cons, Bool.false_eq_true, if_false, hx, Option.map_some, Option.getD_some,
          Tree.kids, List.all_eq_true] at hacc
        have := hacc x hxm1
        simpa [hnb, hne] using this
      have d1 := Tree.depth_kid (k := l) hxm1
      have d2 := Tree.depth_kid (k := k) hxm
      have d3 := Tree.depth_kid (k := l) hym1
      have d4 := Tree.depth_kid (k := k) hym
      exact kid_call cx.IH (by omega) (by omega) (wf_kid hwx hxm1) (acc_kid hax hxm1) hacc' hg hkeep cx.fuel

theorem len_pass {call : String → Tree → Tree → Bool} {esc : String → Tree → Bool} {q p x y : Tree} {a b : Opnd}
    (ha : selO none q p a = some x) (hb : selO none q p b = some y) (h : x.kids.length = y.kids.length) :
    (atomAt call esc q p none (.len a b)).notFalse = true := by
  simp [atomAt, ha, hb, h, Res.notFalse]

/-- `len(q.F) != len(p.F)` -/
theorem field_len_good {aw : Bool} {k f0 l : String} {ks ps : List Tree} {f : Nat} {esc : String → Tree → Bool} {ty : Ty}
    (cx : Ctx aw k ks ps f) (hfn : f0 ≠ "CompliantName()") (hd : declTy k f0 = some ty)
    (hws : ((Tree.fieldIndex k f0).all fun j => !whereSlot true k j) = true)
    (hl : listKindOf ty = some l) (hpl : plainList l = true) :
    (atomAt (evalFn f) esc (.node k ks) (.node k ps) none (.len (qField f0) (pField f0))).notFalse = true := by
  obtain ⟨xl, yl, hx, hy, _, _, _, _, hcase⟩ := locate_list cx hd hws hl hpl
  refine len_pass (by rw [selO_qField _ _ _ hfn]; exact hx) (by rw [selO_pField _ _ _ hfn]; exact hy) ?_
  rcases hcase with ⟨h1, h2⟩ | ⟨ks1, ps1, rfl, rfl, hk⟩
  · rw [h1, h2]
  · exact ((elems_align hpl hk).1).symm

/-- `len(q) != len(p)` -/
theorem whole_len_good {aw : Bool} {k : String} {ks ps : List Tree} {f : Nat} {esc : String → Tree → Bool}
    (cx : Ctx aw k ks ps f) (hpl : plainList k = true) :
    (atomAt (evalFn f) esc (.node k ks) (.node k ps) none (.len qWhole pWhole)).notFalse = true :=
  len_pass (selO_qWhole ..) (selO_pWhole ..) ((elems_align hpl cx.gen).1).symm

end AcraModel.Censor.Match
