import AcraModel.Censor.MatchSpecial
/-! # `match_generalise`: the type switches, the induction, the top level -/
namespace AcraModel.Censor.Match
open AcraModel AcraModel.Censor Generated.CensorTable

theorem domOf_switch {fn : String} {cases : List (String × String × String × String)} (hts : typeSwitches.lookup fn = some cases) :
    domOf fn = ⟨(cases.map (·.1)).filter (fun k => !excludedCases.contains (fn, k)), fn == "areEqualExpr"⟩ := by
  have ne (s : String) (hs : typeSwitches.lookup s = none) : (fn == s) = false :=
    beq_false_of_ne (ne_of_apply_ne (typeSwitches.lookup ·) (by simp [hts, hs]))
  unfold domOf
  simp only [ne "areEqualSQLVal" (by decide +kernel), ne "areEqualColIdent" (by decide +kernel), ne "areEqualSubquery" (by decide +kernel),
    ne "areEqualValTuple" (by decide +kernel), ne "areEqualSelectExprs" (by decide +kernel), Bool.false_eq_true, if_false, hts]

theorem rank_switch {fn : String} {cases : List (String × String × String × String)} (hts : typeSwitches.lookup fn = some cases) :
    rankOf fn = 3 := by
  have h1 : rank1Fns.contains fn = false := by
    cases h : rank1Fns.contains fn with
    | false => rfl
    | true =>
      simp only [rank1Fns, List.contains_cons, List.contains_nil, Bool.or_false, Bool.or_eq_true, beq_iff_eq] at h
      rcases h with h | h
      · subst h
        have : typeSwitches.lookup "areEqualSQLVal" = none := by decide +kernel
        rw [this] at hts; cases hts
      · subst h
        have : typeSwitches.lookup "areEqualColIdent" = none := by decide +kernel
        rw [this] at hts; cases hts
  have h2 : switchFns.contains fn = true := by
    unfold switchFns
    rw [contains_map_fst, hts]; rfl
  simp only [rankOf, h1, h2]
  rfl

/-- the kind-changing kinds -/
theorem kindChanging_cases {k : String} (h : kindChanging k = true) : k = "BoolVal" ∨ k = "NullVal" ∨ k = "FuncExpr" := by
  simp only [kindChanging, valueLike, Bool.and_eq_true, Bool.or_eq_true, beq_iff_eq, bne_iff_ne, ne_eq] at h
  obtain ⟨((h1 | h1) | h1) | h1, h2⟩ := h
  · exact absurd h1 h2
  · exact Or.inl h1
  · exact Or.inr (Or.inl h1)
  · exact Or.inr (Or.inr h1)

/-- a generalisation of a node either keeps its kind or is `%%VALUE%%` standing for a `BoolVal`/`NullVal`/`FuncExpr` -/
theorem isGen_kind_or_value {aw : Bool} {p : Tree} {k : String} {ks : List Tree} (h : isGen aw false p (.node k ks) = true) :
    p.kind = k ∨ (valueLike k = true ∧ p = valuePattern) := by
  cases hkc : kindChanging k with
  | false => exact Or.inl (isGen_kind h hkc)
  | true =>
    rcases isGen_node h with hp | ⟨ps, rfl, _⟩
    · right
      rcases kindChanging_cases hkc with rfl | rfl | rfl <;>
        exact ⟨by decide +kernel, by simpa [placeholdersFor, valueLike, stmtPattern] using hp⟩
    · exact Or.inl rfl

theorem contains_of_filter {l : List String} {pr : String → Bool} {k : String} (h : (l.filter pr).contains k = true) :
    l.contains k = true ∧ pr k = true := by
  simp only [List.contains_iff_mem, List.mem_filter] at h ⊢
  exact h

theorem specialRows_SelectExpr : ((typeSwitches.lookup "areEqualSelectExpr").getD []).all
    (fun r => r.2.1 != "special" || ["StarExpr", "AliasedExpr"].contains r.1) = true := by decide +kernel
theorem specialRows_InsertRows : ((typeSwitches.lookup "areEqualInsertRows").getD []).all
    (fun r => r.2.1 != "special" || ["Values"].contains r.1) = true := by decide +kernel
theorem specialRows_Expr : ((typeSwitches.lookup "areEqualExpr").getD []).all
    (fun r => r.2.1 != "special" || ["SQLVal", "ColName"].contains r.1) = true := by decide +kernel

theorem special_kind {fn : String} {cases : List (String × String × String × String)} {allowed : List String}
    (hts : typeSwitches.lookup fn = some cases)
    (hrows : ((typeSwitches.lookup fn).getD []).all (fun r => r.2.1 != "special" || allowed.contains r.1) = true)
    {k : String} {row : String × String × String × String} (hfind : cases.find? (·.1 == k) = some row) (hsp : row.2.1 = "special") :
    allowed.contains k = true := by
  obtain ⟨hk, hm⟩ := find?_fst hfind
  rw [hts] at hrows
  have := List.all_eq_true.mp hrows row hm
  simpa [hsp, hk] using this

/-- `areEqualSelectExpr`: cases `*StarExpr` and `*AliasedExpr` -/
theorem selectExpr_special {aw : Bool} {k : String} {ks : List Tree} {p : Tree} {f : Nat}
    (hwf : wf (.node k ks) = true) (hacc : acc (.node k ks) = true) (hnn : (Tree.node k ks).isNilNode = false)
    (IH : ∀ x, x.depth < (Tree.node k ks).depth → wf x = true → acc x = true → P aw x) (h2 : H2 aw (.node k ks))
    (hgen : isGen aw false p (.node k ks) = true) (hpk : p.kind = k) (hfuel : 3 * p.depth + 3 ≤ f + 1)
    (hk : ["StarExpr", "AliasedExpr"].contains k = true) :
    (selectExprSpecial (evalFn f) (.node k ks) p k).getD false = true := by
  simp only [List.contains_cons, List.contains_nil, Bool.or_false, Bool.or_eq_true, beq_iff_eq] at hk
  rcases hk with rfl | rfl
  · obtain ⟨ps, rfl, hk2⟩ := isGen_node_plain hgen (by decide +kernel)
    have hd : declTy "StarExpr" "TableName" = some (.struct "TableName") := by decide +kernel
    obtain ⟨x, y, hx, hy, this⟩ := site_field_call (c := "areEqualTableName") (f := f) hwf hacc IH (by decide +kernel)
      (by decide +kernel) (by decide +kernel) hd hk2 (by omega)
    simp [selectExprSpecial, Tree.kind_node, fld, hx, hy, this]
  · have hcall : evalFn f "areEqualAliasedExpr" (.node "AliasedExpr" ks) p = true :=
      h2.call (by decide +kernel) evaluated_okAliasedExpr evaluated_domAliasedExpr hnn hgen hpk hfuel
    simp [selectExprSpecial, Tree.kind_node, hcall]

/-- `areEqualInsertRows`: case `Values` -/
theorem insertRows_special {aw : Bool} {k : String} {ks : List Tree} {p : Tree} {f : Nat}
    (hwf : wf (.node k ks) = true) (hacc : acc (.node k ks) = true)
    (IH : ∀ x, x.depth < (Tree.node k ks).depth → wf x = true → acc x = true → P aw x)
    (hgen : isGen aw false p (.node k ks) = true) (hfuel : 3 * p.depth + 3 ≤ f + 1)
    (hk : ["Values"].contains k = true) :
    (insertRowsSpecial (evalFn f) (.node k ks) p k).getD false = true := by
  obtain rfl : k = "Values" := by simpa using hk
  obtain ⟨ps, rfl, hk2⟩ := isGen_node_plain hgen (by decide +kernel)
  have : all2 (evalFn f "areEqualValTuple") ks ps = true :=
    site_all2 hwf hacc IH (by decide +kernel) (by decide +kernel) (by decide +kernel) hk2 (by omega)
  simp [insertRowsSpecial, Tree.kind_node, Tree.kids, this]

/-- `areEqualExpr`: cases `*SQLVal` and `*ColName` when the query has the same kind -/
theorem expr_special {aw : Bool} {k : String} {ks : List Tree} {p : Tree} {f : Nat}
    (hnn : (Tree.node k ks).isNilNode = false) (h2 : H2 aw (.node k ks))
    (hgen : isGen aw false p (.node k ks) = true) (hpk : p.kind = k) (hfuel : 3 * p.depth + 3 ≤ f + 1)
    (hk : ["SQLVal", "ColName"].contains k = true) :
    (exprSpecial (evalFn f) (.node k ks) p k).getD false = true := by
  simp only [List.contains_cons, List.contains_nil, Bool.or_false, Bool.or_eq_true, beq_iff_eq] at hk
  rcases hk with rfl | rfl
  · have hcall : evalFn f "areEqualSQLVal" (.node "SQLVal" ks) p = true :=
      h2.call (by decide +kernel) (by decide +kernel) (by decide +kernel) hnn hgen hpk hfuel
    simp [exprSpecial, Tree.kind_node, hcall]
  · have hcall : evalFn f "areEqualColName" (.node "ColName" ks) p = true :=
      h2.call (by decide +kernel) evaluated_okColName evaluated_domColName hnn hgen hpk hfuel
    simp [exprSpecial, Tree.kind_node, hcall]

theorem nil_isNil : Tree.nil.isNil = true := rfl

theorem isNil_false_of {k : String} {ks : List Tree} (hwf : wf (.node k ks) = true) (hnn : (Tree.node k ks).isNilNode = false) :
    (Tree.node k ks).isNil = false := by
  have := isNil_of_wf hwf hnn
  simpa [Tree.isNil, Tree.kind_node] using this

theorem special_switches : specialFns.all (fun s => s == "areEqualSelectExpr" || s == "areEqualInsertRows" || s == "areEqualExpr"
    || (typeSwitches.lookup s).isNone) = true := by decide +kernel

/-- **the functions that switch on the pattern's type** -/
theorem switch_fn_ok {aw : Bool} (hw : HW aw) {fn : String} (hsw : switchTyped fn = true)
    {q : Tree} (hwf : wf q = true) (hacc : acc q = true) (hq : accepts fn q = true)
    (IH : ∀ x, x.depth < q.depth → wf x = true → acc x = true → P aw x) (h2 : H2 aw q)
    {p : Tree} (hgen : isGen aw false p q = true) {fuel : Nat} (hfuel : need fn p ≤ fuel) :
    evalFn fuel fn q p = true := by
  unfold switchTyped at hsw
  cases hts : typeSwitches.lookup fn with
  | none => simp [hts] at hsw
  | some cases =>
    simp only [hts, Bool.and_eq_true, Bool.or_eq_true, beq_iff_eq, List.all_eq_true, Bool.not_eq_true', bne_iff_ne, ne_eq,
      Option.isNone_iff_eq_none] at hsw
    obtain ⟨⟨hst, hkc⟩, hspc⟩ := hsw
    have hst' : cases.all (caseTyped fn) = true := List.all_eq_true.mpr hst
    have hr := rank_switch hts
    have hfuel' : 3 * p.depth + 3 ≤ fuel := by unfold need at hfuel; omega
    obtain ⟨f, rfl⟩ : ∃ f, fuel = f + 1 := ⟨fuel - 1, by omega⟩
    have hdom := domOf_switch hts
    simp only [accepts, hdom, Bool.and_eq_true, Bool.or_eq_true, Bool.not_eq_true', beq_iff_eq] at hq
    obtain ⟨⟨_, hnl⟩, hq⟩ := hq
    -- the common part: a non-nil node of an accepted kind, pattern of the same kind
    have core : ∀ k ks, q = .node k ks → q.isNilNode = false →
        ((cases.map (·.1)).filter (fun k => !excludedCases.contains (fn, k))).contains k = true → p.kind = k →
        ∀ sp, (∀ row, cases.find? (·.1 == k) = some row → row.2.1 = "special" → (sp k).getD false = true) →
        typeSwitchEval (evalFn f) fn q p sp = true := by
      intro k ks hqe hnn hkin hpk sp hspec
      subst hqe
      obtain ⟨hkin', hnex⟩ := contains_of_filter hkin
      exact switch_ok hw hts hst' hwf hacc hnn IH h2 hkin' (by simpa using hnex) hgen hpk hfuel' hspec
    -- the same for a switch other than `areEqualExpr`: no nil argument, no kind-changing placeholder
    have plain : fn ≠ "areEqualExpr" → ∀ sp,
        (∀ k ks, q = .node k ks → q.isNilNode = false → p.kind = k → ∀ row, cases.find? (·.1 == k) = some row →
          row.2.1 = "special" → (sp k).getD false = true) → typeSwitchEval (evalFn f) fn q p sp = true := by
      intro hne sp hspec
      rcases hq with ⟨_, hnok⟩ | ⟨hnn, hkq⟩
      · exact absurd hnok hne
      · cases q with
        | leaf b => simp [Tree.isLeaf] at hnl
        | node k ks =>
          have hpk : p.kind = k := isGen_kind hgen (hkc.resolve_left hne k (by rw [hdom]; exact List.contains_iff_mem.mp hkq))
          exact core k ks rfl hnn hkq hpk sp (hspec k ks rfl hnn hpk)
    by_cases hsp : specialFns.contains fn = true
    · -- the three hand-written switches
      have hfn : fn = "areEqualSelectExpr" ∨ fn = "areEqualInsertRows" ∨ fn = "areEqualExpr" := by
        have := List.all_eq_true.mp special_switches fn (List.contains_iff_mem.mp hsp)
        simpa [hts, or_assoc] using this
      rcases hfn with rfl | rfl | rfl
      · rw [evalFn_SelectExpr]
        refine plain (by decide +kernel) _ fun k ks e hnn hpk row hfind hspr => ?_
        subst e
        exact selectExpr_special hwf hacc hnn IH h2 hgen hpk hfuel' (special_kind hts specialRows_SelectExpr hfind hspr)
      · rw [evalFn_InsertRows]
        refine plain (by decide +kernel) _ fun k ks e _ _ row hfind hspr => ?_
        subst e
        exact insertRows_special hwf hacc IH hgen hfuel' (special_kind hts specialRows_InsertRows hfind hspr)
      · rw [evalFn_Expr]
        rcases hq with ⟨hnil, _⟩ | ⟨hnn, hkq⟩
        · have := isNilNode_eq hnil
          subst this
          have := isGen_nil hgen
          subst this
          rfl
        · cases q with
          | leaf b => simp [Tree.isLeaf] at hnl
          | node k ks =>
            have hqn := isNil_false_of hwf hnn
            rcases isGen_kind_or_value hgen with hpk | ⟨hv, rfl⟩
            · have hpn : p.isNil = false := by
                have := isNil_of_wf hwf hnn
                simpa [Tree.isNil, hpk] using this
              simp only [hqn, hpn, Bool.false_and, Bool.or_self, Bool.false_eq_true, if_false]
              apply core k ks rfl hnn hkq hpk
              intro row hfind hspr
              exact expr_special hnn h2 hgen hpk hfuel' (special_kind hts specialRows_Expr hfind hspr)
            · -- `%%VALUE%%` for a BoolVal / NullVal / FuncExpr
              have hd : 1 ≤ valuePattern.depth := Tree.depth_pos _
              obtain ⟨f', rfl⟩ : ∃ f', f = f' + 1 := ⟨f - 1, by omega⟩
              have := expr_value (x := .node k ks) (p := valuePattern) (f := f') (by simpa [Tree.kind_node] using hv) (Or.inl rfl)
              rw [evalFn_Expr] at this
              exact this
    · -- a switch without hand-written cases
      have hsp' : specialFns.contains fn = false := by simpa using hsp
      rcases hspc with h | ⟨hnsp, hcl⟩
      · exact absurd h hsp
      · rw [evalFn_switch f fn _ p hsp' hcl]
        exact plain (fun e => by subst e; exact absurd hsp' (by decide +kernel)) _
          fun k ks _ _ _ row hfind hspr => absurd hspr (hnsp row (find?_fst hfind).2)

theorem rank2Specials_facts : rank2Specials.all (fun c => rankOf c == 2) = true := by decide +kernel

theorem rank_of_rank2Special {c : String} (h : rank2Specials.contains c = true) : rankOf c = 2 := by
  have := List.all_eq_true.mp rank2Specials_facts c (List.contains_iff_mem.mp h)
  simpa using this

theorem okRegular_spec {c : String} (h : okRegular c = true) :
    ∃ fin steps, compiled.lookup c = some (fin, steps) ∧ fnTyped c fin steps = true ∧ rankOf c = 2 := by
  unfold okRegular at h
  cases hl : compiled.lookup c with
  | none => simp [hl] at h
  | some e =>
    obtain ⟨fin, steps⟩ := e
    simp only [hl] at h
    refine ⟨fin, steps, rfl, h, ?_⟩
    unfold fnTyped at h
    split at h
    · simp only [Bool.and_eq_true, Bool.not_eq_true', Option.isNone_iff_eq_none] at h
      exact rank_regular h.1.1.1.1.2 h.1.1.1.2
    · cases h

theorem okFn_of_accepts {c : String} {t : Tree} (h : accepts c t = true) : okFn c = true := by
  simp only [accepts, Bool.and_eq_true] at h
  exact h.1.1

theorem need_pos (c : String) (p : Tree) : 1 ≤ need c p := by
  unfold need
  have := rankOf_pos c
  omega

/-- one step of the induction: `P` below `t` ⇒ `P t` -/
theorem P_step {aw : Bool} (hw : HW aw) {t : Tree} (hwf : wf t = true) (hacc : acc t = true)
    (IH : ∀ x, x.depth < t.depth → wf x = true → acc x = true → P aw x) : P aw t := by
  have low : H2 aw t := by
    intro c p' f' hrk ha hg hkd hn
    have hok := okFn_of_accepts ha
    simp only [okFn, Bool.or_eq_true] at hok
    rcases hok with ((h | h) | h) | h
    · exact rank1_ok h ha hwf hg (Nat.le_trans (need_pos c p') hn)
    · have hr2 := rank_of_rank2Special h
      have hf : 3 * p'.depth + 2 ≤ f' := by unfold need at hn; omega
      simp only [rank2Specials, List.contains_cons, List.contains_nil, Bool.or_false, Bool.or_eq_true, beq_iff_eq] at h
      rcases h with rfl | rfl | rfl
      · exact subquery_ok ha hwf hacc IH hg hf
      · exact valTuple_ok ha hwf hacc IH hg hf
      · exact selectExprs_ok ha hwf hacc IH hg hf
    · obtain ⟨fin, steps, hl, hty, hr2⟩ := okRegular_spec h
      exact regular_ok hw hl hty hwf hacc ha IH
        (fun c' p'' f'' hc ha' hg' hn' => rank1_ok hc ha' hwf hg' (Nat.le_trans (need_pos c' p'') hn'))
        hg (hkd hr2) hn
    · unfold switchTyped at h
      cases hts : typeSwitches.lookup c with
      | none => simp [hts] at h
      | some cases =>
        have := rank_switch hts
        omega
  intro fn p fuel hq hgen hkind hfuel
  by_cases hr : rankOf fn < 3
  · exact low fn p fuel hr hq hgen hkind hfuel
  · have hok := okFn_of_accepts hq
    simp only [okFn, Bool.or_eq_true] at hok
    rcases hok with ((h | h) | h) | h
    · have := rank_of_rank1 h; omega
    · have := rank_of_rank2Special h; omega
    · obtain ⟨_, _, _, _, hr2⟩ := okRegular_spec h; omega
    · exact switch_fn_ok hw h hwf hacc hq IH low hgen hfuel

/-- **`P` for every well-typed tree** -/
theorem P_all {aw : Bool} (hw : HW aw) : ∀ (n : Nat) (t : Tree), t.depth ≤ n → wf t = true → acc t = true → P aw t
  | 0, t, h, _, _ => absurd (Tree.depth_pos t) (by omega)
  | n + 1, t, _, hwf, hacc => P_step hw hwf hacc fun x hx hwx hax => P_all hw n x (by omega) hwx hax

theorem pick_mem {σ : Sigma} {wh : Bool} {i : Nat} {k : String} {ph : Tree} (h : pick σ wh i k = some ph) :
    ph ∈ placeholdersFor wh k := by
  rw [mem_placeholdersFor]
  simp only [pick, Bool.and_eq_true, beq_iff_eq] at h
  split at h
  · next hc => cases h; exact .inl ⟨hc.2, rfl⟩
  split at h
  · next hc => cases h; exact .inr (.inl ⟨hc.2, rfl⟩)
  split at h
  · next hc => cases h; exact .inr (.inr (.inl ⟨hc.2, rfl⟩))
  split at h
  · next hc => cases h; exact .inr (.inr (.inr (.inl ⟨hc.2, rfl⟩)))
  split at h
  · exact .inr (.inr (.inr (.inr (.inl h))))
  split at h
  · next hc => cases h; exact .inr (.inr (.inr (.inr (.inr ⟨hc.2, rfl⟩))))
  · cases h
mutual
theorem isGen_gen (σ : Sigma) : ∀ (wh : Bool) (i : Nat) (t : Tree), isGen true wh (gen σ wh i t) t = true
  | wh, i, .leaf b => by rw [gen.eq_1, isGen.eq_1]; exact Tree.beq_refl _
  | wh, i, .node k ks => by
    rw [gen.eq_2]
    cases hp : pick σ wh i k with
    | some ph => exact isGen_of_placeholder (pick_mem hp)
    | none => exact isGen_of_structural (isGenKids_genKids σ k 0 (i + 1) ks)
theorem isGenKids_genKids (σ : Sigma) (k : String) : ∀ (j i : Nat) (ks : List Tree), isGenKids true k j (genKids σ k j i ks) ks = true
  | j, i, [] => by rw [genKids.eq_1, isGenKids.eq_1]; rfl
  | j, i, x :: xs => by
    rw [genKids.eq_2, isGenKids.eq_2]
    split
    · next hc =>
      simp only [Bool.and_eq_true] at hc
      simp [hc.1.1, hc.2]
    · simp only [List.isEmpty_cons, Bool.not_false, Bool.true_and, List.headD_cons, List.tail_cons, Bool.or_eq_true, Bool.and_eq_true]
      exact Or.inr ⟨isGen_gen σ _ i x, isGenKids_genKids σ k (j + 1) _ xs⟩
end

theorem isGen_generalise (t : Tree) (σ : Sigma) : isGen true false (generalise t σ) t = true := isGen_gen σ false 0 t

end AcraModel.Censor.Match
