import AcraModel.Censor.MatchSteps
/-! # `match_generalise`: the field-by-field comparators (generic over the regenerated table) -/
namespace AcraModel.Censor.Match
open AcraModel AcraModel.Censor Generated.CensorTable

theorem lookup_map_snd {α β γ : Type} [BEq α] (g : β → γ) (a : α) :
    ∀ l : List (α × β), (l.map fun e => (e.1, g e.2)).lookup a = (l.lookup a).map g
  | [] => rfl
  | (x, y) :: l => by
    simp only [List.map_cons, List.lookup_cons]
    cases a == x
    · exact lookup_map_snd g a l
    · rfl

theorem compiled_lookup (fn : String) :
    compiled.lookup fn = (comparators.lookup fn).map fun e => (e.1, compileSteps e.2) :=
  lookup_map_snd (fun e : Bool × List Row => (e.1, compileSteps e.2)) fn comparators

theorem lookup_mem {α β : Type} [BEq α] [LawfulBEq α] (a : α) (b : β) :
    ∀ l : List (α × β), l.lookup a = some b → (a, b) ∈ l
  | l, h => by
    obtain ⟨l₁, l₂, rfl, _⟩ := List.lookup_eq_some_iff.mp h
    simp

theorem contains_map_fst {α β : Type} [BEq α] [LawfulBEq α] (a : α) :
    ∀ l : List (α × β), (l.map (·.1)).contains a = (l.lookup a).isSome
  | [] => rfl
  | (x, y) :: l => by
    simp only [List.map_cons, List.contains_cons, List.lookup_cons]
    cases a == x
    · simpa using contains_map_fst a l
    · rfl

/-- unfolding of `evalFn` on a field-by-field comparator, in compiled form -/
theorem evalFn_compiled (f : Nat) (fn : String) (q p : Tree) (fin : Bool) (steps : List CStep)
    (hs : specialFns.contains fn = false) (hl : compiled.lookup fn = some (fin, steps)) :
    evalFn (f + 1) fn q p = runC (evalFn f) (escEval (evalFn f)) q p fin steps := by
  rw [compiled_lookup] at hl
  cases hc : comparators.lookup fn with
  | none => simp [hc] at hl
  | some e =>
    obtain ⟨fin', rows⟩ := e
    simp only [hc, Option.map_some, Option.some.injEq, Prod.mk.injEq] at hl
    obtain ⟨rfl, rfl⟩ := hl
    simp only [evalFn, hs, hc, Bool.not_false, if_true]
    rfl

/-- a function that is not hand-written differs from every hand-written one -/
theorem ne_special {fn s : String} (hs : specialFns.contains fn = false) (hs' : specialFns.contains s = true) : (fn == s) = false :=
  beq_false_of_ne (ne_of_apply_ne specialFns.contains (by rw [hs, hs']; decide))

theorem rank_regular {fn : String} (hs : specialFns.contains fn = false) (ht : typeSwitches.lookup fn = none) : rankOf fn = 2 := by
  have h1 : rank1Fns.contains fn = false := by
    simp only [rank1Fns, List.contains_cons, List.contains_nil, ne_special hs (s := "areEqualSQLVal") (by decide +kernel),
      ne_special hs (s := "areEqualColIdent") (by decide +kernel), Bool.or_self]
  have h2 : switchFns.contains fn = false := by
    unfold switchFns
    rw [contains_map_fst, ht]; rfl
  simp only [rankOf, h1, h2]
  rfl

theorem shortcutsOf_append (a b : List CStep) : shortcutsOf (a ++ b) = shortcutsOf a ++ shortcutsOf b := by
  fun_induction shortcutsOf a with
  | case1 => rfl
  | case2 o ph rest ih => rw [List.cons_append, shortcutsOf, ih, List.append_assoc]
  | case3 s rest hne ih => rw [List.cons_append, shortcutsOf, ih]; exact hne

theorem shortcutsOf_none (l : List CStep) (h : l.all (fun s => !isShortcut s) = true) : shortcutsOf l = [] := by
  fun_induction shortcutsOf l with
  | case1 => rfl
  | case2 o ph rest ih => simp [isShortcut] at h
  | case3 s rest hne ih =>
    rw [List.all_cons, Bool.and_eq_true] at h
    exact ih h.2

/-- casts and shortcuts in front: once a shortcut recognises `p`, the function returns `true` -/
theorem runC_prefix_shortcut {call : String → Tree → Tree → Bool} {esc : String → Tree → Bool} {k : String} {ks : List Tree} {p : Tree}
    (hk : p.kind = k) (fin : Bool) (post : List CStep) :
    ∀ pre : List CStep, (∀ s ∈ pre, isCastOrShortcut s = true ∧ cstepTyped k s = true) → p ∈ shortcutsOf pre →
      runC call esc (.node k ks) p fin (pre ++ post) = true
  | [], _, hp => by cases hp
  | s :: rest, hall, hp => by
    obtain ⟨hcs, hty⟩ := hall s (List.mem_cons_self ..)
    have hrest : p ∈ shortcutsOf rest → runC call esc (.node k ks) p fin (rest ++ post) = true :=
      fun hp' => runC_prefix_shortcut hk fin post rest (fun s' hs' => hall s' (List.mem_cons_of_mem _ hs')) hp'
    cases s with
    | range _ _ => simp [isCastOrShortcut] at hcs
    | atom a =>
      cases a with
      | cast onQ k' =>
        simp only [cstepTyped, atomTyped, Bool.and_eq_true, beq_iff_eq] at hty
        have : atomAt call esc (.node k ks) p none (.cast onQ k') = .pass := by
          cases onQ <;> simp [atomAt, Tree.kind_node, hty.2, hk]
        simp only [List.cons_append, runC, this]
        exact hrest (by simpa [shortcutsOf] using hp)
      | shortcut o ph =>
        obtain ⟨c, hph, hat⟩ := atomAt_shortcut (k := k) hty call esc (.node k ks) p
        simp only [List.cons_append, runC, hat]
        cases hpc : p == c with
        | true => simp
        | false =>
          simp only [Bool.false_eq_true, if_false]
          apply hrest
          simp only [shortcutsOf, hph, Option.toList_some, List.singleton_append, List.mem_cons] at hp
          rcases hp with h | h
          · subst h; simp at hpc
          · exact h
      | _ => simp [isCastOrShortcut] at hcs

/-- a step that does not look at the structure of the pattern is good for every pattern of the right kind -/
theorem cstep_good_flat {k : String} {ks : List Tree} {p : Tree} {f : Nat} (hk : p.kind = k)
    (h1 : H1 k ks p f) {s : CStep} (hty : cstepTyped k s = true) (hns : needsStructure s = false) :
    cstepGood (evalFn f) (escEval (evalFn f)) (.node k ks) p s := by
  cases s with
  | range _ _ => simp [needsStructure] at hns
  | atom a =>
    cases a with
    | cast onQ k' =>
      simp only [cstepTyped, atomTyped, Bool.and_eq_true, beq_iff_eq] at hty
      have hk' := hty.2
      subst hk'
      simp only [cstepGood]
      cases onQ <;> simp [atomAt, Tree.kind_node, hk, Res.notFalse]
    | shortcut o ph =>
      obtain ⟨c, _, h⟩ := atomAt_shortcut (k := k) hty (evalFn f) (escEval (evalFn f)) (.node k ks) p
      simp only [cstepGood, h]
      split <;> rfl
    | cmp c a b =>
      simp only [needsStructure, Bool.not_eq_false', Bool.and_eq_true, beq_iff_eq] at hns
      obtain ⟨⟨ha, hb⟩, hr⟩ := hns
      subst ha; subst hb
      simp only [cstepTyped, atomTyped, pairTyped, Bool.and_eq_true, Bool.or_eq_true, bne_iff_ne, ne_eq] at hty
      have hnb : builtinCmp c = false := by
        simp only [rank1Fns, List.contains_cons, List.contains_nil, Bool.or_false, Bool.or_eq_true, beq_iff_eq] at hr
        rcases hr with h | h <;> subst h <;> decide +kernel
      have hdom : (domOf c).kinds.contains k = true := by
        simp only [rank1Fns, List.contains_cons, List.contains_nil, Bool.or_false, Bool.or_eq_true, beq_iff_eq] at hr
        rcases hty.2 with (h | h) | h
        · have h2 := h.2
          rcases hr with e | e <;> subst e <;> simp at h2 <;> simpa using h2.2
        · simp [qWhole, qField] at h
        · simp [qWhole, qField] at h
      simp only [cstepGood]
      refine cmp_pass (selO_qWhole ..) (selO_pWhole ..) ?_
      rw [opCmp_fn hnb]
      exact h1 c hr hdom
    | _ => simp [needsStructure] at hns

theorem mem_takeWhile_pred {α : Type} (pr : α → Bool) : ∀ (l : List α) (x : α), x ∈ l.takeWhile pr → pr x = true
  | [], x, h => by cases h
  | y :: ys, x, h => by
    simp only [List.takeWhile_cons] at h
    split at h
    · next hy =>
      rcases List.mem_cons.mp h with e | e
      · subst e; exact hy
      · exact mem_takeWhile_pred pr ys x e
    · cases h

theorem take2_eq {α : Type} {l : List α} {a b : α} (h : l.take 2 = [a, b]) : l = a :: b :: l.drop 2 := by
  simpa [h] using (List.take_append_drop 2 l).symm

/-- only a guarded comparator accepts nil -/
theorem nilOk_regular {fn : String} {fin : Bool} {steps : List CStep} (hs : specialFns.contains fn = false)
    (ht : typeSwitches.lookup fn = none) (hl : compiled.lookup fn = some (fin, steps)) (hn : (domOf fn).nilOk = true) :
    hasNilGuard steps = true := by
  have ne (s : String) := ne_special hs (s := s)
  unfold domOf at hn
  simp only [ne "areEqualSQLVal" (by decide +kernel), ne "areEqualColIdent" (by decide +kernel), ne "areEqualSubquery" (by decide +kernel),
    ne "areEqualValTuple" (by decide +kernel), ne "areEqualSelectExprs" (by decide +kernel), Bool.false_eq_true, if_false, ht, hl] at hn
  split at hn
  · cases hn
  · split at hn
    · exact hn
    · cases hn

theorem isNil_of_wf {k : String} {ks : List Tree} (hwf : wf (.node k ks) = true) (hn : (Tree.node k ks).isNilNode = false) :
    (k == "nil") = false := by
  cases hk : k == "nil" with
  | false => rfl
  | true =>
    rw [wf.eq_2] at hwf
    simp only [hk, if_true] at hwf
    simp [Tree.isNilNode, hk, hwf] at hn

/-- **a well-typed field-by-field comparator** returns `true` on a well-typed argument it accepts and any
generalisation of it that has the same kind -/
theorem regular_ok {aw : Bool} (hw : HW aw) {fn : String} {fin : Bool} {steps : List CStep}
    (hl : compiled.lookup fn = some (fin, steps)) (hty : fnTyped fn fin steps = true)
    {q : Tree} (hwf : wf q = true) (hacc : acc q = true) (hq : accepts fn q = true)
    (IH : ∀ x, x.depth < q.depth → wf x = true → acc x = true → P aw x)
    (H1q : ∀ c p' f', rank1Fns.contains c = true → accepts c q = true → isGen aw false p' q = true → need c p' ≤ f' → evalFn f' c q p' = true)
    {p : Tree} (hgen : isGen aw false p q = true) (hkind : p.kind = q.kind) {fuel : Nat} (hfuel : need fn p ≤ fuel) :
    evalFn fuel fn q p = true := by
  unfold fnTyped at hty
  cases hdk : (domOf fn).kinds with
  | nil => simp [hdk] at hty
  | cons k rest =>
    cases rest with
    | cons _ _ => simp [hdk] at hty
    | nil =>
      simp only [hdk, Bool.and_eq_true, Bool.not_eq_true', Option.isNone_iff_eq_none, List.all_eq_true, Bool.or_eq_true] at hty
      obtain ⟨⟨⟨⟨⟨hfin, hs⟩, ht⟩, hall⟩, hsc⟩, hph⟩ := hty
      subst hfin
      have hr := rank_regular hs ht
      have hfuel' : 3 * p.depth + 2 ≤ fuel := by unfold need at hfuel; omega
      obtain ⟨f, rfl⟩ : ∃ f, fuel = f + 1 := ⟨fuel - 1, by omega⟩
      rw [evalFn_compiled f fn q p true steps hs hl]
      simp only [accepts, Bool.and_eq_true, Bool.or_eq_true, Bool.not_eq_true'] at hq
      obtain ⟨⟨hok, hnl⟩, hq⟩ := hq
      rcases hq with ⟨hnil, hnok⟩ | ⟨hnn, hkq⟩
      · -- nil: the guard returns true
        have := isNilNode_eq hnil
        subst this
        have := isGen_nil hgen
        subst this
        have hg := nilOk_regular hs ht hl hnok
        simp only [hasNilGuard, beq_iff_eq] at hg
        rw [take2_eq hg]
        simp [runC, atomAt, Tree.isNil, Tree.nil, Tree.kind]
      · cases q with
        | leaf b => simp [Tree.isLeaf] at hnl
        | node k' ks =>
          have hk' : k' = k := by
            simp only [hdk, Tree.kind_node, List.contains_cons, List.contains_nil, Bool.or_false, beq_iff_eq] at hkq
            exact hkq
          subst hk'
          have hknil := isNil_of_wf hwf hnn
          have hpk : p.kind = k' := by rw [hkind]; rfl
          -- the rank-1 functions on this node
          have h1 : ∀ p', isGen aw false p' (.node k' ks) = true → 3 * p'.depth + 1 ≤ f → H1 k' ks p' f := fun p' hg' hf' c hc hd => by
            apply H1q c p' f hc _ hg' (by unfold need; rw [rank_of_rank1 hc]; exact hf')
            simp only [accepts, okFn, hc, Bool.true_or, Tree.isLeaf, hnn, Bool.not_false, Bool.true_and, Tree.kind_node, hd,
              Bool.false_and, Bool.false_or, Bool.and_self]
          -- skip the guard
          have hbody : runC (evalFn f) (escEval (evalFn f)) (.node k' ks) p true (bodyOf steps) = true →
              runC (evalFn f) (escEval (evalFn f)) (.node k' ks) p true steps = true := by
            intro hb
            unfold bodyOf at hb
            split at hb
            · next hg =>
              simp only [hasNilGuard, beq_iff_eq] at hg
              rw [take2_eq hg]
              have hq1 : (Tree.node k' ks).isNil = false := by simpa [Tree.isNil, Tree.kind_node] using hknil
              have hp1 : p.isNil = false := by simpa [Tree.isNil, hpk] using hknil
              simp only [runC, atomAt, hq1, hp1, Bool.false_and, Bool.or_self, Bool.false_eq_true, if_false]
              exact hb
            · exact hb
          apply hbody
          have hcomp : (fn, true, steps) ∈ compiled := lookup_mem fn (true, steps) compiled hl
          have hokr : okRegular fn = true := by
            unfold okRegular
            simp only [hl, fnTyped, hdk, hs, ht, Bool.not_false, Option.isNone_none, Bool.true_and, Bool.and_eq_true, List.all_eq_true, Bool.or_eq_true]
            exact ⟨⟨hall, fun x hx => by simpa using hsc x hx⟩, hph.imp (fun h => by simpa using h) id⟩
          have haccb : ∀ s ∈ bodyOf steps, cstepAcc k' ks s = true := by
            have := acc_node hacc
            simp only [accNode, Bool.and_eq_true, List.all_eq_true, Bool.or_eq_true, Bool.not_eq_true'] at this
            have := this.1.1 _ hcomp
            rcases this with h | h
            · simp [hokr, hdk] at h
            · exact h
          rcases isGen_node hgen with hplace | ⟨ps, rfl, hk⟩
          · -- a placeholder of the node's own kind
            rcases hph with hns | hsc'
            · -- nothing looks at the structure of the pattern
              simp only [Bool.not_eq_true', List.any_eq_false, Bool.not_eq_true] at hns
              apply runC_true
              intro s hs'
              exact cstep_good_flat hpk (h1 p hgen (by omega)) (hall s hs') (by simpa using hns s hs')
            · have hmem : p ∈ shortcutsOf (bodyOf steps) := by
                have := hsc' p (by simp [List.mem_filter, hplace, hpk])
                simpa using this
              have hb := (List.takeWhile_append_dropWhile (p := isCastOrShortcut) (l := bodyOf steps)).symm
              have hdw : shortcutsOf ((bodyOf steps).dropWhile isCastOrShortcut) = [] :=
                shortcutsOf_none _ (by simpa using hsc)
              have hmem' : p ∈ shortcutsOf ((bodyOf steps).takeWhile isCastOrShortcut) := by
                have h2 : shortcutsOf (bodyOf steps) = shortcutsOf ((bodyOf steps).takeWhile isCastOrShortcut) := by
                  conv => lhs; rw [hb]
                  rw [shortcutsOf_append, hdw, List.append_nil]
                rw [← h2]; exact hmem
              rw [hb]
              apply runC_prefix_shortcut hpk true _ _ _ hmem'
              intro s hs'
              exact ⟨mem_takeWhile_pred _ _ s hs', hall s ((List.takeWhile_sublist _).subset hs')⟩
          · -- node by node
            have cx : Ctx aw k' ks ps f := ⟨hw, hwf, hacc, hk, IH, by omega⟩
            apply runC_true
            intro s hs'
            exact cstep_good cx (h1 _ hgen (by omega)) (hall s hs') (haccb s hs')

end AcraModel.Censor.Match
