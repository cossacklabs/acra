import AcraModel.Censor.MatchSound
import AcraModel.Censor.MatchSpecial
/-!
# The converse direction, closed: what the matcher has compared when it says `true`

`match_generalise` says a pattern derived from a statement matches it. This file proves the converse over the
**regenerated** comparator table, for everything the matcher reaches:

* `reach f fn q p` – the *lock-step walk*: starting with the call `fn(q, p)`, the list of all calls
  `callee(x, y)` the matcher makes on the way down, where `x` is a part of the statement and `y` is **the same part of
  the pattern** (the walk applies the selector of the query-side operand of every comparison – `q.Qualifier`,
  `q.Exprs[i]` – to *both* trees). The walk does not descend below a call that is answered `true` early by a
  placeholder escape (`earlyTrue`: nil/nil guard, `%%SELECT%%`-style shortcut, `%%WHERE%%`, `%%SUBQUERY%%`, a lone `*`
  select list).
* `reach_sound` – if the matcher says `true` for `fn(q, p)`, **every** call of the walk is answered `true`. This needs
  that each comparator hands `(query.X, pattern.X)` – the *same* `X` of the two different trees – to its callee:
  `tablePairsOk`, a decidable check on the regenerated table (`Props/C05.lean:
  fact_comparators_compare_pattern_with_query`). A comparator that compares `query.X` with `query.X` (or with
  `pattern.Y`) makes that fact – and with it the theorems below – fail.
* leaf comparators: `tableIdent_sound` (equal up to letter case and `CompliantName`), `colIdent_sound`, `sqlVal_sound`.

Together (`Props/C05.lean: match_sound_on_identifiers`, `match_sound_on_literals_reached`): when a pattern matches a
statement, every table identifier (name and every qualifier component of table names, of column qualifiers and of
`t.*`), column identifier and literal of the pattern that is reached by the walk equals the statement's at the same
position (or is `%%COLUMN%%` / `%%VALUE%%` / `%%LIST_OF_VALUES%%`).
-/
namespace AcraModel.Censor.Match
open AcraModel AcraModel.Censor Generated.CensorTable

theorem pairQP_spec {a b : Opnd} (h : pairQP a b = true) :
    a.onQ = true ∧ b.onQ = false ∧ a.rootIdx = b.rootIdx ∧ a.path = b.path := by
  simp only [pairQP, Bool.and_eq_true, Bool.not_eq_true', beq_iff_eq] at h
  exact ⟨h.1.1.1, h.1.1.2, h.1.2, h.2⟩

theorem selO_onQ {i : Option Nat} {q p : Tree} {o : Opnd} (h : o.onQ = true) : selO i q p o = selSide i q o := by
  simp only [selO, selSide, h, if_true]

theorem selO_onP {i : Option Nat} {q p : Tree} {o : Opnd} (h : o.onQ = false) : selO i q p o = selSide i p o := by
  simp only [selO, selSide, h, Bool.false_eq_true, if_false]

theorem selSide_congr {i : Option Nat} {x : Tree} {a b : Opnd} (h1 : a.rootIdx = b.rootIdx) (h2 : a.path = b.path) :
    selSide i x a = selSide i x b := by
  simp only [selSide, h1, h2]

theorem opCmp_deepEqual (call : String → Tree → Tree → Bool) (x y : Tree) : opCmp call "reflect.DeepEqual" x y = (x == y) := by
  simp [opCmp]

theorem atom_pass_site {call : String → Tree → Tree → Bool} {esc : String → Tree → Bool} {q p : Tree} {i : Option Nat}
    {s : AStep} {c : String} {a b : Opnd}
    (hp : (atomAt call esc q p i s).isPass = true) (hs : atomSite s = some (c, a, b)) :
    ∃ x y, selO i q p a = some x ∧ selO i q p b = some y ∧ opCmp call c x y = true := by
  cases s with
  | cmp c' a' b' =>
    obtain ⟨rfl, rfl, rfl⟩ : c' = c ∧ a' = a ∧ b' = b := by simpa [atomSite] using hs
    simp only [atomAt] at hp
    split at hp
    · next x y hx hy => exact ⟨x, y, hx, hy, by cases hc : opCmp call c' x y <;> simp_all [Res.isPass]⟩
    · cases hp
  | cmpEsc e ea c' a' b' =>
    obtain ⟨rfl, rfl, rfl⟩ : c' = c ∧ a' = a ∧ b' = b := by simpa [atomSite] using hs
    simp only [atomAt] at hp
    split at hp
    · next x y z hx hy _ => exact ⟨x, y, hx, hy, by cases hc : opCmp call c' x y <;> simp_all [Res.isPass]⟩
    · cases hp
  | ne a' b' =>
    obtain ⟨rfl, rfl, rfl⟩ : "reflect.DeepEqual" = c ∧ a' = a ∧ b' = b := by simpa [atomSite] using hs
    simp only [atomAt] at hp
    split at hp
    · next x y hx hy => exact ⟨x, y, hx, hy, by rw [opCmp_deepEqual]; cases hc : x == y <;> simp_all [Res.isPass, bne]⟩
    · cases hp
  | _ => simp [atomSite] at hs

theorem atomSub_sound {call : String → Tree → Tree → Bool} {esc : String → Tree → Bool} {q p : Tree} {i : Option Nat}
    {s : AStep} (hp : (atomAt call esc q p i s).isPass = true) (hpair : atomPairs s = true)
    {e : String × Tree × Tree} (he : atomSub i q p s = some e) : opCmp call e.1 e.2.1 e.2.2 = true := by
  unfold atomSub at he
  cases hs : atomSite s with
  | none => simp [hs] at he
  | some site =>
    obtain ⟨c, a, b⟩ := site
    obtain ⟨x, y, hx, hy, hc⟩ := atom_pass_site hp hs
    have hab : pairQP a b = true := by
      cases s with
      | cmp c' a' b' =>
        simp only [atomSite, Option.some.injEq, Prod.mk.injEq] at hs
        obtain ⟨_, rfl, rfl⟩ := hs; exact hpair
      | cmpEsc e' ea c' a' b' =>
        simp only [atomSite, Option.some.injEq, Prod.mk.injEq] at hs
        obtain ⟨_, rfl, rfl⟩ := hs
        simp only [atomPairs, Bool.and_eq_true] at hpair; exact hpair.1
      | ne a' b' =>
        simp only [atomSite, Option.some.injEq, Prod.mk.injEq] at hs
        obtain ⟨_, rfl, rfl⟩ := hs; exact hpair
      | _ => simp [atomSite] at hs
    obtain ⟨h1, h2, h3, h4⟩ := pairQP_spec hab
    rw [selO_onQ h1] at hx
    rw [selO_onP h2, ← selSide_congr h3 h4] at hy
    simp only [hs, Option.bind_some, sitePair, hx, hy, Option.some.injEq] at he
    subst he
    exact hc

theorem cstepSubs_sound {call : String → Tree → Tree → Bool} {esc : String → Tree → Bool} {q p : Tree} {s : CStep}
    (hp : cstepPasses call esc q p s = true) (hpair : cstepPairs s = true) :
    ∀ e ∈ cstepSubs q p s, opCmp call e.1 e.2.1 e.2.2 = true := by
  intro e he
  cases s with
  | atom a =>
    simp only [cstepSubs, Option.mem_toList] at he
    exact atomSub_sound (by simpa [cstepPasses] using hp) (by simpa [cstepPairs] using hpair) he
  | range o body =>
    simp only [cstepPairs, Bool.and_eq_true, Bool.not_eq_true'] at hpair
    simp only [cstepPasses] at hp
    cases hl : selO none q p o with
    | none => simp [hl] at hp
    | some l =>
      simp only [hl] at hp
      rw [selO_onP hpair.1] at hl
      simp only [cstepSubs, hl, List.mem_flatMap, List.mem_range, List.mem_filterMap] at he
      obtain ⟨i, hi, a, ha, hsub⟩ := he
      have h1 := List.all_eq_true.mp hp i (List.mem_range.mpr hi)
      have h2 := List.all_eq_true.mp h1 a ha
      exact atomSub_sound h2 (List.all_eq_true.mp hpair.2 a ha) hsub

theorem switchRow_pairs (hfact : tablePairsOk = true) {fn : String} {p : Tree} {row : String × String × String × String}
    (h : (typeSwitches.lookup fn).bind (·.find? (·.1 == p.kind)) = some row) : switchRowPairs row = true := by
  cases hl : typeSwitches.lookup fn with
  | none => simp [hl] at h
  | some cases =>
    simp only [hl, Option.bind_some] at h
    have hm := lookup_mem fn cases typeSwitches hl
    obtain ⟨_, hrow⟩ := find?_fst h
    simp only [tablePairsOk, Bool.and_eq_true] at hfact
    exact List.all_eq_true.mp (List.all_eq_true.mp hfact.2 _ hm) row hrow

theorem switchSubs_sound (hfact : tablePairsOk = true) {call : String → Tree → Tree → Bool} {fn : String} {q p : Tree}
    {sp : String → Option Bool} (h : typeSwitchEval call fn q p sp = true) :
    ∀ e ∈ switchSubs fn q p, opCmp call e.1 e.2.1 e.2.2 = true := by
  intro e he
  unfold switchSubs at he
  unfold typeSwitchEval at h
  cases hr : (typeSwitches.lookup fn).bind (·.find? (·.1 == p.kind)) with
  | none => simp [hr] at he
  | some row =>
    obtain ⟨k, callee, qa, pa⟩ := row
    have hrp := switchRow_pairs hfact hr
    simp only [hr] at he h
    by_cases hsp : (callee == "special") = true
    · simp [hsp] at he
    · simp only [hsp, Bool.false_eq_true, if_false] at he h
      simp only [switchRowPairs, hsp, Bool.false_or] at hrp
      obtain ⟨h1, h2, h3, h4⟩ := pairQP_spec hrp
      by_cases hk : (q.kind != p.kind) = true
      · simp [hk] at h
      · simp only [hk, Bool.false_eq_true, if_false, sel] at h
        rw [selO_onQ h1, selO_onP h2, ← selSide_congr h3 h4] at h
        cases hx : selSide none q (parseOpnd qa) with
        | none => simp [hx] at he
        | some x =>
          cases hy : selSide none p (parseOpnd qa) with
          | none => simp [hx, hy] at he
          | some y =>
            simp only [hx, hy, List.mem_singleton] at he h
            subst he
            exact h

theorem all2_zip {f : Tree → Tree → Bool} : ∀ (qs ps : List Tree), all2 f qs ps = true → ∀ e ∈ qs.zip ps, f e.1 e.2 = true
  | [], [], _, e, he => by simp at he
  | [], _ :: _, h, _, _ => by simp [all2] at h
  | _ :: _, [], h, _, _ => by simp [all2] at h
  | a :: as, b :: bs, h, e, he => by
    simp only [all2, Bool.and_eq_true] at h
    simp only [List.zip_cons_cons, List.mem_cons] at he
    rcases he with rfl | he
    · exact h.1
    · exact all2_zip as bs h.2 e he

theorem prefixAll_zip {f : Tree → Tree → Bool} : ∀ (qs ps : List Tree), prefixAll f qs ps = true → ∀ e ∈ qs.zip ps, f e.1 e.2 = true
  | _, [], _, e, he => by simp at he
  | [], _ :: _, h, _, _ => by simp [prefixAll] at h
  | a :: as, b :: bs, h, e, he => by
    simp only [prefixAll, Bool.and_eq_true] at h
    simp only [List.zip_cons_cons, List.mem_cons] at he
    rcases he with rfl | he
    · exact h.1
    · exact prefixAll_zip as bs h.2 e he

theorem selectExprCase_Star : (typeSwitches.lookup "areEqualSelectExpr").bind (·.find? (·.1 == "StarExpr")) = some ("StarExpr", "special", "", "") := by decide +kernel
theorem selectExprCase_Aliased : (typeSwitches.lookup "areEqualSelectExpr").bind (·.find? (·.1 == "AliasedExpr")) = some ("AliasedExpr", "special", "", "") := by decide +kernel
theorem insertRowsCase_Values : (typeSwitches.lookup "areEqualInsertRows").bind (·.find? (·.1 == "Values")) = some ("Values", "special", "", "") := by decide +kernel

theorem specialSubs_Subquery (q p : Tree) : specialSubs "areEqualSubquery" q p = [("areEqualSelectStatement", fld q "Select", fld p "Select")] := by
  simp [specialSubs]
theorem specialSubs_ValTuple (q p : Tree) : specialSubs "areEqualValTuple" q p = zipCalls "areEqualExpr" q.kids p.kids := by
  simp [specialSubs]
theorem specialSubs_SelectExprs (q p : Tree) : specialSubs "areEqualSelectExprs" q p = zipCalls "areEqualSelectExpr" q.kids p.kids := by
  simp [specialSubs]
theorem specialSubs_SelectExpr (q p : Tree) : specialSubs "areEqualSelectExpr" q p =
    (if p.kind == "StarExpr" then [("areEqualTableName", fld q "TableName", fld p "TableName")]
     else if p.kind == "AliasedExpr" then (if q.kind == "AliasedExpr" then [("areEqualAliasedExpr", q, p)] else [])
     else switchSubs "areEqualSelectExpr" q p) := by
  simp [specialSubs]
theorem specialSubs_InsertRows (q p : Tree) : specialSubs "areEqualInsertRows" q p =
    (if p.kind == "Values" then zipCalls "areEqualValTuple" q.kids p.kids else switchSubs "areEqualInsertRows" q p) := by
  simp [specialSubs]
theorem specialSubs_Expr (q p : Tree) : specialSubs "areEqualExpr" q p =
    (if p.kind == "SQLVal" then (if q.kind == "SQLVal" then [("areEqualSQLVal", q, p)] else [])
     else if p.kind == "ColName" then (if q.kind == "ColName" then [("areEqualColName", q, p)] else [])
     else switchSubs "areEqualExpr" q p) := by
  simp [specialSubs]
theorem specialSubs_SQLVal (q p : Tree) : specialSubs "areEqualSQLVal" q p = [] := by
  simp [specialSubs]
theorem specialSubs_ColIdent (q p : Tree) : specialSubs "areEqualColIdent" q p = [] := by
  simp [specialSubs]
theorem specialSubs_Stream (q p : Tree) : specialSubs "handleStreamStatement" q p = [] := by
  simp [specialSubs]
theorem earlyTrue_Subquery (call : String → Tree → Tree → Bool) (q p : Tree) :
    earlyTrue call "areEqualSubquery" q p = (fld p "Select" == subqueryPattern) := rfl
theorem earlyTrue_SelectExprs (call : String → Tree → Tree → Bool) (q p : Tree) :
    earlyTrue call "areEqualSelectExprs" q p = loneStar p := rfl

theorem subquery_subs_sound (f : Nat) {q p : Tree} (h : evalFn (f + 1) "areEqualSubquery" q p = true)
    (hne : earlyTrue (evalFn f) "areEqualSubquery" q p = false) :
    ∀ e ∈ specialSubs "areEqualSubquery" q p, opCmp (evalFn f) e.1 e.2.1 e.2.2 = true := by
  intro e he
  rw [specialSubs_Subquery] at he
  obtain rfl := List.mem_singleton.mp he
  rw [evalFn_Subquery] at h
  rw [earlyTrue_Subquery] at hne
  dsimp only
  rw [opCmp_fn (by decide +kernel)]
  simpa [hne] using h

theorem valTuple_subs_sound (f : Nat) {q p : Tree} (h : evalFn (f + 1) "areEqualValTuple" q p = true) :
    ∀ e ∈ specialSubs "areEqualValTuple" q p, opCmp (evalFn f) e.1 e.2.1 e.2.2 = true := by
  intro e he
  rw [specialSubs_ValTuple] at he
  obtain ⟨z, hz, rfl⟩ := List.mem_map.mp he
  rw [evalFn_ValTuple] at h
  dsimp only
  rw [opCmp_fn (by decide +kernel)]
  split at h
  · cases h
  · next hpa => exact prefixAll_zip _ _ (by simpa using hpa) z hz

theorem selectExprs_subs_sound (f : Nat) {q p : Tree} (h : evalFn (f + 1) "areEqualSelectExprs" q p = true)
    (hne : earlyTrue (evalFn f) "areEqualSelectExprs" q p = false) :
    ∀ e ∈ specialSubs "areEqualSelectExprs" q p, opCmp (evalFn f) e.1 e.2.1 e.2.2 = true := by
  intro e he
  rw [specialSubs_SelectExprs] at he
  obtain ⟨z, hz, rfl⟩ := List.mem_map.mp he
  rw [evalFn_SelectExprs] at h
  rw [earlyTrue_SelectExprs, loneStar] at hne
  rw [hne] at h
  dsimp only
  rw [opCmp_fn (by decide +kernel)]
  exact all2_zip _ _ h z hz

theorem selectExpr_subs_sound (hfact : tablePairsOk = true) (f : Nat) {q p : Tree} (h : evalFn (f + 1) "areEqualSelectExpr" q p = true) :
    ∀ e ∈ specialSubs "areEqualSelectExpr" q p, opCmp (evalFn f) e.1 e.2.1 e.2.2 = true := by
  intro e he
  rw [specialSubs_SelectExpr] at he
  rw [evalFn_SelectExpr] at h
  split at he
  · next hk =>
    rw [typeSwitch_special (eq_of_beq hk) selectExprCase_Star] at h
    simp only [selectExprSpecial, beq_self_eq_true, if_true, Option.getD_some, Bool.and_eq_true] at h
    obtain rfl := List.mem_singleton.mp he
    dsimp only
    rw [opCmp_fn (by decide +kernel)]
    exact h.2
  · split at he
    · next hk =>
      split at he
      · next hq =>
        rw [typeSwitch_special (eq_of_beq hk) selectExprCase_Aliased] at h
        simp [selectExprSpecial, eq_of_beq hq] at h
        obtain rfl := List.mem_singleton.mp he
        dsimp only
        rw [opCmp_fn (by decide +kernel)]
        exact h
      · cases he
    · exact switchSubs_sound hfact h e he

theorem insertRows_subs_sound (hfact : tablePairsOk = true) (f : Nat) {q p : Tree} (h : evalFn (f + 1) "areEqualInsertRows" q p = true) :
    ∀ e ∈ specialSubs "areEqualInsertRows" q p, opCmp (evalFn f) e.1 e.2.1 e.2.2 = true := by
  intro e he
  rw [specialSubs_InsertRows] at he
  rw [evalFn_InsertRows] at h
  split at he
  · next hk =>
    rw [typeSwitch_special (eq_of_beq hk) insertRowsCase_Values] at h
    simp only [insertRowsSpecial, beq_self_eq_true, if_true, Option.getD_some, Bool.and_eq_true] at h
    obtain ⟨z, hz, rfl⟩ := List.mem_map.mp he
    dsimp only
    rw [opCmp_fn (by decide +kernel)]
    exact all2_zip _ _ h.2 z hz
  · exact switchSubs_sound hfact h e he

theorem expr_subs_sound (hfact : tablePairsOk = true) (f : Nat) {q p : Tree} (h : evalFn (f + 1) "areEqualExpr" q p = true) :
    ∀ e ∈ specialSubs "areEqualExpr" q p, opCmp (evalFn f) e.1 e.2.1 e.2.2 = true := by
  intro e he
  rw [specialSubs_Expr] at he
  rw [evalFn_Expr] at h
  split at h
  · next hnil =>
    -- nil / nil: the switch has no case for `nil`, the walk lists nothing
    have hp : p.kind = "nil" := eq_of_beq (Bool.and_eq_true .. ▸ hnil).2
    have hnone : (typeSwitches.lookup "areEqualExpr").bind (·.find? (·.1 == "nil")) = none := by decide +kernel
    simp [hp, switchSubs, hnone] at he
  · split at h
    · cases h
    · split at he
      · next hk =>
        split at he
        · next hq =>
          rw [typeSwitch_special (eq_of_beq hk) exprCase_SQLVal] at h
          simp [exprSpecial, eq_of_beq hq] at h
          obtain rfl := List.mem_singleton.mp he
          dsimp only
          rw [opCmp_fn (by decide +kernel)]
          exact h
        · cases he
      · split at he
        · next hk =>
          split at he
          · next hq =>
            rw [typeSwitch_special (eq_of_beq hk) exprCase_ColName] at h
            simp [exprSpecial, eq_of_beq hq] at h
            obtain rfl := List.mem_singleton.mp he
            dsimp only
            rw [opCmp_fn (by decide +kernel)]
            exact h
          · cases he
        · exact switchSubs_sound hfact h e he

theorem specialSubs_sound (hfact : tablePairsOk = true) (f : Nat) {fn : String} {q p : Tree} (hs : specialFns.contains fn = true)
    (h : evalFn (f + 1) fn q p = true) (hne : earlyTrue (evalFn f) fn q p = false) :
    ∀ e ∈ specialSubs fn q p, opCmp (evalFn f) e.1 e.2.1 e.2.2 = true := by
  simp only [specialFns, List.contains_cons, List.contains_nil, Bool.or_false, Bool.or_eq_true, beq_iff_eq] at hs
  rcases hs with rfl | rfl | rfl | rfl | rfl | rfl | rfl | rfl | rfl
  · intro e he; rw [specialSubs_Stream] at he; cases he
  · intro e he; rw [specialSubs_SQLVal] at he; cases he
  · intro e he; rw [specialSubs_ColIdent] at he; cases he
  · exact subquery_subs_sound f h hne
  · exact valTuple_subs_sound f h
  · exact selectExprs_subs_sound f h hne
  · exact selectExpr_subs_sound hfact f h
  · exact insertRows_subs_sound hfact f h
  · exact expr_subs_sound hfact f h

theorem compiled_pairs (hfact : tablePairsOk = true) {fn : String} {fin : Bool} {steps : List CStep}
    (hl : compiled.lookup fn = some (fin, steps)) : steps.all cstepPairs = true := by
  simp only [tablePairsOk, Bool.and_eq_true] at hfact
  exact List.all_eq_true.mp hfact.1 _ (lookup_mem fn (fin, steps) compiled hl)

/-- **one level**: `fn(q, p) = true` without a placeholder escape ⇒ every call it makes one level down is `true` -/
theorem subs_sound (hfact : tablePairsOk = true) (f : Nat) {fn : String} {q p : Tree}
    (h : evalFn (f + 1) fn q p = true) (hne : earlyTrue (evalFn f) fn q p = false) :
    ∀ e ∈ subs fn q p, opCmp (evalFn f) e.1 e.2.1 e.2.2 = true := by
  intro e he
  unfold subs at he
  cases hs : specialFns.contains fn with
  | true =>
    simp only [hs, if_true] at he
    exact specialSubs_sound hfact f hs h hne e he
  | false =>
    simp only [hs, Bool.false_eq_true, if_false] at he
    cases hl : compiled.lookup fn with
    | some r =>
      obtain ⟨fin, steps⟩ := r
      simp only [hl, List.mem_flatMap] at he
      obtain ⟨s, hsm, hes⟩ := he
      rw [evalFn_compiled f fn q p fin steps hs hl] at h
      simp only [earlyTrue, ne_special hs (s := "areEqualSubquery") (by decide +kernel),
        ne_special hs (s := "areEqualSelectExprs") (by decide +kernel), hs, hl, Bool.false_eq_true, if_false] at hne
      rcases runC_true_inv _ _ q p fin steps h with hr | ⟨_, hall⟩
      · rw [hr] at hne; cases hne
      · exact cstepSubs_sound (List.all_eq_true.mp hall s hsm) (List.all_eq_true.mp (compiled_pairs hfact hl) s hsm) e hes
    | none =>
      simp only [hl] at he
      have hc : comparators.lookup fn = none := by simpa [hl] using (compiled_lookup fn).symm
      rw [evalFn_switch f fn q p hs hc] at h
      exact switchSubs_sound hfact h e he

/-- **the matcher says `true` ⇒ every call of the lock-step walk is answered `true`** -/
theorem reach_sound (hfact : tablePairsOk = true) : ∀ (f : Nat) (fn : String) (q p : Tree),
    opCmp (evalFn f) fn q p = true → ∀ e ∈ reach f fn q p, opCmp (evalFn e.1) e.2.1 e.2.2.1 e.2.2.2 = true
  | 0, fn, q, p, h, e, he => by
    simp only [reach, List.mem_singleton] at he
    subst he; exact h
  | f + 1, fn, q, p, h, e, he => by
    simp only [reach, List.mem_cons] at he
    rcases he with rfl | he
    · exact h
    · cases hb : builtinCmp fn with
      | true => simp [hb] at he
      | false =>
        rw [opCmp_fn hb] at h
        cases hne : earlyTrue (evalFn f) fn q p with
        | true => simp [hb, hne] at he
        | false =>
          simp only [hb, hne, Bool.or_self, Bool.false_eq_true, if_false, List.mem_flatMap] at he
          obtain ⟨s, hs, hes⟩ := he
          exact reach_sound hfact f s.1 s.2.1 s.2.2 (subs_sound hfact f h hne s hs) e hes

theorem compared_sound (hfact : tablePairsOk = true) {t p : Tree} (h : matchT p t = true) :
    ∀ e ∈ compared t p, opCmp (evalFn e.1) e.2.1 e.2.2.1 e.2.2.2 = true := by
  intro e he
  unfold compared at he
  unfold matchT patMatch checkSinglePatternMatch at h
  cases hd : patternDispatch.lookup p.kind with
  | none => simp [hd] at he
  | some hnd =>
    simp only [hd] at he h
    have hb : builtinCmp hnd = false := by
      have hm := lookup_mem _ _ _ hd
      have : patternDispatch.all (fun r => !builtinCmp r.2) = true := by decide +kernel
      simpa using List.all_eq_true.mp this _ hm
    exact reach_sound hfact _ hnd t p (by rw [opCmp_fn hb]; exact h) e he

/-- a reached call of a function of `matching_logic.go` returned `true` (so it had fuel) -/
theorem compared_call (hfact : tablePairsOk = true) {t p : Tree} (h : matchT p t = true) {f : Nat} {fn : String} {x y : Tree}
    (he : (f, fn, x, y) ∈ compared t p) (hb : builtinCmp fn = false) : ∃ f', evalFn (f' + 1) fn x y = true := by
  have hs := compared_sound hfact h _ he
  rw [opCmp_fn hb] at hs
  cases f with
  | zero => simp [evalFn] at hs
  | succ f' => exact ⟨f', hs⟩

/-- `areEqualTableIdent` is `strings.EqualFold(query.CompliantName(), pattern.CompliantName())` -/
theorem tableIdent_body : compiled.lookup "areEqualTableIdent" =
    some (true, [.atom (.cmp "strings.EqualFold" ⟨true, false, [("CompliantName()", false)]⟩ ⟨false, false, [("CompliantName()", false)]⟩)]) := by
  decide +kernel

theorem tableIdent_sound (f : Nat) (q p : Tree) (h : evalFn (f + 1) "areEqualTableIdent" q p = true) : identEq q p = true := by
  rw [evalFn_compiled f _ q p _ _ (by decide +kernel) tableIdent_body] at h
  simp only [runC, atomAt, selO, if_true, Bool.false_eq_true, if_false, List.foldl_cons, List.foldl_nil, Option.bind_some, stepComp,
    show (("CompliantName()" : String) == "CompliantName()") = true by decide +kernel] at h
  cases hq : q.field "v" with
  | none => simp [hq] at h
  | some qv =>
    cases hp : p.field "v" with
    | none => simp [hq, hp] at h
    | some pv =>
      simp only [hq, hp, Option.map_some, opCmp, beq_self_eq_true, if_true, foldEq] at h
      simp only [identEq, fld, hq, hp, Option.getD_some]
      cases hc : lowerBytes (compliantName qv.leafBytes) == lowerBytes (compliantName pv.leafBytes) with
      | true => rfl
      | false => simp [hc] at h

end AcraModel.Censor.Match
