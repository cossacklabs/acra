import AcraModel.Censor.Tree
/-!
# The pattern matcher (`acra-censor/common/matching_logic.go`)

`checkSinglePatternMatch(query, pattern)` over generic trees. The field-by-field comparators
(`handle*Statement`, `areEqual*`) are **not** re-typed here: the model *interprets* the regenerated
table `Generated.CensorTable.comparators` (one row per Go function: its comparison steps in source
order with their polarity, and the value of its final `return`), `typeSwitches` (the plain cases of
the functions that switch on the pattern's type) and `patternDispatch`. Only the functions with
placeholder logic are written by hand, following the Go text:
`areEqualExpr` (cases SQLVal and ColName), `areEqualSelectExpr`, `areEqualSelectExprs`,
`areEqualInsertRows` (case Values), `areEqualSQLVal`, `areEqualColIdent`, `areEqualSubquery`,
`areEqualValTuple`, `handleStreamStatement`, `isWherePattern`, and the `%%…%%` constants of `common.go`.

`fuel` bounds the depth of calls. A call goes one level down into the pattern or stays on the node (a type switch
calls a field-by-field comparator, which may call a leaf function: at most three calls per level); `patMatch` runs
with `fuelFor p = 3 * p.depth + 10`.
-/
namespace AcraModel.Censor.Match
open AcraModel AcraModel.Censor Generated.CensorTable

/-! ## placeholder constants (`common.go`) -/

def replacer (name : String) : String := (replacers.lookup name).getD ""

/-- `ValueReplacer[1:34]`, `ListOfValuesReplacer[1:43]`: the text between the quotes. -/
def unquote (s : String) : Bytes := ((strBytes s).drop 1).dropLast

def valueBytes : Bytes := unquote (replacer "ValueReplacer")
def listOfValuesBytes : Bytes := unquote (replacer "ListOfValuesReplacer")
def columnBytes : Bytes := strBytes (replacer "ColumnReplacer")

def lf (s : String) : Tree := .leaf (strBytes s)
def tIdent (s : String) : Tree := .node "TableIdent" [lf "0", lf s, lf ""]
def cIdent (s : String) : Tree := .node "ColIdent" [lf s, lf "", lf "0", lf "false"]
def tName (s : String) : Tree := .node "TableName" [tIdent s, tIdent ""]
def cName (s : String) : Tree := .node "ColName" [Tree.nil, cIdent s, tName ""]
def sqlVal (ty : String) (v : Bytes) : Tree := .node "SQLVal" [lf ty, .leaf v, lf "", Tree.nil]
def aliased (e : Tree) : Tree := .node "AliasedExpr" [e, cIdent ""]
def aliasedTable (n : String) : Tree := .node "AliasedTableExpr" [tName n, .node "Partitions" [], tIdent "", Tree.nil]
def cmpEq (l r : Tree) : Tree := .node "ComparisonExpr" [lf "=", l, r, Tree.nil]
def whereOf (e : Tree) : Tree := .node "Where" [lf "where", e]
def selectOf (exprs from_ : List Tree) (wh : Tree) : Tree :=
  .node "Select" [lf "", .node "Comments" [], lf "", lf "", .node "SelectExprs" exprs, .node "TableExprs" from_, wh,
    .node "GroupBy" [], Tree.nil, .node "OrderBy" [], Tree.nil, lf ""]
def selectDual (e : Tree) : Tree := selectOf [aliased e] [aliasedTable "dual"] Tree.nil

/-- the parse trees of the replacer texts (compared with the real ones by the op `C05.placeholders`) -/
def valuePattern : Tree := sqlVal "0" valueBytes
def listOfValuesPattern : Tree := sqlVal "0" listOfValuesBytes
def columnPattern : Tree := cIdent (replacer "ColumnReplacer")
def selectPattern : Tree := selectDual (sqlVal "1" (strBytes "253768160274445518137315681"))
def subqueryPattern : Tree := selectDual (sqlVal "0" (strBytes "subquery_820753242875385807714016705"))
def unionPattern : Tree :=
  .node "Union" [lf "union", selectDual (sqlVal "1" (strBytes "254775710223443243272234290")),
    selectDual (sqlVal "1" (strBytes "486264166657867240626457666")), .node "OrderBy" [], Tree.nil, lf ""]
def wherePattern : Tree := whereOf (cmpEq (cName "value") (cName "where_651453831047102383248696721"))
def insertPattern : Tree :=
  .node "Insert" [lf "insert", .node "Comments" [], lf "", tName "table_150624360841713829746677497", lf "false",
    .node "Partitions" [], .node "Columns" [cIdent "column_454716724"],
    .node "Values" [.node "ValTuple" [cName "value_151516596"]], .node "OnDup" [], .node "Returning" []]
def updatePattern : Tree :=
  .node "Update" [.node "Comments" [], .node "TableExprs" [aliasedTable "table_795749362101944825892661393"],
    .node "UpdateExprs" [.node "UpdateExpr" [cName "column_148943040", sqlVal "1" (strBytes "577742781")]],
    .node "TableExprs" [], whereOf (cmpEq (cName "row_788570922") (sqlVal "1" (strBytes "840343494"))),
    .node "OrderBy" [], Tree.nil, .node "Returning" []]
def deletePattern : Tree :=
  .node "Delete" [.node "Comments" [], .node "TableExprs" [], .node "TableExprs" [aliasedTable "table_359557854899217835429634591"],
    .node "Partitions" [], Tree.nil, .node "OrderBy" [], Tree.nil, .node "Returning" []]

def placeholderStmt : String → Option Tree
  | "SelectPatternStatement" => some selectPattern
  | "UnionPatternStatement" => some unionPattern
  | "InsertPatternStatement" => some insertPattern
  | "UpdatePatternStatement" => some updatePattern
  | "DeletePatternStatement" => some deletePattern
  | _ => none

def fld (t : Tree) (n : String) : Tree := (t.field n).getD Tree.nil

/-- `isValuePattern`, `isListOfValuesPattern` (on a SQLVal), `isColumnPattern` (on a ColIdent) -/
def isValuePattern (p : Tree) : Bool := (fld p "Type").leafBytes == strBytes "0" && (fld p "Val").leafBytes == valueBytes
def isListOfValuesPattern (p : Tree) : Bool := (fld p "Type").leafBytes == strBytes "0" && (fld p "Val").leafBytes == listOfValuesBytes
def isColumnPattern (p : Tree) : Bool := lowerBytes (fld p "val").leafBytes == lowerBytes columnBytes

/-! ## operands of a step -/

/-- `TableIdent.CompliantName()` -/
def compliantName (b : Bytes) : Bytes :=
  let isLetter (c : UInt8) : Bool := (97 ≤ c.toNat && c.toNat ≤ 122) || (65 ≤ c.toNat && c.toNat ≤ 90) || c.toNat == 95 || c.toNat == 64
  let isDigit (c : UInt8) : Bool := 48 ≤ c.toNat && c.toNat ≤ 57
  (b.zipIdx).map fun (c, i) => if !isLetter c && (i == 0 || !isDigit c) then 95 else c

/-! ### operands, compiled

The regenerated table spells operands as Go text (`q.Where`, `p[i].Expr`, `q.Exprs[i]`, `q.CompliantName()`).
They are parsed once, over `List Char` (structural recursion only, so that the kernel evaluates the
compilation of the whole table – `by decide` – and the proofs never reason about `String` primitives). -/

/-- a parsed operand: root (`q`/`p`), `root[i]`?, then components `(field, followed by [i]?)` -/
structure Opnd where
  onQ : Bool
  rootIdx : Bool
  path : List (String × Bool)
deriving Repr, DecidableEq, Inhabited

def splitOnChar (c : Char) : List Char → List Char → List (List Char)
  | acc, [] => [acc.reverse]
  | acc, x :: xs => if x == c then acc.reverse :: splitOnChar c [] xs else splitOnChar c (x :: acc) xs

/-- `Exprs[i]` ↦ (`Exprs`, true) -/
def stripIdx (cs : List Char) : List Char × Bool :=
  match cs.reverse with
  | ']' :: 'i' :: '[' :: rest => (rest.reverse, true)
  | _ => (cs, false)

def parseOpnd (s : String) : Opnd :=
  match splitOnChar '.' [] s.toList with
  | [] => ⟨false, false, []⟩
  | root :: rest =>
    ⟨root.head? == some 'q', (stripIdx root).2, rest.map fun c => (String.ofList (stripIdx c).1, (stripIdx c).2)⟩

/-- one component of an operand path -/
def stepComp (i : Option Nat) (t : Tree) (c : String × Bool) : Option Tree :=
  if c.2 then do
    let l ← if c.1 == "" then some t else t.field c.1
    let n ← i
    l.kids[n]?
  else if c.1 == "CompliantName()" then (t.field "v").map fun v => .leaf (compliantName v.leafBytes)
  else t.field c.1

/-- evaluates a parsed operand such as `q.Where`, `p[i].Expr`, `q.Exprs[i]`, `q.CompliantName()` -/
def selO (i : Option Nat) (q p : Tree) (o : Opnd) : Option Tree :=
  let base := if o.onQ then q else p
  let base? := if o.rootIdx then i.bind (base.kids[·]?) else some base
  o.path.foldl (fun acc c => acc.bind fun t => stepComp i t c) base?

/-- evaluates an operand given as text -/
def sel (i : Option Nat) (q p : Tree) (operand : String) : Option Tree := selO i q p (parseOpnd operand)

def foldEq (a b : Tree) : Bool :=
  match a, b with
  | .leaf x, .leaf y => lowerBytes x == lowerBytes y
  | _, _ => false

/-! ## the interpreter -/

inductive Res where
  | pass
  | ret (b : Bool)

abbrev Row := String × String × String × String

/-- one comparison `callee(a, b)` -/
def opCmp (call : String → Tree → Tree → Bool) (callee : String) (a b : Tree) : Bool :=
  if callee == "strings.EqualFold" then foldEq a b
  else if callee == "reflect.DeepEqual" || callee == "bytes.Equal" then a == b
  else call callee a b

/-- a compiled step (everything except loops) -/
inductive AStep where
  | cast (onQ : Bool) (ty : String)
  | shortcut (o : Opnd) (ph : String)
  | nilboth
  | nileither
  | len (a b : Opnd)
  | ne (a b : Opnd)
  | cmp (callee : String) (a b : Opnd)
  | cmpNeg (callee : String) (a b : Opnd)
  | cmpEsc (esc : String) (ea : Opnd) (callee : String) (a b : Opnd)
  | bad
deriving Repr, DecidableEq, Inhabited

/-- a compiled step: atomic, or a `for index := range over { body }` -/
inductive CStep where
  | atom (a : AStep)
  | range (over : Opnd) (body : List AStep)
deriving Repr, DecidableEq, Inhabited

/-- kind text (without the `each:` prefix) + row ↦ atomic step -/
def compileAtom (kind : List Char) (r : Row) : AStep :=
  let (_, callee, qa, pa) := r
  if kind == "cast".toList then .cast (qa == "q") callee
  else if kind == "shortcut".toList then .shortcut (parseOpnd qa) pa
  else if kind == "nilboth".toList then .nilboth
  else if kind == "nileither".toList then .nileither
  else if kind == "len".toList then .len (parseOpnd qa) (parseOpnd pa)
  else if kind == "ne".toList then .ne (parseOpnd qa) (parseOpnd pa)
  else if kind == "cmp".toList then .cmp callee (parseOpnd qa) (parseOpnd pa)
  else if kind == "cmpNeg".toList then .cmpNeg callee (parseOpnd qa) (parseOpnd pa)
  else
    -- cmpEsc:<escape>:<operand>
    match splitOnChar ':' [] kind with
    | [k, e, ea] => if k == "cmpEsc".toList then .cmpEsc (String.ofList e) (parseOpnd (String.ofList ea)) callee (parseOpnd qa) (parseOpnd pa) else .bad
    | _ => .bad

def isEach (r : Row) : Bool := r.1.toList.take 5 == "each:".toList

/-- rows → compiled steps; the `each:` rows that follow a `range` row form its body (processed from the right:
`pending` collects the body of the loop whose `range` row comes next) -/
def compileRows : List Row → List CStep × List AStep
  | [] => ([], [])
  | r :: rs =>
    let (acc, pending) := compileRows rs
    if isEach r then (acc, compileAtom (r.1.toList.drop 5) r :: pending)
    else if r.1 == "range" then (.range (parseOpnd r.2.2.2) pending :: acc, [])
    else
      -- `each:` rows without a `range` in front of them do not occur; if they did the body would stop with false
      (.atom (compileAtom r.1.toList r) :: (if pending.isEmpty then acc else .atom .bad :: acc), [])

def compileSteps (rs : List Row) : List CStep :=
  let (acc, pending) := compileRows rs
  if pending.isEmpty then acc else .atom .bad :: acc

/-- one atomic step of a comparator at loop index `i` (`none` outside a loop) -/
def atomAt (call : String → Tree → Tree → Bool) (esc : String → Tree → Bool) (q p : Tree) (i : Option Nat) : AStep → Res
  | .cast onQ ty => if (if onQ then q else p).kind == ty then .pass else .ret false
  | .shortcut o ph =>
    match selO i q p o, placeholderStmt ph with
    | some x, some c => if x == c then .ret true else .pass
    | _, _ => .ret false
  | .nilboth => if q.isNil && p.isNil then .ret true else .pass
  | .nileither => if q.isNil || p.isNil then .ret false else .pass
  | .len a b =>
    match selO i q p a, selO i q p b with
    | some a, some b => if a.kids.length != b.kids.length then .ret false else .pass
    | _, _ => .ret false
  | .ne a b =>
    match selO i q p a, selO i q p b with
    | some a, some b => if a != b then .ret false else .pass
    | _, _ => .ret false
  | .cmp callee a b =>
    match selO i q p a, selO i q p b with
    | some a, some b => if !opCmp call callee a b then .ret false else .pass
    | _, _ => .ret false
  | .cmpNeg callee a b =>
    match selO i q p a, selO i q p b with
    | some a, some b => if opCmp call callee a b then .ret false else .pass
    | _, _ => .ret false
  | .cmpEsc e ea callee a b =>
    match selO i q p a, selO i q p b, selO i q p ea with
    | some a, some b, some x => if !opCmp call callee a b then .ret (esc e x) else .pass
    | _, _, _ => .ret false
  | .bad => .ret false

/-- the body of one loop iteration -/
def eachAt (call : String → Tree → Tree → Bool) (esc : String → Tree → Bool) (q p : Tree) (i : Nat) : List AStep → Res
  | [] => .pass
  | a :: as =>
    match atomAt call esc q p (some i) a with
    | .pass => eachAt call esc q p i as
    | .ret b => .ret b

def loopOver (call : String → Tree → Tree → Bool) (esc : String → Tree → Bool) (q p : Tree) (body : List AStep) : List Nat → Res
  | [] => .pass
  | i :: is =>
    match eachAt call esc q p i body with
    | .pass => loopOver call esc q p body is
    | .ret b => .ret b

/-- a compiled comparator body: steps in source order, then the final `return` -/
def runC (call : String → Tree → Tree → Bool) (esc : String → Tree → Bool) (q p : Tree) (fin : Bool) : List CStep → Bool
  | [] => fin
  | .atom a :: rs =>
    match atomAt call esc q p none a with
    | .pass => runC call esc q p fin rs
    | .ret b => b
  | .range o body :: rs =>
    match selO none q p o with
    | none => false
    | some l =>
      match loopOver call esc q p body (List.range l.kids.length) with
      | .pass => runC call esc q p fin rs
      | .ret b => b

/-- a comparator body given as rows of the regenerated table (the `Nat` only has to be non-zero) -/
def runSteps (call : String → Tree → Tree → Bool) (esc : String → Tree → Bool) (q p : Tree) (fin : Bool) : Nat → List Row → Bool
  | 0, _ => false
  | _ + 1, rows => runC call esc q p fin (compileSteps rows)

def all2 (f : Tree → Tree → Bool) : List Tree → List Tree → Bool
  | [], [] => true
  | a :: as, b :: bs => f a b && all2 f as bs
  | _, _ => false

/-- `areEqualValTuple`'s loop: every pattern element has a matching query element at the same index -/
def prefixAll (f : Tree → Tree → Bool) : List Tree → List Tree → Bool
  | _, [] => true
  | [], _ :: _ => false
  | a :: as, b :: bs => f a b && prefixAll f as bs

/-- the hand-written functions of `evalFn` -/
def specialFns : List String :=
  ["handleStreamStatement", "areEqualSQLVal", "areEqualColIdent", "areEqualSubquery", "areEqualValTuple",
   "areEqualSelectExprs", "areEqualSelectExpr", "areEqualInsertRows", "areEqualExpr"]

/-- the functions that switch on the pattern's type (`typeSwitches`, regenerated): the case of `p`'s type decides;
a plain case is `q, ok := query.(T); if !ok {return false}; return callee(q…, p…)`, the others are written by hand
(`special`) -/
def typeSwitchEval (call : String → Tree → Tree → Bool) (fn : String) (q p : Tree) (special : String → Option Bool) : Bool :=
  match (typeSwitches.lookup fn).bind (·.find? (·.1 == p.kind)) with
  | none => false
  | some (_, callee, qa, pa) =>
    if callee == "special" then (special p.kind).getD false
    else if q.kind != p.kind then false
    else
      match sel none q p qa, sel none q p pa with
      | some a, some b => opCmp call callee a b
      | _, _ => false

/-- `isWherePattern(pattern)`: nil-safe; EqualFold(Type) and areEqualExpr(pattern.Expr, WherePattern.Expr) -/
def escEval (call : String → Tree → Tree → Bool) (e : String) (x : Tree) : Bool :=
  e == "isWherePattern" && !x.isNil && foldEq (fld x "Type") (fld wherePattern "Type")
    && call "areEqualExpr" (fld x "Expr") (fld wherePattern "Expr")

/-- `areEqualSelectExpr`: the hand-written cases of its type switch -/
def selectExprSpecial (call : String → Tree → Tree → Bool) (q p : Tree) (k : String) : Option Bool :=
  if k == "StarExpr" then
    some (q.kind == "StarExpr" && call "areEqualTableName" (fld q "TableName") (fld p "TableName"))
  else if k == "AliasedExpr" then
    if q.kind != "AliasedExpr" then
      some (q.kind == "StarExpr" && (fld p "Expr").kind == "ColName" && isColumnPattern (fld (fld p "Expr") "Name"))
    else some (call "areEqualAliasedExpr" q p)
  else none

/-- `areEqualInsertRows`: case `sqlparser.Values` -/
def insertRowsSpecial (call : String → Tree → Tree → Bool) (q p : Tree) (k : String) : Option Bool :=
  if k == "Values" then some (q.kind == "Values" && all2 (call "areEqualValTuple") q.kids p.kids) else none

/-- `areEqualExpr`: cases `*sqlparser.SQLVal` and `*sqlparser.ColName` -/
def exprSpecial (call : String → Tree → Tree → Bool) (q p : Tree) (k : String) : Option Bool :=
  if k == "SQLVal" then
    if q.kind == "SQLVal" then some (call "areEqualSQLVal" q p)
    else if q.kind == "BoolVal" || q.kind == "NullVal" || q.kind == "FuncExpr" then
      some (isValuePattern p || isListOfValuesPattern p)
    else some false
  else if k == "ColName" then
    if q.kind == "ColName" then some (call "areEqualColName" q p)
    else if q.kind == "SQLVal" || q.kind == "Subquery" || q.kind == "FuncExpr" || q.kind == "CaseExpr" || q.kind == "ParenExpr" then
      some (isColumnPattern (fld p "Name"))
    else some false
  else none

/-- the hand-written functions (`specialFns`), following the Go text -/
def evalSpecial (call : String → Tree → Tree → Bool) (fn : String) (q p : Tree) : Bool :=
  if fn == "areEqualSQLVal" then
    isValuePattern p || isListOfValuesPattern p
      || ((fld q "Type").leafBytes == (fld p "Type").leafBytes && (fld q "Val").leafBytes == (fld p "Val").leafBytes)
  else if fn == "areEqualColIdent" then
    isColumnPattern p || lowerBytes (fld q "val").leafBytes == lowerBytes (fld p "val").leafBytes
  else if fn == "areEqualSubquery" then
    if !call "areEqualSelectStatement" (fld q "Select") (fld p "Select") then fld p "Select" == subqueryPattern else true
  else if fn == "areEqualValTuple" then
    if !prefixAll (call "areEqualExpr") q.kids p.kids then false
    else if q.kids.length > p.kids.length then
      match p.kids.getLast? with
      | some l => l.kind == "SQLVal" && isListOfValuesPattern l
      | none => false
    else true
  else if fn == "areEqualSelectExprs" then
    if p.kids.length == 1 && (p.kids.head?.map (·.kind)) == some "StarExpr" then true
    else all2 (call "areEqualSelectExpr") q.kids p.kids
  else if fn == "areEqualSelectExpr" then typeSwitchEval call fn q p (selectExprSpecial call q p)
  else if fn == "areEqualInsertRows" then typeSwitchEval call fn q p (insertRowsSpecial call q p)
  else if fn == "areEqualExpr" then
    if q.isNil && p.isNil then true
    else if q.isNil || p.isNil then false
    else typeSwitchEval call fn q p (exprSpecial call q p)
  else false  -- handleStreamStatement: a stub that returns false

/-- `fn(query, pattern)` for every function of `matching_logic.go` (by name). -/
def evalFn : Nat → String → Tree → Tree → Bool
  | 0, _, _, _ => false
  | fuel + 1, fn, q, p =>
    let call := evalFn fuel
    if !specialFns.contains fn then
      match comparators.lookup fn with
      | some (fin, steps) => runSteps call (escEval call) q p fin (steps.length + 1) steps
      | none => typeSwitchEval call fn q p fun _ => none
    else evalSpecial call fn q p

/-- `checkSinglePatternMatch(query, pattern)` -/
def checkSinglePatternMatch (fuel : Nat) (q p : Tree) : Bool :=
  match patternDispatch.lookup p.kind with
  | some h => evalFn fuel h q p
  | none => patternDispatchDefault

def fuelFor (p : Tree) : Nat := 3 * p.depth + 10

/-- the matcher as the chain uses it (`Sem.pat`) -/
def patMatch (q p : Tree) : Bool := checkSinglePatternMatch (fuelFor p) q p

/-- both operands name the same part of the query and of the pattern (`q.Where` / `p.Where`) -/
def sameOperand (qa pa : String) : Bool :=
  qa.toList.head? == some 'q' && pa.toList.head? == some 'p' && qa.toList.drop 1 == pa.toList.drop 1

/-- the step has the shape "stop with false unless the two corresponding parts are equal" (or cannot stop with false at all) -/
def stepOk (r : Row) : Bool :=
  let k := if isEach r then (r.1.drop 5).toString else r.1
  if k == "cast" || k == "shortcut" || k == "nilboth" || k == "nileither" || k == "range" then true
  else if k == "cmp" || k == "len" || k == "ne" || k.toList.take 7 == "cmpEsc:".toList then sameOperand r.2.2.1 r.2.2.2
  else false

/-- a comparator is well formed when it ends in `return true` and every step compares a part of the query with the
same part of the pattern, with the right polarity (`cmpNeg` – `if equal { return false }` – is not well formed) -/
def comparatorOk (c : String × Bool × List Row) : Bool := c.2.1 && c.2.2.all stepOk

/-- "no step of the body stops with false": the body run with `true` as its final value -/
def noFalse (call : String → Tree → Tree → Bool) (esc : String → Tree → Bool) (q p : Tree) (n : Nat) (rows : List Row) : Bool :=
  runSteps call esc q p true n rows

theorem runC_of_true (call : String → Tree → Tree → Bool) (esc : String → Tree → Bool) (q p : Tree) (fin : Bool)
    (steps : List CStep) (h : runC call esc q p true steps = true) (hfin : fin = true) :
    runC call esc q p fin steps = true := by
  subst hfin; exact h

/-- `noFalse` is the run with final value `true`: a body that ends in `return true` returns what `noFalse` says -/
theorem runSteps_of_noFalse (call : String → Tree → Tree → Bool) (esc : String → Tree → Bool) (q p : Tree) (fin : Bool)
    (n : Nat) (steps : List Row) (h : noFalse call esc q p n steps = true) (hfin : fin = true) :
    runSteps call esc q p fin n steps = true := by
  subst hfin; exact h

theorem evalFn_regular (fuel : Nat) (fn : String) (q p : Tree) (fin : Bool) (steps : List Row)
    (hs : specialFns.contains fn = false) (hl : comparators.lookup fn = some (fin, steps)) :
    evalFn (fuel + 1) fn q p =
      runSteps (evalFn fuel)
        (fun e x => e == "isWherePattern" && !x.isNil && foldEq (fld x "Type") (fld wherePattern "Type")
          && evalFn fuel "areEqualExpr" (fld x "Expr") (fld wherePattern "Expr"))
        q p fin (steps.length + 1) steps := by
  simp only [evalFn, hs, hl, Bool.not_false, if_true]
  rfl

theorem evalFn_special (fuel : Nat) (fn : String) (q p : Tree) (hs : specialFns.contains fn = true) :
    evalFn (fuel + 1) fn q p = evalSpecial (evalFn fuel) fn q p := by
  simp only [evalFn, hs, Bool.not_true, Bool.false_eq_true, if_false]

theorem evalFn_SQLVal (fuel : Nat) (q p : Tree) :
    evalFn (fuel + 1) "areEqualSQLVal" q p = (isValuePattern p || isListOfValuesPattern p
      || ((fld q "Type").leafBytes == (fld p "Type").leafBytes && (fld q "Val").leafBytes == (fld p "Val").leafBytes)) := by
  simp [evalFn, evalSpecial, specialFns]

theorem evalFn_ColIdent (fuel : Nat) (q p : Tree) :
    evalFn (fuel + 1) "areEqualColIdent" q p =
      (isColumnPattern p || lowerBytes (fld q "val").leafBytes == lowerBytes (fld p "val").leafBytes) := by
  simp [evalFn, evalSpecial, specialFns]

theorem evalFn_Subquery (fuel : Nat) (q p : Tree) :
    evalFn (fuel + 1) "areEqualSubquery" q p =
      (if !evalFn fuel "areEqualSelectStatement" (fld q "Select") (fld p "Select") then fld p "Select" == subqueryPattern else true) := by
  simp [evalFn, evalSpecial, specialFns]

theorem evalFn_ValTuple (fuel : Nat) (q p : Tree) :
    evalFn (fuel + 1) "areEqualValTuple" q p =
      (if !prefixAll (evalFn fuel "areEqualExpr") q.kids p.kids then false
       else if q.kids.length > p.kids.length then
         match p.kids.getLast? with
         | some l => l.kind == "SQLVal" && isListOfValuesPattern l
         | none => false
       else true) := by
  simp [evalFn, evalSpecial, specialFns]

theorem evalFn_SelectExprs (fuel : Nat) (q p : Tree) :
    evalFn (fuel + 1) "areEqualSelectExprs" q p =
      (if p.kids.length == 1 && (p.kids.head?.map (·.kind)) == some "StarExpr" then true
       else all2 (evalFn fuel "areEqualSelectExpr") q.kids p.kids) := by
  simp [evalFn, evalSpecial, specialFns]

theorem evalFn_SelectExpr (fuel : Nat) (q p : Tree) :
    evalFn (fuel + 1) "areEqualSelectExpr" q p =
      typeSwitchEval (evalFn fuel) "areEqualSelectExpr" q p (selectExprSpecial (evalFn fuel) q p) := by
  simp [evalFn, evalSpecial, specialFns]

theorem evalFn_InsertRows (fuel : Nat) (q p : Tree) :
    evalFn (fuel + 1) "areEqualInsertRows" q p =
      typeSwitchEval (evalFn fuel) "areEqualInsertRows" q p (insertRowsSpecial (evalFn fuel) q p) := by
  simp [evalFn, evalSpecial, specialFns]

theorem evalFn_Expr (fuel : Nat) (q p : Tree) :
    evalFn (fuel + 1) "areEqualExpr" q p =
      (if q.isNil && p.isNil then true
       else if q.isNil || p.isNil then false
       else typeSwitchEval (evalFn fuel) "areEqualExpr" q p (exprSpecial (evalFn fuel) q p)) := by
  simp [evalFn, evalSpecial, specialFns]

/-- a type switch without hand-written cases -/
theorem evalFn_switch (fuel : Nat) (fn : String) (q p : Tree) (hs : specialFns.contains fn = false)
    (hl : comparators.lookup fn = none) :
    evalFn (fuel + 1) fn q p = typeSwitchEval (evalFn fuel) fn q p fun _ => none := by
  simp only [evalFn, hs, hl, Bool.not_false, if_true]

theorem isValuePattern_valuePattern : isValuePattern valuePattern = true := by decide +kernel
theorem isListOfValuesPattern_listOfValuesPattern : isListOfValuesPattern listOfValuesPattern = true := by decide +kernel
theorem isColumnPattern_columnPattern : isColumnPattern columnPattern = true := by decide +kernel

/-- `%%VALUE%%` (and `%%LIST_OF_VALUES%%`) match every literal. -/
theorem value_matches (fuel : Nat) (q : Tree) : evalFn (fuel + 1) "areEqualSQLVal" q valuePattern = true := by
  rw [evalFn_SQLVal, isValuePattern_valuePattern]; rfl

theorem listOfValues_matches (fuel : Nat) (q : Tree) : evalFn (fuel + 1) "areEqualSQLVal" q listOfValuesPattern = true := by
  rw [evalFn_SQLVal, isListOfValuesPattern_listOfValuesPattern, Bool.or_true]; rfl

/-- `%%COLUMN%%` matches every identifier. -/
theorem column_matches (fuel : Nat) (q : Tree) : evalFn (fuel + 1) "areEqualColIdent" q columnPattern = true := by
  rw [evalFn_ColIdent, isColumnPattern_columnPattern]; rfl

/-- `(%%SUBQUERY%%)` matches every sub-select. -/
theorem subquery_matches (fuel : Nat) (q : Tree) :
    evalFn (fuel + 1) "areEqualSubquery" q (.node "Subquery" [subqueryPattern]) = true := by
  have h : fld (.node "Subquery" [subqueryPattern]) "Select" = subqueryPattern := by rfl
  have h2 : (subqueryPattern == subqueryPattern) = true := Tree.beq_refl _
  rw [evalFn_Subquery, h, h2]
  simp

end AcraModel.Censor.Match
