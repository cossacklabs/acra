import AcraModel.Censor.MatchMain
/-! # `match_generalise`: bootstrap of `isWherePattern` and the statement for `matchT` -/
namespace AcraModel.Censor.Match
open AcraModel AcraModel.Censor Generated.CensorTable

theorem HW_false : HW false := fun h => by cases h

/-- `isWherePattern` runs the matcher on the `%%WHERE%%` constant: the whole induction is run once with `%%WHERE%%`
switched off (`HW_false`) to show that the constant matches itself. -/
theorem HW_true : HW true := fun _ fuel hf =>
  have ⟨hwf, hacc, haccepts, hgen⟩ := evaluated_whereExpr
  P_all HW_false wexpr.depth wexpr (Nat.le_refl _) hwf hacc "areEqualExpr" wexpr fuel haccepts hgen
    (fun h => absurd h (by decide +kernel))
    (by
      unfold need
      have : rankOf "areEqualExpr" = 3 := by decide +kernel
      omega)

/-- **Every generalisation of a well-typed DML statement matches it.** -/
theorem matchT_of_isGen {t p : Tree} (hwt : wellTypedM t = true) (hd : dmlKinds.contains t.kind = true)
    (hg : isGen true false p t = true) : matchT p t = true := by
  simp only [wellTypedM, wellTyped, Bool.and_eq_true, Bool.not_eq_true'] at hwt
  obtain ⟨⟨⟨_, hnn⟩, hwf⟩, hacc⟩ := hwt
  have hk := List.all_eq_true.mp evaluated_dmlDispatch t.kind (List.contains_iff_mem.mp hd)
  cases hl : patternDispatch.lookup t.kind with
  | none => simp [hl] at hk
  | some h =>
    simp only [hl, Bool.and_eq_true, beq_iff_eq, Bool.not_eq_true'] at hk
    obtain ⟨⟨⟨hok, hdom⟩, hr⟩, hkc⟩ := hk
    have hpk : p.kind = t.kind := isGen_kind hg hkc
    have hleaf : t.isLeaf = false := by
      cases t with
      | node _ _ => rfl
      | leaf b =>
        have : dmlKinds.contains "leaf" = false := by decide +kernel
        rw [show (Tree.leaf b).kind = "leaf" from rfl, this] at hd; cases hd
    have hacc' : accepts h t = true := by
      have hm : t.kind ∈ (domOf h).kinds := by rw [hdom]; exact List.mem_singleton.mpr rfl
      simp [accepts, okFn, hok, hleaf, hnn, hm]
    unfold matchT patMatch checkSinglePatternMatch
    rw [hpk, hl]
    exact P_all HW_true t.depth t (Nat.le_refl _) hwf hacc h p (fuelFor p) hacc' hg (fun _ => hpk)
      (by unfold need fuelFor; omega)

end AcraModel.Censor.Match
