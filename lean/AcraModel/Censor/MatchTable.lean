import AcraModel.Censor.MatchWalk
/-!
# The regenerated comparator table, evaluated

Everything the proofs about the matcher take from `Generated.CensorTable` by running the typing judgement
(`okRegular`, `switchTyped`, `acc`), the operand check (`tablePairsOk`) and the interpreter (`matchT`, `compared`) on closed
terms. It is one statement because the parts look the same functions up in the same `String`-keyed tables
(`compiled.lookup`, `domOf`, `structFields.lookup`) and one run of the kernel evaluates each such closed term once; the
parts are named below it.
-/
namespace AcraModel.Censor.Match
open AcraModel AcraModel.Censor Generated.CensorTable

theorem evaluated :
    -- the table is well typed: `Props.C05.fact_table_typed`, `fact_switches_typed`, `fact_dml_dispatch`
    (((compiled.map (·.1)).filter (fun fn => !okRegular fn) =
        ["handleSetStatement", "handleDBDDLStatement", "handleDDLStatement", "handleShowStatement", "handleUseStatement",
         "handleBeginStatement", "handleCommitStatement", "handleRollbackStatement", "handleOtherReadStatement",
         "handleOtherAdminStatement"]
      ∧ switchFns.all switchTyped = true
      ∧ dmlKinds.all (fun k =>
          match patternDispatch.lookup k with
          | some h => okRegular h && (domOf h).kinds == [k] && rankOf h == 2 && !kindChanging k
          | none => false) = true)
    -- what the hand-written functions call: on parts of their node (`specialSites`), and the two comparators of the
    -- hand-written cases of `areEqualSelectExpr` and `areEqualExpr`
    ∧ (specialSites.all (fun s => calleeKeepsKind s.2.2) = true
      ∧ okFn "areEqualAliasedExpr" = true ∧ (domOf "areEqualAliasedExpr").kinds.contains "AliasedExpr" = true
      ∧ okFn "areEqualColName" = true ∧ (domOf "areEqualColName").kinds.contains "ColName" = true)
    -- the expression of `%%WHERE%%`, on which `isWherePattern` runs `areEqualExpr`
    ∧ (wf (fld wherePattern "Expr") = true ∧ acc (fld wherePattern "Expr") = true
      ∧ accepts "areEqualExpr" (fld wherePattern "Expr") = true
      ∧ isGen false false (fld wherePattern "Expr") (fld wherePattern "Expr") = true)
    -- `Props.C05.fact_comparators_ok`, `fact_comparators_compare_pattern_with_query`
    ∧ (comparators.all comparatorOk = true ∧ tablePairsOk = true))
    -- the concrete trees of `Props.C05`: the non-vacuity example of `match_generalise`,
    -- `insertRows_parenSelect_counterexample`, `qualifier_is_compared`, `compliant_name_counterexample`, `returning_is_compared`
    ∧ ((let t := selectDual (sqlVal "1" (strBytes "7"))
       wellTypedM t = true ∧ dmlKinds.contains t.kind = true ∧ (generalise t [(7, .value)] == t) = false)
    ∧ (let sel (n : String) := selectDual (sqlVal "1" (strBytes n))
       let u : Tree := .node "Union" [lf "union", sel "1", sel "2", .node "OrderBy" [], Tree.nil, lf ""]
       let ins : Tree := .node "Insert" [lf "insert", .node "Comments" [], lf "", tName "t1", lf "false",
         .node "Partitions" [], .node "Columns" [], .node "ParenSelect" [u], .node "OnDup" [], .node "Returning" []]
       wellTyped ins = true ∧ acc ins = false ∧ matchT ins ins = false)
    ∧ (let tbl (schema : String) : Tree := .node "AliasedTableExpr"
         [.node "TableName" [tIdent "users", tIdent schema], .node "Partitions" [], tIdent "", Tree.nil]
       let stmt (schema : String) (v : Tree) : Tree :=
         selectOf [aliased (cName "name")] [tbl schema] (whereOf (cmpEq (cName "id") v))
       let pat := stmt "app" valuePattern
       let seven := sqlVal "1" (strBytes "7")
       matchT pat (stmt "app" seven) = true ∧ matchT pat (stmt "vault" seven) = false ∧ matchT pat (stmt "" seven) = false
       ∧ (compared (stmt "vault" seven) pat).any
           (fun e => e.2.1 == "areEqualTableIdent" && !identEq e.2.2.1 e.2.2.2) = true)
    ∧ (let stmt (tbl : String) := selectOf [aliased (cName "a")] [aliasedTable tbl] Tree.nil
       matchT (stmt "a_b") (stmt "a-b") = true ∧ (stmt "a_b" == stmt "a-b") = false)
    ∧ (let ins (ret : List Tree) : Tree := .node "Insert" [lf "insert", .node "Comments" [], lf "", tName "t1", lf "false",
         .node "Partitions" [], .node "Columns" [cIdent "a"],
         .node "Values" [.node "ValTuple" [sqlVal "1" (strBytes "1")]], .node "OnDup" [], .node "Returning" ret]
       matchT (ins []) (ins [aliased (cName "a")]) = false ∧ matchT (ins []) (ins []) = true)) := by
  decide +kernel

/-! The parts of `evaluated` by name; nothing outside this file depends on how the conjunction is nested. -/

theorem evaluated_tableTyped : type_of% evaluated.1.1.1 := evaluated.1.1.1
theorem evaluated_switchesTyped : type_of% evaluated.1.1.2.1 := evaluated.1.1.2.1
theorem evaluated_dmlDispatch : type_of% evaluated.1.1.2.2 := evaluated.1.1.2.2
theorem evaluated_specialSites : type_of% evaluated.1.2.1.1 := evaluated.1.2.1.1
theorem evaluated_okAliasedExpr : type_of% evaluated.1.2.1.2.1 := evaluated.1.2.1.2.1
theorem evaluated_domAliasedExpr : type_of% evaluated.1.2.1.2.2.1 := evaluated.1.2.1.2.2.1
theorem evaluated_okColName : type_of% evaluated.1.2.1.2.2.2.1 := evaluated.1.2.1.2.2.2.1
theorem evaluated_domColName : type_of% evaluated.1.2.1.2.2.2.2 := evaluated.1.2.1.2.2.2.2
/-- the four facts about `fld wherePattern "Expr"`: `wf`, `acc`, `accepts "areEqualExpr"`, `isGen` with itself -/
theorem evaluated_whereExpr : type_of% evaluated.1.2.2.1 := evaluated.1.2.2.1
theorem evaluated_comparatorsOk : type_of% evaluated.1.2.2.2.1 := evaluated.1.2.2.2.1
theorem evaluated_tablePairsOk : type_of% evaluated.1.2.2.2.2 := evaluated.1.2.2.2.2
theorem evaluated_typedSelect : type_of% evaluated.2.1 := evaluated.2.1
theorem evaluated_insertParenSelect : type_of% evaluated.2.2.1 := evaluated.2.2.1
theorem evaluated_qualifier : type_of% evaluated.2.2.2.1 := evaluated.2.2.2.1
theorem evaluated_compliantName : type_of% evaluated.2.2.2.2.1 := evaluated.2.2.2.2.1
theorem evaluated_returning : type_of% evaluated.2.2.2.2.2 := evaluated.2.2.2.2.2

end AcraModel.Censor.Match
