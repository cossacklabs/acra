import AcraModel.Censor.MatchWalk
/-!
# The converse direction: what a successful match of a placeholder-free pattern means

* `runC_true_inv` – a comparator body that returns `true` either ran to its end with **every** comparison passing (and
  ends in `return true`), or some step stopped it with `true`: the only steps that can do so are the nil guard
  (`query == nil && pattern == nil`), a whole-statement shortcut (`%%SELECT%%` …) and the `%%WHERE%%` escape.
* `sqlVal_sound`, `colIdent_sound` – the two leaf comparators: `true` without a placeholder means equal type and bytes /
  equal name up to letter case.
-/
namespace AcraModel.Censor.Match
open AcraModel AcraModel.Censor Generated.CensorTable

variable (call : String → Tree → Tree → Bool) (esc : String → Tree → Bool) (q p : Tree)

theorem eachAt_inv (i : Nat) : ∀ (body : List AStep) (r : Res), eachAt call esc q p i body = r →
    (r = .pass ∧ body.all (fun a => (atomAt call esc q p (some i) a).isPass) = true)
    ∨ (∃ b, r = .ret b ∧ (b = true → body.any (fun a => (atomAt call esc q p (some i) a).isRetTrue) = true))
  | [], r, h => by simp only [eachAt] at h; subst h; exact Or.inl ⟨rfl, rfl⟩
  | a :: as, r, h => by
    simp only [eachAt] at h
    cases ha : atomAt call esc q p (some i) a with
    | pass =>
      rw [ha] at h
      rcases eachAt_inv i as r h with ⟨h1, h2⟩ | ⟨b, h1, h2⟩
      · exact Or.inl ⟨h1, by rw [List.all_cons, h2, ha]; rfl⟩
      · exact Or.inr ⟨b, h1, fun hb => by rw [List.any_cons, h2 hb]; simp⟩
    | ret b =>
      rw [ha] at h
      subst h
      refine Or.inr ⟨b, rfl, fun hb => ?_⟩
      subst hb
      rw [List.any_cons, ha]; rfl

theorem loopOver_inv (body : List AStep) : ∀ (is : List Nat) (r : Res), loopOver call esc q p body is = r →
    (r = .pass ∧ is.all (fun i => body.all fun a => (atomAt call esc q p (some i) a).isPass) = true)
    ∨ (∃ b, r = .ret b ∧ (b = true → is.any (fun i => body.any fun a => (atomAt call esc q p (some i) a).isRetTrue) = true))
  | [], r, h => by simp only [loopOver] at h; subst h; exact Or.inl ⟨rfl, rfl⟩
  | i :: is, r, h => by
    simp only [loopOver] at h
    rcases eachAt_inv call esc q p i body _ rfl with ⟨h1, h2⟩ | ⟨b, h1, h2⟩
    · rw [h1] at h
      rcases loopOver_inv body is r h with ⟨h3, h4⟩ | ⟨b, h3, h4⟩
      · exact Or.inl ⟨h3, by rw [List.all_cons, h2, h4]; rfl⟩
      · exact Or.inr ⟨b, h3, fun hb => by rw [List.any_cons, h4 hb]; simp⟩
    · rw [h1] at h
      subst h
      exact Or.inr ⟨b, rfl, fun hb => by rw [List.any_cons, h2 hb]; rfl⟩

/-- **`true` means: all comparisons passed and the function ends in `return true`, or a guard / shortcut / escape fired.** -/
theorem runC_true_inv (fin : Bool) : ∀ (steps : List CStep), runC call esc q p fin steps = true →
    steps.any (cstepRetTrue call esc q p) = true ∨ (fin = true ∧ steps.all (cstepPasses call esc q p) = true)
  | [], h => by simp only [runC] at h; exact Or.inr ⟨h, rfl⟩
  | .atom a :: rest, h => by
    simp only [runC] at h
    cases ha : atomAt call esc q p none a with
    | pass =>
      rw [ha] at h
      rcases runC_true_inv fin rest h with h1 | ⟨h1, h2⟩
      · exact Or.inl (by rw [List.any_cons, h1]; simp)
      · exact Or.inr ⟨h1, by rw [List.all_cons, h2]; simp [cstepPasses, ha, Res.isPass]⟩
    | ret b =>
      rw [ha] at h
      simp only at h
      subst h
      exact Or.inl (by rw [List.any_cons]; simp [cstepRetTrue, ha, Res.isRetTrue])
  | .range o body :: rest, h => by
    simp only [runC] at h
    cases hl : selO none q p o with
    | none => simp [hl] at h
    | some l =>
      simp only [hl] at h
      rcases loopOver_inv call esc q p body (List.range l.kids.length) _ rfl with ⟨h1, h2⟩ | ⟨b, h1, h2⟩
      · rw [h1] at h
        rcases runC_true_inv fin rest h with h3 | ⟨h3, h4⟩
        · exact Or.inl (by rw [List.any_cons, h3]; simp)
        · exact Or.inr ⟨h3, by rw [List.all_cons, h4]; simp [cstepPasses, hl, h2]⟩
      · rw [h1] at h
        simp only at h
        exact Or.inl (by rw [List.any_cons]; simp [cstepRetTrue, hl, h2 h])

/-- `areEqualSQLVal` without a placeholder: same type, same bytes -/
theorem sqlVal_sound (fuel : Nat) (q p : Tree) (h : evalFn (fuel + 1) "areEqualSQLVal" q p = true)
    (hv : isValuePattern p = false) (hl : isListOfValuesPattern p = false) :
    (fld q "Type").leafBytes = (fld p "Type").leafBytes ∧ (fld q "Val").leafBytes = (fld p "Val").leafBytes := by
  rw [evalFn_SQLVal, hv, hl] at h
  simpa using h

/-- `areEqualColIdent` without `%%COLUMN%%`: the same name up to letter case -/
theorem colIdent_sound (fuel : Nat) (q p : Tree) (h : evalFn (fuel + 1) "areEqualColIdent" q p = true)
    (hc : isColumnPattern p = false) :
    lowerBytes (fld q "val").leafBytes = lowerBytes (fld p "val").leafBytes := by
  rw [evalFn_ColIdent, hc] at h
  simpa using h

theorem retTrue_ite1 (c : Prop) [Decidable c] : (if c then Res.pass else Res.ret false).isRetTrue = false := by
  split <;> rfl
theorem retTrue_ite2 (c : Prop) [Decidable c] : (if c then Res.ret false else Res.pass).isRetTrue = false := by
  split <;> rfl

/-- the only steps that can stop a comparator with `true` -/
theorem atom_retTrue_kinds (i : Option Nat) (a : AStep) (h : (atomAt call esc q p i a).isRetTrue = true) :
    (a = .nilboth ∧ q.isNil = true ∧ p.isNil = true)
    ∨ (∃ o ph x c, a = .shortcut o ph ∧ selO i q p o = some x ∧ placeholderStmt ph = some c ∧ (x == c) = true)
    ∨ (∃ e ea c a' b x, a = .cmpEsc e ea c a' b ∧ selO i q p ea = some x ∧ esc e x = true) := by
  cases a with
  | nilboth =>
    simp only [atomAt] at h
    split at h
    · next hc => simp only [Bool.and_eq_true] at hc; exact Or.inl ⟨rfl, hc.1, hc.2⟩
    · simp [Res.isRetTrue] at h
  | shortcut o ph =>
    simp only [atomAt] at h
    split at h
    · next x c hx hc =>
      split at h
      · next hxc => exact Or.inr (Or.inl ⟨o, ph, x, c, rfl, hx, hc, hxc⟩)
      · cases h
    · cases h
  | cmpEsc e ea c a' b =>
    simp only [atomAt] at h
    split at h
    · next xa xb x _ _ he =>
      split at h
      · cases hes : esc e x with
        | true => exact Or.inr (Or.inr ⟨e, ea, c, a', b, x, rfl, he, hes⟩)
        | false => simp [hes, Res.isRetTrue] at h
      · cases h
    · cases h
  | cast onQ k => simp only [atomAt] at h; rw [retTrue_ite1] at h; cases h
  | nileither => simp only [atomAt] at h; rw [retTrue_ite2] at h; cases h
  | len a' b | ne a' b | cmp _ a' b | cmpNeg _ a' b =>
    simp only [atomAt] at h
    split at h
    · rw [retTrue_ite2] at h; cases h
    · cases h
  | bad => simp [atomAt, Res.isRetTrue] at h

end AcraModel.Censor.Match
