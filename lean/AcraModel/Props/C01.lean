import AcraModel.Envelope.Detector
import AcraModel.Envelope.ContainerLemmas
import AcraModel.Envelope.BlockLemmas
import AcraModel.Envelope.ProtectLemmas
import AcraModel.Envelope.ScanLemmas
import AcraModel.Envelope.ExampleOps
import AcraModel.Envelope.TranslatorLemmas
import AcraModel.Envelope.SearchWriteLemmas
import AcraModel.Envelope.SearchWriteBare
import AcraModel.Generated.SearchWrite
import AcraModel.Crypto.Box
/-!
# C01 — protect-then-reveal returns the original bytes for the owning client

Models: `AcraModel/Envelope/{AcraBlock,AcraStruct,Container,Detector,Translator}.lean`
(the AcraTranslator operations reuse `Envelope/Poison.lean` and `Searchable/Index.lean`).
-/
namespace AcraModel.Props.C01
open AcraModel AcraModel.Envelope Generated

/-- Sizes add up: the AcraStruct header is 8+45+84+8 = 145 bytes, the AcraBlock header 18, the
container header 12, and the field positions of the AcraBlock are consecutive. -/
theorem fact_layout_sizes :
    structMin = 145 ∧ structTagLen = 8 ∧ structPubLen = 45 ∧ structKeyBlockLen = 129 ∧ structDataLenSize = 8 ∧
    blockMin = 18 ∧ blockKeyPos = 18 ∧ containerMin = 12 ∧
    Layout.blockTagBeginSize = 4 ∧ Layout.blockRestAcraBlockLengthPosition = 4 ∧ Layout.blockRestAcraBlockLengthSize = 8 ∧
    Layout.blockKeyEncryptionKeyTypePosition = 12 ∧ Layout.blockKeyEncryptionKeyIDPosition = 13 ∧
    Layout.blockKeyEncryptionKeyIDSize = 2 ∧ Layout.blockDataEncryptionTypePosition = 15 ∧
    Layout.blockDataEncryptionKeyLengthPosition = 16 ∧ Layout.blockDataEncryptionKeyLengthSize = 2 ∧
    Layout.containerTagBeginSize = 3 ∧ Layout.containerLengthSize = 8 := by decide

/-- Tags and ids: eight `"` for the AcraStruct, its first four for the AcraBlock, `%%%` for the
container; envelope ids 0xF0 (AcraBlock) and 0xF1 (AcraStruct); only backend 0 is registered. -/
theorem fact_layout_tags :
    structTag = List.replicate 8 34 ∧ blockTag = List.replicate 4 34 ∧ containerTag = List.replicate 3 37 ∧
    idBlock = 240 ∧ idStruct = 241 ∧ Layout.blockKeyBackends = [0] ∧ Layout.blockDataBackends = [0] ∧
    Layout.blockKeyEncryptionBackendTypeSecureCell = 0 ∧ Layout.blockDataEncryptionBackendTypeSecureCell = 0 := by decide

/-- Container round trip. Wrapping a non-empty envelope `e` of a registered kind into the serialized
container `%%% | length | id | e` succeeds, `deserialize` gives back exactly `e` and the id – also when
arbitrary bytes follow the container (it takes exactly the declared length) – and
`ExtractSerializedContainer` on the container followed by arbitrary bytes reports exactly the
container's length as the number of bytes to consume (the container handed to the callbacks is the
whole rest of the buffer, as in the code). `e.length + 12 < 2^63` keeps the Go `int` conversion of the
length field positive. -/
theorem container_roundtrip (e : Bytes) (id : UInt8) (he : e ≠ []) (hlen : e.length + 12 < 2^63)
    (hid : id = idBlock ∨ id = idStruct) :
    ∃ p, serialize e id = .ok p ∧ deserialize p = .ok (e, id) ∧ p.length = e.length + 12 ∧
      (∀ suffix, deserialize (p ++ suffix) = .ok (e, id)) ∧
      (∀ suffix, extractContainer (p ++ suffix) = .ok ((p.length : Int), p ++ suffix)) := by
  obtain ⟨k, hk⟩ := c01_kindOfId_some hid
  refine ⟨serBytes e id, c01_serialize_eq id he, ?_, ?_, ?_, ?_⟩
  · have := c01_deserialize_ser [] he hk (by omega)
    simpa using this
  · rw [c01_serBytes_length]; omega
  · intro suffix
    exact c01_deserialize_ser suffix he hk (by omega)
  · intro suffix
    exact c01_extractContainer_ser suffix he hk hlen

/-- With 32-byte hashes the key id stored in an AcraBlock really is 2 bytes. -/
theorem keyId_length (c : CryptoOps) (hh : HashLen c) (key ctx : Bytes) : (keyId c key ctx).length = 2 :=
  c01_keyId_length hh key ctx

/-- `CreateAcraBlock` succeeds for every non-empty message below the 4 GiB limit of the AEAD, every
non-empty key and every context, as soon as the random source delivers its 56 bytes. -/
theorem block_create_total (c : CryptoOps) (hs : SealLaws c) (key ctx m rnd : Bytes)
    (hkey : key ≠ []) (hm : m ≠ []) (hml : m.length < maxMsgLen) (hr : 56 ≤ rnd.length) :
    ∃ b, createBlock c key ctx m rnd = .ok b := by
  have h32 : (rnd.take 32).length = 32 := by rw [List.length_take]; omega
  have hdek : rnd.take 32 ≠ [] := fun h => by rw [h] at h32; cases h32
  obtain ⟨encData, h1⟩ := hs.enc_some ctx hm hdek (n := (rnd.drop 32).take 12)
    (by rw [List.length_take, List.length_drop]; show min 12 _ = 12; omega) hml
  obtain ⟨encKey, h2⟩ := hs.enc_some ctx hdek hkey (n := (rnd.drop 44).take 12)
    (by rw [List.length_take, List.length_drop]; show min 12 _ = 12; omega) (by rw [h32]; decide)
  exact ⟨buildBlock (keyId c key ctx) encKey encData, by unfold createBlock; simp only [h1, h2]⟩

/-- AcraBlock round trip through the library calls. If `CreateAcraBlock` produced `b` for message `m`
under `key` and context `ctx` (by `block_create_total` it does for every non-empty `m` below 4 GiB),
then (1) `ExtractAcraBlockFromData` finds exactly `b` at the start of `b` followed by arbitrary bytes,
and (2) `AcraBlock.Decrypt` with ANY key list that contains `key` returns exactly `m`, provided every
key listed before it either has a different 2-byte key id or does not unseal the wrapped data key.
Without key commitment nothing more can be said about earlier keys (an AEAD may accept a ciphertext
under two keys); this hypothesis is exactly the "id collides: try, and on failure go on to the next
key" logic of the code. `hkid` follows from `HashLen c` (`keyId_length`); the two length hypotheses
follow from `SealLen c` and are explicit so that the theorem also applies to instances with key
commitment. They are needed: an instance whose ciphertexts have 2^64 bytes or whose wrapped key has
65536 bytes satisfies `SealLaws`, but the 8-byte resp. 2-byte length fields would wrap around.
(`key ≠ []`, `m ≠ []`, `m.length < maxMsgLen`, `56 ≤ rnd.length` are implied by `hc`.) -/
theorem block_roundtrip (c : CryptoOps) (hs : SealLaws c) (key ctx m rnd b : Bytes) (pre post : List Bytes)
    (hkid : (keyId c key ctx).length = 2)
    (hEncKey : ∀ encKey, c.enc key ctx (rnd.take 32) ((rnd.drop 44).take 12) = some encKey → encKey.length < 65536)
    (hblen : b.length < 2^64)
    (hc : createBlock c key ctx m rnd = .ok b)
    (hpre : ∀ k' ∈ pre, ∀ encKey, c.enc key ctx (rnd.take 32) ((rnd.drop 44).take 12) = some encKey →
      keyId c k' ctx = keyId c key ctx → c.dec k' ctx encKey = none) :
    (∀ suffix, extractBlock (b ++ suffix) = .ok (b.length, b)) ∧
    decryptBlock c (pre ++ key :: post) ctx b = .ok m := by
  obtain ⟨encData, encKey, h1, h2, rfl⟩ := c01_createBlock_ok hc
  refine ⟨fun suffix => c01_extractBlock_build _ _ _ suffix hkid hblen, ?_⟩
  exact c01_decryptBlock_build c hs key ctx _ m encKey encData _ _ pre post hkid (hEncKey _ h2) h1 h2
    (fun k' hk' hid => Or.inl (hpre k' hk' encKey h2 hid))

/-- AcraBlock round trip under key commitment (`SealCommit`; deliberately no length law, see
`Crypto/Ops.lean`): a ciphertext is accepted under one key only, so nothing has to be assumed about
the other keys – ANY key list that contains the writer's key, at any position and with any other
keys (colliding 2-byte ids included) before it, decrypts the block to exactly `m`. -/
theorem block_roundtrip_commit (c : CryptoOps) (hs : SealLaws c) (hcm : SealCommit c)
    (key ctx m rnd b : Bytes) (keys : List Bytes)
    (hkid : (keyId c key ctx).length = 2)
    (hEncKey : ∀ encKey, c.enc key ctx (rnd.take 32) ((rnd.drop 44).take 12) = some encKey → encKey.length < 65536)
    (hblen : b.length < 2^64)
    (hc : createBlock c key ctx m rnd = .ok b) (hmem : key ∈ keys) :
    (∀ suffix, extractBlock (b ++ suffix) = .ok (b.length, b)) ∧
    decryptBlock c keys ctx b = .ok m := by
  obtain ⟨encData, encKey, h1, h2, rfl⟩ := c01_createBlock_ok hc
  refine ⟨fun suffix => c01_extractBlock_build _ _ _ suffix hkid hblen, ?_⟩
  obtain ⟨pre, post, rfl⟩ := List.append_of_mem hmem
  exact c01_decryptBlock_build c hs key ctx _ m encKey encData _ _ pre post hkid (hEncKey _ h2) h1 h2
    (fun k' _ _ => c01_dec_of_commit hs hcm h2 k')

/-! ## the registry handler: `protect` (EncryptWithClientID) and `reveal` (Process)

`RoundTripHyps c k kvW kvR m rnd p` (in `Envelope/ProtectLemmas.lean`) is the hypothesis bundle of
`reveal_protect_block` for `k = .block` and of `reveal_protect_struct` for `k = .struct`. -/

/-- Input that already is a protected value – an envelope of the requested kind or a serialized
container the registry recognises – is returned unchanged by `protect`, whatever the keys and the
random stream: it is never wrapped a second time. -/
theorem protect_passthrough (c : CryptoOps) (kv : KeyView) (k : Kind) (d rnd : Bytes)
    (h : matchKind k d = true ∨ registryMatch d = true) : protect c kv k d rnd = .ok d :=
  c01_protect_of_match c kv k d rnd h

/-- If `protect` returned something different from its input, the input was not recognised as
protected (so the handler of kind `k` really ran). -/
theorem protect_ne_input (c : CryptoOps) (kv : KeyView) (k : Kind) (m rnd p : Bytes)
    (hp : protect c kv k m rnd = .ok p) (hne : p ≠ m) : matchKind k m = false ∧ registryMatch m = false := by
  have h : ¬ (matchKind k m = true ∨ registryMatch m = true) := fun h => by
    rw [c01_protect_of_match c kv k m rnd h] at hp; cases hp; exact hne rfl
  rwa [not_or, Bool.not_eq_true, Bool.not_eq_true] at h

/-- A value protected as AcraBlock is never wrapped a second time: whatever `protect` produced for
`m` (if it is not `m` itself, i.e. `m` was not already protected) is passed through unchanged by every
further `protect`, for either envelope kind, any client's keys and any random stream. No crypto law is
needed; the length hypotheses are those of `block_roundtrip` (`p.length < 2^63` is the container's
length, it follows from `SealLen c` and `m.length < 2^32`). -/
theorem protect_idempotent_block (c : CryptoOps) (kv : KeyView) (key m rnd p : Bytes)
    (hW : kv.sym = some key) (hkid : (keyId c key []).length = 2) (hplen : p.length < 2^63)
    (hp : protect c kv .block m rnd = .ok p) (hne : p ≠ m) :
    ∀ (k' : Kind) (kv' : KeyView) (rnd' : Bytes), protect c kv' k' p rnd' = .ok p := by
  obtain ⟨hnm, hnr⟩ := protect_ne_input c kv .block m rnd p hp hne
  obtain ⟨e, he, hne', rfl⟩ := c01_protect_ok hp hnm hnr
  obtain ⟨key', hk', hcb⟩ := c01_encryptKind_block he hnm
  rw [hW] at hk'; cases hk'
  obtain ⟨encData, encKey, _, _, rfl⟩ := c01_createBlock_ok hcb
  rw [c01_serBytes_length] at hplen
  intro k' kv' rnd'
  apply c01_protect_of_match
  right
  have hx := c01_extractBlock_build (keyId c key []) encKey encData [] hkid (by omega)
  rw [List.append_nil] at hx
  have := c01_registryMatch_ser .block _ [] hne' (by omega) (by simp [matchKind, hx, Out.isOk])
  simpa using this

/-- Protect-then-reveal, either kind: what `protect` produced for an unprotected value `m` under the
writer's key view is opened to exactly `m` by `reveal` under any reader key view whose key list
contains the writer's key (so also after key rotations). -/
theorem reveal_protect (c : CryptoOps) (k : Kind) (kvW kvR : KeyView) (m rnd p : Bytes)
    (h : RoundTripHyps c k kvW kvR m rnd p)
    (hnm : matchKind k m = false) (hnr : registryMatch m = false)
    (hp : protect c kvW k m rnd = .ok p) : reveal c kvR p = .ok m := by
  obtain ⟨e, rfl, he, hlen, hmatch, hdec⟩ := protect_facts c k kvW kvR m rnd p h hnm hnr hp
  rw [c01_reveal_ser c kvR k e he (by omega) hmatch, hdec]

/-- Protect-then-reveal for the AcraBlock kind through the registry handler. The writer's key view
`kvW` and the reader's `kvR` may differ in everything, as long as the reader's list of symmetric keys
contains the writer's current key somewhere – in particular a value written before any number of key
rotations stays readable. Earlier keys in the reader's list must not accidentally unseal the wrapped
data key when their 2-byte id collides (see `block_roundtrip`; `reveal_protect_block_commit` removes
this hypothesis under key commitment). The context is empty, as in the handlers. -/
theorem reveal_protect_block (c : CryptoOps) (hs : SealLaws c) (kvW kvR : KeyView) (key m rnd p : Bytes)
    (pre post : List Bytes)
    (hkid : (keyId c key []).length = 2)
    (hW : kvW.sym = some key) (hR : kvR.syms = some (pre ++ key :: post))
    (hpre : ∀ k' ∈ pre, ∀ encKey, c.enc key [] (rnd.take 32) ((rnd.drop 44).take 12) = some encKey →
      keyId c k' [] = keyId c key [] → c.dec k' [] encKey = none)
    (hEncKey : ∀ encKey, c.enc key [] (rnd.take 32) ((rnd.drop 44).take 12) = some encKey → encKey.length < 65536)
    (hplen : p.length < 2^63)
    (hnm : matchKind .block m = false) (hnr : registryMatch m = false)
    (hp : protect c kvW .block m rnd = .ok p) : reveal c kvR p = .ok m :=
  reveal_protect c .block kvW kvR m rnd p ⟨hs, key, pre, post, hkid, hW, hR, hpre, hEncKey, hplen⟩ hnm hnr hp

/-- Protect-then-reveal for AcraBlocks under key commitment: the reader's key list only has to
contain the writer's key; nothing is assumed about the other keys. -/
theorem reveal_protect_block_commit (c : CryptoOps) (hs : SealLaws c) (hcm : SealCommit c) (kvW kvR : KeyView)
    (key m rnd p : Bytes) (keys : List Bytes)
    (hkid : (keyId c key []).length = 2)
    (hW : kvW.sym = some key) (hR : kvR.syms = some keys) (hmem : key ∈ keys)
    (hEncKey : ∀ encKey, c.enc key [] (rnd.take 32) ((rnd.drop 44).take 12) = some encKey → encKey.length < 65536)
    (hplen : p.length < 2^63)
    (hnm : matchKind .block m = false) (hnr : registryMatch m = false)
    (hp : protect c kvW .block m rnd = .ok p) : reveal c kvR p = .ok m := by
  obtain ⟨pre, post, rfl⟩ := List.append_of_mem hmem
  obtain ⟨e, rfl, he, hlen, hmatch, hdec⟩ := c01_protect_block_facts c hs kvW kvR key m rnd p pre post hkid hW hR
    (fun k' _ encKey h2 _ => c01_dec_of_commit hs hcm h2 k') hEncKey hplen hnm hnr hp
  rw [c01_reveal_ser c kvR .block e he (by omega) hmatch, hdec]

/-! ## the transparent column processor (`EnvelopeDetector.OnColumn`)

`headStep cbs rest` (in `Envelope/ScanLemmas.lean`) is the decision one loop iteration takes on
`rest = inBuffer[inIndex:]`: `skip` (copy one byte), `replace p n` (emit `p`, advance `n`), `fatal`,
`panic`. `procAt cbs rest p n` is the condition under which it replaces: `rest` starts with `%%%`,
`ExtractSerializedContainer` succeeds with `0 < n ≤ |rest|`, and the callbacks replace the container
by `p`. -/

/-- Embedded envelope, general form. If no position inside `pre` is processed (each one is skipped:
not replaced, not fatal, no panic) and the loop processes `C` at the head of `C ++ suf` to `m`,
consuming exactly `C.length` bytes, then scanning `pre ++ C ++ suf` gives `pre ++ m` followed by the
result of scanning `suf` (fatal/panic of that rest propagate); the "envelope seen" flag is set. No
byte of `pre` is lost or changed. -/
theorem scan_embedded (cbs : List Callback) (pre C suf m : Bytes)
    (hpre : ∀ i, i < pre.length → ∃ hit, headStep cbs ((pre ++ C ++ suf).drop i) = .skip hit)
    (hC : C ≠ []) (hproc : procAt cbs (C ++ suf) m C.length) :
    scan cbs (pre ++ C ++ suf) = (scan cbs suf).prepend (pre ++ m) true :=
  c01_scan_embedded cbs pre C suf m hpre hC (c01_headStep_of_procAt hproc)

/-- The same through `OnColumn` itself (which only adds the "shorter than a container / no callbacks"
shortcut). -/
theorem onColumn_embedded (cbs : List Callback) (pre C suf m : Bytes) (hcbs : cbs ≠ [])
    (hlen : containerMin ≤ (pre ++ C ++ suf).length)
    (hpre : ∀ i, i < pre.length → ∃ hit, headStep cbs ((pre ++ C ++ suf).drop i) = .skip hit)
    (hC : C ≠ []) (hproc : procAt cbs (C ++ suf) m C.length) :
    onColumn cbs (pre ++ C ++ suf) = (scan cbs suf).prepend (pre ++ m) true := by
  rw [c01_onColumn_scan cbs _ hcbs hlen]
  exact scan_embedded cbs pre C suf m hpre hC hproc

/-- Plain data: if no position of the buffer is processed (every one is skipped), the column value is
returned byte for byte. -/
theorem scan_plain (cbs : List Callback) (buf : Bytes)
    (h : ∀ i, i < buf.length → ∃ hit, headStep cbs (buf.drop i) = .skip hit) :
    ∃ hit, scan cbs buf = .ok buf hit ∧ onColumn cbs buf = .ok buf (hit && decide (containerMin ≤ buf.length) && !cbs.isEmpty) := by
  obtain ⟨hit, hs⟩ := c01_scan_plain cbs buf h
  refine ⟨hit, hs, ?_⟩
  unfold onColumn
  by_cases hc : buf.length < containerMin ∨ cbs.isEmpty = true
  · rw [if_pos hc]
    rcases hc with hc | hc
    · have : decide (containerMin ≤ buf.length) = false := by simp; omega
      simp [this]
    · simp [hc]
  · rw [if_neg hc, hs]
    have h1 : decide (containerMin ≤ buf.length) = true := by simp; omega
    have h2 : cbs.isEmpty = false := by simpa using fun h => hc (Or.inr h)
    simp [h1, h2]

/-- Positions that do not start with a `%` byte are never processed – the concrete, checkable form
of the hypothesis of `scan_embedded` / `scan_plain` for ordinary text around an envelope. -/
theorem skip_of_no_tag_byte (cbs : List Callback) (pre rest : Bytes) (h : ∀ x ∈ pre, x ≠ 37) :
    ∀ i, i < pre.length → ∃ hit, headStep cbs ((pre ++ rest).drop i) = .skip hit :=
  c01_skip_of_no_tag_byte cbs pre rest h

/-- The decrypt callback inside a column value. Let `e` be an envelope of kind `k` that the registry
handler opens to `m` with the reader's keys `kv`, serialized as container `p = serBytes e k.id`. The
callback list is `front ++ decryptCallback c kv :: rest` where the callbacks in `front` leave this
container alone (`OldContainerDetectorWrapper` puts such a callback first). The callback receives the
WHOLE rest of the buffer `p ++ suf`, but `deserialize` takes exactly the declared length, so it opens
`e`; `OnColumn` then consumes exactly `p`. `m ≠ p ++ suf` is needed because the callback reports
"unchanged" when its output equals its input (it follows from `SealLen c`: `p` is longer than `m`). -/
theorem onColumn_reveal_embedded (c : CryptoOps) (kv : KeyView) (k : Kind) (e pre suf m : Bytes)
    (front rest : List Callback)
    (he : e ≠ []) (hlen : e.length + 12 < 2^63) (hmatch : matchKind k e = true)
    (hdec : decryptKind c kv k e = .ok m) (hne : m ≠ serBytes e k.id ++ suf)
    (hfront : ∀ cb ∈ front, cb (serBytes e k.id ++ suf) = .same ∨ cb (serBytes e k.id ++ suf) = .decErr)
    (hpre : ∀ i, i < pre.length → ∃ hit,
      headStep (front ++ decryptCallback c kv :: rest) ((pre ++ serBytes e k.id ++ suf).drop i) = .skip hit) :
    process c kv (serBytes e k.id ++ suf) = .ok m ∧
    onColumn (front ++ decryptCallback c kv :: rest) (pre ++ serBytes e k.id ++ suf) =
      (scan (front ++ decryptCallback c kv :: rest) suf).prepend (pre ++ m) true := by
  have hproc : process c kv (serBytes e k.id ++ suf) = .ok m := by
    rw [c01_process_ser c kv k e suf he (by omega) hmatch, hdec]
  refine ⟨hproc, ?_⟩
  have hrun := c01_runCallbacks_front front rest hfront hproc hne
  have hp := c01_procAt_ser _ k e suf m he hlen hrun
  exact onColumn_embedded _ pre (serBytes e k.id) suf m (by simp) (c01_containerMin_le_ser pre e suf k.id) hpre
    (serBytes_ne_nil e k.id) hp

/-- Protect, embed in a column value, read through the transparent column processor, either kind:
`OnColumn` returns the bytes before the protected value unchanged, then exactly `m`, then the result
of scanning the bytes after it – provided no position before the value is processed and the
callbacks before the decrypt callback leave the container alone. `m ≠ p ++ suf`: the callback reports
"unchanged" if its output equals its input (automatic under `SealLen`). -/
theorem onColumn_protect_embedded (c : CryptoOps) (k : Kind) (kvW kvR : KeyView) (m rnd p bpre suf : Bytes)
    (front rest : List Callback)
    (h : RoundTripHyps c k kvW kvR m rnd p)
    (hnm : matchKind k m = false) (hnr : registryMatch m = false)
    (hp : protect c kvW k m rnd = .ok p)
    (hne : m ≠ p ++ suf)
    (hfront : ∀ cb ∈ front, cb (p ++ suf) = .same ∨ cb (p ++ suf) = .decErr)
    (hskip : ∀ i, i < bpre.length → ∃ hit,
      headStep (front ++ decryptCallback c kvR :: rest) ((bpre ++ p ++ suf).drop i) = .skip hit) :
    onColumn (front ++ decryptCallback c kvR :: rest) (bpre ++ p ++ suf) =
      (scan (front ++ decryptCallback c kvR :: rest) suf).prepend (bpre ++ m) true := by
  obtain ⟨e, rfl, he, hlen, hmatch, hdec⟩ := protect_facts c k kvW kvR m rnd p h hnm hnr hp
  exact (onColumn_reveal_embedded c kvR k e bpre suf m front rest he hlen hmatch hdec hne hfront hskip).2

/-- Protect, store inside other bytes, read back through the transparent column processor (AcraBlock
kind). `p` is what `protect` produced for `m` under the writer's key view; the column value is
`bpre ++ p ++ suf`; the reader's key list contains the writer's key (hypotheses of
`reveal_protect_block`). If no position inside `bpre` is processed, `OnColumn` returns `bpre ++ m`
followed by the result of scanning `suf`. With `front = [fun _ => .same]` this is the callback list
`OldContainerDetectorWrapper.OnColumn` runs. -/
theorem onColumn_protect_embedded_block (c : CryptoOps) (hs : SealLaws c) (kvW kvR : KeyView)
    (key m rnd p bpre suf : Bytes) (kpre kpost : List Bytes) (front rest : List Callback)
    (hkid : (keyId c key []).length = 2)
    (hW : kvW.sym = some key) (hR : kvR.syms = some (kpre ++ key :: kpost))
    (hkpre : ∀ k' ∈ kpre, ∀ encKey, c.enc key [] (rnd.take 32) ((rnd.drop 44).take 12) = some encKey →
      keyId c k' [] = keyId c key [] → c.dec k' [] encKey = none)
    (hEncKey : ∀ encKey, c.enc key [] (rnd.take 32) ((rnd.drop 44).take 12) = some encKey → encKey.length < 65536)
    (hplen : p.length < 2^63)
    (hnm : matchKind .block m = false) (hnr : registryMatch m = false)
    (hp : protect c kvW .block m rnd = .ok p)
    (hne : m ≠ p ++ suf)
    (hfront : ∀ cb ∈ front, cb (p ++ suf) = .same ∨ cb (p ++ suf) = .decErr)
    (hskip : ∀ i, i < bpre.length → ∃ hit,
      headStep (front ++ decryptCallback c kvR :: rest) ((bpre ++ p ++ suf).drop i) = .skip hit) :
    onColumn (front ++ decryptCallback c kvR :: rest) (bpre ++ p ++ suf) =
      (scan (front ++ decryptCallback c kvR :: rest) suf).prepend (bpre ++ m) true :=
  onColumn_protect_embedded c .block kvW kvR m rnd p bpre suf front rest
    ⟨hs, key, kpre, kpost, hkid, hW, hR, hkpre, hEncKey, hplen⟩ hnm hnr hp hne hfront hskip

/-- End to end for ordinary text around the value: if the bytes before and after the protected
value contain no `%` (so nothing there can look like a container), `OnColumn` with the decrypt
callback returns exactly `before ++ m ++ after`. -/
theorem onColumn_protect_block_in_text (c : CryptoOps) (hs : SealLaws c) (kvW kvR : KeyView)
    (key m rnd p bpre suf : Bytes) (kpre kpost : List Bytes)
    (hkid : (keyId c key []).length = 2)
    (hW : kvW.sym = some key) (hR : kvR.syms = some (kpre ++ key :: kpost))
    (hkpre : ∀ k' ∈ kpre, ∀ encKey, c.enc key [] (rnd.take 32) ((rnd.drop 44).take 12) = some encKey →
      keyId c k' [] = keyId c key [] → c.dec k' [] encKey = none)
    (hEncKey : ∀ encKey, c.enc key [] (rnd.take 32) ((rnd.drop 44).take 12) = some encKey → encKey.length < 65536)
    (hplen : p.length < 2^63)
    (hnm : matchKind .block m = false) (hnr : registryMatch m = false)
    (hp : protect c kvW .block m rnd = .ok p)
    (hne : m ≠ p ++ suf)
    (hbpre : ∀ x ∈ bpre, x ≠ 37) (hsuf : ∀ x ∈ suf, x ≠ 37) :
    onColumn [decryptCallback c kvR] (bpre ++ p ++ suf) = .ok (bpre ++ m ++ suf) true := by
  have h := onColumn_protect_embedded_block c hs kvW kvR key m rnd p bpre suf kpre kpost [] [] hkid hW hR hkpre
    hEncKey hplen hnm hnr hp hne (by simp)
    (by rw [List.append_assoc]; exact c01_skip_of_no_tag_byte _ bpre (p ++ suf) hbpre)
  rw [List.nil_append] at h
  rw [h, scan_windowOk _ suf (windowOk_of_noPct suf [] hsuf)]
  simp [ScanOut.prepend]

/-- `CreateAcrastruct` succeeds for every non-empty message below 4 GiB and every well-formed
recipient key, as soon as the random source delivers its 88 bytes. -/
theorem struct_create_total (c : CryptoOps) (hs : SealLaws c) (hm : MsgLaws c) (hk : KeygenLaws c)
    (priv ctx m rnd : Bytes) (hpriv : c.validPriv priv = true)
    (hne : m ≠ []) (hml : m.length < maxMsgLen) (hr : 88 ≤ rnd.length) :
    ∃ s, createStruct c (c.pubOf priv) ctx m rnd = .ok s := by
  have hvalid : c.validPriv (c.privOfSeed (rnd.take 32)) = true :=
    hk.valid_seed _ (by rw [List.length_take]; omega)
  have h32 : ((rnd.drop 32).take 32).length = 32 := by rw [List.length_take, List.length_drop]; omega
  have hsym : (rnd.drop 32).take 32 ≠ [] := fun h => by rw [h] at h32; cases h32
  obtain ⟨encKey, h1⟩ := hm.wrap_some hvalid hpriv hsym (n := (rnd.drop 64).take 12)
    (by rw [List.length_take, List.length_drop]; show min 12 _ = 12; omega) (by rw [h32]; decide)
  obtain ⟨encData, h2⟩ := hs.enc_some ctx hne hsym (n := (rnd.drop 76).take 12)
    (by rw [List.length_take, List.length_drop]; show min 12 _ = 12; omega) hml
  exact ⟨structTag ++ c.pubOf (c.privOfSeed (rnd.take 32)) ++ encKey ++ leBytes 8 encData.length ++ encData,
    by unfold createStruct; simp only [h1, h2]⟩

/-- AcraStruct round trip through the library calls. If `CreateAcrastruct` produced `s` for message
`m`, the public key of `priv` and context `ctx` (`struct_create_total`: it does for every non-empty
`m` below 4 GiB), then `s` passes `ValidateAcraStructLength`, `ExtractAcraStruct` finds exactly `s`
at the start of `s` followed by arbitrary bytes, and `DecryptRotatedAcrastruct` with ANY list of
private keys that contains `priv` returns exactly `m`, provided every key listed before it fails on
`s` (or happens to give the same answer). Nothing more can be said about earlier keys: the laws of
Secure Message say nothing about unwrapping with a wrong or malformed key. `SealLen`/`MsgLen` give the
byte layout (45-byte public key, 84-byte wrapped key) and keep the 8-byte length field and the Go
`int` conversions exact; no commitment is assumed. (`m ≠ []`, `m.length < maxMsgLen`,
`88 ≤ rnd.length` are implied by `hc`.) -/
theorem struct_roundtrip (c : CryptoOps) (hs : SealLaws c) (hsl : SealLen c) (hm : MsgLaws c) (hml : MsgLen c)
    (hk : KeygenLaws c) (priv ctx m rnd s : Bytes) (pre post : List Bytes)
    (hpriv : c.validPriv priv = true)
    (hc : createStruct c (c.pubOf priv) ctx m rnd = .ok s)
    (hpre : ∀ k' ∈ pre, decryptStruct c k' ctx s = .err ∨ decryptStruct c k' ctx s = .ok m) :
    validateStruct s = .ok () ∧
    (∀ suffix, extractStruct (s ++ suffix) = .ok (s.length, s)) ∧
    decryptStructRotated c ctx s (pre ++ priv :: post) = .ok m := by
  obtain ⟨hval, hx, hd, _, _⟩ := c01_struct_roundtrip c hs hsl hm hml hk priv ctx m rnd s hpriv hc
  exact ⟨hval, hx, c01_decryptStructRotated_found c ctx s priv m pre post hpre hd⟩

/-- A value protected as AcraStruct is never wrapped a second time, by either envelope kind, any
client's keys, any random stream. -/
theorem protect_idempotent_struct (c : CryptoOps) (hs : SealLaws c) (hsl : SealLen c) (hml : MsgLen c)
    (hk : KeygenLaws c) (kv : KeyView) (m rnd p : Bytes)
    (hp : protect c kv .struct m rnd = .ok p) (hne : p ≠ m) :
    ∀ (k' : Kind) (kv' : KeyView) (rnd' : Bytes), protect c kv' k' p rnd' = .ok p := by
  obtain ⟨hnm, hnr⟩ := protect_ne_input c kv .struct m rnd p hp hne
  obtain ⟨e, he, hne', rfl⟩ := c01_protect_ok hp hnm hnr
  obtain ⟨pub, _, hcs⟩ := c01_encryptKind_struct he hnm
  obtain ⟨encKey, encData, h1, h2, rfl⟩ := c01_createStruct_ok hcs
  obtain ⟨_, _, hpub, hek, hed, hmlen, _⟩ := c01_createStruct_sizes hs hsl hml hk h1 h2
  have hv : leVal (leBytes 8 encData.length) = encData.length := c01_leVal_leBytes8 (by omega)
  have hval := c01_validateStruct_fields _ encKey (leBytes 8 encData.length) encData hpub hek (by simp) hv (by omega)
  intro k' kv' rnd'
  apply c01_protect_of_match
  right
  have hmk : matchKind .struct (structTag ++ c.pubOf (c.privOfSeed (rnd.take 32)) ++ encKey ++
      leBytes 8 encData.length ++ encData) = true := by
    unfold matchKind
    simp only [hval]
    rfl
  have := c01_registryMatch_ser .struct _ [] hne'
    (by simp [c01_structTag_length, hpub, hek]; omega) hmk
  rw [List.append_nil] at this
  exact this

/-- Protect-then-reveal for the AcraStruct kind through the registry handler: the writer used the
public key of `priv`; the reader's list of private keys contains `priv` anywhere (written before a
rotation: still readable), earlier keys fail on the value (see `struct_roundtrip`). -/
theorem reveal_protect_struct (c : CryptoOps) (hs : SealLaws c) (hsl : SealLen c) (hm : MsgLaws c) (hml : MsgLen c)
    (hk : KeygenLaws c) (kvW kvR : KeyView) (priv m rnd p : Bytes) (pre post : List Bytes)
    (hpriv : c.validPriv priv = true)
    (hW : kvW.pub = some (c.pubOf priv)) (hR : kvR.privs = some (pre ++ priv :: post))
    (hpre : ∀ k' ∈ pre, ∀ s, createStruct c (c.pubOf priv) [] m rnd = .ok s →
      decryptStruct c k' [] s = .err ∨ decryptStruct c k' [] s = .ok m)
    (hnm : matchKind .struct m = false) (hnr : registryMatch m = false)
    (hp : protect c kvW .struct m rnd = .ok p) : reveal c kvR p = .ok m :=
  reveal_protect c .struct kvW kvR m rnd p ⟨hs, hsl, hm, hml, hk, priv, pre, post, hpriv, hW, hR, hpre⟩ hnm hnr hp

/-- Protect as AcraStruct, store inside other bytes, read back through the transparent column
processor (see `onColumn_protect_embedded_block`; here `m ≠ p ++ suf` holds automatically because the
container is 201 bytes longer than `m`). -/
theorem onColumn_protect_embedded_struct (c : CryptoOps) (hs : SealLaws c) (hsl : SealLen c) (hm : MsgLaws c)
    (hml : MsgLen c) (hk : KeygenLaws c) (kvW kvR : KeyView) (priv m rnd p bpre suf : Bytes)
    (kpre kpost : List Bytes) (front rest : List Callback)
    (hpriv : c.validPriv priv = true)
    (hW : kvW.pub = some (c.pubOf priv)) (hR : kvR.privs = some (kpre ++ priv :: kpost))
    (hkpre : ∀ k' ∈ kpre, ∀ s, createStruct c (c.pubOf priv) [] m rnd = .ok s →
      decryptStruct c k' [] s = .err ∨ decryptStruct c k' [] s = .ok m)
    (hnm : matchKind .struct m = false) (hnr : registryMatch m = false)
    (hp : protect c kvW .struct m rnd = .ok p)
    (hfront : ∀ cb ∈ front, cb (p ++ suf) = .same ∨ cb (p ++ suf) = .decErr)
    (hskip : ∀ i, i < bpre.length → ∃ hit,
      headStep (front ++ decryptCallback c kvR :: rest) ((bpre ++ p ++ suf).drop i) = .skip hit) :
    onColumn (front ++ decryptCallback c kvR :: rest) (bpre ++ p ++ suf) =
      (scan (front ++ decryptCallback c kvR :: rest) suf).prepend (bpre ++ m) true := by
  obtain ⟨e, rfl, he, hlen, hmlen, hmatch, hdec⟩ := c01_protect_struct_facts c hs hsl hm hml hk kvW kvR priv m rnd p
    kpre kpost hpriv hW hR hkpre hnm hnr hp
  have hne : m ≠ serBytes e Kind.struct.id ++ suf := by
    intro h
    have := congrArg List.length h
    rw [List.length_append, c01_serBytes_length] at this
    omega
  exact (onColumn_reveal_embedded c kvR .struct e bpre suf m front rest he (by omega) hmatch hdec hne hfront hskip).2

/-- End to end for ordinary text around an AcraStruct-protected value (no `%` before or after):
`OnColumn` with the decrypt callback returns exactly `before ++ m ++ after`. -/
theorem onColumn_protect_struct_in_text (c : CryptoOps) (hs : SealLaws c) (hsl : SealLen c) (hm : MsgLaws c)
    (hml : MsgLen c) (hk : KeygenLaws c) (kvW kvR : KeyView) (priv m rnd p bpre suf : Bytes)
    (kpre kpost : List Bytes)
    (hpriv : c.validPriv priv = true)
    (hW : kvW.pub = some (c.pubOf priv)) (hR : kvR.privs = some (kpre ++ priv :: kpost))
    (hkpre : ∀ k' ∈ kpre, ∀ s, createStruct c (c.pubOf priv) [] m rnd = .ok s →
      decryptStruct c k' [] s = .err ∨ decryptStruct c k' [] s = .ok m)
    (hnm : matchKind .struct m = false) (hnr : registryMatch m = false)
    (hp : protect c kvW .struct m rnd = .ok p)
    (hbpre : ∀ x ∈ bpre, x ≠ 37) (hsuf : ∀ x ∈ suf, x ≠ 37) :
    onColumn [decryptCallback c kvR] (bpre ++ p ++ suf) = .ok (bpre ++ m ++ suf) true := by
  have h := onColumn_protect_embedded_struct c hs hsl hm hml hk kvW kvR priv m rnd p bpre suf kpre kpost [] []
    hpriv hW hR hkpre hnm hnr hp (by simp)
    (by rw [List.append_assoc]; exact c01_skip_of_no_tag_byte _ bpre (p ++ suf) hbpre)
  rw [List.nil_append] at h
  rw [h, scan_windowOk _ suf (windowOk_of_noPct suf [] hsuf)]
  simp [ScanOut.prepend]

/-- A protected value is never wrapped a second time, either kind: if `protect` changed its input,
every further `protect` of the result – by either handler, for any client, with any randomness –
returns it unchanged. -/
theorem protect_idempotent (c : CryptoOps) (k : Kind) (kvW kvR : KeyView) (m rnd p : Bytes)
    (h : RoundTripHyps c k kvW kvR m rnd p)
    (hp : protect c kvW k m rnd = .ok p) (hne : p ≠ m) :
    ∀ (k' : Kind) (kv' : KeyView) (rnd' : Bytes), protect c kv' k' p rnd' = .ok p := by
  cases k with
  | block =>
    obtain ⟨_, key, _, _, hkid, hW, _, _, _, hpl⟩ := h
    exact protect_idempotent_block c kvW key m rnd p hW hkid hpl hp hne
  | struct =>
    obtain ⟨hs, hsl, _, hml, hk, _⟩ := h
    exact protect_idempotent_struct c hs hsl hml hk kvW m rnd p hp hne

/-! ## totality and sizes (these discharge the explicit length hypotheses above under `SealLen`) -/

/-- Under the length law of the AEAD an AcraBlock is exactly 138 bytes longer than its message
(18 header + 76 wrapped data key + 44 seal overhead), and the wrapped data key has 76 bytes – so the
explicit length hypotheses of `block_roundtrip` hold. -/
theorem block_sizes (c : CryptoOps) (hs : SealLaws c) (hsl : SealLen c) (key ctx m rnd b : Bytes)
    (hkid : (keyId c key ctx).length = 2) (hc : createBlock c key ctx m rnd = .ok b) :
    b.length = m.length + 138 ∧ m.length < 2^32 ∧
    ∀ encKey, c.enc key ctx (rnd.take 32) ((rnd.drop 44).take 12) = some encKey → encKey.length = 76 :=
  c01_block_sizes hs hsl hkid hc

/-- `protect` with the AcraBlock handler succeeds for every non-empty value below 4 GiB when the
client has a (non-empty) current symmetric key and the random source delivers 56 bytes. -/
theorem protect_block_total (c : CryptoOps) (hs : SealLaws c) (kv : KeyView) (key m rnd : Bytes)
    (hW : kv.sym = some key) (hkey : key ≠ []) (hm : m ≠ []) (hml : m.length < maxMsgLen) (hr : 56 ≤ rnd.length) :
    ∃ p, protect c kv .block m rnd = .ok p := by
  by_cases hmatch : matchKind .block m = true ∨ registryMatch m = true
  · exact ⟨m, c01_protect_of_match c kv .block m rnd hmatch⟩
  · rw [not_or, Bool.not_eq_true, Bool.not_eq_true] at hmatch
    obtain ⟨hnm, hnr⟩ := hmatch
    obtain ⟨b, hb⟩ := block_create_total c hs key [] m rnd hkey hm hml hr
    obtain ⟨encData, encKey, _, _, hbb⟩ := c01_createBlock_ok hb
    have hbne : b ≠ [] := by
      rw [hbb]; unfold buildBlock
      intro h
      have := congrArg List.length h
      simp [c01_blockTag_length] at this
    refine ⟨serBytes b Kind.block.id, ?_⟩
    unfold protect encryptKind
    simp only [hnm, hnr, hW, hb, Bool.or_self, Bool.false_eq_true, if_false, Out.bind_ok]
    exact c01_serialize_eq _ hbne

/-- Under `SealLen` the container `protect` produces for an unprotected value with the AcraBlock
handler is exactly 150 bytes longer than the value. -/
theorem protect_block_length (c : CryptoOps) (hs : SealLaws c) (hsl : SealLen c) (kv : KeyView) (key m rnd p : Bytes)
    (hW : kv.sym = some key) (hkid : (keyId c key []).length = 2)
    (hnm : matchKind .block m = false) (hnr : registryMatch m = false)
    (hp : protect c kv .block m rnd = .ok p) : p.length = m.length + 150 ∧ m.length < 2^32 := by
  obtain ⟨e, he, _, rfl⟩ := c01_protect_ok hp hnm hnr
  obtain ⟨key', hk', hcb⟩ := c01_encryptKind_block he hnm
  rw [hW] at hk'; cases hk'
  obtain ⟨hl, hm, _⟩ := block_sizes c hs hsl key [] m rnd e hkid hcb
  rw [c01_serBytes_length, hl]
  exact ⟨by omega, hm⟩

/-- `protect` with the AcraStruct handler succeeds for every non-empty value below 4 GiB when the
client has a well-formed public key and the random source delivers 88 bytes. -/
theorem protect_struct_total (c : CryptoOps) (hs : SealLaws c) (hm : MsgLaws c) (hk : KeygenLaws c)
    (kv : KeyView) (priv m rnd : Bytes) (hpriv : c.validPriv priv = true)
    (hW : kv.pub = some (c.pubOf priv)) (hne : m ≠ []) (hml : m.length < maxMsgLen) (hr : 88 ≤ rnd.length) :
    ∃ p, protect c kv .struct m rnd = .ok p := by
  by_cases hmatch : matchKind .struct m = true ∨ registryMatch m = true
  · exact ⟨m, c01_protect_of_match c kv .struct m rnd hmatch⟩
  · rw [not_or, Bool.not_eq_true, Bool.not_eq_true] at hmatch
    obtain ⟨hnm, hnr⟩ := hmatch
    obtain ⟨s, hsc⟩ := struct_create_total c hs hm hk priv [] m rnd hpriv hne hml hr
    obtain ⟨encKey, encData, _, _, hss⟩ := c01_createStruct_ok hsc
    have hsne : s ≠ [] := by
      rw [hss]
      intro h
      have := congrArg List.length h
      simp [c01_structTag_length] at this
    refine ⟨serBytes s Kind.struct.id, ?_⟩
    unfold protect encryptKind
    simp only [hnm, hnr, hW, hsc, Bool.or_self, Bool.false_eq_true, if_false, Out.bind_ok]
    exact c01_serialize_eq _ hsne

/-- Under `SealLen`/`MsgLen` the container `protect` produces for an unprotected value with the
AcraStruct handler is exactly 201 bytes longer than the value (12 container + 145 AcraStruct header +
44 seal overhead). -/
theorem protect_struct_length (c : CryptoOps) (hs : SealLaws c) (hsl : SealLen c) (hml : MsgLen c)
    (hk : KeygenLaws c) (kv : KeyView) (m rnd p : Bytes)
    (hnm : matchKind .struct m = false) (hnr : registryMatch m = false)
    (hp : protect c kv .struct m rnd = .ok p) : p.length = m.length + 201 ∧ m.length < 2^32 := by
  obtain ⟨e, he, _, rfl⟩ := c01_protect_ok hp hnm hnr
  obtain ⟨pub, _, hcs⟩ := c01_encryptKind_struct he hnm
  obtain ⟨encKey, encData, h1, h2, rfl⟩ := c01_createStruct_ok hcs
  obtain ⟨_, _, hpub, hek, hed, hmlen, _⟩ := c01_createStruct_sizes hs hsl hml hk h1 h2
  refine ⟨?_, hmlen⟩
  rw [c01_serBytes_length]
  simp [c01_structTag_length, hpub, hek, hed]
  omega

/-- The empty byte string is not a protected value for any handler … -/
theorem empty_not_protected (k : Kind) : matchKind k [] = false ∧ registryMatch [] = false := by
  cases k <;> exact ⟨by decide, by decide⟩

/-- … and it cannot be protected: `protect` returns an error (no panic, no output) for the empty
value, for both envelope kinds, any keys and any random stream. The code relies on Themis rejecting
empty messages; in the model this is the `m = []` case of `SealLaws.enc_none`, the only law needed
(for the AcraStruct the symmetric key may or may not get wrapped first – the seal of the empty
message fails either way). -/
theorem protect_empty_err (c : CryptoOps) (hs : SealLaws c) (kv : KeyView) (k : Kind) (rnd : Bytes) :
    protect c kv k [] rnd = .err := by
  obtain ⟨h1, h2⟩ := empty_not_protected k
  have henc : ∀ key ctx n, c.enc key ctx [] n = none := fun key ctx n =>
    (hs.enc_none key ctx [] n).mpr (Or.inl rfl)
  unfold protect
  rw [h1, h2]
  simp only [Bool.or_self, Bool.false_eq_true, if_false]
  unfold encryptKind
  rw [h1]
  simp only [Bool.false_eq_true, if_false]
  cases k with
  | struct =>
    simp only
    cases kv.pub with
    | none => rfl
    | some pub =>
      simp only
      unfold createStruct
      simp only [henc]
      cases c.wrap (c.privOfSeed (rnd.take 32)) pub ((rnd.drop 32).take 32) ((rnd.drop 64).take 12) <;> rfl
  | block =>
    simp only
    cases kv.sym with
    | none => rfl
    | some key =>
      simp only
      unfold createBlock
      simp only [henc]
      rfl

/-! ## the AcraTranslator operations (`cmd/acra-translator/common/service.go`)

`Translator.{encrypt, decrypt, encryptSym, decryptSym, encryptSearchable, decryptSearchable,
encryptSymSearchable, decryptSymSearchable}` (in `Envelope/Translator.lean`) model the eight service
methods as compositions of `protect`, `decryptWithHandler` + poison scan, and the search-hash
functions. A decrypt returns `(answer, number of poison alarms)`. `stW` / `stR` are the key stores at
write and at read time (the reader's key lists may be longer: rotations). -/

section TranslatorOps
open AcraModel.Envelope.Translator AcraModel.Searchable

/-- What the model takes from `service.go` (regenerated on every run): the eight operations exist; each
tests the client id in the form the model uses (`len(clientID) == 0` for `Encrypt`/`Decrypt`,
`clientID == nil` for the other six), refuses an additional context, and does both before touching the
key store or a handler; each asks the registry for the envelope handler of the kind the model uses
(AcraStruct for `Encrypt`/`Decrypt`/`…Searchable`, AcraBlock for the `…Sym…` operations) and calls
`EncryptWithHandler` resp. `DecryptWithHandler` exactly once; the searchable decrypts prepend a non-nil
`hash` argument and verify the decrypted data against the hash with the client's HMAC key; the
searchable encrypts return `GenerateHMAC(key of clientID, data)`. -/
theorem fact_translator_ops :
    (TranslatorOps.ops.map (·.1)).length = 8 ∧
    (∀ row ∈ TranslatorOps.ops, rowSpec row ≠ none ∧ rowSpec row = opSpec row.1) ∧
    TranslatorOps.ops.map (fun row => (row.1, row.2.2.2.2)) =
      [("Decrypt", "DecryptWithHandler"), ("Encrypt", "EncryptWithHandler"),
       ("EncryptSearchable", "EncryptWithHandler"), ("DecryptSearchable", "DecryptWithHandler"),
       ("EncryptSymSearchable", "EncryptWithHandler"), ("DecryptSymSearchable", "DecryptWithHandler"),
       ("EncryptSym", "EncryptWithHandler"), ("DecryptSym", "DecryptWithHandler")] ∧
    TranslatorOps.searchableDecrypts = [("DecryptSearchable", true, true), ("DecryptSymSearchable", true, true)] ∧
    TranslatorOps.searchableEncrypts = [("EncryptSearchable", true), ("EncryptSymSearchable", true)] :=
  ⟨rfl, by decide +kernel, rfl, rfl, rfl⟩

/-- Every one of the eight operations refuses a request without client id and a request that carries
an additional context – with an error, before touching any key (no alarm either). -/
theorem translator_rejects_bad_request (c : CryptoOps) (st : Store) (data rnd : Bytes) (hash clientID addCtx : Option Bytes)
    (hbad : clientID = none ∨ addCtx ≠ none) :
    Translator.encrypt c st data clientID addCtx rnd = .err ∧
    Translator.decrypt c st data clientID addCtx = (.err, 0) ∧
    encryptSym c st data clientID addCtx rnd = .err ∧
    decryptSym c st data clientID addCtx = (.err, 0) ∧
    encryptSearchable c st data clientID addCtx rnd = .err ∧
    decryptSearchable c st data hash clientID addCtx = (.err, 0) ∧
    encryptSymSearchable c st data clientID addCtx rnd = .err ∧
    decryptSymSearchable c st data hash clientID addCtx = (.err, 0) := by
  have h : ∀ byLen, checkRequest byLen clientID addCtx = .err := fun byLen =>
    checkRequest_bad byLen clientID addCtx (by rcases hbad with h | h; exact Or.inl h; exact Or.inr (Or.inl h))
  exact ⟨encryptWith_bad _ _ c st data rnd _ _ (h _), decryptWith_bad _ _ c st data _ _ (h _),
    encryptWith_bad _ _ c st data rnd _ _ (h _), decryptWith_bad _ _ c st data _ _ (h _),
    encryptSearchableWith_bad _ c st data rnd _ _ (h _), decryptSearchableWith_bad _ c st data hash _ _ (h _),
    encryptSearchableWith_bad _ c st data rnd _ _ (h _), decryptSearchableWith_bad _ c st data hash _ _ (h _)⟩

/-- `Encrypt` and `Decrypt` test `len(clientID) == 0`: they also refuse the empty (non-nil) client id.
(The other six test `clientID == nil` only and go on with the empty id – they then work with whatever
keys the key store has for the empty id.) -/
theorem translator_rejects_empty_id (c : CryptoOps) (st : Store) (data rnd : Bytes) (addCtx : Option Bytes) :
    Translator.encrypt c st data (some []) addCtx rnd = .err ∧ Translator.decrypt c st data (some []) addCtx = (.err, 0) :=
  ⟨encryptWith_bad _ _ c st data rnd _ _ (checkRequest_empty_id addCtx),
   decryptWith_bad _ _ c st data _ _ (checkRequest_empty_id addCtx)⟩

/-- **Translator round trip**, both Encrypt/Decrypt pairs at once (`encryptOf k` / `decryptOf k` are
`Encrypt`/`Decrypt` for `k = .struct` and `EncryptSym`/`DecryptSym` for `k = .block`): what the
encrypt operation returned for an unprotected value `m` is decrypted by the matching decrypt operation
– for the same client id, under the round-trip hypotheses of `reveal_protect` between the writer's and
the reader's keys of that id – to exactly `m`, and no poison alarm is raised. -/
theorem translator_roundtrip (c : CryptoOps) (k : Kind) (stW stR : Store) (id m rnd p : Bytes)
    (hid : k = .struct → id ≠ [])
    (h : RoundTripHyps c k (stW.keys id) (stR.keys id) m rnd p)
    (hnm : matchKind k m = false) (hnr : registryMatch m = false)
    (hp : encryptOf k c stW m (some id) none rnd = .ok p) :
    decryptOf k c stR p (some id) none = (.ok m, 0) := by
  rw [encryptOf_ok k c stW id m rnd hid] at hp
  rw [decryptOf_ok k c stR id p hid]
  obtain ⟨e, rfl, he, hlen, hmatch, hdec⟩ := protect_facts c k _ _ m rnd p h hnm hnr hp
  exact translatorDecrypt_of_ok _ _ _ _ _ _ (decryptWithHandler_ser_ok he (by omega) hmatch hdec)

/-- `Encrypt` then `Decrypt` (AcraStruct) -/
theorem translator_roundtrip_struct (c : CryptoOps) (stW stR : Store) (id m rnd p : Bytes) (hid : id ≠ [])
    (h : RoundTripHyps c .struct (stW.keys id) (stR.keys id) m rnd p)
    (hnm : matchKind .struct m = false) (hnr : registryMatch m = false)
    (hp : Translator.encrypt c stW m (some id) none rnd = .ok p) :
    Translator.decrypt c stR p (some id) none = (.ok m, 0) :=
  translator_roundtrip c .struct stW stR id m rnd p (fun _ => hid) h hnm hnr hp

/-- `EncryptSym` then `DecryptSym` (AcraBlock); the empty, non-nil client id is allowed here -/
theorem translator_roundtrip_block (c : CryptoOps) (stW stR : Store) (id m rnd p : Bytes)
    (h : RoundTripHyps c .block (stW.keys id) (stR.keys id) m rnd p)
    (hnm : matchKind .block m = false) (hnr : registryMatch m = false)
    (hp : encryptSym c stW m (some id) none rnd = .ok p) :
    decryptSym c stR p (some id) none = (.ok m, 0) :=
  translator_roundtrip c .block stW stR id m rnd p (fun h => by cases h) h hnm hnr hp

/-- **Searchable translator round trip**, both pairs (`EncryptSearchable`/`DecryptSearchable` for
`.struct`, `EncryptSymSearchable`/`DecryptSymSearchable` for `.block`): the response carries the
envelope `p` and the hash `h = GenerateHMAC(key, m)`; the decrypt operation returns exactly `m` (no
alarm) whether the hash is passed as the separate argument or concatenated in front of the envelope.
Writer and reader use the same HMAC key `hk` of the client; `HashLen`: the MAC has 32 bytes (the code
cuts the hash off by length). -/
theorem translator_searchable_roundtrip (c : CryptoOps) (hl : HashLen c) (k : Kind) (stW stR : Store)
    (id hk m rnd p h : Bytes)
    (hkW : stW.hmac id = some hk) (hkR : stR.hmac id = some hk)
    (hyp : RoundTripHyps c k (stW.keys id) (stR.keys id) m rnd p)
    (hnm : matchKind k m = false) (hnr : registryMatch m = false)
    (hp : encryptSearchableWith k c stW m (some id) none rnd = .ok (p, h)) :
    h = generateHMAC c hk m ∧
    decryptSearchableWith k c stR p (some h) (some id) none = (.ok m, 0) ∧
    decryptSearchableWith k c stR (h ++ p) none (some id) none = (.ok m, 0) := by
  rw [encryptSearchableWith_ok, hkW] at hp
  unfold Searchable.translatorEncrypt at hp
  simp only at hp
  cases hpp : protect c (stW.keys id) k m rnd with
  | err => rw [hpp] at hp; cases hp
  | panic => rw [hpp] at hp; cases hp
  | ok p' =>
    rw [hpp] at hp
    simp only [Out.ok.injEq, Prod.mk.injEq] at hp
    obtain ⟨rfl, rfl⟩ := hp
    obtain ⟨e, rfl, he, hlen, hmatch, hdec⟩ := protect_facts c k _ _ m rnd _ hyp hnm hnr hpp
    have hd := decryptWithHandler_ser_ok he (by omega) hmatch hdec
    have hx := extractHashAndData_stored c hl hk m (serBytes e k.id)
    have heq : isEqual c (stR.hmac id) (generateHMAC c hk m) m = true := by rw [hkR]; exact isEqual_genuine c hk m
    exact ⟨rfl, decryptSearchableWith_ok k c stR id _ _ _ m (some _) hx hd heq,
      decryptSearchableWith_ok k c stR id _ _ _ m none hx hd heq⟩

/-- All protecting entry points compute the same thing: on a value that is not already protected
(`¬ matchKind`, `¬ registryMatch` – otherwise the handlers pass it through while the bare library call
would wrap it), library create + serialize, `EncryptWithHandler`, the SQL proxies' write chain and the
translator's encrypt operations all return `protect c (keys of id) k m rnd` – given the same random
stream, the very same bytes. -/
theorem producers_agree (c : CryptoOps) (P : Producer) (k : Kind) (st : Store) (id m rnd : Bytes) (hid : id ≠ [])
    (hhk : P = .translatorSearchable → ∃ hk, st.hmac id = some hk)
    (hnm : matchKind k m = false) (hnr : registryMatch m = false) :
    produce P c st id k m rnd = protect c (st.keys id) k m rnd := by
  cases P with
  | library => exact libraryProtect_eq_protect c _ k m rnd hnm hnr
  | handler => rfl
  | sqlWrite => rfl
  | translator => exact encryptOf_ok k c st id m rnd (fun _ => hid)
  | translatorSearchable =>
    obtain ⟨hk, hhk⟩ := hhk rfl
    show (encryptSearchableWith k c st m (some id) none rnd).bind _ = _
    rw [encryptSearchableWith_ok, hhk]
    unfold Searchable.translatorEncrypt
    cases protect c (st.keys id) k m rnd <;> rfl

/-- **Entry points agree** (table-driven over `Producer` × `Consumer`, `Translator.Producer.all` /
`Translator.Consumer.all` list them): a value produced for client `id` by ANY protecting entry point –
library create + serialize, the registry handler, the SQL proxies' write chain, the translator's
`Encrypt`/`EncryptSym`/`EncryptSearchable`/`EncryptSymSearchable` – is revealed to exactly the original
plaintext by EVERY revealing entry point: library decrypt of the inner envelope, `reveal`
(`RegistryHandler.Process`), the translator's `Decrypt`/`DecryptSym` and `DecryptSearchable`/
`DecryptSymSearchable` (hash `GenerateHMAC(hk, m)` passed separately or concatenated), and the
transparent column processor with the decrypt callback, with and without the compatibility wrapper.
`C.accepts k`: the translator's decrypt operations work with the handler of one envelope kind, so they
are consumers of values of that kind only. Hypotheses: those of `reveal_protect` between the writer's
and the reader's keys of `id`, the reader's HMAC key, 32-byte MACs, a non-empty client id. -/
theorem entry_points_agree (c : CryptoOps) (hl : HashLen c) (P : Producer) (C : Consumer) (k : Kind)
    (stW stR : Store) (id hk m rnd p : Bytes) (hid : id ≠ [])
    (hkW : P = .translatorSearchable → ∃ hk', stW.hmac id = some hk') (hkR : stR.hmac id = some hk)
    (hyp : RoundTripHyps c k (stW.keys id) (stR.keys id) m rnd p)
    (hnm : matchKind k m = false) (hnr : registryMatch m = false)
    (hacc : C.accepts k = true)
    (hp : produce P c stW id k m rnd = .ok p) :
    consume C c stR id p (generateHMAC c hk m) = .ok m := by
  rw [producers_agree c P k stW id m rnd hid hkW hnm hnr] at hp
  obtain ⟨e, rfl, he, hlen, hmatch, hdec⟩ := protect_facts c k _ _ m rnd p hyp hnm hnr hp
  have hd := decryptWithHandler_ser_ok he (by omega) hmatch hdec
  have hne : m ≠ serBytes e k.id ++ [] := by
    intro h
    have := c01_registryMatch_ser k e [] he (by omega) hmatch
    rw [← h, hnr] at this
    cases this
  have hcol : ∀ front : List Callback, (∀ cb ∈ front, ∀ x, cb x = .same) →
      onColumn (front ++ [decryptCallback c (stR.keys id)]) (serBytes e k.id) = .ok m true := by
    intro front hfront
    have := (onColumn_reveal_embedded c (stR.keys id) k e [] [] m front [] he hlen hmatch hdec hne
      (fun cb hcb => Or.inl (hfront cb hcb _)) (by intro i hi; cases hi)).2
    simpa [c01_scan_nil, ScanOut.prepend] using this
  have hx := extractHashAndData_stored c hl hk m (serBytes e k.id)
  have heq : isEqual c (stR.hmac id) (generateHMAC c hk m) m = true := by rw [hkR]; exact isEqual_genuine c hk m
  cases C with
  | library =>
    have := libraryReveal_ser c (stR.keys id) k e [] m he (by omega) hdec
    rw [List.append_nil] at this
    exact this
  | reveal => exact reveal_protect c k _ _ m rnd _ hyp hnm hnr hp
  | translator k' =>
    have hk' : k' = k := by simpa [Consumer.accepts] using hacc
    subst hk'
    show (decryptOf k' c stR _ (some id) none).1 = _
    rw [decryptOf_ok k' c stR id _ (fun _ => hid), translatorDecrypt_of_ok c _ _ k' _ m hd]
  | translatorSearchableSep k' =>
    have hk' : k' = k := by simpa [Consumer.accepts] using hacc
    subst hk'
    show (decryptSearchableWith k' c stR _ (some _) (some id) none).1 = _
    rw [decryptSearchableWith_ok k' c stR id _ _ _ m (some _) hx hd heq]
  | translatorSearchableCat k' =>
    have hk' : k' = k := by simpa [Consumer.accepts] using hacc
    subst hk'
    show (decryptSearchableWith k' c stR _ none (some id) none).1 = _
    rw [decryptSearchableWith_ok k' c stR id _ _ _ m none hx hd heq]
  | onColumn =>
    show scanBytes (onColumn [decryptCallback c (stR.keys id)] _) = _
    have := hcol [] (by simp)
    rw [List.nil_append] at this
    rw [this]; rfl
  | onColumnCompat =>
    show scanBytes (onColumnCompat [decryptCallback c (stR.keys id)] _) = _
    have := hcol [fun _ => Cb.same] (by simp)
    unfold onColumnCompat
    simp only [List.singleton_append] at this
    rw [this]
    rfl

/-- the table has no gaps: every producer and every consumer is listed, and for each envelope kind
every consumer that is not a translator operation of the other kind accepts it -/
theorem entry_point_table_complete :
    (∀ P : Producer, P ∈ Producer.all) ∧ (∀ C : Consumer, C ∈ Consumer.all) ∧
    (∀ k : Kind, (Consumer.all.filter (fun C => C.accepts k)).length = 7) := by
  refine ⟨fun P => by cases P <;> decide, fun C => ?_, fun k => by cases k <;> decide⟩
  cases C with
  | translator k => cases k <;> decide
  | translatorSearchableSep k => cases k <;> decide
  | translatorSearchableCat k => cases k <;> decide
  | _ => decide

end TranslatorOps

/-! ## the searchable write path for values that arrive ALREADY protected

A searchable column is written through `hmac.SearchableDataEncryptor.EncryptWithClientID`
(`Searchable.searchableEncrypt`, the model C09 uses too). An application may hand the proxy a value that
already is protected for the client – an AcraStruct made by AcraWriter, a raw AcraBlock, a serialized
container from AcraTranslator. The encryptor then keeps the value as it arrived and puts in front of it
the search hash of what the value DECRYPTS to. The owner reads the column through the subscriber chain
`hmac.Processor → OldContainerDetectorWrapper/EnvelopeDetector/DecryptHandler → hmac.Processor`
(`Searchable.column` over `Searchable.clientDetector`): the hash is cut off, the envelope decrypted and
the hash verified against the decrypted bytes – only then does the client receive them. -/

section SearchableWrite
open AcraModel.Envelope.Translator AcraModel.Searchable

/-- What the model `searchableEncrypt` takes from the source of
`SearchableDataEncryptor.EncryptWithClientID` (`Generated/SearchWrite.lean`, regenerated from
`hmac/dataEncryptor.go`): the branch is taken on `e.decryptor.MatchDataSignature(data)`; nothing is hashed
before the branch; in the branch of an already protected value the arriving bytes are kept
(`encryptedData = data`) BEFORE `data` is replaced by the decryptor's output and the hash is computed
AFTER that replacement – i.e. over the plaintext –; in the other branch the hash is computed over the
value and the value is then encrypted; the result is `hash ++ encryptedData`. -/
theorem fact_searchable_write_flow :
    Generated.SearchWrite.matchCond = "e.decryptor.MatchDataSignature(data)" ∧
    Generated.SearchWrite.hashCalls = [("match", "data", true), ("else", "data", false)] ∧
    Generated.SearchWrite.preBranchAssigns = ["key, err := e.keystore.GetHMACSecretKey(clientID)"] ∧
    Generated.SearchWrite.matchBranchAssigns.head? = some "encryptedData = data" ∧
    Generated.SearchWrite.matchBranchAssigns.reverse.take 2 =
      ["hash = GenerateHMAC(key, data)", "data, err = e.decryptor.Process(data, processorContext)"] ∧
    Generated.SearchWrite.elseBranchAssigns =
      ["hash = GenerateHMAC(key, data)", "encryptedData, err = e.dataEncryptor.EncryptWithClientID(clientID, data, setting)"] ∧
    Generated.SearchWrite.returns = "append(hash, encryptedData...)" :=
  ⟨rfl, rfl, rfl, rfl, rfl, rfl, rfl⟩

/-- **Write side, every pre-protected form.** Whatever the arriving value `e` is – serialized container,
bare AcraStruct, bare AcraBlock –: if the registry handler recognises it (`registryMatch`) and opens it
to `m` with the keys of the writing session, the searchable encryptor stores `GenerateHMAC(key, m) ++ e`:
the value unchanged behind the blind index of its PLAINTEXT (the same index a write of `m` in clear
gets); if it cannot be opened, the write fails and nothing is stored. -/
theorem searchable_write_preprotected (c : CryptoOps) (hl : HashLen c) (hk : Bytes) (kvS : KeyView) (k : Kind)
    (e rnd : Bytes) (hm : registryMatch e = true) :
    (∀ m, process c kvS e = .ok m →
      searchableEncrypt c (some hk) kvS k e rnd = .ok (generateHMAC c hk m ++ e) ∧
      index (generateHMAC c hk m ++ e) = generateHMAC c hk m) ∧
    (process c kvS e = .err → searchableEncrypt c (some hk) kvS k e rnd = .err) :=
  ⟨fun m hd => ⟨searchableEncrypt_match c hk kvS k e m rnd hm hd, index_stored c hl hk m e⟩,
   fun hd => searchableEncrypt_match_err c hk kvS k e rnd hm hd⟩

/-- **Protect, write to a searchable column, read back – every pre-protected form.** Let `e` be a value
the registry handler recognises and opens to `m` with the writing session's keys; let the column
matcher recognise it (`matchEnvelope`) and the owner's detector chain decrypt it to `m`. Then the write
succeeds and the owner's read chain – from ANY state the `hmac.Processor` was left in – delivers
exactly `m`. (The four hypotheses are discharged for serialized containers in
`searchable_preprotected_container_roundtrip` and for bare envelopes, under side conditions, in the two
`searchable_preprotected_bare_*_roundtrip`; on the generated values the correspondence ops
`C01.handler.match`, `C01.handler.reveal`, `C09.match`, `C01.detector.compat` check them as well.) -/
theorem searchable_preprotected_roundtrip (c : CryptoOps) (hl : HashLen c) (hk : Bytes) (kvS kvR : KeyView)
    (k : Kind) (e m rnd : Bytes) (st : PState) (hit : Bool)
    (hm : registryMatch e = true) (hd : process c kvS e = .ok m)
    (hme : matchEnvelope e = .ok true) (hdet : clientDetector c kvR e = .ok m hit) :
    ∃ s, searchableEncrypt c (some hk) kvS k e rnd = .ok s ∧ index s = generateHMAC c hk m ∧
      column c (some hk) (clientDetector c kvR) st s = .ok (PState.init, some m) :=
  ⟨_, searchable_roundtrip_of_match c hl hk kvS kvR k e m rnd st hit hm hd hme hdet⟩

/-- **The serialized-container form, all hypotheses discharged.** `p` is what `protect` (library,
registry handler, AcraTranslator – `producers_agree`) made of an unprotected `m` under the writer's keys
`kvW` with envelope kind `kw`. The application writes `p` to a searchable column (configured envelope
kind `k`, any randomness) in a session whose keys `kvS` open it, and the owner with keys `kvR` reads the
column back (`RoundTripHyps` between the writer and either key view, e.g. the same client before and
after rotations). Then the stored value is `GenerateHMAC(key, m) ++ p`, its blind index is the index of
`m`, and the read chain returns exactly `m`. -/
theorem searchable_preprotected_container_roundtrip (c : CryptoOps) (hl : HashLen c) (kw k : Kind)
    (kvW kvS kvR : KeyView) (hk m rnd rnd' p : Bytes) (st : PState)
    (hypS : RoundTripHyps c kw kvW kvS m rnd p) (hypR : RoundTripHyps c kw kvW kvR m rnd p)
    (hnm : matchKind kw m = false) (hnr : registryMatch m = false)
    (hp : protect c kvW kw m rnd = .ok p) :
    searchableEncrypt c (some hk) kvS k p rnd' = .ok (generateHMAC c hk m ++ p) ∧
    index (generateHMAC c hk m ++ p) = generateHMAC c hk m ∧
    column c (some hk) (clientDetector c kvR) st (generateHMAC c hk m ++ p) = .ok (PState.init, some m) := by
  have hrS : process c kvS p = .ok m := reveal_protect c kw kvW kvS m rnd p hypS hnm hnr hp
  have hrR : process c kvR p = .ok m := reveal_protect c kw kvW kvR m rnd p hypR hnm hnr hp
  obtain ⟨e, rfl, he, hlen, hmatch, _⟩ := protect_facts c kw kvW kvS m rnd p hypS hnm hnr hp
  have hdecR : decryptKind c kvR kw e = .ok m := (c01_reveal_ser c kvR kw e he (by omega) hmatch).symm.trans hrR
  have hreg : registryMatch (serBytes e kw.id) = true := by
    have := c01_registryMatch_ser kw e [] he (by omega) hmatch
    rwa [List.append_nil] at this
  have hne : m ≠ serBytes e kw.id ++ [] := by
    intro h
    rw [List.append_nil] at h
    rw [← h, hnr] at hreg
    cases hreg
  have hme : matchEnvelope (serBytes e kw.id) = .ok true := by
    have := matchEnvelope_ser e [] kw.id kw he (c01_kindOfId_id kw) hlen
    rwa [List.append_nil] at this
  have hdet : clientDetector c kvR (serBytes e kw.id) = .ok m true := by
    have := (onColumn_reveal_embedded c kvR kw e [] [] m [fun _ => Cb.same] [] he hlen hmatch hdecR hne
      (fun cb hcb => Or.inl (by rw [List.mem_singleton.1 hcb])) (by intro i hi; cases hi)).2
    simp only [List.nil_append, List.append_nil, List.singleton_append, c01_scan_nil, ScanOut.prepend, Bool.or_true] at this
    unfold clientDetector onColumnCompat
    rw [this]
    rfl
  exact searchable_roundtrip_of_match c hl hk kvS kvR k _ m rnd' st true hreg hrS hme hdet

/-- **The bare AcraStruct form (AcraWriter), all hypotheses about the envelope itself.** `e` is a
well-formed AcraStruct with a non-empty payload that the struct handler opens to `m` with the session's
keys `kvS` and with the owner's keys `kvR`. No crypto law is needed: the statement is about what the
code does with such a value. Two side conditions come from in-band signalling in the reader's legacy
scans (they are decidable, evaluated by the model for the generated values, and hold whenever the
ciphertext contains no `%%%`+header look-alike and the plaintext no envelope look-alike): `hw` – the
container scan passes over every position of `e` (`windowOk`, what C11's `maskWindowOk` asks of a clear window); `hm` – the
PLAINTEXT contains no bare AcraBlock/AcraStruct the reader can open (automatic for plaintexts shorter
than 18 bytes, `short_plain_not_opened`). Then the write stores `GenerateHMAC(key, m) ++ e` and the owner's
read chain returns exactly `m`. -/
theorem searchable_preprotected_bare_struct_roundtrip (c : CryptoOps) (hl : HashLen c) (k : Kind)
    (kvS kvR : KeyView) (hk e m rnd : Bytes) (st : PState)
    (hv : validateStruct e = .ok ()) (hgt : structMin < e.length) (hlen : e.length + 12 < 2^63)
    (hdS : decryptKind c kvS .struct e = .ok m) (hdR : decryptKind c kvR .struct e = .ok m)
    (hne : m ≠ serBytes e idStruct) (hw : windowOk e [] = true)
    (hm : ∀ x id s, x <:+: m → serialize x id = .ok s → ∀ m', process c kvR s ≠ .ok m') :
    searchableEncrypt c (some hk) kvS k e rnd = .ok (generateHMAC c hk m ++ e) ∧
    index (generateHMAC c hk m ++ e) = generateHMAC c hk m ∧
    column c (some hk) (clientDetector c kvR) st (generateHMAC c hk m ++ e) = .ok (PState.init, some m) := by
  obtain ⟨hreg, hproc⟩ := bare_struct_registry c kvS e hv
  have hpS : process c kvS e = .ok m := by rw [hproc, hdS]
  have hme := matchEnvelope_bare_struct e hv hgt (by omega)
  have hdet := clientDetector_bare_struct c kvR e m hv hgt hlen hdR hne hw hm
  exact searchable_roundtrip_of_match c hl hk kvS kvR k e m rnd st false hreg hpS hme hdet

/-- **The raw AcraBlock form.** `e` is exactly one AcraBlock (longer than the bare header) that is not at
the same time a well-formed AcraStruct (`hns`; an AcraBlock whose length field spells the second half of
the AcraStruct tag would be longer than 572 MB) and that the block handler opens to `m` with either key
view. Side conditions as above: `hw` – the container scan passes over `e`; `hs` – no part of `e`,
wrapped as an AcraStruct container, opens for the reader (automatic for a client without private keys,
`process_struct_container_no_privs`; the legacy struct scan runs over the block first). -/
theorem searchable_preprotected_bare_block_roundtrip (c : CryptoOps) (hl : HashLen c) (k : Kind)
    (kvS kvR : KeyView) (hk e m rnd : Bytes) (st : PState)
    (hns : validateStruct e = .err) (hx : extractBlock e = .ok (e.length, e)) (hgt : blockMin < e.length)
    (hlen : e.length + 12 < 2^63)
    (hdS : decryptKind c kvS .block e = .ok m) (hdR : decryptKind c kvR .block e = .ok m)
    (hne : m ≠ serBytes e idBlock) (hw : windowOk e [] = true)
    (hs : ∀ x s, x <:+: e → serialize x idStruct = .ok s → ∀ m', process c kvR s ≠ .ok m') :
    searchableEncrypt c (some hk) kvS k e rnd = .ok (generateHMAC c hk m ++ e) ∧
    index (generateHMAC c hk m ++ e) = generateHMAC c hk m ∧
    column c (some hk) (clientDetector c kvR) st (generateHMAC c hk m ++ e) = .ok (PState.init, some m) := by
  obtain ⟨hreg, hproc⟩ := bare_block_registry c kvS e e e.length hns hx
  have hpS : process c kvS e = .ok m := by rw [hproc, hdS]
  have hme := matchEnvelope_bare_block e hx hgt
  have hdet := clientDetector_bare_block c kvR e m hx hgt hlen hdR hne hw hs
  exact searchable_roundtrip_of_match c hl hk kvS kvR k e m rnd st false hreg hpS hme hdet

end SearchableWrite

/-! ## the hypotheses on concrete instances -/

/-- `block_roundtrip` is applicable: the stand-in instance `toyOps`, a key with a different id before the
writer's key, another key after it -/
example : ∃ b, createBlock toyOps [1,2,3] [7] [9,9] (List.replicate 56 5) = .ok b ∧
    (∀ suffix, extractBlock (b ++ suffix) = .ok (b.length, b)) ∧
    decryptBlock toyOps ([[4,5]] ++ [1,2,3] :: [[1,2,9]]) [7] b = .ok [9,9] := by
  have hs := toy_sealLaws
  have hsl := toy_sealLen
  obtain ⟨b, hb⟩ := block_create_total toyOps hs [1,2,3] [7] [9,9] (List.replicate 56 5) (by decide) (by decide)
    (by decide) (by decide)
  have hkid := keyId_length toyOps toy_hashLen [1,2,3] [7]
  obtain ⟨hl, _, hek⟩ := block_sizes toyOps hs hsl _ _ _ _ b hkid hb
  refine ⟨b, hb, block_roundtrip toyOps hs [1,2,3] [7] [9,9] _ b [[4,5]] [[1,2,9]] hkid
    (fun ek h => by rw [hek ek h]; decide) (by rw [hl]; decide) hb ?_⟩
  intro k' hk' encKey _ hid
  simp only [List.mem_singleton] at hk'
  subst hk'
  exact absurd hid (by decide)

/-- `block_roundtrip_commit` is applicable: the transparent-box instance (which has key
commitment), an earlier key `[1,2,4]` whose 2-byte id collides with the writer's `[1,2,3]` -/
example : keyId boxOps [1,2,4] [] = keyId boxOps [1,2,3] [] ∧
    ∃ b, createBlock boxOps [1,2,3] [] [9,9] (List.replicate 56 5) = .ok b ∧
    (∀ suffix, extractBlock (b ++ suffix) = .ok (b.length, b)) ∧
    decryptBlock boxOps [[1,2,4], [1,2,3]] [] b = .ok [9,9] := by
  refine ⟨by decide, ?_⟩
  obtain ⟨b, hb⟩ := block_create_total boxOps Box.sealLaws [1,2,3] [] [9,9] (List.replicate 56 5) (by decide) (by decide)
    (by decide) (by decide)
  have hkid : (keyId boxOps [1,2,3] []).length = 2 := by decide
  have hek : ∀ encKey, boxOps.enc [1,2,3] [] ((List.replicate 56 5).take 32) (((List.replicate 56 (5:UInt8)).drop 44).take 12) = some encKey →
      encKey.length < 65536 := by
    intro encKey h
    have : boxOps.enc [1,2,3] [] ((List.replicate 56 5).take 32) (((List.replicate 56 (5:UInt8)).drop 44).take 12) =
        some (Box.esc [1,2,3] ++ (Box.esc [] ++ (Box.esc (List.replicate 12 5) ++ List.replicate 32 5))) := by decide
    rw [this] at h
    cases h
    decide
  have hbl : b.length < 2^64 := by
    obtain ⟨encData, encKey, h1, h2, rfl⟩ := c01_createBlock_ok hb
    have e1 : boxOps.enc ((List.replicate 56 5).take 32) [] [9,9] (((List.replicate 56 (5:UInt8)).drop 32).take 12) =
        some (Box.esc (List.replicate 32 5) ++ (Box.esc [] ++ (Box.esc (List.replicate 12 5) ++ [9,9]))) := by decide
    have e2 : boxOps.enc [1,2,3] [] ((List.replicate 56 5).take 32) (((List.replicate 56 (5:UInt8)).drop 44).take 12) =
        some (Box.esc [1,2,3] ++ (Box.esc [] ++ (Box.esc (List.replicate 12 5) ++ List.replicate 32 5))) := by decide
    rw [e1] at h1; rw [e2] at h2
    cases h1; cases h2
    rw [c01_buildBlock_length _ _ _ hkid]
    decide
  exact ⟨b, hb, block_roundtrip_commit boxOps Box.sealLaws Box.sealCommit [1,2,3] [] [9,9] _ b [[1,2,4], [1,2,3]]
    hkid hek hbl hb (by simp)⟩

/-- Protect, reveal, protect again, read inside a column value (AcraBlock kind): written with key `[1,2,3]`, read with the rotated key list
`[[4,5], [1,2,3], [1,2,9]]`; the protected value sits behind the prefix `%%` (two bytes that look like
the beginning of a container tag) and before `cd` -/
example :
    let kvW : KeyView := ⟨none, none, some [1,2,3], none⟩
    let kvR : KeyView := ⟨none, none, some [4,5], some ([[4,5]] ++ [1,2,3] :: [[1,2,9]])⟩
    ∃ p, protect toyOps kvW .block [9,9] (List.replicate 56 5) = .ok p ∧ reveal toyOps kvR p = .ok [9,9] ∧
      (∀ k' kv' rnd', protect toyOps kv' k' p rnd' = .ok p) ∧
      onColumn [decryptCallback toyOps kvR] ([37,37] ++ p ++ [99,100]) = .ok ([37,37] ++ [9,9] ++ [99,100]) true := by
  intro kvW kvR
  have hs := toy_sealLaws
  have hsl := toy_sealLen
  have hnm : matchKind .block [9,9] = false := by decide
  have hnr : registryMatch [9,9] = false := by decide
  obtain ⟨p, hp⟩ := protect_block_total toyOps hs kvW [1,2,3] [9,9] (List.replicate 56 5) rfl (by decide) (by decide)
    (by decide) (by decide)
  obtain ⟨hpl', hH⟩ : p.length = 152 ∧ RoundTripHyps toyOps .block kvW kvR [9,9] (List.replicate 56 5) p :=
    c01_blockRoundTripHyps_protect hs hsl toy_hashLen (pre := [[4,5]]) (post := [[1,2,9]]) rfl rfl (by decide) hnm hnr hp
  have hne : ∀ suf : Bytes, [9,9] ≠ p ++ suf := by
    intro suf h
    have := congrArg List.length h
    rw [List.length_append, hpl'] at this
    simp at this
    omega
  refine ⟨p, hp, ?_, ?_, ?_⟩
  · exact reveal_protect toyOps .block kvW kvR [9,9] _ p hH hnm hnr hp
  · exact protect_idempotent toyOps .block kvW kvR [9,9] _ p hH hp
      (by have := hne []; rw [List.append_nil] at this; exact fun h => this h.symm)
  · have h := onColumn_protect_embedded toyOps .block kvW kvR [9,9] _ p [37,37] [99,100] [] [] hH
      hnm hnr hp (hne _) (by simp) ?_
    · rw [List.nil_append] at h
      rw [h, scan_windowOk _ _ (windowOk_of_noPct [99,100] [] (by decide))]
      simp [ScanOut.prepend]
    · -- the two `%` positions of the prefix: byte 11 from there is a byte of the length field, not an envelope id
      obtain ⟨e, he, _, rfl⟩ := c01_protect_ok hp hnm hnr
      have hel : e.length = 140 := by rw [c01_serBytes_length] at hpl'; omega
      intro i hi
      have hi' : i = 0 ∨ i = 1 := by simp at hi; omega
      refine ⟨false, ?_⟩
      rcases hi' with rfl | rfl <;> (
        apply c01_headStep_pct_bad_id
        intro x hx
        unfold serBytes at hx
        rw [hel] at hx
        have : x = 0 := by
          simp [containerTag, toBytes, Layout.containerTag, containerMin, Layout.containerMinSize, leBytes] at hx
          exact hx.symm
        subst this; decide)

/-- `struct_roundtrip` is applicable to the executable stand-in instance `shimOps` (`H` = SHA-256): a generated
key pair, the reader's list has the right key first and another key after it -/
example :
    let priv := shimOps.privOfSeed (List.replicate 32 1)
    let other := shimOps.privOfSeed (List.replicate 32 2)
    ∃ s, createStruct shimOps (shimOps.pubOf priv) [7] [1,2,3] (List.replicate 88 7) = .ok s ∧
      validateStruct s = .ok () ∧ (∀ suffix, extractStruct (s ++ suffix) = .ok (s.length, s)) ∧
      decryptStructRotated shimOps [7] s ([] ++ priv :: [other]) = .ok [1,2,3] := by
  intro priv other
  have hpriv : shimOps.validPriv priv = true := shim_keygenLaws.valid_seed _ (by decide)
  obtain ⟨s, hsc⟩ := struct_create_total shimOps shim_sealLaws shim_msgLaws shim_keygenLaws priv [7] [1,2,3]
    (List.replicate 88 7) hpriv (by decide) (by decide) (by decide)
  exact ⟨s, hsc, struct_roundtrip shimOps shim_sealLaws shim_sealLen shim_msgLaws shim_msgLen shim_keygenLaws
    priv [7] [1,2,3] _ s [] [other] hpriv hsc (by simp)⟩

/-- The same for the AcraStruct kind on `shimOps`: protect with the public key, reveal
with a key list that has the matching private key first, never wrapped twice, found inside text -/
example :
    let priv := shimOps.privOfSeed (List.replicate 32 1)
    let other := shimOps.privOfSeed (List.replicate 32 2)
    let kvW : KeyView := ⟨some (shimOps.pubOf priv), none, none, none⟩
    let kvR : KeyView := ⟨none, some ([] ++ priv :: [other]), none, none⟩
    ∃ p, protect shimOps kvW .struct [1,2,3] (List.replicate 88 7) = .ok p ∧ reveal shimOps kvR p = .ok [1,2,3] ∧
      (∀ k' kv' rnd', protect shimOps kv' k' p rnd' = .ok p) ∧
      onColumn [decryptCallback shimOps kvR] ([97,98] ++ p ++ [99,100]) = .ok ([97,98] ++ [1,2,3] ++ [99,100]) true := by
  intro priv other kvW kvR
  have hpriv : shimOps.validPriv priv = true := shim_keygenLaws.valid_seed _ (by decide)
  have hnm : matchKind .struct [1,2,3] = false := by decide
  have hnr : registryMatch [1,2,3] = false := by decide
  obtain ⟨p, hp⟩ := protect_struct_total shimOps shim_sealLaws shim_msgLaws shim_keygenLaws kvW priv [1,2,3]
    (List.replicate 88 7) hpriv rfl (by decide) (by decide) (by decide)
  obtain ⟨hpl, _⟩ := protect_struct_length shimOps shim_sealLaws shim_sealLen shim_msgLen shim_keygenLaws kvW _ _ p hnm hnr hp
  have hH : RoundTripHyps shimOps .struct kvW kvR [1,2,3] (List.replicate 88 7) p :=
    ⟨shim_sealLaws, shim_sealLen, shim_msgLaws, shim_msgLen, shim_keygenLaws, priv, [], [other], hpriv, rfl, rfl, by simp⟩
  refine ⟨p, hp, ?_, ?_, ?_⟩
  · exact reveal_protect shimOps .struct kvW kvR [1,2,3] _ p hH hnm hnr hp
  · exact protect_idempotent shimOps .struct kvW kvR [1,2,3] _ p hH hp
      (by intro h; rw [h] at hpl; simp at hpl)
  · exact onColumn_protect_struct_in_text shimOps shim_sealLaws shim_sealLen shim_msgLaws shim_msgLen shim_keygenLaws
      kvW kvR priv [1,2,3] _ p [97,98] [99,100] [] [other] hpriv rfl rfl (by simp) hnm hnr hp (by decide) (by decide)

/-- The translator theorems and the entry-point table are applicable (AcraBlock kind, stand-in
instance with 32-byte hashes; written with key `[1,2,3]`, read with the rotated key list): EVERY
producer yields the value `p`, and EVERY consumer that accepts AcraBlocks reveals `[9,9]` from it;
`EncryptSym`/`DecryptSym` and `EncryptSymSearchable`/`DecryptSymSearchable` round-trip for client `c` -/
example :
    let kvW : KeyView := ⟨none, none, some [1,2,3], none⟩
    let kvR : KeyView := ⟨none, none, some [4,5], some ([[4,5]] ++ [1,2,3] :: [[1,2,9]])⟩
    let cfg : PoisonCfg := ⟨false, false, ⟨none, none, none, none⟩⟩
    let stW : Translator.Store := ⟨fun _ => kvW, fun _ => some [7], cfg⟩
    let stR : Translator.Store := ⟨fun _ => kvR, fun _ => some [7], cfg⟩
    ∃ p, Translator.encryptSym toyOps stW [9,9] (some [99]) none (List.replicate 56 5) = .ok p ∧
      Translator.decryptSym toyOps stR p (some [99]) none = (.ok [9,9], 0) ∧
      Translator.encryptSymSearchable toyOps stW [9,9] (some [99]) none (List.replicate 56 5) =
        .ok (p, Searchable.generateHMAC toyOps [7] [9,9]) ∧
      Translator.decryptSymSearchable toyOps stR p (some (Searchable.generateHMAC toyOps [7] [9,9])) (some [99]) none = (.ok [9,9], 0) ∧
      Translator.decryptSymSearchable toyOps stR (Searchable.generateHMAC toyOps [7] [9,9] ++ p) none (some [99]) none = (.ok [9,9], 0) ∧
      ∀ (P : Translator.Producer) (C : Translator.Consumer), C.accepts .block = true →
        Translator.produce P toyOps stW [99] .block [9,9] (List.replicate 56 5) = .ok p ∧
        Translator.consume C toyOps stR [99] p (Searchable.generateHMAC toyOps [7] [9,9]) = .ok [9,9] := by
  intro kvW kvR cfg stW stR
  have hs := toy_sealLaws
  have hsl := toy_sealLen
  have hnm : matchKind .block [9,9] = false := by decide
  have hnr : registryMatch [9,9] = false := by decide
  obtain ⟨p, hp⟩ := protect_block_total toyOps hs kvW [1,2,3] [9,9] (List.replicate 56 5) rfl (by decide) (by decide)
    (by decide) (by decide)
  have hH : RoundTripHyps toyOps .block (stW.keys [99]) (stR.keys [99]) [9,9] (List.replicate 56 5) p :=
    (c01_blockRoundTripHyps_protect hs hsl toy_hashLen (pre := [[4,5]]) (post := [[1,2,9]]) rfl rfl (by decide) hnm hnr hp).2
  have hall : ∀ P : Translator.Producer, Translator.produce P toyOps stW [99] .block [9,9] (List.replicate 56 5) = .ok p := by
    intro P
    rw [producers_agree toyOps P .block stW [99] [9,9] _ (by decide) (fun _ => ⟨[7], rfl⟩) hnm hnr]
    exact hp
  have henc : Translator.encryptSym toyOps stW [9,9] (some [99]) none (List.replicate 56 5) = .ok p := hall .translator
  have hencS : Translator.encryptSymSearchable toyOps stW [9,9] (some [99]) none (List.replicate 56 5) =
      .ok (p, Searchable.generateHMAC toyOps [7] [9,9]) := by
    show Translator.encryptSearchableWith .block toyOps stW [9,9] (some [99]) none _ = _
    rw [Translator.encryptSearchableWith_ok]
    show Searchable.translatorEncrypt toyOps (some [7]) kvW .block [9,9] _ = _
    unfold Searchable.translatorEncrypt
    simp only [hp]
  obtain ⟨_, hsep, hcat⟩ := translator_searchable_roundtrip toyOps toy_hashLen .block stW stR [99] [7] [9,9] _ p _ rfl rfl hH hnm hnr hencS
  refine ⟨p, henc, translator_roundtrip_block toyOps stW stR [99] [9,9] _ p hH hnm hnr henc, hencS, hsep, hcat, ?_⟩
  intro P C hacc
  exact ⟨hall P, entry_points_agree toyOps toy_hashLen P C .block stW stR [99] [7] [9,9] _ p (by decide) (fun _ => ⟨[7], rfl⟩) rfl hH hnm hnr hacc (hall P)⟩

/-- The searchable write path with a value that arrives already protected (stand-in with 32-byte
hashes): `[9,9]` protected as a serialized AcraBlock container by a writer with key `[1,2,3]` is written to
a searchable column (configured kind AcraStruct, other randomness) in a session whose rotated key list
still holds `[1,2,3]`; the stored value is the index of `[9,9]` followed by the container as it arrived,
and the owner's read chain – from a processor state left dirty on purpose – returns `[9,9]`. -/
example :
    let kvW : KeyView := ⟨none, none, some [1,2,3], none⟩
    let kvR : KeyView := ⟨none, none, some [4,5], some ([[4,5]] ++ [1,2,3] :: [[1,2,9]])⟩
    let dirty : Searchable.PState := ⟨some [1], some [2], [3]⟩
    ∃ p, protect toyOps kvW .block [9,9] (List.replicate 56 5) = .ok p ∧
      Searchable.searchableEncrypt toyOps (some [7]) kvR .struct p (List.replicate 96 6) =
        .ok (Searchable.generateHMAC toyOps [7] [9,9] ++ p) ∧
      Searchable.column toyOps (some [7]) (Searchable.clientDetector toyOps kvR) dirty
        (Searchable.generateHMAC toyOps [7] [9,9] ++ p) = .ok (Searchable.PState.init, some [9,9]) := by
  intro kvW kvR dirty
  have hs := toy_sealLaws
  have hsl := toy_sealLen
  have hnm : matchKind .block [9,9] = false := by decide
  have hnr : registryMatch [9,9] = false := by decide
  obtain ⟨p, hp⟩ := protect_block_total toyOps hs kvW [1,2,3] [9,9] (List.replicate 56 5) rfl (by decide) (by decide)
    (by decide) (by decide)
  have hH : RoundTripHyps toyOps .block kvW kvR [9,9] (List.replicate 56 5) p :=
    (c01_blockRoundTripHyps_protect hs hsl toy_hashLen (pre := [[4,5]]) (post := [[1,2,9]]) rfl rfl (by decide) hnm hnr hp).2
  obtain ⟨h1, _, h3⟩ := searchable_preprotected_container_roundtrip toyOps toy_hashLen .block .struct kvW kvR kvR [7] [9,9]
    (List.replicate 56 5) (List.replicate 96 6) p dirty hH hH hnm hnr hp
  exact ⟨p, hp, h1, h3⟩

/-- executable instances for the non-vacuity examples of the bare-envelope theorems, whose hypotheses are
about concrete outcomes (no crypto law is assumed there): `lenBoxOps` – the transparent box (all seal laws)
with 32-byte hashes; `plainOps` – "sealing" appends a marker byte, keys are padded to the AcraStruct
layout (45-byte public key, 84-byte wrapped key) -/
def lenBoxOps : CryptoOps :=
  { boxOps with hmac := fun _ m => (m ++ List.replicate 32 0).take 32,
                sha256 := fun m => (m ++ List.replicate 32 0).take 32 }

theorem lenBoxOps_hashLen : HashLen lenBoxOps where
  hmac_len := by intro k m; simp [lenBoxOps, List.length_take]
  sha_len := by intro m; simp [lenBoxOps, List.length_take]

def plainOps : CryptoOps :=
  { enc := fun _ _ m _ => some (m ++ [1]), dec := fun _ _ ct => some ct.dropLast,
    wrap := fun _ _ m _ => some ((m ++ List.replicate 84 0).take 84), unwrap := fun _ _ ct => some (ct.take 32),
    pubOf := fun p => (p ++ List.replicate 45 0).take 45, validPriv := fun _ => true, privOfSeed := id,
    hmac := fun _ m => (m ++ List.replicate 32 0).take 32, sha256 := fun m => (m ++ List.replicate 32 0).take 32 }

theorem plainOps_hashLen : HashLen plainOps where
  hmac_len := by intro k m; simp [plainOps, List.length_take]
  sha_len := by intro m; simp [plainOps, List.length_take]

set_option maxRecDepth 100000 in
/-- A raw AcraBlock (created with key `[1,2,3]` around `[9,9]`, transparent box) written to a searchable
column by a symmetric-only client whose rotated key list still holds `[1,2,3]`, and read back. -/
example :
    let kv : KeyView := ⟨none, none, some [4,5], some [[4,5],[1,2,3]]⟩
    ∃ e, createBlock lenBoxOps [1,2,3] [] [9,9] (List.replicate 56 5) = .ok e ∧
      Searchable.searchableEncrypt lenBoxOps (some [7]) kv .struct e (List.replicate 96 6) =
        .ok (Searchable.generateHMAC lenBoxOps [7] [9,9] ++ e) ∧
      Searchable.column lenBoxOps (some [7]) (Searchable.clientDetector lenBoxOps kv) Searchable.PState.init
        (Searchable.generateHMAC lenBoxOps [7] [9,9] ++ e) = .ok (Searchable.PState.init, some [9,9]) := by
  intro kv
  obtain ⟨e, he⟩ : ∃ e, createBlock lenBoxOps [1,2,3] [] [9,9] (List.replicate 56 5) = .ok e := by
    cases h : createBlock lenBoxOps [1,2,3] [] [9,9] (List.replicate 56 5) with
    | ok e => exact ⟨e, rfl⟩
    | err => exact absurd h (by decide +kernel)
    | panic => exact absurd h (by decide +kernel)
  have hev : e = (match createBlock lenBoxOps [1,2,3] [] [9,9] (List.replicate 56 5) with | .ok b => b | _ => []) := by rw [he]
  obtain ⟨hlen, hns, hx, hd, hne, hpct⟩ : e.length = 176 ∧ validateStruct e = .err ∧ extractBlock e = .ok (e.length, e) ∧
      decryptKind lenBoxOps kv .block e = .ok [9,9] ∧ [9,9] ≠ serBytes e idBlock ∧ ∀ x ∈ e, x ≠ 37 := by
    rw [hev]; decide +kernel
  obtain ⟨h1, _, h3⟩ := searchable_preprotected_bare_block_roundtrip lenBoxOps lenBoxOps_hashLen .struct kv kv [7] e [9,9]
    (List.replicate 96 6) Searchable.PState.init hns hx (by rw [hlen]; decide) (by rw [hlen]; decide) hd hd hne
    (windowOk_of_noPct e [] hpct)
    (fun x s hx hser => Searchable.process_struct_container_no_privs lenBoxOps kv rfl x s
      (by have := hx.length_le; omega) hser)
  exact ⟨e, he, h1, h3⟩

set_option maxRecDepth 100000 in
/-- A bare AcraStruct (`plainOps`, public key `[8]`) around `[9,9]` written to a searchable column and
read back by a client holding the private key `[3]`. -/
example :
    let kv : KeyView := ⟨some [8], some [[3]], none, none⟩
    ∃ e, createStruct plainOps [8] [] [9,9] (List.replicate 88 7) = .ok e ∧
      Searchable.searchableEncrypt plainOps (some [7]) kv .block e (List.replicate 96 6) =
        .ok (Searchable.generateHMAC plainOps [7] [9,9] ++ e) ∧
      Searchable.column plainOps (some [7]) (Searchable.clientDetector plainOps kv) Searchable.PState.init
        (Searchable.generateHMAC plainOps [7] [9,9] ++ e) = .ok (Searchable.PState.init, some [9,9]) := by
  intro kv
  obtain ⟨e, he⟩ : ∃ e, createStruct plainOps [8] [] [9,9] (List.replicate 88 7) = .ok e := by
    cases h : createStruct plainOps [8] [] [9,9] (List.replicate 88 7) with
    | ok e => exact ⟨e, rfl⟩
    | err => exact absurd h (by decide +kernel)
    | panic => exact absurd h (by decide +kernel)
  have hev : e = (match createStruct plainOps [8] [] [9,9] (List.replicate 88 7) with | .ok b => b | _ => []) := by rw [he]
  obtain ⟨hlen, hv, hd, hne, hpct⟩ : e.length = 148 ∧ validateStruct e = .ok () ∧
      decryptKind plainOps kv .struct e = .ok [9,9] ∧ [9,9] ≠ serBytes e idStruct ∧ ∀ x ∈ e, x ≠ 37 := by
    rw [hev]; decide +kernel
  obtain ⟨h1, _, h3⟩ := searchable_preprotected_bare_struct_roundtrip plainOps plainOps_hashLen .block kv kv [7] e [9,9]
    (List.replicate 96 6) Searchable.PState.init hv (by rw [hlen]; decide) (by rw [hlen]; decide)
    hd hd hne (windowOk_of_noPct e [] hpct)
    (Searchable.short_plain_not_opened plainOps kv [9,9] (by decide))
  exact ⟨e, he, h1, h3⟩

/-- The entry-point table for the AcraStruct kind on the stand-in instance with 32-byte hashes: `Encrypt`
round-trips through `Decrypt`, and every consumer that accepts AcraStructs reveals the plaintext of the
value of every producer -/
example :
    let priv := toyOps.privOfSeed (List.replicate 32 1)
    let other := toyOps.privOfSeed (List.replicate 32 2)
    let kvW : KeyView := ⟨some (toyOps.pubOf priv), none, none, none⟩
    let kvR : KeyView := ⟨none, some ([] ++ priv :: [other]), none, none⟩
    let cfg : PoisonCfg := ⟨false, false, ⟨none, none, none, none⟩⟩
    let stW : Translator.Store := ⟨fun _ => kvW, fun _ => some [7], cfg⟩
    let stR : Translator.Store := ⟨fun _ => kvR, fun _ => some [7], cfg⟩
    ∃ p, Translator.encrypt toyOps stW [1,2,3] (some [99]) none (List.replicate 88 7) = .ok p ∧
      Translator.decrypt toyOps stR p (some [99]) none = (.ok [1,2,3], 0) ∧
      ∀ (P : Translator.Producer) (C : Translator.Consumer), C.accepts .struct = true →
        Translator.produce P toyOps stW [99] .struct [1,2,3] (List.replicate 88 7) = .ok p ∧
        Translator.consume C toyOps stR [99] p (Searchable.generateHMAC toyOps [7] [1,2,3]) = .ok [1,2,3] := by
  intro priv other kvW kvR cfg stW stR
  have hsL : SealLaws toyOps := toy_sealLaws
  have hmL : MsgLaws toyOps := Shim.msgLaws toyHash
  have hkL : KeygenLaws toyOps := Shim.keygenLaws toyHash
  have hpriv : toyOps.validPriv priv = true := hkL.valid_seed _ (by decide)
  have hnm : matchKind .struct [1,2,3] = false := by decide
  have hnr : registryMatch [1,2,3] = false := by decide
  obtain ⟨p, hp⟩ := protect_struct_total toyOps hsL hmL hkL kvW priv [1,2,3]
    (List.replicate 88 7) hpriv rfl (by decide) (by decide) (by decide)
  have hH : RoundTripHyps toyOps .struct (stW.keys [99]) (stR.keys [99]) [1,2,3] (List.replicate 88 7) p :=
    ⟨hsL, toy_sealLen, hmL, Shim.msgLen toyHash, hkL, priv, [], [other], hpriv, rfl, rfl, by simp⟩
  have hall : ∀ P : Translator.Producer, Translator.produce P toyOps stW [99] .struct [1,2,3] (List.replicate 88 7) = .ok p := by
    intro P
    rw [producers_agree toyOps P .struct stW [99] [1,2,3] _ (by decide) (fun _ => ⟨[7], rfl⟩) hnm hnr]
    exact hp
  have henc : Translator.encrypt toyOps stW [1,2,3] (some [99]) none (List.replicate 88 7) = .ok p := hall .translator
  refine ⟨p, henc, translator_roundtrip_struct toyOps stW stR [99] [1,2,3] _ p (by decide) hH hnm hnr henc, ?_⟩
  intro P C hacc
  exact ⟨hall P, entry_points_agree toyOps toy_hashLen P C .struct stW stR [99] [7] [1,2,3] _ p (by decide) (fun _ => ⟨[7], rfl⟩) rfl hH hnm hnr hacc (hall P)⟩

/-- `container_roundtrip` is applicable -/
example : ∃ p, serialize [1,2,3] idStruct = .ok p ∧ deserialize (p ++ [5]) = .ok ([1,2,3], idStruct) := by
  obtain ⟨p, h1, _, _, h4, _⟩ := container_roundtrip [1,2,3] idStruct (by decide) (by decide) (Or.inr rfl)
  exact ⟨p, h1, h4 [5]⟩

/-- the hypotheses of `protect_empty_err` hold for both instances -/
example : protect shimOps ⟨none, none, some [1], none⟩ .block [] [] = .err ∧
    protect boxOps ⟨some [1], none, none, none⟩ .struct [] [] = .err :=
  ⟨protect_empty_err shimOps shim_sealLaws _ _ _, protect_empty_err boxOps Box.sealLaws _ _ _⟩

end AcraModel.Props.C01
