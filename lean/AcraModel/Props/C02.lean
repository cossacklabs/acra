import AcraModel.CrossClient.Reveal
import AcraModel.CrossClient.Hash
import AcraModel.CrossClient.Context
import AcraModel.CrossClient.Keys
import AcraModel.CrossClient.Token
import AcraModel.CrossClient.TokenColumn
import AcraModel.CrossClient.Tls
import AcraModel.CrossClient.TlsIdentity
import AcraModel.CrossClient.TlsIdentityInj
import AcraModel.CrossClient.TlsServer
import AcraModel.CrossClient.TlsConn
import AcraModel.CrossClient.ServerOps
import AcraModel.CrossClient.Box45
import AcraModel.CrossClient.Compat
import AcraModel.Props.C01
import AcraModel.Crypto.Shim
/-!
# C02 — data protected for one client is never revealed under another identity

Models: `AcraModel/Envelope/*` (C01, validated against the real code) and
`AcraModel/CrossClient/*`.

Crypto assumptions are hypotheses: `SealLaws c` (correctness + authenticity of Secure Cell), `SealCommit c`
(a ciphertext determines key and context), `MsgCommit c` (a wrapped key opens under one private key only),
`HashLen c` / `HashInj c` (never together). Key-generation randomness is the hypothesis `Fresh`.
The examples at the end use the transparent box (`boxOps`, `box45`) and `exHashOps`, the box with 32-byte hashes.
-/
namespace AcraModel.Props.C02
open AcraModel AcraModel.Envelope AcraModel.CrossClient Generated

/-- Every RPC of the services aggregated by `DecryptService` that `TLSDecryptServiceWrapper` declares
assigns `request.ClientId` from the connection (after checking the extraction error) before it forwards
the request; RPCs it does not declare are answered by the embedded `Unimplemented…Server` (never
forwarded). All eleven are declared (`tls_overrides_all`). -/
theorem fact_tls_overrides_all : ∀ r ∈ rpcTable, r.defined = false ∨ r.overrides = true := by decide +kernel

/-- Every row of the table overrides. -/
theorem tls_overrides_all : ∀ r ∈ rpcTable, r.overrides = true := by decide +kernel

/-- an overriding wrapper method forwards to the method of the same name only -/
theorem fact_tls_forwards_same : ∀ r ∈ rpcTable, r.overrides = true → r.forwards = r.name := by decide +kernel

/-- the table is not empty and covers every operation of `ITranslatorService`; so does the HTTP API -/
theorem fact_every_translator_op_covered :
    TlsRpc.translatorOps ≠ [] ∧
    (∀ op ∈ TlsRpc.translatorOps, op ∈ rpcTable.map (·.name)) ∧
    (∀ op ∈ TlsRpc.translatorOps, op ∈ TlsRpc.httpOps.map (·.2.1)) := by decide +kernel

/-- `getClientID` looks at the request context (the gRPC peer) and nothing else: it takes no request, and
calls `peer.FromContext` and `network.GetClientIDFromAuthInfo` only -/
theorem fact_getClientID_reads_connection_only :
    TlsRpc.getClientIDCalls = ["peer.FromContext", "network.GetClientIDFromAuthInfo"] ∧
    TlsRpc.getClientIDParams = ["context.Context", "network.TLSClientIDExtractor"] :=
  ⟨rfl, rfl⟩

/-- every HTTP handler hands the translator service the identity of the connection
(`network.GetClientIDFromConnection` on the connection of the request context) or nil – HTTP requests
carry no client id at all -/
theorem fact_http_identity_from_connection : ∀ r ∈ TlsRpc.httpOps, r.2.2 = true := by decide +kernel

/-- the wrapped gRPC service uses `request.ClientId` – the field the wrapper has overwritten – for every
key-store and translator-service call -/
theorem fact_grpc_service_uses_request_id : ∀ r ∈ TlsRpc.grpcOps, r.2.2 = true := by decide +kernel

/-- v1: the bytes of a key context are the client id when there is one; every accessor of a per-client
secret key builds its context with `NewClientIDKeyContext(purpose, id)`; the key encryptor seals and
unseals with exactly those bytes -/
theorem fact_v1_context_is_client_id :
    IdentityCtx.v1KeyContextOrder = ["ClientID", "Context", "nil"] ∧
    (∀ r ∈ IdentityCtx.v1ClientKeyContexts, r.2.1 = "NewClientIDKeyContext" ∧ r.2.2 = "id") ∧
    IdentityCtx.v1KeyEncryptorEncryptCalls = ["encryptor.scell.Protect", "GetKeyContextFromContext"] ∧
    IdentityCtx.v1KeyEncryptorDecryptCalls = ["encryptor.scell.Unprotect", "GetKeyContextFromContext"] ∧
    IdentityCtx.v1ClientSymNameCalls = ["getSymmetricKeyName", "GetServerDecryptionKeyFilename"] :=
  ⟨rfl, by decide, rfl, rfl, rfl⟩

/-- v2: shapes of the context builders the model follows -/
theorem fact_v2_context_shapes :
    IdentityCtx.v2KeyRingContextShape = ["lit", "<r.path>", "lit", "<context>"] ∧
    IdentityCtx.v2KeyStoreContextShape = ["lit", "<context>"] ∧
    IdentityCtx.v2RingSignatureContextShape = ["lit", "<path>"] ∧
    IdentityCtx.v2SignWrites = ["context", "separator", "data"] ∧
    IdentityCtx.v2StoreEncryptCalls = ["keystoreV1.NewEmptyKeyContext", "s.keyStoreContext", "s.encryptor.Encrypt", "context.Background"] ∧
    IdentityCtx.v2StoreDecryptCalls = ["keystoreV1.NewEmptyKeyContext", "s.keyStoreContext", "s.encryptor.Decrypt", "context.Background"] ∧
    IdentityCtx.v2ClientStorageKeyPairPath = ["clientPrefix", "string(clientID)", "storageSuffix"] ∧
    IdentityCtx.v2ClientStorageSymmetricKeyPath = ["clientPrefix", "string(clientID)", "storageSymmetricSuffix"] ∧
    IdentityCtx.v2ClientHMACKeyPath = ["clientPrefix", "string(clientID)", "hmacSymmetricSuffix"] :=
  ⟨rfl, rfl, rfl, rfl, rfl, rfl, rfl, rfl, rfl⟩

/-- the literals of the v2 contexts: the ring context ends its path with `": "`, the two key kinds start
with different bytes -/
theorem fact_v2_literals :
    bytesOfNats IdentityCtx.v2KeyRingContextLit1 = [58, 32] ∧
    (bytesOfNats IdentityCtx.v2PrivateKeyFormat).head? = some 112 ∧
    (bytesOfNats IdentityCtx.v2SymmetricKeyFormat).head? = some 115 := by decide +kernel

/-- token records: what `generateDataID` and `AggregateTokenContextToBytes` hash, in order -/
theorem fact_token_id_shapes :
    IdentityCtx.tokenDataIDWrites = ["dataIDDelim", "data", "lit:zone", "context.AdditionalContext", "lit:client",
      "context.ClientID", "dataIDDelim", "strconv.Itoa(int(dataType))"] ∧
    IdentityCtx.tokenContextWrites = ["lit:zone", "context.AdditionalContext", "lit:client", "context.ClientID"] ∧
    bytesOfNats IdentityCtx.tokenKeyPrefix ≠ bytesOfNats IdentityCtx.tokenHashKeyPrefix :=
  ⟨rfl, rfl, by decide⟩

/-- the search hash starts with byte 127 and `IsEqual` fetches the HMAC key of the id it is given first -/
theorem fact_hash_shape :
    hashFuncByte = 127 ∧ IdentityCtx.hashIsEqualCalls.head? = some "store.GetHMACSecretKey" := by decide +kernel

/-- **Library / registry entry point, any two key views.** If the key views of two identities are
separated (no common symmetric key; B's private keys do not unwrap what A's unwrap), then every stored
value `v` that A can reveal – in particular every `protect c kvA kind m r` (C01 `reveal_protect`) – is an
*error* under B: not a value, not a panic. `v` is arbitrary, so this also covers values written before
any number of key rotations on either side. -/
theorem cross_client_reveal_separate {c : CryptoOps} (hl : SealLaws c) (hc : SealCommit c) {kvA kvB : KeyView}
    (hsep : KeysSeparate c kvA kvB) {v m : Bytes} (hown : reveal c kvA v = .ok m) :
    reveal c kvB v = .err :=
  process_cross hl hc hsep hown

/-- **`cross_client_reveal`, arbitrary key histories.** `pairs` and `syms` are the complete generation
histories (all clients, all rotations, newest first) of the storage key pairs and symmetric keys; the
random generator never repeated a key (`Fresh`). For different identities `a ≠ b`, whatever `a` can
reveal is an error under `b`. -/
theorem cross_client_reveal {c : CryptoOps} (hl : SealLaws c) (hc : SealCommit c) (hm : MsgCommit c)
    {pairs syms : History} (hp : Fresh pairs) (hs : Fresh syms) {a b : Bytes} (hab : a ≠ b) {v m : Bytes}
    (hown : revealAs c (storeOf c pairs syms) a v = .ok m) :
    revealAs c (storeOf c pairs syms) b v = .err :=
  process_cross hl hc (storeOf_separate hm hp hs hab) hown

/-- **`cross_client_reveal` over `protect`, AcraBlock.** A value `m` protected as AcraBlock under ANY
generation `key` of A's symmetric storage key (written before any number of rotations) is revealed to A
and is an error for every other identity B – for arbitrary fresh key histories on both sides. (C01
`reveal_protect_block_commit` supplies the owner's half. For AcraStructs C01's round trip needs the length
laws `SealLen`/`MsgLen`, which must never be combined with the commitment laws; there the statement is
`cross_client_reveal` with "A can reveal `v`" as its hypothesis, and the `box45` example below shows a
`protect` output satisfying it.) -/
theorem cross_client_reveal_protect_block {c : CryptoOps} (hl : SealLaws c) (hc : SealCommit c) (hm : MsgCommit c)
    {pairs syms : History} (hp : Fresh pairs) (hs : Fresh syms) {a b : Bytes} (hab : a ≠ b)
    (kvW : KeyView) (key m rnd p : Bytes)
    (hkid : (keyId c key []).length = 2) (hW : kvW.sym = some key) (hmem : key ∈ keysOf syms a)
    (hEncKey : ∀ encKey, c.enc key [] (rnd.take 32) ((rnd.drop 44).take 12) = some encKey → encKey.length < 65536)
    (hplen : p.length < 2^63)
    (hnm : matchKind .block m = false) (hnr : registryMatch m = false)
    (hprot : protect c kvW .block m rnd = .ok p) :
    revealAs c (storeOf c pairs syms) a p = .ok m ∧ revealAs c (storeOf c pairs syms) b p = .err := by
  have hown : revealAs c (storeOf c pairs syms) a p = .ok m :=
    C01.reveal_protect_block_commit c hl hc kvW (storeOf c pairs syms a) key m rnd p (keysOf syms a)
      hkid hW rfl hmem hEncKey hplen hnm hnr hprot
  exact ⟨hown, cross_client_reveal hl hc hm hp hs hab hown⟩

/-- **AcraTranslator `Decrypt` / `DecryptSym`** (`DecryptWithHandler`) under another identity. -/
theorem cross_client_decrypt {c : CryptoOps} (hl : SealLaws c) (hc : SealCommit c) (hm : MsgCommit c)
    {pairs syms : History} (hp : Fresh pairs) (hs : Fresh syms) {a b : Bytes} (hab : a ≠ b) {k : Kind} {v m : Bytes}
    (hown : decryptAs c (storeOf c pairs syms) a k v = .ok m) :
    decryptAs c (storeOf c pairs syms) b k v = .err :=
  decryptWithHandler_cross hl hc (storeOf_separate hm hp hs hab) hown

/-- **Transparent column path** (`EnvelopeDetector.OnColumn` with B's decrypt callback). If at every
position of the column where a container is recognised, that container is one A can read or one B cannot
read anyway, the column comes back byte for byte as it is stored: no error, no panic, nothing replaced.
In particular `pre ++ protect … a … ++ suf` is unchanged for every `pre`/`suf` in which B can read nothing. -/
theorem cross_client_column {c : CryptoOps} (hl : SealLaws c) (hc : SealCommit c) {kvA kvB : KeyView}
    (hsep : KeysSeparate c kvA kvB) {buf : Bytes}
    (hpos : ∀ i, i ≤ buf.length → ∀ cont adv, extractContainer (buf.drop i) = .ok (adv, cont) →
      (∃ m, process c kvA cont = .ok m) ∨ (∀ m, process c kvB cont ≠ .ok m)) :
    ∃ hit, onColumn [decryptCallback c kvB] buf = .ok buf hit :=
  onColumn_all_same _ buf fun i hi cont adv he =>
    List.forall_mem_singleton.mpr (decryptCallback_cross_same hl hc hsep (hpos i hi cont adv he))

/-- the same for identities of a key store with arbitrary fresh histories -/
theorem cross_client_column_history {c : CryptoOps} (hl : SealLaws c) (hc : SealCommit c) (hm : MsgCommit c)
    {pairs syms : History} (hp : Fresh pairs) (hs : Fresh syms) {a b : Bytes} (hab : a ≠ b) {buf : Bytes}
    (hpos : ∀ i, i ≤ buf.length → ∀ cont adv, extractContainer (buf.drop i) = .ok (adv, cont) →
      (∃ m, process c (storeOf c pairs syms a) cont = .ok m) ∨ (∀ m, process c (storeOf c pairs syms b) cont ≠ .ok m)) :
    ∃ hit, columnAs c (storeOf c pairs syms) b buf = .ok buf hit :=
  cross_client_column hl hc (storeOf_separate hm hp hs hab) hpos

/-- **Transparent column path behind the compatibility wrapper** (`OldContainerDetectorWrapper.OnColumn`,
what both SQL proxies install). Besides serialized containers it looks for bare AcraStructs / AcraBlocks,
wraps each into a container and offers it to the callbacks. If every container recognised in the column,
and every slice of the column wrapped as a container of either kind, is something A can read or B cannot
read anyway, the column comes back byte for byte as stored: no error, no panic, nothing replaced. -/
theorem cross_client_column_compat {c : CryptoOps} (hl : SealLaws c) (hc : SealCommit c) {kvA kvB : KeyView}
    (hsep : KeysSeparate c kvA kvB) {buf : Bytes}
    (hpos : ∀ i, i ≤ buf.length → ∀ cont adv, extractContainer (buf.drop i) = .ok (adv, cont) →
      (∃ m, process c kvA cont = .ok m) ∨ (∀ m, process c kvB cont ≠ .ok m))
    (hbare : ∀ i l id s, serialize ((buf.drop i).take l) id = .ok s →
      (∃ m, process c kvA s = .ok m) ∨ (∀ m, process c kvB s ≠ .ok m)) :
    ∃ hit, onColumnCompat [decryptCallback c kvB] buf = .ok buf hit :=
  onColumnCompat_all_same _ buf
    (fun i hi cont adv he => List.forall_mem_singleton.mpr (decryptCallback_cross_same hl hc hsep (hpos i hi cont adv he)))
    (fun i l id s hs => List.forall_mem_singleton.mpr (decryptCallback_cross_same hl hc hsep (hbare i l id s hs)))

/-- **`cross_client_hash`.** The blind-index check of a hash produced for A (`GenerateHMAC` with A's key
over `m`) run under B against data `d` succeeds exactly when B's HMAC of `d` equals A's HMAC of `m`;
so it fails unless the two HMACs collide. No assumption beyond the stated inequality. -/
theorem cross_client_hash {c : CryptoOps} (hs : HmacStore) (b ka kb m d : Bytes) (hb : hs b = some kb)
    (hne : c.hmac kb d ≠ c.hmac ka m) :
    hashVerifyAs c hs b (generateHash c ka m) d = false := by
  unfold hashVerifyAs
  rw [hb]
  cases h : hashIsEqual c (generateHash c ka m) d (some kb) with
  | false => rfl
  | true => exact absurd ((hashIsEqual_generate ka m d kb).mp h) hne

/-- … and under idealised collision freedom (`HashInj`) it fails whenever the keys differ. -/
theorem cross_client_hash_inj {c : CryptoOps} (hi : HashInj c) (hs : HmacStore) (b ka kb m d : Bytes)
    (hb : hs b = some kb) (hk : ka ≠ kb) :
    hashVerifyAs c hs b (generateHash c ka m) d = false :=
  cross_client_hash hs b ka kb m d hb (fun h => hk (hi.hmac_inj kb d ka m h).1.symm)

/-- the hash that the searchable operations split off a stored value is the hash that was put in front
(32-byte HMAC) -/
theorem search_hash_extracted {c : CryptoOps} (hlen : HashLen c) (ka m container : Bytes) :
    extractHashAndData (generateHash c ka m ++ container) = some (generateHash c ka m, container) :=
  extract_generate hlen ka m container

/-- **Searchable decrypt** (`DecryptSearchable` / `DecryptSymSearchable`) under another identity: an error
that hands the caller's own input back – never the plaintext – for every stored value A can decrypt. -/
theorem cross_client_search_decrypt {c : CryptoOps} (hl : SealLaws c) (hc : SealCommit c) (hm : MsgCommit c)
    {pairs syms : History} (hp : Fresh pairs) (hs : Fresh syms) {a b : Bytes} (hab : a ≠ b)
    {ha hb : Option Bytes} {k : Kind} {data m : Bytes} {hash : Option Bytes}
    (hown : decryptSearchable c (storeOf c pairs syms a) ha k data hash = .ok m) :
    decryptSearchable c (storeOf c pairs syms b) hb k data hash = .errBack data :=
  decryptSearchable_cross hl hc (storeOf_separate hm hp hs hab) hown

/-- **`cross_client_detokenize`.** After any history of consistent tokenizations (any identities, any
values, any random draws) starting from an empty storage, de-tokenizing ANY token under identity `b`
yields either the token itself, unchanged, or a value that was tokenized by an identity whose context
digest equals `b`'s. -/
theorem cross_client_detokenize {c : CryptoOps} (ops : List TokOp) (b tok r : Bytes) (ty : Nat)
    (h : detokenize c (runTok c [] ops) b tok ty = .ok r) :
    r = tok ∨ ∃ op, op ∈ ops ∧ aggCtx c op.id = aggCtx c b ∧ op.v = r :=
  detokenize_ownedBy (P := fun ctx v => ∃ op, op ∈ ops ∧ aggCtx c op.id = ctx ∧ op.v = v)
    (runTok_ownedBy ops (fun op hop => ⟨op, hop, rfl, rfl⟩) .nil) h

/-- … with a collision-free SHA-256 on the identities at hand: a value only other clients tokenized is
never returned to `b`; `b` gets the token back or one of its own values. -/
theorem cross_client_detokenize_own {c : CryptoOps} (ops : List TokOp) (b tok r : Bytes) (ty : Nat)
    (hnc : ∀ op, op ∈ ops → aggCtx c op.id = aggCtx c b → op.id = b)
    (h : detokenize c (runTok c [] ops) b tok ty = .ok r) :
    r = tok ∨ ∃ op, op ∈ ops ∧ op.id = b ∧ op.v = r :=
  (cross_client_detokenize ops b tok r ty h).imp_right fun ⟨op, hop, hc, hv⟩ => ⟨op, hop, hnc op hop hc, hv⟩

/-- **The read path takes the identity of the SESSION.** `TokenProcessor.OnColumn` builds exactly one
`TokenContext`; its `ClientID` element is `accessContext.GetClientID()`, `accessContext` being
`base.AccessContextFromContext(ctx)` and nothing else; that context is what it hands to `Detokenize`.
(A client id taken from the column setting – `columnSetting.ClientID()` – changes this table.) Regenerated. -/
theorem fact_token_read_uses_session_id :
    TokenColumn.readContextLiterals = 1 ∧
    TokenColumn.readContextClientID = [("init", "accessContext.GetClientID()")] ∧
    TokenColumn.readLocals = [("accessContext", [("init", "base.AccessContextFromContext(ctx)")])] ∧
    TokenColumn.readContextVar = "tokenContext" ∧
    TokenColumn.readDetokenizeCall = ["p.tokenizer.Detokenize", "data", "tokenContext", "columnSetting"] ∧
    readSource = .session :=
  ⟨rfl, rfl, rfl, rfl, rfl, by decide⟩

/-- **The write path.** `TokenEncryptor.EncryptWithClientID` puts its own `clientID` parameter into the token
context it hands to `Tokenize`; every call of an `EncryptWithClientID` in the source tree either hands the
caller's own client-id parameter on, or passes "the column's `client_id` when the encryptor config names one,
otherwise the session's" – and the sites that choose are the five statement / parameter / search-literal
encryptors of the two proxies. Regenerated. -/
theorem fact_token_write_sites :
    TokenColumn.encryptorParams.head? = some "clientID" ∧
    TokenColumn.encryptorContextClientID = [("param", "clientID")] ∧
    TokenColumn.encryptorTokenizeCall = ["e.tokenizer.Tokenize", "data", "tokenContext", "setting"] ∧
    encryptorSource = .param ∧
    (∀ r ∈ TokenColumn.writeCallSites, idSourceOf r.2.2 = .param ∨ idSourceOf r.2.2 = .columnOrSession) ∧
    choosingWriteSites.map (·.1) = [
      "decryptor/mysql/prepared_statement_sql_observer.go:PreparedStatementsQuery.handleColumnFromSetArg",
      myWriteSite, pgWriteSite,
      "pseudonymization/mysql_tokenize_query.go:MySQLTokenizeQuery.getTokenizerDataWithSetting",
      "pseudonymization/postgresql_tokenize_query.go:PostgreSQLTokenizeQuery.getTokenizerDataWithSetting"] ∧
    writeSourceOf pgWriteSite = .columnOrSession ∧ writeSourceOf myWriteSite = .columnOrSession :=
  ⟨rfl, rfl, rfl, by decide, by decide +kernel, rfl, by decide +kernel⟩

/-- **`proxy_token_read_is_session`.** For EVERY column setting – with or without an explicit `client_id` – and
every session identity `b`, the read path of a tokenized column de-tokenizes under `b`: the identity used is
the session's, never the column's. -/
theorem proxy_token_read_is_session (c : CryptoOps) (st : TokStore) (b : Bytes) (col : ColSetting) (data : Bytes) :
    onColumnToken c st b (some col) data = (if col.tokenized then detokenize c st b data col.ty else .ok data) := by
  unfold onColumnToken onColumnTokenWith
  rw [fact_token_read_uses_session_id.2.2.2.2.2]
  rfl

/-- … and every write site of the proxies tokenizes under `ownerOf session column`: the client the column is
configured for, else the client of the writing session – for both statement encryptors. -/
theorem proxy_token_write_is_owner (c : CryptoOps) (st : TokStore) (session : Bytes) (col : ColSetting) (v : Bytes) (cands : List Bytes) :
    ∀ site ∈ [pgWriteSite, myWriteSite],
      proxyWrite c (writeSourceOf site) st session col v cands =
        (if col.tokenized then
          (if col.consistent then tokenize c st (ownerOf session col) v col.ty cands else anonymize c st (ownerOf session col) v col.ty cands)
         else .ok (st, v)) := by
  intro site hs
  have hsrc : writeSourceOf site = .columnOrSession := by
    simp only [List.mem_cons, List.not_mem_nil, or_false] at hs
    rcases hs with rfl | rfl
    · exact fact_token_write_sites.2.2.2.2.2.2.1
    · exact fact_token_write_sites.2.2.2.2.2.2.2
  unfold proxyWrite tokenEncrypt
  rw [hsrc, fact_token_write_sites.2.2.2.1]
  rfl

/-- **`cross_client_column_detokenize`.** After ANY history of values written through the proxies (any
sessions, any column settings – with or without `client_id`, consistent or not, any token type –, any random
draws) starting from an empty token storage, a session of identity `b` that selects a tokenized column –
whatever that column's configured `client_id` is – and finds `tok` there receives either `tok` itself,
unchanged, or a value whose OWNER (`ownerOf`: the client the written column was configured for, else the writing
session's client) has the same context digest as `b`. -/
theorem cross_client_column_detokenize {c : CryptoOps} (ops : List ColOp) (b : Bytes) (col : ColSetting) (tok r : Bytes)
    (h : onColumnToken c (runCol c .columnOrSession [] ops) b (some col) tok = .ok r) :
    r = tok ∨ ∃ op, op ∈ ops ∧ op.col.tokenized = true ∧ aggCtx c (ownerOf op.session op.col) = aggCtx c b ∧ op.v = r := by
  rw [proxy_token_read_is_session] at h
  by_cases ht : col.tokenized = true
  · rw [if_pos ht] at h
    exact detokenize_ownedBy
      (P := fun ctx v => ∃ op, op ∈ ops ∧ op.col.tokenized = true ∧ aggCtx c (chooseId .columnOrSession op.session op.col []) = ctx ∧ op.v = v)
      (runCol_ownedBy fact_token_write_sites.2.2.2.1 ops (fun op hop ht => ⟨op, hop, ht, rfl, rfl⟩) .nil) h
  · rw [if_neg ht] at h
    cases h
    exact Or.inl rfl

/-- … with a collision-free SHA-256 on the identities at hand: `b` gets the token back or a value that `b` owns. -/
theorem cross_client_column_detokenize_own {c : CryptoOps} (ops : List ColOp) (b : Bytes) (col : ColSetting) (tok r : Bytes)
    (hnc : ∀ op, op ∈ ops → aggCtx c (ownerOf op.session op.col) = aggCtx c b → ownerOf op.session op.col = b)
    (h : onColumnToken c (runCol c .columnOrSession [] ops) b (some col) tok = .ok r) :
    r = tok ∨ ∃ op, op ∈ ops ∧ ownerOf op.session op.col = b ∧ op.v = r :=
  (cross_client_column_detokenize ops b col tok r h).imp_right fun ⟨op, hop, _, hc, hv⟩ => ⟨op, hop, hnc op hop hc, hv⟩

/-- **The case of the property.** No value of the history is owned by an identity whose context digest equals
`b`'s (they were written into columns configured with another client's id – by whatever session, `b`'s included –
or into columns without `client_id` by other clients' sessions). Then a session of `b` reading ANY tokenized
column – in particular one configured with `client_id: a` – gets what is stored back unchanged: never a plaintext. -/
theorem cross_client_column_token_back {c : CryptoOps} (ops : List ColOp) (b : Bytes) (col : ColSetting) (tok r : Bytes)
    (hnc : ∀ op, op ∈ ops → op.col.tokenized = true → aggCtx c (ownerOf op.session op.col) ≠ aggCtx c b)
    (h : onColumnToken c (runCol c .columnOrSession [] ops) b (some col) tok = .ok r) : r = tok :=
  (cross_client_column_detokenize ops b col tok r h).elim id fun ⟨op, hop, ht, hc, _⟩ => absurd hc (hnc op hop ht)

/-- … under idealised collision freedom of SHA-256 (`HashInj`) "owned by someone else" is enough: for every
owner `a ≠ b` of every value, the session of `b` gets the stored token back. -/
theorem cross_client_column_token_back_inj {c : CryptoOps} (hi : HashInj c) (ops : List ColOp) (b : Bytes) (col : ColSetting) (tok r : Bytes)
    (hother : ∀ op, op ∈ ops → op.col.tokenized = true → ownerOf op.session op.col ≠ b)
    (h : onColumnToken c (runCol c .columnOrSession [] ops) b (some col) tok = .ok r) : r = tok :=
  cross_client_column_token_back ops b col tok r
    (fun op hop ht heq => hother op hop ht (List.append_cancel_left (hi.sha_inj _ _ heq))) h

/-- **`stored_key_bound_v1`.** A per-client secret key of the v1 store written for `(p, a)` and then copied
(or renamed) to the file name of ANY purpose `p'` of a different client `b` does not load as `b`'s key:
the load fails. (The purpose is not part of the context – see `stored_key_v1_purpose_not_bound`.) -/
theorem stored_key_bound_v1 {c : CryptoOps} (hl : SealLaws c) (hc : SealCommit c) (master : Bytes) (fs fs' : Files)
    (p p' : V1Purpose) (a b key nonce : Bytes) (hab : a ≠ b)
    (hsave : v1Save c master fs p a key nonce = some fs') :
    v1Load c master (fs'.copy (v1FileName p a) (v1FileName p' b)) p' b = none := by
  obtain ⟨blob, he, rfl⟩ := Option.map_eq_some_iff.mp hsave
  unfold v1Load
  rw [Files.get_copy_dst _ _ _ blob (Files.get_put_same _ _ _)]
  exact keyDecrypt_other hl hc he hab

/-- v1 binds the owner but not the purpose: the context bytes of two purposes of one client coincide.
(Documented limitation, not a cross-client issue.) -/
theorem stored_key_v1_purpose_not_bound (p p' : V1Purpose) (a : Bytes) :
    keyContextBytes (v1Context p a) = keyContextBytes (v1Context p' a) := rfl

/-- v1 file names of per-client secret keys are injective in (purpose, client id): no two clients share a
key file, and no file of one purpose is the file of another purpose of some other client. -/
theorem v1_filenames_injective (p p' : V1Purpose) (a b : Bytes) (h : v1FileName p a = v1FileName p' b) :
    p = p' ∧ a = b := by
  have hp : p = p' := v1Suffix_getLast?_inj (by rw [← v1FileName_getLast? p a, h, v1FileName_getLast?])
  subst hp
  rw [v1FileName_eq, v1FileName_eq] at h
  exact ⟨rfl, List.append_cancel_right h⟩

/-- the context of a v2 key determines ring path, key kind and sequence number (for paths
without `:`) -/
theorem v2_context_injective (path path' : Bytes) (k k' : V2Kind) (n n' : Nat)
    (hp : (58 : UInt8) ∉ path) (hp' : (58 : UInt8) ∉ path')
    (h : keyContextBytes (v2KeyContext path k n) = keyContextBytes (v2KeyContext path' k' n')) :
    path = path' ∧ k = k' ∧ n = n' := by
  simp only [v2KeyContext, newEmptyKeyContext, keyContextBytes, v2KeyStoreContext, v2KeyRingContext,
    List.append_assoc, List.append_cancel_left_eq] at h
  rw [fact_v2_literals.1] at h
  simp only [List.cons_append, List.nil_append] at h
  obtain ⟨hpath, hrest⟩ := split_at_sep 58 _ _ _ _ hp hp' h
  exact ⟨hpath, v2KindContext_inj (List.cons.inj hrest).2⟩

/-- **`stored_key_bound_v2`.** A key sealed into the ring `path` as (kind, seqnum) does not unseal under
any other (ring path, kind, seqnum) – e.g. after the key, or the whole ring, has been moved to another
client's ring. -/
theorem stored_key_bound_v2 {c : CryptoOps} (hl : SealLaws c) (hc : SealCommit c) (master path path' : Bytes)
    (k k' : V2Kind) (n n' : Nat) (key nonce blob : Bytes)
    (hp : (58 : UInt8) ∉ path) (hp' : (58 : UInt8) ∉ path')
    (hne : ¬ (path = path' ∧ k = k' ∧ n = n'))
    (hsave : v2KeyEncrypt c master path k n key nonce = some blob) :
    v2KeyDecrypt c master path' k' n' blob = none :=
  keyDecrypt_other hl hc hsave (fun h => hne (v2_context_injective path path' k k' n n' hp hp' h))

/-- ring paths of different clients differ (ids without `/`), for any two ring kinds -/
theorem v2_ring_paths_injective (r r' : V2Ring) (a b : Bytes) (ha : slash ∉ a) (hb : slash ∉ b)
    (h : v2RingPath r a = v2RingPath r' b) : a = b := by
  simp only [v2RingPath, List.append_assoc, List.append_cancel_left_eq, List.cons_append, List.nil_append,
    List.cons.injEq, true_and] at h
  exact (split_at_sep slash _ _ _ _ ha hb h).1

/-- the signature of a key ring file is bound to its path: under collision-free HMAC a ring copied to
another path does not verify there -/
theorem ring_signature_bound {c : CryptoOps} (hi : HashInj c) (sigKey path path' payload : Bytes) (hne : path ≠ path') :
    v2Sign c sigKey path' payload ≠ v2Sign c sigKey path payload := by
  intro h
  have := (hi.hmac_inj _ _ _ _ h).2
  simp only [v2SignatureContext, v2KeyStoreContext, List.append_assoc, List.append_cancel_left_eq] at this
  exact hne (List.append_cancel_right this).symm

/-- **Different clients always get different keys**, for arbitrary histories of key generation and
rotation, as long as the random generator does not repeat itself. -/
theorem distinct_clients_distinct_keys {h : History} (hf : Fresh h) {a b : Bytes} (hab : a ≠ b) :
    ∀ k, k ∈ keysOf h a → k ∈ keysOf h b → False :=
  keysOf_disjoint hf hab

/-- **`tls_request_id_ignored`.** For every row of the regenerated table the result of the wrapper method
does not depend on the client id named in the request. -/
theorem tls_request_id_ignored {R : Type} : ∀ row ∈ rpcTable, ∀ (svc : Request → R) (e : R) (conn : ConnId) (p x y : Bytes),
    wrapperMethod row svc e conn ⟨x, p⟩ = wrapperMethod row svc e conn ⟨y, p⟩ := by
  intro row hrow svc e conn p x y
  exact wrapperMethod_overriding row (fact_tls_overrides_all row hrow) svc e conn p x y

/-- the id the wrapped service sees is the id of the connection -/
theorem tls_forwarded_id_is_connection : ∀ row ∈ rpcTable, ∀ (conn : ConnId) (req : Request) (id : Bytes),
    forwardedId row conn req = some id → conn = some id := by
  intro row hrow conn req id h
  have hov := tls_overrides_all row hrow
  unfold forwardedId wrapperMethod at h
  cases hd : row.defined <;> simp only [hd, hov, Bool.not_false, Bool.not_true, if_true] at h
  · cases h
  · cases conn with
    | none => cases h
    | some i => simpa using h

/-- **A forged client id does not help.** A decrypt request that reaches the translator through any
wrapper method over a connection authenticated as `b`, naming ANY client id (e.g. `a`'s), is an error for
every stored value that `a` can decrypt. -/
theorem tls_cross_client {c : CryptoOps} (hl : SealLaws c) (hc : SealCommit c) (hm : MsgCommit c)
    {pairs syms : History} (hp : Fresh pairs) (hs : Fresh syms) {a b : Bytes} (hab : a ≠ b) {k : Kind} {v m : Bytes}
    (hown : decryptAs c (storeOf c pairs syms) a k v = .ok m) :
    ∀ row ∈ rpcTable, ∀ forged : Bytes,
      wrapperMethod row (fun r => decryptAs c (storeOf c pairs syms) r.clientId k r.payload) .err (some b) ⟨forged, v⟩ = .err := by
  intro row hrow forged
  have hov := tls_overrides_all row hrow
  unfold wrapperMethod
  cases hd : row.defined <;> simp only [hd, hov, Bool.not_false, Bool.not_true, if_true, if_false]
  exact cross_client_decrypt hl hc hm hp hs hab hown

/-! ## which identity a TLS connection gets (`network/tls_authentication.go`) -/

/-- The two identifier extractors that `--tls_identifier_extractor_type` selects, what they read of the
certificate (`Subject.String()` / `SerialNumber.Bytes()` and nothing else), the errors they return, and that
they are field-less value types (nothing to remember). Regenerated from the source. -/
theorem fact_identifier_extractors :
    TlsIdentity.extractorByType = [("distinguished_name", "DistinguishedNameExtractor"), ("serial_number", "SerialNumberExtractor")] ∧
    TlsIdentity.defaultExtractorType = "distinguished_name" ∧
    TlsIdentity.identifierReads = [("DistinguishedNameExtractor", ["certificate.Subject.String"]),
      ("SerialNumberExtractor", ["certificate.SerialNumber", "certificate.SerialNumber.Bytes"])] ∧
    TlsIdentity.identifierValue = [("DistinguishedNameExtractor", ["certificate.Subject.String()"]),
      ("SerialNumberExtractor", ["certificate.SerialNumber.Bytes()"])] ∧
    TlsIdentity.identifierErrors = [("DistinguishedNameExtractor", ["ErrNoPeerCertificate", "ErrEmptyIdentifier"]),
      ("SerialNumberExtractor", ["ErrNoPeerCertificate", "ErrEmptyIdentifier"])] ∧
    TlsIdentity.identifierExtractorShape = [("DistinguishedNameExtractor", "fields=0 pointer-receiver=false calls=certificate.Subject.String"),
      ("SerialNumberExtractor", "fields=0 pointer-receiver=false calls=certificate.SerialNumber.Bytes")] :=
  ⟨rfl, rfl, rfl, rfl, rfl, rfl⟩

/-- `HexIdentifierConverter`: its only field is the hash constructor (`sha512.New` by default, 64-byte digests),
`Convert` has a value receiver and is `hex.Encode(out, newHash().Write(identifier).Sum(nil))`. -/
theorem fact_converter_is_hex_of_hash :
    TlsIdentity.converterFields = [("newHash", "func() hash.Hash")] ∧ TlsIdentity.converterDefaultHash = "sha512.New" ∧
    TlsIdentity.sha512Size = 64 ∧ TlsIdentity.convertPointerReceiver = false ∧ TlsIdentity.convertReceiverUses = ["c.newHash"] ∧
    TlsIdentity.convertCalls = ["hex.EncodedLen", "c.newHash", "h.Write", "h.Sum", "hex.Encode"] ∧
    TlsIdentity.convertDataFlow = ["h.Write(identifier)", "h.Sum(nil)", "hex.Encode(out,identifier)"] :=
  ⟨rfl, rfl, rfl, rfl, rfl, rfl, rfl⟩

/-- **The extractor object has no memory.** `tlsClientIDExtractor` consists of its two components;
`ExtractClientID` calls `idExtractor.GetCertificateIdentifier(certificate)` and `idConverter.Convert(identifier)`
and nothing else (logging aside), touches no other part of the receiver, reads no certificate field itself,
returns the converter's result, and the file has no package-level variable a cache could live in. A memo
table (a new field, a `Load`/`Store` call, a read of `certificate.Subject.CommonName`) changes these tables. -/
theorem fact_extractor_has_no_state :
    TlsIdentity.extractorFields = [("idExtractor", "CertificateIdentifierExtractor"), ("idConverter", "IdentifierConverter")] ∧
    TlsIdentity.extractCalls = ["extractor.idExtractor.GetCertificateIdentifier", "extractor.idConverter.Convert"] ∧
    TlsIdentity.extractReceiverUses = ["extractor.idConverter.Convert", "extractor.idExtractor.GetCertificateIdentifier"] ∧
    TlsIdentity.extractCertificateReads = [] ∧
    TlsIdentity.extractDataFlow = ["identifier, err := extractor.idExtractor.GetCertificateIdentifier(certificate)", "return nil, err",
      "clientID, err := extractor.idConverter.Convert(identifier)", "return nil, err", "return clientID, nil"] ∧
    TlsIdentity.packageVars = ["IdentifierExtractorTypesList"] ∧
    TlsIdentity.extractorConstructors = [("NewTLSClientIDExtractor", ["idExtractor=idExtractor", "idConverter=idConverter"]),
      ("NewDefaultTLSClientIDExtractor", ["idExtractor=idExtractor", "idConverter=idConverter"])] :=
  ⟨rfl, rfl, rfl, rfl, rfl, rfl, rfl⟩

/-- `pkix.Name.String()` of the Go toolchain in use: the nine standard attributes in print order, the two
single-valued ones only when non-empty, the escaped characters and the separators the model uses. -/
theorem fact_pkix_name_string :
    TlsIdentity.rdnPrinted.map (·.1) = ["SerialNumber", "CommonName", "OrganizationalUnit", "Organization", "PostalCode",
      "StreetAddress", "Locality", "Province", "Country"] ∧
    TlsIdentity.rdnSingleNonEmpty = ["CommonName", "SerialNumber"] ∧
    TlsIdentity.appendRDNsSkip = "len(values) == 0 || oidInAttributeTypeAndValue(oid, n.ExtraNames)" ∧
    TlsIdentity.rdnEscapeCases = ["44,43,34,92,60,62,59 => true", "32 => k == 0 || k == len(valueString)-1", "35 => k == 0"] ∧
    TlsIdentity.rdnStringLits = ["", ",", "+", "=#", "="] :=
  ⟨rfl, rfl, rfl, rfl, rfl⟩

/-- **`extract_stateless`.** The extractor is a function of the certificate. Whatever certificates one
long-lived extractor has seen before (`pre`) and sees afterwards (`post`), the connection presenting `c`
gets `extractClientID c` – the same certificate always gets the same id, the id of one certificate does not
depend on the others – and the extractor object is unchanged by a call. -/
theorem extract_stateless (e : Extractor) (pre post : List (Option Cert)) (c : Option Cert) :
    (e.run (pre ++ c :: post))[pre.length]? = some (extractClientID e.hash e.mode c) ∧ (e.extract c).1 = e := by
  refine ⟨?_, rfl⟩
  rw [Extractor.run_eq_map]
  simp

/-- … in particular the results of a run are those of any reordering of it, certificate by certificate -/
theorem extract_order_irrelevant (e : Extractor) (cs cs' : List (Option Cert)) (c : Option Cert) (i j : Nat)
    (hi : cs[i]? = some c) (hj : cs'[j]? = some c) : (e.run cs)[i]? = (e.run cs')[j]? := by
  rw [Extractor.run_eq_map, Extractor.run_eq_map]
  simp [hi, hj]

/-- **`tls_identity_injective_partial`.** Two certificates whose identifiers differ – the RFC 2253 form of
the subject in `distinguished_name` mode, the serial number bytes in `serial_number` mode – never get the
same client id, provided the hash does not collide on the identifiers at hand (`ids`, an explicit finite
list). Partial: collision freedom of SHA-512 is a hypothesis, and "different DN" is taken at the level of
`Subject.String()` (the standard library's formatter; two subjects with the same string form are one
identity for Acra by construction). -/
theorem tls_identity_injective_partial (h : Bytes → Bytes) (m : IdMode) (ids : List Bytes) (hnc : NoColl h ids)
    {c1 c2 : Option Cert} {i1 i2 id1 id2 : Bytes}
    (h1 : certIdentifier m c1 = .ok i1) (h2 : certIdentifier m c2 = .ok i2) (m1 : i1 ∈ ids) (m2 : i2 ∈ ids) (hne : i1 ≠ i2)
    (e1 : extractClientID h m c1 = .ok id1) (e2 : extractClientID h m c2 = .ok id2) : id1 ≠ id2 := by
  obtain ⟨j1, hj1, rfl⟩ := extractClientID_ok e1
  obtain ⟨j2, hj2, rfl⟩ := extractClientID_ok e2
  rw [h1] at hj1; rw [h2] at hj2
  cases hj1; cases hj2
  intro heq
  exact hne (hnc _ m1 _ m2 (hexLower_injective heq))

/-- `serial_number` mode, at full strength on the certificate side: different serial numbers, different ids
(the big-endian bytes of a number determine it). -/
theorem tls_identity_injective_serial (h : Bytes → Bytes) {c1 c2 : Cert} (hne : c1.serial ≠ c2.serial)
    (hnc : NoColl h [natBE c1.serial, natBE c2.serial]) {id1 id2 : Bytes}
    (e1 : extractClientID h .serialNumber (some c1) = .ok id1) (e2 : extractClientID h .serialNumber (some c2) = .ok id2) : id1 ≠ id2 :=
  tls_identity_injective_partial h .serialNumber _ hnc (i1 := natBE c1.serial) (i2 := natBE c2.serial) rfl rfl
    (by simp) (by simp) (fun he => hne (natBE_injective he)) e1 e2

/-- `distinguished_name` mode: different string forms of the subject, different ids. -/
theorem tls_identity_injective_dn (h : Bytes → Bytes) {c1 c2 : Cert} (hne : dnString c1.subject ≠ dnString c2.subject)
    (hnc : NoColl h [dnString c1.subject, dnString c2.subject]) {id1 id2 : Bytes}
    (e1 : extractClientID h .distinguishedName (some c1) = .ok id1) (e2 : extractClientID h .distinguishedName (some c2) = .ok id2) : id1 ≠ id2 := by
  have k : ∀ (c : Cert) (id : Bytes), extractClientID h .distinguishedName (some c) = .ok id →
      certIdentifier .distinguishedName (some c) = .ok (dnString c.subject) := by
    intro c id hx
    obtain ⟨j, hj, _⟩ := extractClientID_ok hx
    unfold certIdentifier at hj ⊢
    simp only [] at hj ⊢
    split at hj
    · cases hj
    · rename_i hemp; rw [if_neg hemp]
  exact tls_identity_injective_partial h .distinguishedName _ hnc (k c1 id1 e1) (k c2 id2 e2) (by simp) (by simp) hne e1 e2

/-- **The string form of a subject determines the subject** (`pkix.Name.String()` on the standard
attributes is injective: separators and backslashes inside values are escaped, the short names are distinct
and end in their only `=`). So "different distinguished name" may be read on the parsed certificate. -/
theorem dn_string_injective {n1 n2 : Name} (h : dnString n1 = dnString n2) : n1 = n2 := dnString_injective h

/-- `distinguished_name` mode on the certificate side at full strength: two certificates whose subjects differ
in any standard attribute (another OU, another O, another CN, …) get different client ids. -/
theorem tls_identity_injective_subject (h : Bytes → Bytes) {c1 c2 : Cert} (hne : c1.subject ≠ c2.subject)
    (hnc : NoColl h [dnString c1.subject, dnString c2.subject]) {id1 id2 : Bytes}
    (e1 : extractClientID h .distinguishedName (some c1) = .ok id1) (e2 : extractClientID h .distinguishedName (some c2) = .ok id2) : id1 ≠ id2 :=
  tls_identity_injective_dn h (fun he => hne (dnString_injective he)) hnc e1 e2

/-- the same certificate – indeed any two certificates with the same identifier – gets the same id -/
theorem tls_identity_deterministic (h : Bytes → Bytes) (m : IdMode) {c1 c2 : Option Cert}
    (hs : certIdentifier m c1 = certIdentifier m c2) : extractClientID h m c1 = extractClientID h m c2 := by
  unfold extractClientID; rw [hs]

/-- deriving an identity never panics, and a derived id is the hex text of one digest -/
theorem tls_identity_total (h : Bytes → Bytes) (m : IdMode) (c : Option Cert) :
    extractClientID h m c ≠ .panic ∧ ∀ id, extractClientID h m c = .ok id → ∃ ident, id.length = 2 * (h ident).length := by
  refine ⟨extractClientID_never_panics h m c, ?_⟩
  intro id hx
  obtain ⟨j, _, rfl⟩ := extractClientID_ok hx
  exact ⟨j, convert_length h j⟩

/-! ## what the gRPC server registers (`cmd/acra-translator/grpc_api/factory.go`) -/

/-- **Every registration gets the TLS wrapper.** Each `Register<Service>Server` call of `NewServer` passes a
variable that, at that point, holds `NewTLSDecryptServiceWrapper(plain service, data.TLSClientIDExtractor)`
whenever `data.UseConnectionClientID` is set. Regenerated from the source. -/
theorem fact_every_registration_wrapped : ∀ r ∈ registrations, r.holds = "tls" := by decide +kernel

/-- the service handed to `OngRPCServerInit` subscribers (which may register further gRPC services around it)
is the wrapped one as well -/
theorem fact_server_init_hook_wrapped : TlsIdentity.serverInitHook = [("OngRPCServerInit", "newService", "tls")] :=
  rfl

/-- every RPC of the wrapper table belongs to a registered service, and every service of the API is registered -/
theorem fact_every_rpc_registered :
    (∀ row ∈ rpcTable, (regOf row.name).isSome = true) ∧
    (∀ s ∈ TlsIdentity.serviceRpcs, registrations.any (fun r => r.service == s.1) = true) ∧
    (∀ s ∈ TlsIdentity.serviceRpcs, ∀ rpc ∈ s.2, (rpcTable.find? (·.name == rpc)).isSome = true) := by decide +kernel

/-- **`server_request_id_ignored`.** On the server that `NewServer` builds with `UseConnectionClientID`, the
result of every RPC is independent of the client id named in the request. -/
theorem server_request_id_ignored {R : Type} (rpc : String) (svc : Request → R) (e : R) (conn : ConnId) (p x y : Bytes) :
    serverCall true rpc svc e conn ⟨x, p⟩ = serverCall true rpc svc e conn ⟨y, p⟩ :=
  serverCall_overriding fact_every_registration_wrapped fact_tls_overrides_all rpc svc e conn p x y

/-- **End to end.** Two TLS clients whose certificates have different identifiers connect to the server built
by `NewServer` (`UseConnectionClientID`), their connections being identified by ONE extractor in any order.
A decrypt request over B's connection naming ANY client id is an error for every stored value A can decrypt. -/
theorem tls_server_cross_client {c : CryptoOps} (hl : SealLaws c) (hc : SealCommit c) (hm : MsgCommit c)
    {pairs syms : History} (hp : Fresh pairs) (hs : Fresh syms)
    (e : Extractor) {certA certB : Option Cert} {ia ib a b : Bytes}
    (hia : certIdentifier e.mode certA = .ok ia) (hib : certIdentifier e.mode certB = .ok ib) (hne : ia ≠ ib)
    (hnc : NoColl e.hash [ia, ib])
    (seen : List (Option Cert)) (i j : Nat) (hi : seen[i]? = some certA) (hj : seen[j]? = some certB)
    (ha : (e.run seen)[i]? = some (.ok a)) (hb : (e.run seen)[j]? = some (.ok b))
    {k : Kind} {v m : Bytes} (hown : decryptAs c (storeOf c pairs syms) a k v = .ok m) :
    ∀ (rpc : String) (forged : Bytes),
      serverCall true rpc (fun r => decryptAs c (storeOf c pairs syms) r.clientId k r.payload) .err (some b) ⟨forged, v⟩ = .err := by
  intro rpc forged
  rw [Extractor.run_eq_map] at ha hb
  simp only [List.getElem?_map, hi, hj, Option.map_some, Option.some.injEq] at ha hb
  have hab : a ≠ b := tls_identity_injective_partial e.hash e.mode _ hnc hia hib (by simp) (by simp) hne ha hb
  rcases serverCall_cases fact_every_registration_wrapped rpc with h | ⟨row, hrow, h⟩
  · exact h _ _ _ _
  · rw [h]
    exact tls_cross_client hl hc hm hp hs hab hown row hrow forged

/-! ## which certificate of a handshake is the identity of the connection (`network/tls_wrapper.go`) -/

/-- **Every site that turns a `tls.ConnectionState` into the certificate of the connection's identity takes the
leaf of the first VERIFIED chain.** In the whole source tree the two certificate lists of a connection state are
read by two functions only – `TLSConnectionWrapper.ServerHandshake` (gRPC transport credentials) and
`GetClientIDFromTLSConn` (WrapServer, i.e. AcraServer and the HTTP API, and `GetClientIDFromConnection` on a bare
`*tls.Conn`) –, both read `VerifiedChains` only (never `PeerCertificates`, the list the peer controls), both
take element `[0][0]` behind the guards `len(VerifiedChains) == 0 || len(VerifiedChains[0]) == 0`; the only other
call of an identity sink hands the certificate parameter of `getClientIDFromCertificate` on, after validating it.
Regenerated from the source on every run. -/
theorem fact_identity_certificate_is_verified_leaf :
    TlsConnState.connStateReads =
      [(grpcSiteName, "len(VerifiedChains)"), (grpcSiteName, "len(VerifiedChains[0])"), (grpcSiteName, "VerifiedChains[0][0]"),
       (connSiteName, "len(VerifiedChains)"), (connSiteName, "len(VerifiedChains[0])"), (connSiteName, "VerifiedChains[0][0]")] ∧
    TlsConnState.identitySinks = ["ExtractClientID", "getClientIDFromCertificate"] ∧
    (∀ st ∈ certSites,
      (certChoiceOf st.origin = .verified 0 0 ∧ st.guards = [["len(VerifiedChains)==0", "len(VerifiedChains[0])==0"]]) ∨
      (certChoiceOf st.origin = .param ∧ st.fn = "network/tls_wrapper.go:getClientIDFromCertificate")) ∧
    stateSites.map (·.fn) = [grpcSiteName, connSiteName] ∧
    grpcSite.callee = "wrapper.clientIDExtractor.ExtractClientID" ∧ connSite.callee = "getClientIDFromCertificate" ∧
    helperValidates = true :=
  ⟨rfl, rfl, by decide +kernel⟩

/-- **`connection_identity_is_leaf`.** After a handshake (`Handshaken`: the contract of crypto/tls) in which the
client's own certificate – the first one it sent – is `l`, every site that derives the identity of the connection
from the connection state runs its sink on `l`: whatever ELSE the peer appended to its certificate list
(intermediates, a CA, another client's certificate) and whatever the rest of the verified chains looks like. -/
theorem connection_identity_is_leaf (e : Extractor) {s : TlsState} (h : Handshaken s) {l : ConnCert} (hl : leafOf s = some l) :
    ∀ st ∈ stateSites, siteIdentity st e s = sinkRun st.callee e l := by
  intro st hst
  obtain ⟨ho, hg⟩ := stateSites_of_fact fact_identity_certificate_is_verified_leaf.2.2.1 hst
  unfold siteIdentity
  rw [siteCert_verified_leaf ho hg h hl]

/-- the gRPC transport credentials: the id is the extractor's id of the client's own certificate -/
theorem grpc_connection_identity (e : Extractor) {s : TlsState} (h : Handshaken s) {l : ConnCert} (hl : leafOf s = some l) :
    siteIdentity grpcSite e s = extractClientID e.hash e.mode (some l.cert) := by
  rw [connection_identity_is_leaf e h hl grpcSite (by decide +kernel)]
  unfold sinkRun
  rw [fact_identity_certificate_is_verified_leaf.2.2.2.2.1]
  rfl

/-- WrapServer / `GetClientIDFromTLSConn` (AcraServer, HTTP API): the same, after
`ValidateClientsAuthenticationCertificate` (no CA certificate, an authentication key usage) -/
theorem conn_connection_identity (e : Extractor) {s : TlsState} (h : Handshaken s) {l : ConnCert} (hl : leafOf s = some l) :
    siteIdentity connSite e s = (if validateCert l then extractClientID e.hash e.mode (some l.cert) else .err) := by
  rw [connection_identity_is_leaf e h hl connSite (by decide +kernel)]
  unfold sinkRun
  rw [fact_identity_certificate_is_verified_leaf.2.2.2.2.2.1, fact_identity_certificate_is_verified_leaf.2.2.2.2.2.2]
  cases validateCert l <;> rfl

/-- **Two clients behind the same intermediate CA get different ids.** Two handshakes whose clients' own
certificates have different identifiers (distinguished name / serial number), whatever both appended – e.g. the
SAME intermediate certificate –, through any two entry points: the client ids differ (unless SHA-512 collides on
the two identifiers). -/
theorem tls_chain_leaves_distinct_ids (e : Extractor) {s1 s2 : TlsState} (h1 : Handshaken s1) (h2 : Handshaken s2)
    {l1 l2 : ConnCert} (hl1 : leafOf s1 = some l1) (hl2 : leafOf s2 = some l2) {i1 i2 : Bytes}
    (hi1 : certIdentifier e.mode (some l1.cert) = .ok i1) (hi2 : certIdentifier e.mode (some l2.cert) = .ok i2) (hne : i1 ≠ i2)
    (hnc : NoColl e.hash [i1, i2]) {a b : Bytes} :
    ∀ st1 ∈ stateSites, ∀ st2 ∈ stateSites, siteIdentity st1 e s1 = .ok a → siteIdentity st2 e s2 = .ok b → a ≠ b := by
  intro st1 hs1 st2 hs2 ha hb
  rw [connection_identity_is_leaf e h1 hl1 st1 hs1] at ha
  rw [connection_identity_is_leaf e h2 hl2 st2 hs2] at hb
  exact tls_identity_injective_partial e.hash e.mode _ hnc hi1 hi2 (by simp) (by simp) hne (sinkRun_ok ha) (sinkRun_ok hb)

/-- the identity of a connection does not depend on anything but the client's own certificate: two handshakes with
the same first certificate get the same result at every site, whatever else was sent or verified -/
theorem connection_identity_ignores_appended (e : Extractor) {s s' : TlsState} (h : Handshaken s) (h' : Handshaken s')
    {l : ConnCert} (hl : leafOf s = some l) (hl' : leafOf s' = some l) :
    ∀ st ∈ stateSites, siteIdentity st e s = siteIdentity st e s' := by
  intro st hst
  rw [connection_identity_is_leaf e h hl st hst, connection_identity_is_leaf e h' hl' st hst]

/-- deriving the identity of a connection never panics, for ANY connection state (the guards in front of the
indexing are the ones the indexing needs) -/
theorem connection_identity_never_panics (e : Extractor) (s : TlsState) : ∀ st ∈ stateSites, siteIdentity st e s ≠ .panic := by
  intro st hst
  obtain ⟨ho, hg⟩ := stateSites_of_fact fact_identity_certificate_is_verified_leaf.2.2.1 hst
  unfold siteIdentity
  cases hc : siteCert st s with
  | ok c => exact sinkRun_ne_panic _ _ _
  | err => nofun
  | panic => exact absurd hc (siteCert_verified_ne_panic ho hg s)

/-- **End to end with certificate chains.** Two TLS clients whose own certificates have different identifiers
connect to the gRPC server that `NewServer` builds (`UseConnectionClientID`); each sends its certificate followed
by anything it likes (the same intermediate CA, the OTHER client's certificate, …). The connections get the ids
`a` and `b` from the transport credentials. A decrypt request over B's connection naming ANY client id is an
error for every stored value A can decrypt. -/
theorem tls_server_cross_client_chain {c : CryptoOps} (hl : SealLaws c) (hc : SealCommit c) (hm : MsgCommit c)
    {pairs syms : History} (hp : Fresh pairs) (hs : Fresh syms) (e : Extractor)
    {sA sB : TlsState} (hA : Handshaken sA) (hB : Handshaken sB) {lA lB : ConnCert} (hlA : leafOf sA = some lA) (hlB : leafOf sB = some lB)
    {ia ib a b : Bytes} (hia : certIdentifier e.mode (some lA.cert) = .ok ia) (hib : certIdentifier e.mode (some lB.cert) = .ok ib)
    (hne : ia ≠ ib) (hnc : NoColl e.hash [ia, ib])
    (ha : siteIdentity grpcSite e sA = .ok a) (hb : siteIdentity grpcSite e sB = .ok b)
    {k : Kind} {v m : Bytes} (hown : decryptAs c (storeOf c pairs syms) a k v = .ok m) :
    ∀ (rpc : String) (forged : Bytes),
      serverCall true rpc (fun r => decryptAs c (storeOf c pairs syms) r.clientId k r.payload) .err (some b) ⟨forged, v⟩ = .err := by
  rw [grpc_connection_identity e hA hlA] at ha
  rw [grpc_connection_identity e hB hlB] at hb
  exact tls_server_cross_client hl hc hm hp hs e hia hib hne hnc [some lA.cert, some lB.cert] 0 1 rfl rfl
    (by rw [Extractor.run_eq_map]; simp [ha]) (by rw [Extractor.run_eq_map]; simp [hb]) hown

/-- the wrapper declares a method for every RPC of the table (none is left to the embedded `Unimplemented…Server`),
and every RPC of the API – decrypt-type or not – is served by a registration. Regenerated. -/
theorem fact_all_rpcs_declared_and_served :
    (∀ r ∈ rpcTable, r.defined = true) ∧
    (∀ rpc ∈ ["Decrypt", "DecryptSym", "DecryptSearchable", "DecryptSymSearchable", "Encrypt", "EncryptSym", "EncryptSearchable",
      "EncryptSymSearchable", "GenerateQueryHash", "Tokenize", "Detokenize"], Served rpc) ∧
    rpcTable.map (·.name) = ["Decrypt", "DecryptSearchable", "DecryptSym", "DecryptSymSearchable", "Detokenize", "Encrypt",
      "EncryptSearchable", "EncryptSym", "EncryptSymSearchable", "GenerateQueryHash", "Tokenize"] :=
  ⟨by decide +kernel, by decide +kernel, rfl⟩

/-- **`server_rpc_runs_as_connection`.** On the server `NewServer` builds with `UseConnectionClientID`, EVERY served
RPC – Tokenize, Detokenize, the Encrypt family and GenerateQueryHash as much as the decrypt family – hands the
service a request whose client id is the id of the connection, whatever the request named; without a connection
identity the service is not reached at all. -/
theorem server_rpc_runs_as_connection {R : Type} {rpc : String} (hs : Served rpc) (svc : Request → R) (e : R) (id x p : Bytes) :
    serverCall true rpc svc e (some id) ⟨x, p⟩ = svc ⟨id, p⟩ ∧ serverCall true rpc svc e none ⟨x, p⟩ = e :=
  ⟨serverCall_conn fact_every_registration_wrapped fact_all_rpcs_declared_and_served.1 tls_overrides_all hs svc e id x p,
   serverCall_noconn fact_every_registration_wrapped fact_all_rpcs_declared_and_served.1 tls_overrides_all rpc svc e ⟨x, p⟩⟩

/-- **Tokens through the server.** After ANY history of Tokenize requests (any connections, naming any client
ids, any values, any random draws), a Detokenize request over the connection of `b` – naming ANY client id – for
any token yields the token itself, unchanged, or a value that was tokenized over a CONNECTION whose identity has
the context digest of `b`. The ids named in the requests play no role. -/
theorem tls_server_detokenize_cross_client {c : CryptoOps} (ops : List SrvTokOp) (b forged tok r : Bytes) (ty : Nat)
    (h : serverCall true "Detokenize" (svcDetokenize c (runSrvTok c "Tokenize" [] ops) ty) .err (some b) ⟨forged, tok⟩ = .ok r) :
    r = tok ∨ ∃ op, op ∈ ops ∧ aggCtx c op.conn = aggCtx c b ∧ op.v = r := by
  have hT : Served "Tokenize" := fact_all_rpcs_declared_and_served.2.1 _ (by decide)
  have hD : Served "Detokenize" := fact_all_rpcs_declared_and_served.2.1 _ (by decide)
  rw [(server_rpc_runs_as_connection hD _ _ b forged tok).1,
    runSrvTok_eq fact_every_registration_wrapped fact_all_rpcs_declared_and_served.1 tls_overrides_all hT] at h
  refine (cross_client_detokenize (asTokOps ops) b tok r ty h).imp_right fun ⟨op, hop, hc, hv⟩ => ?_
  obtain ⟨o, ho, rfl⟩ := List.mem_map.mp hop
  exact ⟨o, ho, hc, hv⟩

/-- **Encrypt-type RPCs.** What a request of any of the four Encrypt RPCs over the connection of `b` produces – naming ANY
client id, e.g. `a`'s – is `protect` under `b`'s keys; so whenever `b` can read it back, `a ≠ b` cannot (arbitrary
fresh key histories): a forged id neither lets `b` write data that looks like `a`'s nor read `a`'s. -/
theorem tls_server_encrypt_belongs_to_connection {c : CryptoOps} (hl : SealLaws c) (hc : SealCommit c) (hm : MsgCommit c)
    {pairs syms : History} (hp : Fresh pairs) (hs : Fresh syms) {a b : Bytes} (hab : a ≠ b)
    (rpc : String) (hrpc : rpc ∈ ["Encrypt", "EncryptSym", "EncryptSearchable", "EncryptSymSearchable"]) (k : Kind) (forged m rnd : Bytes) :
    serverCall true rpc (svcEncrypt c (storeOf c pairs syms) k rnd) .err (some b) ⟨forged, m⟩ = protect c (storeOf c pairs syms b) k m rnd ∧
    ∀ p m', serverCall true rpc (svcEncrypt c (storeOf c pairs syms) k rnd) .err (some b) ⟨forged, m⟩ = .ok p →
      revealAs c (storeOf c pairs syms) b p = .ok m' → revealAs c (storeOf c pairs syms) a p = .err := by
  have hS : Served rpc := fact_all_rpcs_declared_and_served.2.1 rpc (by
    simp only [List.mem_cons, List.not_mem_nil, or_false] at hrpc ⊢
    rcases hrpc with h | h | h | h <;> simp [h])
  refine ⟨(server_rpc_runs_as_connection hS _ _ b forged m).1, ?_⟩
  intro p m' _ hb
  exact cross_client_reveal hl hc hm hp hs (Ne.symm hab) hb

/-- **GenerateQueryHash** over the connection of `b`, naming any client id, is the blind index under `b`'s HMAC
key – which does not verify under another identity's key unless the HMACs collide (`cross_client_hash`). -/
theorem tls_server_query_hash_is_connections {c : CryptoOps} (hs : HmacStore) (b forged kb data : Bytes) (hb : hs b = some kb) :
    serverCall true "GenerateQueryHash" (svcQueryHash c hs) .err (some b) ⟨forged, data⟩ = .ok (generateHash c kb data) := by
  have hS : Served "GenerateQueryHash" := fact_all_rpcs_declared_and_served.2.1 _ (by decide)
  rw [(server_rpc_runs_as_connection hS _ _ b forged data).1]
  simp [svcQueryHash, hb]

/-- **HTTP API: a request cannot name an identity.** For every call of the translator service by an HTTP handler
the result does not depend on any client id carried in the request: the id is the connection's (or none). -/
theorem http_request_cannot_name_identity {R : Type} : ∀ row ∈ httpTable, ∀ (svc : Request → R) (conn : ConnId) (x y body : Bytes),
    httpHandler row svc conn x body = httpHandler row svc conn y body := by
  intro row hrow svc conn x y body
  rw [httpHandler_conn fact_http_identity_from_connection hrow, httpHandler_conn fact_http_identity_from_connection hrow]

/-- **HTTP decrypt under another identity.** A decrypt operation of the HTTP API over a TLS connection
authenticated as `b`, with any client id smuggled into the request, is an error for every stored value `a ≠ b`
can decrypt. -/
theorem http_cross_client {c : CryptoOps} (hl : SealLaws c) (hc : SealCommit c) (hm : MsgCommit c)
    {pairs syms : History} (hp : Fresh pairs) (hs : Fresh syms) {a b : Bytes} (hab : a ≠ b) {k : Kind} {v m : Bytes}
    (hown : decryptAs c (storeOf c pairs syms) a k v = .ok m) :
    ∀ row ∈ httpTable, ∀ smuggled : Bytes,
      httpHandler row (fun r => decryptAs c (storeOf c pairs syms) r.clientId k r.payload) (some b) smuggled v = .err := by
  intro row hrow smuggled
  rw [httpHandler_conn fact_http_identity_from_connection hrow]
  exact cross_client_decrypt hl hc hm hp hs hab hown

/-! ## non-vacuity

The hypotheses of the theorems above are jointly satisfiable by concrete, non-trivial instances:
`box45` (transparent box with 45-byte key containers and 84-byte wrapped keys) satisfies `SealLaws`,
`SealCommit`, `MsgCommit`; the histories below contain a rotation on each side; the values are real
`protect` outputs of both envelope kinds which the owner reveals and the other identity does not. -/
section NonVacuity

def exRnd (n : Nat) : Bytes := (List.range n).map (fun i => UInt8.ofNat (i + 1))
def exA : Bytes := [97, 108, 105, 99, 101]        -- "alice"
def exB : Bytes := [98, 111, 98, 98, 121]         -- "bobby"
def exPrivA : Bytes := 0 :: List.replicate 44 7
def exPrivA' : Bytes := 0 :: List.replicate 44 5
def exPrivB : Bytes := 0 :: List.replicate 44 8
def exPairs : History := [⟨exA, exPrivA⟩, ⟨exB, exPrivB⟩, ⟨exA, exPrivA'⟩]
def exSyms : History := [⟨exB, [9, 9]⟩, ⟨exA, [1, 2, 3]⟩, ⟨exB, [4, 5, 6]⟩, ⟨exA, [3, 2, 1]⟩]
def exStore : Store := storeOf box45 exPairs exSyms
def exMsg : Bytes := [104, 105]
def exOf (o : Out Bytes) : Bytes := match o with | .ok v => v | _ => []
def exBlock : Bytes := exOf (protect box45 (exStore exA) .block exMsg (exRnd 56))
def exStruct : Bytes := exOf (protect box45 (exStore exA) .struct exMsg (exRnd 96))
/-- a value written under A's previous symmetric key (before the rotation) -/
def exOldBlock : Bytes := exOf (do let b ← createBlock box45 [3, 2, 1] [] exMsg (exRnd 56); serialize b idBlock)

example : SealLaws box45 ∧ SealCommit box45 ∧ MsgCommit box45 ∧ Fresh exPairs ∧ Fresh exSyms ∧ exA ≠ exB :=
  ⟨box45_sealLaws, box45_sealCommit, box45_msgCommit, by unfold Fresh; decide, by unfold Fresh; decide, by decide⟩

set_option maxRecDepth 100000 in
/-- AcraBlock: the owner reveals, the other identity gets an error (as `cross_client_reveal` says) -/
example : exBlock.length > 100 ∧ revealAs box45 exStore exA exBlock = .ok exMsg ∧ revealAs box45 exStore exB exBlock = .err := by decide +kernel

set_option maxRecDepth 100000 in
/-- AcraStruct -/
example : exStruct.length > 200 ∧ revealAs box45 exStore exA exStruct = .ok exMsg ∧ revealAs box45 exStore exB exStruct = .err := by decide +kernel

set_option maxRecDepth 100000 in
/-- a value from before a rotation, translator entry point -/
example : decryptAs box45 exStore exA .block exOldBlock = .ok exMsg ∧ decryptAs box45 exStore exB .block exOldBlock = .err := by decide +kernel

set_option maxRecDepth 100000 in
/-- the hypotheses of `cross_client_reveal_protect_block` hold for the value written under A's PREVIOUS key -/
example : (keyId box45 [3, 2, 1] []).length = 2 ∧ [3, 2, 1] ∈ keysOf exSyms exA ∧
    (∀ encKey, box45.enc [3, 2, 1] [] ((exRnd 56).take 32) (((exRnd 56).drop 44).take 12) = some encKey → encKey.length < 65536) ∧
    matchKind .block exMsg = false ∧ registryMatch exMsg = false ∧
    protect box45 { pub := none, privs := none, sym := some [3, 2, 1], syms := none } .block exMsg (exRnd 56) = .ok exOldBlock :=
  ⟨by decide, by decide, by intro e h; cases h; decide, by decide +kernel⟩

/-- the position hypothesis of `cross_client_column`, as a decidable check -/
def exPosOk (kvA kvB : KeyView) (buf : Bytes) (i : Nat) : Bool :=
  match extractContainer (buf.drop i) with
  | .ok (_, cont) => (process box45 kvA cont).isOk || !(process box45 kvB cont).isOk
  | _ => true

theorem exPos_sound (kvA kvB : KeyView) (buf : Bytes)
    (h : (List.range (buf.length + 1)).all (exPosOk kvA kvB buf) = true) :
    ∀ i, i ≤ buf.length → ∀ cont adv, extractContainer (buf.drop i) = .ok (adv, cont) →
      (∃ m, process box45 kvA cont = .ok m) ∨ (∀ m, process box45 kvB cont ≠ .ok m) := by
  intro i hi cont adv he
  have := List.all_eq_true.mp h i (List.mem_range.mpr (by omega))
  simp only [exPosOk, he, Bool.or_eq_true, Bool.not_eq_true'] at this
  refine this.imp (fun h1 => ?_) (fun h2 m hm => by simp [hm, Out.isOk] at h2)
  cases hp : process box45 kvA cont <;> simp [hp, Out.isOk] at h1
  exact ⟨_, rfl⟩

def exColumn : Bytes := [37, 37] ++ exBlock ++ [34, 34, 34, 34, 0]

set_option maxRecDepth 100000 in
/-- the position hypothesis of `cross_client_column` holds for a column with A's container between
a `%%` prefix and a suffix that starts like an AcraBlock (the scan itself is a well-founded recursion the
kernel does not unfold by `decide`; its results on such columns are compared with the real code by the
correspondence ops `col` / `colcompat`) -/
example :
    ∀ i, i ≤ exColumn.length → ∀ cont adv, extractContainer (exColumn.drop i) = .ok (adv, cont) →
      (∃ m, process box45 (exStore exA) cont = .ok m) ∨ (∀ m, process box45 (exStore exB) cont ≠ .ok m) :=
  exPos_sound _ _ _ (by decide +kernel)

/-- blind index: an instance with 32-byte HMACs in which the stated inequality holds -/
def exHashOps : CryptoOps := { boxOps with hmac := fun k m => Shim.fixLen 32 (k ++ m), sha256 := fun m => Shim.fixLen 32 m }

example : HashLen exHashOps ∧ exHashOps.hmac [4, 5, 6] exMsg ≠ exHashOps.hmac [1, 2, 3] exMsg ∧
    hashVerifyAs exHashOps (fun id => if id = exB then some [4, 5, 6] else none) exB (generateHash exHashOps [1, 2, 3] exMsg) exMsg = false ∧
    hashVerifyAs exHashOps (fun id => if id = exA then some [1, 2, 3] else none) exA (generateHash exHashOps [1, 2, 3] exMsg) exMsg = true :=
  ⟨⟨fun _ _ => Shim.fixLen_length _ _, fun _ => Shim.fixLen_length _ _⟩, by decide, by decide, by decide⟩

example : HashInj boxOps := Box.hashInj

/-- tokens: A tokenizes a value, B tokenizes another one and draws the very same token; each gets its own
value back and never the other's; a token nobody of that identity owns comes back unchanged -/
def exTokOps : List TokOp := [⟨exA, [1, 1, 1], 4, [[7, 7, 7]]⟩, ⟨exB, [2, 2, 2], 4, [[7, 7, 7]]⟩, ⟨exA, [3, 3, 3], 4, [[7, 7, 7], [8, 8, 8]]⟩]

example : detokenize boxOps (runTok boxOps [] exTokOps) exA [7, 7, 7] 4 = .ok [1, 1, 1] ∧
    detokenize boxOps (runTok boxOps [] exTokOps) exB [7, 7, 7] 4 = .ok [2, 2, 2] ∧
    detokenize boxOps (runTok boxOps [] exTokOps) exB [8, 8, 8] 4 = .ok [8, 8, 8] ∧
    detokenize boxOps (runTok boxOps [] exTokOps) exA [8, 8, 8] 4 = .ok [3, 3, 3] := by decide +kernel

/-- tokenized columns behind the proxies: a session of B writes into a column configured with `client_id: A`
(the value is A's) and into a column without `client_id` (the value is B's); both draw the same token bytes.
A reads its value; a third session C gets the token back unchanged from either column; B – who owns a record
under the very same token bytes – gets its OWN value, from either column, never A's; the hypothesis of
`cross_client_column_token_back_inj` holds for C. -/
def exColA : ColSetting := ⟨exA, true, true, 4⟩
def exColNone : ColSetting := ⟨[], true, false, 4⟩
def exColPlain : ColSetting := ⟨exA, false, false, 0⟩
def exC : Bytes := [99, 97, 114, 111, 108]        -- "carol"
def exColOps : List ColOp := [⟨exB, exColA, [1, 1, 1], [[7, 7, 7]]⟩, ⟨exB, exColNone, [2, 2, 2], [[7, 7, 7]]⟩, ⟨exC, exColPlain, [3, 3, 3], []⟩]
def exColStore : TokStore := runCol boxOps .columnOrSession [] exColOps

example : ownerOf exB exColA = exA ∧ ownerOf exB exColNone = exB ∧
    onColumnToken boxOps exColStore exA (some exColA) [7, 7, 7] = .ok [1, 1, 1] ∧
    onColumnToken boxOps exColStore exB (some exColA) [7, 7, 7] = .ok [2, 2, 2] ∧
    onColumnToken boxOps exColStore exC (some exColA) [7, 7, 7] = .ok [7, 7, 7] ∧
    onColumnToken boxOps exColStore exC (some exColNone) [7, 7, 7] = .ok [7, 7, 7] ∧
    onColumnToken boxOps exColStore exB (some exColNone) [7, 7, 7] = .ok [2, 2, 2] ∧
    onColumnToken boxOps exColStore exA (some exColPlain) [7, 7, 7] = .ok [7, 7, 7] ∧
    onColumnToken boxOps exColStore exA none [7, 7, 7] = .ok [7, 7, 7] ∧
    (∀ op, op ∈ exColOps → op.col.tokenized = true → ownerOf op.session op.col ≠ exC) := by decide +kernel

/-- the regenerated fact is load-bearing: a read path that took the column's `client_id` when there is one
(the choice of the WRITE side) would hand A's value to a session of C -/
example : onColumnTokenWith boxOps .columnOrSession exColStore exC (some exColA) [7, 7, 7] = .ok [1, 1, 1] := by decide +kernel

/-- stored keys: a key can be saved for A (the premise of `stored_key_bound_v1/2` is satisfiable) and
loads for A -/
example : ∃ fs, v1Save boxOps [42] [] .storageSym exA [1, 2, 3] (exRnd 12) = some fs ∧
    v1Load boxOps [42] fs .storageSym exA = some [1, 2, 3] ∧
    v1Load boxOps [42] (fs.copy (v1FileName .storageSym exA) (v1FileName .searchHmac exB)) .searchHmac exB = none :=
  ⟨_, rfl, by decide +kernel⟩

example : ∃ blob, v2KeyEncrypt boxOps [42] (v2RingPath .storageSym exA) .symmetricKey 1 [1, 2, 3] (exRnd 12) = some blob ∧
    v2KeyDecrypt boxOps [42] (v2RingPath .storageSym exA) .symmetricKey 1 blob = some [1, 2, 3] ∧
    v2KeyDecrypt boxOps [42] (v2RingPath .storageSym exB) .symmetricKey 1 blob = none ∧
    v2KeyDecrypt boxOps [42] (v2RingPath .storageSym exA) .symmetricKey 2 blob = none ∧
    v2KeyDecrypt boxOps [42] (v2RingPath .storageSym exA) .privateKey 1 blob = none ∧
    (58 : UInt8) ∉ v2RingPath .storageSym exA ∧ (58 : UInt8) ∉ v2RingPath .storageSym exB ∧
    v2RingPath .storageSym exA ≠ v2RingPath .storageSym exB :=
  ⟨_, rfl, by decide +kernel⟩

/-- the TLS table is inhabited and a forged id is ignored on a concrete row -/
example : rpcTable.length = 11 ∧
    (rpcTable.map fun row => forwardedId row (some exB) ⟨exA, []⟩) = List.replicate 11 (some exB) := by decide +kernel

/-- TLS identities: two certificates that share the common name and differ in the organisational unit, a
third with the same subject as the first under another serial number. Identifiers and ids are as the theorems
say, in either order on one extractor (with the identity function in place of SHA-512) -/
def exNameA : Name := ⟨[], [], [], [], [], [[69, 120]], [[112, 97, 121]], [98, 105, 108, 108], []⟩   -- O=Ex, OU=pay, CN=bill
def exNameB : Name := { exNameA with orgUnit := [[109, 107, 116]] }                                      -- OU=mkt
def exCertA : Cert := ⟨exNameA, 1001⟩
def exCertB : Cert := ⟨exNameB, 2002⟩
def exCertA' : Cert := ⟨exNameA, 2002⟩
def exExtractor (m : IdMode) : Extractor := ⟨m, id⟩

example : dnString exNameA = [67, 78, 61, 98, 105, 108, 108, 44, 79, 85, 61, 112, 97, 121, 44, 79, 61, 69, 120] ∧  -- "CN=bill,OU=pay,O=Ex"
    dnString exNameA ≠ dnString exNameB ∧ NoColl (exExtractor .distinguishedName).hash [dnString exNameA, dnString exNameB] ∧
    natBE 1001 = [3, 233] ∧ natBE 0 = [] ∧
    escapeValue [32, 97, 44, 35, 32] = [92, 32, 97, 92, 44, 35, 92, 32] ∧ escapeValue [35, 43] = [92, 35, 92, 43] ∧
    (∃ a b, (exExtractor .distinguishedName).run [some exCertA, some exCertB, some exCertA', none] = [.ok a, .ok b, .ok a, .err] ∧ a ≠ b) ∧
    (∃ a b, (exExtractor .distinguishedName).run [some exCertB, some exCertA] = [.ok b, .ok a] ∧ a ≠ b) ∧
    (∃ a b, (exExtractor .serialNumber).run [some exCertA, some exCertB, some exCertA'] = [.ok a, .ok b, .ok b] ∧ a ≠ b) ∧
    certIdentifier .distinguishedName (some ⟨⟨[], [], [], [], [], [], [], [], []⟩, 5⟩) = .err :=
  ⟨by decide, by decide, by intro x hx y hy h; exact h, by decide, by decide, by decide, by decide,
   ⟨_, _, rfl, by decide⟩, ⟨_, _, rfl, by decide⟩, ⟨_, _, rfl, by decide⟩, by decide⟩

/-- certificate chains: two clients behind ONE intermediate CA (the server trusts the root only). A sends
`leaf, intermediate`; B sends `leaf, intermediate` and appends A's certificate. Both states satisfy the crypto/tls
contract; through both entry points A and B get different ids, B's id does not depend on what it appended; a
connection whose own certificate is a CA certificate is refused where `getClientIDFromCertificate` validates. -/
def exInterName : Name := ⟨[], [], [], [], [], [[69, 120]], [], [105, 110, 116], []⟩      -- O=Ex, CN=int
def exInter : ConnCert := ⟨⟨exInterName, 7⟩, true, true⟩
def exRootCert : ConnCert := ⟨⟨{ exInterName with commonName := [114] }, 1⟩, true, true⟩
def exLeafA : ConnCert := ⟨exCertA, false, true⟩
def exLeafB : ConnCert := ⟨exCertB, false, true⟩
def exStateA : TlsState := ⟨[exLeafA, exInter], [[exLeafA, exInter, exRootCert]]⟩
def exStateB : TlsState := ⟨[exLeafB, exInter, exLeafA], [[exLeafB, exInter, exRootCert]]⟩
def exStateB' : TlsState := ⟨[exLeafB, exInter], [[exLeafB, exInter, exRootCert]]⟩
def exStateCA : TlsState := ⟨[exInter], [[exInter, exRootCert]]⟩

example : Handshaken exStateA ∧ Handshaken exStateB ∧ Handshaken exStateB' ∧ leafOf exStateA = some exLeafA ∧ leafOf exStateB = some exLeafB :=
  ⟨⟨by decide, by intro ch h; simp only [exStateA, List.mem_singleton] at h; subst h; exact ⟨rfl, by decide⟩⟩,
   ⟨by decide, by intro ch h; simp only [exStateB, List.mem_singleton] at h; subst h; exact ⟨rfl, by decide⟩⟩,
   ⟨by decide, by intro ch h; simp only [exStateB', List.mem_singleton] at h; subst h; exact ⟨rfl, by decide⟩⟩, rfl, rfl⟩

example :
    (∃ a b, siteIdentity grpcSite (exExtractor .distinguishedName) exStateA = .ok a ∧
      siteIdentity grpcSite (exExtractor .distinguishedName) exStateB = .ok b ∧
      siteIdentity connSite (exExtractor .distinguishedName) exStateB = .ok b ∧
      siteIdentity connSite (exExtractor .distinguishedName) exStateB' = .ok b ∧ a ≠ b) ∧
    siteIdentity connSite (exExtractor .distinguishedName) exStateCA = .err ∧
    siteIdentity grpcSite (exExtractor .serialNumber) ⟨[], []⟩ = .err ∧
    siteIdentity connSite (exExtractor .serialNumber) ⟨[exLeafA], [[]]⟩ = .err :=
  ⟨⟨_, _, rfl, rfl, rfl, rfl, by decide⟩, by decide, by decide, by decide⟩

/-- the regenerated fact is load-bearing: a site that took the LAST certificate the peer sent would give A and B –
two clients behind the same intermediate – the intermediate's id, and would serve B under A's id as soon as B
appends A's (public) certificate to what it sends -/
def exBadSite : CertSite := ⟨"", "wrapper.clientIDExtractor.ExtractClientID", ["PeerCertificates[len(PeerCertificates)-1]"],
  [["len(VerifiedChains)==0", "len(PeerCertificates)==0"]]⟩

example : siteIdentity exBadSite (exExtractor .distinguishedName) exStateA = siteIdentity exBadSite (exExtractor .distinguishedName) exStateB' ∧
    siteIdentity exBadSite (exExtractor .distinguishedName) exStateB = siteIdentity grpcSite (exExtractor .distinguishedName) exStateA ∧
    (siteIdentity exBadSite (exExtractor .distinguishedName) exStateA).isOk = true := by decide +kernel

/-- the other RPCs and the HTTP API: the tables are inhabited; a value tokenized over A's connection in a request
NAMING B comes back to A's connection (naming B again) and stays a token for B's connection naming A; the query
hash over B's connection naming A is B's; an HTTP handler ignores a smuggled id -/
def exSrvOps : List SrvTokOp := [⟨exA, exB, [1, 1, 1], 4, [[7, 7, 7]]⟩]

example : httpTable.length = 13 ∧ Served "Tokenize" ∧ ¬ Served "NoSuchRpc" ∧
    serverCall true "Detokenize" (svcDetokenize boxOps (runSrvTok boxOps "Tokenize" [] exSrvOps) 4) .err (some exA) ⟨exB, [7, 7, 7]⟩ = .ok [1, 1, 1] ∧
    serverCall true "Detokenize" (svcDetokenize boxOps (runSrvTok boxOps "Tokenize" [] exSrvOps) 4) .err (some exB) ⟨exA, [7, 7, 7]⟩ = .ok [7, 7, 7] ∧
    serverCall true "Detokenize" (svcDetokenize boxOps (runSrvTok boxOps "Tokenize" [] exSrvOps) 4) .err none ⟨exA, [7, 7, 7]⟩ = .err ∧
    serverCall true "GenerateQueryHash" (svcQueryHash boxOps (fun id => if id = exB then some [4, 5, 6] else none)) .err (some exB) ⟨exA, exMsg⟩
      = .ok (generateHash boxOps [4, 5, 6] exMsg) ∧
    (httpTable.map fun row => httpHandler row (fun r => r.clientId) (some exB) exA []) = List.replicate 13 exB := by decide +kernel

/-- the registration table is inhabited; the server ignores a forged id on a concrete RPC of every service -/
example : registrations.length = 6 ∧
    (["Decrypt", "DecryptSym", "Tokenize", "Detokenize", "Encrypt", "EncryptSym", "GenerateQueryHash"].map fun rpc =>
      serverCall true rpc (fun r => some r.clientId) none (some exB) ⟨exA, []⟩) = List.replicate 7 (some exB) ∧
    serverCall true "NoSuchRpc" (fun r => some r.clientId) none (some exB) ⟨exA, []⟩ = none := by decide +kernel

end NonVacuity

end AcraModel.Props.C02
