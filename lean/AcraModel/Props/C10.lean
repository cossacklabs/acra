import AcraModel.Token.InvariantStep
import AcraModel.Token.GenLemmas
import AcraModel.Token.DataLemmas
import AcraModel.Crypto.Box
/-!
# C10 — tokens are format-preserving, reversible for the owner, and consistent

Models: `Token/Store.lean` (context-scoped store), `Token/Gen.lean` (generators as
functions of a random stream), `Token/Tokenizer.lean` (the pseudoanonymizer as a machine of atomic store
steps), `Token/Concurrent.lean` (schedules), `Token/Data.lean` (text ↔ integer at the SQL boundary).

Concurrency: the theorems about `Sys.runSched` quantify over EVERY schedule – any interleaving of
the atomic store steps of any number of requests, new requests arriving at any time, maintenance
passes in between. Removing maintenance passes are excluded where stated (`NoRemove`): after a record
has been removed the property deliberately no longer speaks about it (a removed token is unknown).
Atomicity of the individual store calls is an assumption (see `Store.lean`), not a theorem.
-/
namespace AcraModel.Props.C10
open AcraModel AcraModel.Token Generated.Token

/-- the retry bound of `generateNewValue` -/
theorem fact_loopLimit : loopLimit = 10 := by decide

/-- the alphabets: 62 characters, five generic and six country TLDs, short buffers (< 8) use country TLDs -/
theorem fact_alphabets : charsetB.length = 62 ∧ genericTLDs = [".com", ".net", ".org", ".edu", ".info"] ∧
    ccTLDs = [".au", ".br", ".de", ".jp", ".et", ".us"] ∧ shortEmailThreshold = 8 :=
  ⟨charsetB_length, rfl, rfl, rfl⟩

/-- `randomEmail` guards the negative slice bound (repair of §8 #4) -/
theorem fact_email_guard : emailNegativeGuard = true := by decide

/-- `generateDataID` hashes delimiter, data, `zone‖AdditionalContext` or `client‖ClientID`, delimiter, type number -/
theorem fact_dataID : dataIDWrites = ["var:dataIDDelim", "var:data", "if-additional", "lit:zone", "field:AdditionalContext",
    "else", "lit:client", "field:ClientID", "end", "var:dataIDDelim", "itoa:dataType"] ∧ hashPrefix = "h." ∧ tokenPrefix = "t." := ⟨rfl, rfl, rfl⟩

/-- the numeric type codes are single, pairwise different digits (needed for `dataIDPre_inj`) -/
theorem fact_type_codes : tokenTypeCodes = [("TokenType_Int32", 1), ("TokenType_Int64", 2), ("TokenType_String", 3),
    ("TokenType_Bytes", 4), ("TokenType_Email", 5)] := rfl

/-- `DataTokenizer` parses int32 columns with 32 bits and int64 columns with 64 bits, in both directions
(repair of §8 #15) -/
theorem fact_parse_bits : parseBits "Tokenize" .int32 = 32 ∧ parseBits "Detokenize" .int32 = 32 ∧
    parseBits "Tokenize" .int64 = 64 ∧ parseBits "Detokenize" .int64 = 64 := by decide +kernel

/-- **Token shape, for every random stream.** Whatever candidate the generator draws for a value of
`n` bytes has the type and length of the value: 4 / 8 bytes for integers (so the integer is in range by
construction), the same length for strings and byte strings, charset characters only for strings, and
for e-mails either the e-mail shape (charset characters, `@` at the code's position, a listed TLD) or
– when the value is shorter than the TLD drawn – a same-length charset string. -/
theorem token_shape (ty : TokenType) (n : Nat) (d : Draws) (t : Bytes) (h : genToken ty n d = .ok t) :
    shapeOK ty n t = true := genToken_shape ty n d t h

/-- **No value makes the generator panic** (in particular no 0–2 byte e-mail value, §8 #4). -/
theorem generator_never_panics (ty : TokenType) (n : Nat) (d : Draws) : genToken ty n d ≠ .panic := by
  cases ty with
  | email => exact randomEmail_no_panic fact_email_guard n d
  | int32 | int64 | str | bytes => intro h; cases h

/-- tokens have exactly the length of the value (strings, bytes, e-mails) -/
theorem token_length (ty : TokenType) (n : Nat) (d : Draws) (t : Bytes) (h : genToken ty n d = .ok t)
    (hty : ty = .str ∨ ty = .bytes ∨ ty = .email) : t.length = n := by
  rcases hty with rfl | rfl | rfl
  · simp only [genToken, Out.ok.injEq] at h; subst h; exact randomString_length _ _ _
  · simp only [genToken, Out.ok.injEq] at h; subst h; exact randomBytes_length _ _
  · rcases randomEmail_ok n d t h with ⟨_, ht⟩ | ⟨hge, ht⟩
    · rw [ht]; exact randomString_length _ _ _
    · rw [ht, List.length_append, emailBody_length]; omega

/-! ## the store invariant under every schedule -/

/-- **`store_inv`.** Starting from the empty store, after ANY schedule of atomic steps of any requests
(tokenize random/consistent, detokenize), requests arriving at any time, and enabling/disabling
maintenance passes: every `h.` record `v ↦ t` has its `t.` record `t ↦ v`, every token returned is
registered for exactly its value, and every consistent result is what the `h.` record of its value
decodes to. -/
theorem store_inv (c : CryptoOps) (hi : HashInj c) (enc : Bool) (sched : List SEv)
    (hnr : ∀ ev ∈ sched, NoRemove ev) : Inv c ((⟨Store.empty, []⟩ : Sys).runSched c enc sched) :=
  Sys.runSched_inv c hi enc sched _ (inv_empty c) hnr

/-- the same from any state that satisfies the invariant (e.g. a store that was populated earlier) -/
theorem store_inv_from (c : CryptoOps) (hi : HashInj c) (enc : Bool) (σ : Sys) (h : Inv c σ) (sched : List SEv)
    (hnr : ∀ ev ∈ sched, NoRemove ev) : Inv c (σ.runSched c enc sched) :=
  Sys.runSched_inv c hi enc sched σ h hnr

/-- **`consistent_same_token`.** In the state reached by any such schedule, two completed consistent
tokenizations of the same value in the same (effective) context return the same token – whatever the
interleaving of their store steps, and whatever the random streams. -/
theorem consistent_same_token (c : CryptoOps) (σ : Sys) (h : Inv c σ) (t₁ t₂ : Thread)
    (h₁ : t₁ ∈ σ.threads) (h₂ : t₂ ∈ σ.threads)
    (hk₁ : t₁.req.kind = .anon true) (hk₂ : t₂.req.kind = .anon true)
    (hx : t₁.req.ctx.bytes = t₂.req.ctx.bytes) (hty : t₁.req.ty = t₂.req.ty) (hv : t₁.req.v = t₂.req.v)
    (a b : Bytes) (r₁ : t₁.pc = .done (.ok a)) (r₂ : t₂.pc = .done (.ok b)) : a = b := by
  obtain ⟨d₁, hd₁, e₁⟩ := (h.done h₁ hk₁ r₁).2 rfl
  obtain ⟨d₂, hd₂, e₂⟩ := (h.done h₂ hk₂ r₂).2 rfl
  rw [(keys_of_bytes_eq c hx _ _).2, hty, hv] at hd₁
  rw [hd₁] at hd₂
  cases hd₂
  rw [hty, e₂] at e₁
  cases e₁
  rfl

/-- **`distinct_values_distinct_tokens`.** Two completed tokenizations (random or consistent, in any
combination) in one context and type that returned the same token were given the same value: two
different values never share a token. -/
theorem distinct_values_distinct_tokens (c : CryptoOps) (σ : Sys) (h : Inv c σ) (t₁ t₂ : Thread)
    (h₁ : t₁ ∈ σ.threads) (h₂ : t₂ ∈ σ.threads) (m₁ m₂ : Bool)
    (hk₁ : t₁.req.kind = .anon m₁) (hk₂ : t₂.req.kind = .anon m₂)
    (hx : t₁.req.ctx.bytes = t₂.req.ctx.bytes) (hty : t₁.req.ty = t₂.req.ty)
    (tok : Bytes) (r₁ : t₁.pc = .done (.ok tok)) (r₂ : t₂.pc = .done (.ok tok)) : t₁.req.v = t₂.req.v := by
  have e₁ := (h.done h₁ hk₁ r₁).1
  rw [(keys_of_bytes_eq c hx _ _).1, hty, (h.done h₂ hk₂ r₂).1] at e₁
  simpa [encTV] using (Option.some.inj e₁).symm

/-- the one step of a `Deanonymize` call -/
def deanonResult (c : CryptoOps) (enc : Bool) (s : Store) (x : Ctx) (ty : TokenType) (tok : Bytes) : PC :=
  (stepThread c enc s (Thread.start ⟨.deanon, x, ty, tok⟩ fun _ _ => 0)).2.1.pc

/-- **`owner_roundtrip`.** In any state reached by such a schedule, for every completed tokenization of
`v` that returned `tok`, the owner (same effective context) detokenizing `tok` gets `v` back (as
`bytesToGolangValue` renders it) – or the token itself while the record is disabled by maintenance. -/
theorem owner_roundtrip (c : CryptoOps) (enc : Bool) (σ : Sys) (h : Inv c σ) (t : Thread) (ht : t ∈ σ.threads)
    (m : Bool) (hk : t.req.kind = .anon m) (tok : Bytes) (r : t.pc = .done (.ok tok))
    (x : Ctx) (hx : x.bytes = t.req.ctx.bytes) :
    deanonResult c enc σ.store x t.req.ty tok = .done (decodeAs t.req.ty t.req.v) ∨
      (deanonResult c enc σ.store x t.req.ty tok = .done (.ok tok) ∧ σ.store.get (tKey c x t.req.ty tok) = .disabled) := by
  have hd := (h.done ht hk r).1
  rw [← (keys_of_bytes_eq c hx _ _).1] at hd
  unfold dataAt at hd
  cases hs : σ.store (tKey c x t.req.ty tok) with
  | none => rw [hs] at hd; cases hd
  | some rec =>
    rw [hs] at hd
    simp only [Option.map_some, Option.some.injEq] at hd
    by_cases hdis : rec.disabled = true
    · right
      simp [deanonResult, stepThread, Thread.start, Store.get, hs, hdis]
    · left
      simp [deanonResult, stepThread, Thread.start, Store.get, hs, hdis, hd, decTV, encTV]

/-- `pseudonymization/utils.go`: `decodeInt32` / `decodeInt64` start with `if len(data) != 4` / `!= 8`. -/
theorem fact_decode_int_length_checked :
    decodeIntLengthChecks = [("decodeInt32", 4), ("decodeInt64", 8)] := rfl

/-- **No stored record makes the tokenizer panic**: whatever bytes the token store returns under the id
that is looked up – a damaged record, a record of another length or of another type – decoding the
`h.` payload (`bytesToGolangValue`, consistent tokenization) and the `t.` record (`TokenValueFromData`,
type comparison, `bytesToGolangValue`; detokenization) ends in a value or an error. -/
theorem decode_record_no_panic (ty : TokenType) (data : Bytes) :
    decodeAs ty data ≠ .panic ∧ decTV ty data ≠ .panic :=
  ⟨decodeAs_no_panic ty data, decTV_no_panic ty data⟩

/-- … and what a record decodes to is the stored payload itself; an integer only ever comes from a
payload of exactly 4 / 8 bytes (a longer record is refused, not cut to its first bytes). -/
theorem decode_record_exact (ty : TokenType) (d v : Bytes) (h : decodeAs ty d = .ok v) :
    v = d ∧ (ty = .int32 → d.length = 4) ∧ (ty = .int64 → d.length = 8) := decodeAs_ok ty d v h

/-- a `t.` record of another type than the requested one is refused -/
theorem decode_record_type_checked (ty rty : TokenType) (hne : rty.code ≠ ty.code) (v : Bytes) :
    decTV ty (encTV rty v) = .err := by
  have h1 : rty.code < 256 := by rw [code_eq]; cases rty <;> decide
  have h2 : ty.code < 256 := by rw [code_eq]; cases ty <;> decide
  have : UInt8.ofNat rty.code ≠ UInt8.ofNat ty.code := by
    intro e
    have := congrArg UInt8.toNat e
    simp [Nat.mod_eq_of_lt h1, Nat.mod_eq_of_lt h2] at this
    exact hne this
  simp [decTV, encTV, this]

/-- The pinned tree (no length check in `decodeInt32`): a stored value shorter than 4 bytes panics. -/
theorem legacy_short_record_counterexample (name : String) (h0 : intLenCheck name = 0) :
    decodeInt name 4 [] = .panic ∧ decodeInt name 4 [1, 2, 3] = .panic ∧ decodeInt name 4 [1, 2, 3, 4, 5] = .ok [1, 2, 3, 4] :=
  ⟨legacy_short_record_panics name h0 [] (by decide), legacy_short_record_panics name h0 [1, 2, 3] (by decide),
   legacy_long_record_truncated name h0 [1, 2, 3, 4, 5] (by decide)⟩

/-- for well-formed values `bytesToGolangValue` is the identity: strings, bytes, e-mails always,
integers when encoded on 4 / 8 bytes (which `encodeToBytes` guarantees) -/
theorem decodeAs_wellformed (ty : TokenType) (v : Bytes)
    (h : (ty = .int32 → v.length = 4) ∧ (ty = .int64 → v.length = 8)) : decodeAs ty v = .ok v :=
  decodeAs_exact ty v h

/-- **`unknown_gets_itself`.** A token that has no record in the caller's context (never issued there,
or removed), and likewise a disabled one, comes back unchanged. -/
theorem unknown_gets_itself (c : CryptoOps) (enc : Bool) (s : Store) (x : Ctx) (ty : TokenType) (tok : Bytes)
    (h : s.get (tKey c x ty tok) ≠ .found ((s (tKey c x ty tok)).map (·.data) |>.getD [])) :
    deanonResult c enc s x ty tok = .done (.ok tok) := by
  unfold deanonResult
  simp only [stepThread, Thread.start]
  cases hg : s.get (tKey c x ty tok) with
  | found d =>
    exfalso
    apply h
    have := get_found_dataAt hg
    unfold dataAt at this
    rw [hg, this]
    rfl
  | notFound | disabled => rfl

/-- all requests of a system act in contexts whose bucket is not `b` -/
def AvoidsBucket (c : CryptoOps) (b : Bytes) : SEv → Prop
  | .spawn req _ => aggCtx c req.ctx ≠ b
  | _ => True

/-- **`foreign_gets_token`.** Whatever other clients do – any schedule of any of their requests and any
maintenance – a context whose bucket they do not share never acquires a record: a token issued to
client A, presented by client B (who never tokenized anything), comes back as the token itself. -/
theorem foreign_gets_token (c : CryptoOps) (enc : Bool) (b : Ctx) (sched : List SEv)
    (hav : ∀ ev ∈ sched, AvoidsBucket c (aggCtx c b) ev) (ty : TokenType) (tok : Bytes) :
    deanonResult c enc ((⟨Store.empty, []⟩ : Sys).runSched c enc sched).store b ty tok = .done (.ok tok) := by
  -- invariant: no record in b's bucket, no thread working in b's bucket
  have key : ∀ (sched : List SEv) (σ : Sys),
      (∀ k, k.1 = aggCtx c b → σ.store k = none) → (∀ t ∈ σ.threads, aggCtx c t.req.ctx ≠ aggCtx c b) →
      (∀ ev ∈ sched, AvoidsBucket c (aggCtx c b) ev) →
      ∀ k, k.1 = aggCtx c b → (σ.runSched c enc sched).store k = none := by
    intro sched
    induction sched with
    | nil => intro σ hs _ _; exact hs
    | cons ev r ih =>
      intro σ hs hth hav
      refine ih _ ?_ ?_ fun e he => hav e (List.mem_cons_of_mem _ he)
      · intro k hk
        cases ev with
        | spawn req rnd => exact hs k hk
        | visit act => simp [Sys.step, Store.visit, hs k hk]
        | run i =>
          simp only [Sys.step]
          cases hti : σ.threads[i]? with
          | none => exact hs k hk
          | some t =>
            show (stepThread c enc σ.store t).1 k = none
            rw [stepThread_frame c enc σ.store t k (hk ▸ (hth t (List.mem_of_getElem? hti)).symm)]
            exact hs k hk
      · intro t ht
        cases ev with
        | visit act => exact hth t ht
        | spawn req rnd =>
          rcases List.mem_append.mp ht with ht | ht
          · exact hth t ht
          · rw [List.mem_singleton.mp ht]
            exact hav _ List.mem_cons_self
        | run i =>
          simp only [Sys.step] at ht
          cases hti : σ.threads[i]? with
          | none => rw [hti] at ht; exact hth t ht
          | some u =>
            rw [hti] at ht
            rcases List.mem_or_eq_of_mem_set ht with ht | ht
            · exact hth t ht
            · rw [ht, stepThread_req]; exact hth u (List.mem_of_getElem? hti)
  have hnone := key sched ⟨Store.empty, []⟩ (fun _ _ => rfl) (fun t ht => by cases ht) hav (tKey c b ty tok) rfl
  apply unknown_gets_itself
  simp [Store.get, hnone]

/-- **`data_tokenizer_range`.** `DataTokenizer.Tokenize` on an int32 column either rejects the decimal
text or works on exactly the integer written there: the text is parsed with 32 bits, so a value outside
the int32 range is an error, never a wrapped value, and what is stored decodes back to the same integer. -/
theorem data_tokenizer_range (text v : Bytes) (h : textToValue "Tokenize" .int32 text = some v) :
    ∃ i : Int, parseInt 32 text = some i ∧ -2147483648 ≤ i ∧ i < 2147483648 ∧ v = encodeIntLE 4 i ∧ decodeIntLE v = i := by
  simp only [textToValue, fact_parse_bits.1, Option.map_eq_some_iff] at h
  obtain ⟨i, hi, hv⟩ := h
  have hr := parseInt_range 32 text i hi
  have e : ((2 ^ (32 - 1) : Nat) : Int) = 2147483648 := by decide
  rw [e] at hr
  exact ⟨i, hi, hr.1, hr.2, hv.symm, by rw [← hv]; exact decode_encode_int32 i hr.1 hr.2⟩

/-- **The defect of the pinned tree (§8 #15) as a theorem about 64-bit parsing**: with `bitSize` 64 the
text `4294967297` is accepted and its int32 encoding is that of `1`. -/
theorem int32_parsed_with_64_bits_counterexample :
    (parseInt 64 (strBytes "4294967297")).map (encodeIntLE 4) = some (encodeIntLE 4 1) ∧
      parseInt 32 (strBytes "4294967297") = none := by decide +kernel

/-! ## non-vacuity -/

/-- `HashInj` is satisfiable (the transparent-box instance) and the schedule theorems are about real
runs: two consistent requests for the same value, interleaved so that both miss the `h.` record, both
save a `t.` record, one wins the `h.` record and the other retries – both return the winner's token. -/
example : HashInj boxOps := Box.hashInj

def exReq : Req := ⟨.anon true, ⟨[1], []⟩, .str, [120, 121]⟩
def exSched : List SEv :=
  [.spawn exReq (fun _ _ => 0), .spawn exReq (fun _ i => i + 1), .run 0, .run 1, .run 0, .run 1, .run 0, .run 1, .run 1]

example : (((⟨Store.empty, []⟩ : Sys).runSched boxOps false exSched).threads.map (·.pc)) =
    [.done (.ok [97, 97]), .done (.ok [97, 97])] := by decide +kernel

example : Inv boxOps ((⟨Store.empty, []⟩ : Sys).runSched boxOps false exSched) :=
  store_inv boxOps Box.hashInj false exSched (by intro ev h; cases ev <;> first | trivial | (simp [exSched] at h))

end AcraModel.Props.C10
