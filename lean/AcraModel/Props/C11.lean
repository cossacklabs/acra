import AcraModel.Envelope.Masking
import AcraModel.Envelope.MaskLemmas
import AcraModel.Envelope.MaskSession
import AcraModel.Envelope.MaskHeaderLemmas
import AcraModel.Envelope.MaskWindowLemmas
import AcraModel.Envelope.MaskExamples
import AcraModel.Generated.MaskFlow
import AcraModel.Props.C01
/-!
# C11 — masked columns show only the allowed window to clients that cannot decrypt

Model: `AcraModel/Envelope/Masking.lean` (on top of the detector model); lemmas in `Envelope/Mask*.lean`, `Envelope/WindowOk.lean`.
-/
namespace AcraModel.Props.C11
open AcraModel AcraModel.Envelope AcraModel.Props.C01

/-- **Values not longer than the window are protected in full**: when the configured clear window
would cover the whole value, the whole value goes through `protect` – nothing stays in clear. -/
theorem mask_short_full (c : CryptoOps) (kv : KeyView) (cfg : MaskCfg) (d rnd : Bytes)
    (hp : cfg.pattern ≠ []) (hk : d.length ≤ cfg.k) :
    maskWrite c kv cfg d rnd = protect c kv cfg.kind d rnd := by
  unfold maskWrite
  rw [if_neg hp, if_pos hk]

/-- Without a masking pattern the column is not masked: the value is stored as given. -/
theorem mask_no_pattern (c : CryptoOps) (kv : KeyView) (cfg : MaskCfg) (d rnd : Bytes)
    (hp : cfg.pattern = []) : maskWrite c kv cfg d rnd = .ok d := by
  unfold maskWrite
  rw [if_pos hp]

/-- **Stored form, left window**: the first `k` bytes in clear, followed by exactly the protected
form of the remaining bytes (and symmetrically for the right window). -/
theorem mask_write_left (c : CryptoOps) (kv : KeyView) (cfg : MaskCfg) (d rnd e : Bytes)
    (hp : cfg.pattern ≠ []) (hk : cfg.k < d.length) (hl : cfg.left = true)
    (he : protect c kv cfg.kind (d.drop cfg.k) rnd = .ok e) :
    maskWrite c kv cfg d rnd = .ok (d.take cfg.k ++ e) := by
  unfold maskWrite
  rw [if_neg hp, if_neg (by omega), if_pos hl, he]
  rfl

theorem mask_write_right (c : CryptoOps) (kv : KeyView) (cfg : MaskCfg) (d rnd e : Bytes)
    (hp : cfg.pattern ≠ []) (hk : cfg.k < d.length) (hl : cfg.left = false)
    (he : protect c kv cfg.kind (d.take (d.length - cfg.k)) rnd = .ok e) :
    maskWrite c kv cfg d rnd = .ok (e ++ d.drop (d.length - cfg.k)) := by
  unfold maskWrite
  rw [if_neg hp, if_neg (by omega), if_neg (by simp [hl]), he]
  rfl

/-! ## the parts of a masked value

`hiddenPart cfg v` / `windowPart cfg v` (in `Envelope/MaskParts.lean`) are the part of `v` that is
stored protected and the part that stays in clear: for a value longer than the window `cfg.k` the
window is the first (`left`) resp. last `cfg.k` bytes and the hidden part is the rest; for a value not
longer than the window everything is hidden and the window is empty. `joinSides cfg w x` puts `x` in
the place of the hidden part: `w ++ x` for the left window, `x ++ w` for the right one.
`afterContainer cfg w` are the bytes that follow the container in the stored value (`[]` resp. `w`):
they matter because `ExtractSerializedContainer` hands the callbacks the whole rest of the buffer. -/

/-- A clear window is *clean* when it contains neither the container tag byte `%` (0x25) nor the
AcraStruct/AcraBlock tag byte `"` (0x22). The stored form of a masked value is `window | container`
or `container | window` in ONE column value, and the reader finds the container by scanning for tag
bytes (in-band signalling). A window that contains tag material can therefore be mis-recognised:
e.g. a window that starts with `%%%`, a length and an envelope id is itself taken for a container,
fails to decrypt, and is replaced – together with as many following bytes as it declares – by the
masking pattern, for the owner too. This is inherent in the format, not a defect of the scan; the
theorems below are about clean windows. (Only the `%` half is actually used by the proofs: once the
real container has been recognised the "envelope seen" flag is set and the legacy scans for bare
AcraStructs/AcraBlocks – the only place where `"` matters – do not run; `maskWindowOk` below is what the scan really
needs of the window.) -/
def cleanWindow (w : Bytes) : Prop := ∀ x ∈ w, x ≠ 37 ∧ x ≠ 34

instance (w : Bytes) : Decidable (cleanWindow w) := inferInstanceAs (Decidable (∀ x ∈ w, x ≠ 37 ∧ x ≠ 34))

theorem cleanWindow_noPct {w : Bytes} (h : cleanWindow w) : ∀ x ∈ w, x ≠ 37 := fun x hx => (h x hx).1

/-- window and hidden part are a partition of the value -/
theorem mask_parts (cfg : MaskCfg) (v : Bytes) : joinSides cfg (windowPart cfg v) (hiddenPart cfg v) = v ∧
    (windowPart cfg v).length ≤ cfg.k ∧
    (cfg.k < v.length → windowPart cfg v = (if cfg.left then v.take cfg.k else v.drop (v.length - cfg.k)) ∧
      (windowPart cfg v).length = cfg.k) ∧
    (v.length ≤ cfg.k → windowPart cfg v = [] ∧ hiddenPart cfg v = v) := by
  refine ⟨joinSides_parts cfg v, windowPart_length_le cfg v, ?_, fun h => ⟨windowPart_short cfg v h, hiddenPart_short cfg v h⟩⟩
  intro hk
  unfold windowPart
  rw [if_neg (by omega)]
  refine ⟨rfl, ?_⟩
  split
  · rw [List.length_take]; omega
  · rw [List.length_drop]; omega

/-- **Stored form**: on a masked column a successful write stores the clear window joined with exactly
what `protect` made of the hidden part, on the configured side (this subsumes `mask_write_left`,
`mask_write_right` and `mask_short_full`). -/
theorem mask_write_form (c : CryptoOps) (kv : KeyView) (cfg : MaskCfg) (v rnd stored : Bytes)
    (hpat : cfg.pattern ≠ []) (hw : maskWrite c kv cfg v rnd = .ok stored) :
    ∃ p, protect c kv cfg.kind (hiddenPart cfg v) rnd = .ok p ∧ stored = joinSides cfg (windowPart cfg v) p :=
  maskWrite_ok hpat hw

/-! ## the owning client receives the complete original value -/

/-- **The owner reads the original value** – both window sides, both envelope kinds, values longer
or not longer than the window. `v` is written by a client with key view `kvW` to a masked column
(`cfg.pattern ≠ []`) and read by a client with key view `kvR` through the SQL proxy's column
processor (`maskRead`: compatibility wrapper first, then the decrypt handler over the masking
processor). Hypotheses: the clear window is clean; the hidden part does not already look like a
protected value (`protect` would pass it through unchanged and it would be stored in clear); the
round-trip hypotheses of C01 for the hidden part hold for what `protect` returned – i.e. the
reader's key list contains the writer's key, possibly after rotations, and earlier keys do not
accidentally open the value; and the hidden plaintext is not literally equal to the container followed
by the rest of the stored value (the masking processor treats "decrypted to itself" as "not
decrypted"; under `SealLen` the container is at least 150 bytes longer than the plaintext, for the
AcraStruct kind the round-trip hypotheses include `SealLen`). Then the reader receives exactly `v`. -/
theorem mask_owner (c : CryptoOps) (kvW kvR : KeyView) (cfg : MaskCfg) (v rnd stored : Bytes)
    (hpat : cfg.pattern ≠ [])
    (hclean : cleanWindow (windowPart cfg v))
    (hnm : matchKind cfg.kind (hiddenPart cfg v) = false) (hnr : registryMatch (hiddenPart cfg v) = false)
    (hrt : ∀ p, protect c kvW cfg.kind (hiddenPart cfg v) rnd = .ok p →
      RoundTripHyps c cfg.kind kvW kvR (hiddenPart cfg v) rnd p ∧
      hiddenPart cfg v ≠ p ++ afterContainer cfg (windowPart cfg v))
    (hw : maskWrite c kvW cfg v rnd = .ok stored) :
    maskRead c kvR cfg stored = .ok v true := by
  obtain ⟨p, hp, rfl⟩ := maskWrite_ok hpat hw
  obtain ⟨h, hne⟩ := hrt p hp
  obtain ⟨e, rfl, he, hlen, hproc⟩ := protect_roundtrip_facts c cfg.kind kvW kvR _ rnd p h hnm hnr hp
  rw [maskRead_owner_win c kvR cfg _ e _ hpat (maskWindowOk_of_noPct cfg _ _ (cleanWindow_noPct hclean)) he hlen (hproc _) hne,
    joinSides_parts]

/-! ## everybody else receives the window and the pattern, nothing more -/

/-- **A reader who cannot decrypt receives exactly the clear window joined with the masking pattern in
place of the protected part** – no byte of the container (ciphertext, wrapped keys, header) and no
hidden plaintext byte. `NonOwnerHyps` (in `Envelope/MaskParts.lean`): the hidden part does not
already look protected; `protect` produced the container `p`; the reader's `RegistryHandler.Process`
does not succeed on `p` followed by the rest of the stored value (no keys, or keys that fail); the
pattern is not literally that container (automatic for patterns of at most 12 bytes). No crypto law is
needed. For a value not longer than the window the window is empty and the reader sees the pattern
alone (`mask_short_other`). -/
theorem mask_other (c : CryptoOps) (kvW kvR : KeyView) (cfg : MaskCfg) (v rnd p stored : Bytes)
    (hpat : cfg.pattern ≠ [])
    (hclean : cleanWindow (windowPart cfg v))
    (h : NonOwnerHyps c kvW kvR cfg v rnd p)
    (hw : maskWrite c kvW cfg v rnd = .ok stored) :
    maskRead c kvR cfg stored = .ok (joinSides cfg (windowPart cfg v) cfg.pattern) true :=
  maskRead_nonOwner_win c kvW kvR cfg v rnd p stored hpat (maskWindowOk_of_noPct cfg _ p (cleanWindow_noPct hclean)) h hw

/-- A reader whose key store holds no keys at all is a non-owner, whatever the crypto back end: it
receives window and pattern (no assumption about the cryptography is needed for confidentiality
towards a key-less reader – the bytes it gets do not depend on the container). -/
theorem mask_other_no_keys (c : CryptoOps) (kvW kvR : KeyView) (cfg : MaskCfg) (v rnd p stored : Bytes)
    (hpat : cfg.pattern ≠ []) (hclean : cleanWindow (windowPart cfg v))
    (hnm : matchKind cfg.kind (hiddenPart cfg v) = false) (hnr : registryMatch (hiddenPart cfg v) = false)
    (hp : protect c kvW cfg.kind (hiddenPart cfg v) rnd = .ok p) (hplen : p.length < 2^63)
    (hpc : cfg.pattern.length ≤ 12 ∨ cfg.pattern ≠ p ++ afterContainer cfg (windowPart cfg v))
    (hR : kvR.privs = none ∧ kvR.syms = none)
    (hw : maskWrite c kvW cfg v rnd = .ok stored) :
    maskRead c kvR cfg stored = .ok (joinSides cfg (windowPart cfg v) cfg.pattern) true :=
  mask_other c kvW kvR cfg v rnd p stored hpat hclean
    (nonOwner_of_no_keys c kvW kvR cfg v rnd p hnm hnr hp hplen hpc hR) hw

/-- Under key commitment (`SealLaws` + `SealCommit`; deliberately no length law, see `Crypto/Ops.lean`)
a reader who has symmetric keys, but not the writer's, is a non-owner of an AcraBlock-masked value:
"other keys fail" is a theorem here, not a hypothesis. -/
theorem mask_other_commit (c : CryptoOps) (hs : SealLaws c) (hcm : SealCommit c) (kvW kvR : KeyView) (cfg : MaskCfg)
    (v rnd p stored key : Bytes) (hkind : cfg.kind = .block)
    (hpat : cfg.pattern ≠ []) (hclean : cleanWindow (windowPart cfg v))
    (hW : kvW.sym = some key) (hkid : (keyId c key []).length = 2)
    (hEncKey : ∀ encKey, c.enc key [] (rnd.take 32) ((rnd.drop 44).take 12) = some encKey → encKey.length < 65536)
    (hnm : matchKind cfg.kind (hiddenPart cfg v) = false) (hnr : registryMatch (hiddenPart cfg v) = false)
    (hp : protect c kvW cfg.kind (hiddenPart cfg v) rnd = .ok p) (hplen : p.length < 2^63)
    (hpc : cfg.pattern.length ≤ 12 ∨ cfg.pattern ≠ p ++ afterContainer cfg (windowPart cfg v))
    (hdisj : ∀ ks, kvR.syms = some ks → key ∉ ks)
    (hw : maskWrite c kvW cfg v rnd = .ok stored) :
    maskRead c kvR cfg stored = .ok (joinSides cfg (windowPart cfg v) cfg.pattern) true :=
  mask_other c kvW kvR cfg v rnd p stored hpat hclean
    (nonOwner_of_commit c hs hcm kvW kvR cfg v rnd p key hkind hW hkid hEncKey hnm hnr hp hplen hpc hdisj) hw

/-- Left window, value longer than the window: the non-owner receives the first `k` bytes followed by
the pattern. -/
theorem mask_other_left (c : CryptoOps) (kvW kvR : KeyView) (cfg : MaskCfg) (v rnd p stored : Bytes)
    (hpat : cfg.pattern ≠ []) (hk : cfg.k < v.length) (hl : cfg.left = true)
    (hclean : cleanWindow (v.take cfg.k))
    (h : NonOwnerHyps c kvW kvR cfg v rnd p)
    (hw : maskWrite c kvW cfg v rnd = .ok stored) :
    maskRead c kvR cfg stored = .ok (v.take cfg.k ++ cfg.pattern) true := by
  have hwp : windowPart cfg v = v.take cfg.k := by
    unfold windowPart; rw [if_neg (by omega), if_pos hl]
  have := mask_other c kvW kvR cfg v rnd p stored hpat (by rw [hwp]; exact hclean) h hw
  rw [this, hwp]
  unfold joinSides
  rw [if_pos hl]

/-- Right window, value longer than the window: the non-owner receives the pattern followed by the
last `k` bytes. -/
theorem mask_other_right (c : CryptoOps) (kvW kvR : KeyView) (cfg : MaskCfg) (v rnd p stored : Bytes)
    (hpat : cfg.pattern ≠ []) (hk : cfg.k < v.length) (hl : cfg.left = false)
    (hclean : cleanWindow (v.drop (v.length - cfg.k)))
    (h : NonOwnerHyps c kvW kvR cfg v rnd p)
    (hw : maskWrite c kvW cfg v rnd = .ok stored) :
    maskRead c kvR cfg stored = .ok (cfg.pattern ++ v.drop (v.length - cfg.k)) true := by
  have hwp : windowPart cfg v = v.drop (v.length - cfg.k) := by
    unfold windowPart; rw [if_neg (by omega), if_neg (by simp [hl])]
  have := mask_other c kvW kvR cfg v rnd p stored hpat (by rw [hwp]; exact hclean) h hw
  rw [this, hwp]
  unfold joinSides
  rw [if_neg (by simp [hl])]

/-! ## non-interference -/

/-- **What a non-owner sees is a function of (window, pattern) only.** Two values with the same clear
window stored in the same masked column – by any writers, with arbitrary different hidden parts and
arbitrary randomness, hence with completely different containers – are indistinguishable for a
reader who can open neither: `maskRead` returns the same result for both. This is the formal content
of "never any byte of the ciphertext and never a hidden plaintext byte". -/
theorem mask_noninterference (c : CryptoOps) (kvR : KeyView) (cfg : MaskCfg)
    (kvW₁ kvW₂ : KeyView) (v₁ v₂ rnd₁ rnd₂ p₁ p₂ stored₁ stored₂ : Bytes)
    (hpat : cfg.pattern ≠ [])
    (hwin : windowPart cfg v₁ = windowPart cfg v₂) (hclean : cleanWindow (windowPart cfg v₁))
    (h₁ : NonOwnerHyps c kvW₁ kvR cfg v₁ rnd₁ p₁) (hw₁ : maskWrite c kvW₁ cfg v₁ rnd₁ = .ok stored₁)
    (h₂ : NonOwnerHyps c kvW₂ kvR cfg v₂ rnd₂ p₂) (hw₂ : maskWrite c kvW₂ cfg v₂ rnd₂ = .ok stored₂) :
    maskRead c kvR cfg stored₁ = maskRead c kvR cfg stored₂ := by
  rw [mask_other c kvW₁ kvR cfg v₁ rnd₁ p₁ stored₁ hpat hclean h₁ hw₁,
    mask_other c kvW₂ kvR cfg v₂ rnd₂ p₂ stored₂ hpat (by rw [← hwin]; exact hclean) h₂ hw₂, hwin]

/-! ## values not longer than the window -/

/-- **A value not longer than the window is hidden completely**: a non-owner receives exactly the
masking pattern (see `mask_short_full` for the write side: the whole value goes through `protect`). -/
theorem mask_short_other (c : CryptoOps) (kvW kvR : KeyView) (cfg : MaskCfg) (v rnd p stored : Bytes)
    (hpat : cfg.pattern ≠ []) (hk : v.length ≤ cfg.k)
    (h : NonOwnerHyps c kvW kvR cfg v rnd p)
    (hw : maskWrite c kvW cfg v rnd = .ok stored) :
    maskRead c kvR cfg stored = .ok cfg.pattern true := by
  have hwp := windowPart_short cfg v hk
  have := mask_other c kvW kvR cfg v rnd p stored hpat (by rw [hwp]; intro x hx; cases hx) h hw
  rw [this, hwp]
  unfold joinSides
  split <;> simp

/-! ## termination, no panic -/

/-- **Reading a masked column never panics** (and terminates: `maskRead` is a total function built
from the well-founded scans of `Detector.lean`), for every crypto back end, key-store answer,
masking setting and stored value (shorter than `2^63` bytes – every Go slice is, see C03). -/
theorem maskRead_no_panic :
    ∀ (c : CryptoOps) (kv : KeyView) (cfg : MaskCfg) (d : Bytes), d.length < 2^63 → maskRead c kv cfg d ≠ .panic :=
  maskRead_ne_panic

/-- the name used in the property list -/
theorem mask_terminates :
    ∀ (c : CryptoOps) (kv : KeyView) (cfg : MaskCfg) (d : Bytes), d.length < 2^63 → maskRead c kv cfg d ≠ .panic :=
  maskRead_ne_panic

/-- **Writing to a masked column never panics**, whatever the value (including values that look like
envelopes already) and the random stream. -/
theorem maskWrite_no_panic :
    ∀ (c : CryptoOps) (kv : KeyView) (cfg : MaskCfg) (d rnd : Bytes), maskWrite c kv cfg d rnd ≠ .panic :=
  maskWrite_ne_panic

/-- Reading a masked column never fails the query either: neither the decrypt handler nor the masking
processor ever returns an error to the column scan. -/
theorem maskRead_never_fatal :
    ∀ (c : CryptoOps) (kv : KeyView) (cfg : MaskCfg) (d : Bytes), maskRead c kv cfg d ≠ .fatal :=
  maskRead_ne_fatal

/-! ## several masked columns in one client session

`proxyFactory.New` creates ONE `masking.Processor` (inside ONE `DecryptHandler`, registered with ONE
`EnvelopeDetector` behind ONE `OldContainerDetectorWrapper`) per client session; every column of every
row the session reads goes through these objects, each with the setting of its own column.
`Envelope/MaskSession.lean` models the objects with their mutable fields as explicit state. -/

/-- What the model of the session objects needs from the source of `masking.Processor`
(`Generated/MaskFlow.lean`, regenerated from `masking/dataProcessor.go` on every run): the struct has
exactly one field, the decryptor handed to `NewProcessor`; no method assigns (or takes the address of)
a receiver field; `Process` reads the column setting from the context of the call it serves and, in
the branch of a masked column, returns either the pattern of THAT setting – when the decryptor failed
or changed nothing – or the decryptor's output. A pattern kept in the processor between calls (a new
field, a receiver write, a return of anything else) changes one of these facts. -/
theorem fact_masking_processor_stateless :
    Generated.MaskFlow.processorFields = [("decryptor", "base.ExtendedDataProcessor")] ∧
    Generated.MaskFlow.processorReceiverWrites = [] ∧
    Generated.MaskFlow.processSettingSource = "encryptor.EncryptionSettingFromContext(context.Context)" ∧
    Generated.MaskFlow.processMaskedCond = "ok && setting.GetMaskingPattern() != \"\"" ∧
    Generated.MaskFlow.processPatternCond = "err != nil || bytes.Equal(newData, data)" ∧
    Generated.MaskFlow.processMaskedReturns = ["[]byte(setting.GetMaskingPattern())", "newData"] :=
  ⟨rfl, rfl, rfl, rfl, rfl, rfl⟩

/-- **What a masked column shows depends on that column alone.** For every session state the previous
columns may have left, every sequence of (setting, stored value) pairs – different patterns, sides,
window lengths, envelope kinds – and every reader: the `i`-th result of the session is exactly
`maskRead` of the `i`-th pair on its own, and it is the same from any starting state. In particular the
pattern a non-owner sees in column `i` is the pattern configured for column `i`, never one carried over
from an earlier cell. -/
theorem mask_columns_independent (c : CryptoOps) (kv : KeyView) (s : MaskSession) (cols : List (MaskCfg × Bytes)) :
    (maskSessionColumns c kv s cols).2 = cols.map (fun x => maskRead c kv x.1 x.2) ∧
    (∀ s', (maskSessionColumns c kv s' cols).2 = (maskSessionColumns c kv s cols).2) ∧
    (∀ i (h : i < cols.length), (maskSessionColumns c kv s cols).2[i]? = some (maskRead c kv cols[i].1 cols[i].2)) := by
  refine ⟨maskSessionColumns_out c kv s cols, fun s' => ?_, fun i h => ?_⟩
  · rw [maskSessionColumns_out, maskSessionColumns_out]
  · rw [maskSessionColumns_out, List.getElem?_map, List.getElem?_eq_getElem h]
    rfl

/-- **A non-owner's view of a whole session**: if every column of the session was written to a masked
column (`maskWrite` succeeded under that column's setting), has a clean clear window and cannot be
opened by the reader (`NonOwnerHyps`, per column), the session hands the reader, column by column, that
column's window joined with THAT column's pattern – nothing else. -/
theorem mask_session_other (c : CryptoOps) (kvR : KeyView) (s : MaskSession)
    (cols : List (MaskCfg × Bytes)) (src : List (KeyView × Bytes × Bytes × Bytes))
    (hlen : src.length = cols.length)
    (h : ∀ i (hi : i < cols.length),
      let cfg := cols[i].1
      let (kvW, v, rnd, p) := src[i]'(by omega)
      cfg.pattern ≠ [] ∧ cleanWindow (windowPart cfg v) ∧ NonOwnerHyps c kvW kvR cfg v rnd p ∧
        maskWrite c kvW cfg v rnd = .ok cols[i].2) :
    ∀ i (hi : i < cols.length),
      (maskSessionColumns c kvR s cols).2[i]? =
        some (.ok (joinSides cols[i].1 (windowPart cols[i].1 (src[i]'(by omega)).2.1) cols[i].1.pattern) true) := by
  intro i hi
  rw [(mask_columns_independent c kvR s cols).2.2 i hi]
  have hh := h i hi
  generalize hsrc : src[i]'(by omega) = q at hh
  obtain ⟨kvW, v, rnd, p⟩ := q
  obtain ⟨hpat, hclean, hno, hw⟩ := hh
  rw [mask_other c kvW kvR cols[i].1 v rnd p cols[i].2 hpat hclean hno hw]

/-! ## hidden parts that look like a protected value only at their first bytes

`protect` passes a value through unchanged when `RegistryHandler.MatchDataSignature` (or the chosen
handler's own test) recognises it as already protected; every theorem above therefore assumes
`matchKind … (hiddenPart …) = false` and `registryMatch (hiddenPart …) = false`. These two predicates
are the model of the REAL tests – full deserialization of the container and the envelope handler's
validation of the payload – not a test of the header. The theorems below make that explicit: a hidden
part that merely begins with a container header satisfies both hypotheses, so it is encrypted like any
other value and everything above applies to it. -/

/-- What the model's `registryMatch` needs from the source of `RegistryHandler.MatchDataSignature`
(`Generated/MaskFlow.lean`, from `crypto/registry_handler.go`): it deserializes the value, looks the
envelope handler up and returns what that handler says about the deserialized payload; both failures
answer `false`. A version that only inspects the header changes this fact. -/
theorem fact_registry_match_deserializes :
    Generated.MaskFlow.registryMatchCalls =
      ["DeserializeEncryptedData(data)", "GetHandlerByEnvelopeID(envelopeID)", "handler.MatchDataSignature(internal)"] ∧
    Generated.MaskFlow.registryMatchReturns = ["false", "false", "handler.MatchDataSignature(internal)"] :=
  ⟨rfl, rfl⟩

/-- **A container header in front of bytes that are no envelope is not a protected value.** Let the
hidden part be `%%%`, any 8 length bytes `L`, a registered envelope id, and at least one more byte
`junk`. `MatchDataSignature` answers exactly what the envelope handler says about the first
`declaredInternal L` bytes of `junk` (and `false` when `junk` is shorter than declared); so unless
those bytes really are an AcraStruct/AcraBlock, neither `registryMatch` nor any handler's `matchKind`
holds. Fewer than 18 bytes after the header never match, whatever length is declared. -/
theorem lookalike_header_not_protected (L junk : Bytes) (id : UInt8) (k : Kind) (hL : L.length = 8)
    (hk : kindOfId id = some k) (hj : junk ≠ []) :
    registryMatch (containerTag ++ L ++ [id] ++ junk) =
      (decide (declaredInternal L ≤ junk.length) && matchKind k (junk.take (declaredInternal L))) ∧
    (∀ k', matchKind k' (containerTag ++ L ++ [id] ++ junk) = false) ∧
    (junk.length < 18 → registryMatch (containerTag ++ L ++ [id] ++ junk) = false) := by
  refine ⟨registryMatch_header L junk id k hL hk hj, fun k' => ?_, registryMatch_header_short L junk id k hL hk hj⟩
  obtain ⟨r, hr⟩ := containerTag_cons
  rw [hr]
  exact matchKind_pct k' _

/-- **The stored form never contains the hidden plaintext in clear** (structural form, see DESIGN §4.3):
whenever the hidden part is not a protected value in the sense of the real match predicate, a
successful write to a masked column stores the clear window joined with a serialized container whose
envelope `e` was freshly built around the hidden part – the ONLY way the hidden bytes enter `e` is as
the message of the AEAD `c.enc` under the fresh data key drawn from `rnd` (`SealedIn`). This covers
hidden parts that begin with a look-alike container header (`lookalike_header_not_protected`). -/
theorem mask_hidden_sealed (c : CryptoOps) (kv : KeyView) (cfg : MaskCfg) (v rnd stored : Bytes)
    (hpat : cfg.pattern ≠ [])
    (hnm : matchKind cfg.kind (hiddenPart cfg v) = false) (hnr : registryMatch (hiddenPart cfg v) = false)
    (hw : maskWrite c kv cfg v rnd = .ok stored) :
    ∃ e, e ≠ [] ∧ stored = joinSides cfg (windowPart cfg v) (serBytes e cfg.kind.id) ∧
      SealedIn c kv cfg.kind (hiddenPart cfg v) rnd e := by
  obtain ⟨p, hp, rfl⟩ := maskWrite_ok hpat hw
  obtain ⟨e, hne, rfl, hs⟩ := protect_sealedIn hp hnm hnr
  exact ⟨e, hne, rfl, hs⟩

/-- the same for the look-alike header class spelled out: value = window + (`%%%` | L | id | junk) with
junk that is no envelope of the named kind – the masked write seals the whole hidden part -/
theorem mask_lookalike_header_sealed (c : CryptoOps) (kv : KeyView) (cfg : MaskCfg) (v rnd stored L junk : Bytes)
    (id : UInt8) (k : Kind) (hpat : cfg.pattern ≠ [])
    (hhid : hiddenPart cfg v = containerTag ++ L ++ [id] ++ junk)
    (hL : L.length = 8) (hk : kindOfId id = some k) (hj : junk ≠ [])
    (hno : junk.length < declaredInternal L ∨ matchKind k (junk.take (declaredInternal L)) = false)
    (hw : maskWrite c kv cfg v rnd = .ok stored) :
    ∃ e, e ≠ [] ∧ stored = joinSides cfg (windowPart cfg v) (serBytes e cfg.kind.id) ∧
      SealedIn c kv cfg.kind (hiddenPart cfg v) rnd e := by
  obtain ⟨h1, h2⟩ := header_lookalike_not_protected L junk id k cfg.kind hL hk hj hno
  exact mask_hidden_sealed c kv cfg v rnd stored hpat (by rw [hhid]; exact h1) (by rw [hhid]; exact h2) hw

/-! ## clear windows that contain `%`

`cleanWindow` (no `%` in the window) is much more than the read theorems need. What they need is that
the column scan passes over every position of the window: `maskWindowOk cfg w p` (in
`Envelope/MaskWindowLemmas.lean`) says that at no position inside the window – read together with the
bytes that follow it in the stored value, the real container's header included – does
`ExtractSerializedContainer` succeed. It is stated with the model's own decode attempt, it is
executable (the harness asks the model for it, op `C11.windowok`, and judges exactly the windows that
satisfy it), and the read theorems hold under it (the `*_window` theorems below). -/

/-- `cleanWindow` is the stronger condition -/
theorem window_ok_of_clean (cfg : MaskCfg) (w p : Bytes) (h : cleanWindow w) : maskWindowOk cfg w p = true :=
  maskWindowOk_of_noPct cfg w p (cleanWindow_noPct h)

/-- **Non-owner, any window the scan passes over**: `mask_other` with `cleanWindow` replaced by the
condition actually needed. The window may contain `%`, `%%`, even `%%%` – as long as no position in it
decodes as a container start when read in front of the real container (left window) resp. on its own
(right window).

This is a PARTIAL statement. The full statement of the property – for ALL clear windows, "values
containing the pattern or envelope tags" included, the reader receives window and pattern and "never any
byte of the ciphertext" – is FALSE on the pinned tree: see `mask_other_window_counterexample` below (a
false container header inside the window makes the scan step over the real container's header and
hand the rest of the container to the reader). The hypothesis `maskWindowOk` is exactly the negation of
the input class of the known finding `window-false-header-shows-container-bytes`. -/
theorem mask_other_window (c : CryptoOps) (kvW kvR : KeyView) (cfg : MaskCfg) (v rnd p stored : Bytes)
    (hpat : cfg.pattern ≠ [])
    (hwin : maskWindowOk cfg (windowPart cfg v) p = true)
    (h : NonOwnerHyps c kvW kvR cfg v rnd p)
    (hw : maskWrite c kvW cfg v rnd = .ok stored) :
    maskRead c kvR cfg stored = .ok (joinSides cfg (windowPart cfg v) cfg.pattern) true :=
  maskRead_nonOwner_win c kvW kvR cfg v rnd p stored hpat hwin h hw

/-- **Counterexample to the full statement (known finding `window-false-header-shows-container-bytes`).**
Masked column, left window of 15 bytes, pattern `*`, AcraBlock kind (transparent-box instance; the reader
has NO keys, so no property of the cryptography is involved). The value is
`%%%%` `12 00 00 00 00 00 00 00` `f0` `%%` `%rcd`: its clear window `%%%% 12 00…00 f0 %%` holds, from its
second byte on, a well-formed container header declaring 18 bytes. The write is correct (`NonOwnerHyps`
holds: the hidden part `%rcd` is sealed into the container `p`). On read the false header is taken for a
container, replaced by the pattern, and the scan advances by the declared 18 bytes – past the first 4
bytes of the real container `p`. What the key-less reader receives is `%` `*` followed by **`p` without its
first four bytes** (envelope id, the whole AcraBlock with wrapped key and ciphertext) – not window and
pattern, and it contains container bytes. `maskWindowOk` is false for this window, as it must be. -/
theorem mask_other_window_counterexample :
    let cfg : MaskCfg := ⟨[42], 15, true, .block⟩
    let v : Bytes := [37,37,37,37,18,0,0,0,0,0,0,0,240,37,37,37,114,99,100]
    let kvW : KeyView := ⟨none, none, some [1,2,3], none⟩
    let kvN : KeyView := ⟨none, none, none, none⟩
    ∃ stored p, maskWrite boxOps kvW cfg v (List.replicate 56 5) = .ok stored ∧
      stored = windowPart cfg v ++ p ∧ NonOwnerHyps boxOps kvW kvN cfg v (List.replicate 56 5) p ∧
      maskWindowOk cfg (windowPart cfg v) p = false ∧
      maskRead boxOps kvN cfg stored = .ok ([37] ++ cfg.pattern ++ p.drop 4) true ∧
      maskRead boxOps kvN cfg stored ≠ .ok (joinSides cfg (windowPart cfg v) cfg.pattern) true ∧
      150 < (p.drop 4).length := by
  intro cfg v kvW kvN
  -- `p`: what `protect` makes of the hidden part `%rcd`; `hdr`: the false header, the window without its
  -- first byte. One evaluation of `protect` serves every fact about `p`.
  have ev :
      let p := match protect boxOps kvW .block (hiddenPart cfg v) (List.replicate 56 5) with | .ok b => b | _ => []
      let hdr : Bytes := [37,37,37,18,0,0,0,0,0,0,0,240,37,37]
      protect boxOps kvW .block (hiddenPart cfg v) (List.replicate 56 5) = .ok p ∧
      matchKind .block (hiddenPart cfg v) = false ∧ registryMatch (hiddenPart cfg v) = false ∧
      windowPart cfg v = [37] ++ hdr ∧ maskWindowOk cfg (windowPart cfg v) p = false ∧
      windowOk [37] (hdr ++ p.take 4 ++ p.drop 4) = true ∧
      startsWith containerTag (hdr ++ p.take 4 ++ p.drop 4) = true ∧
      extractContainer (hdr ++ p.take 4 ++ p.drop 4) = .ok (((hdr ++ p.take 4).length : Int), hdr ++ p.take 4 ++ p.drop 4) ∧
      allSuffixes skipHere (p.drop 4) = true ∧ 150 < (p.drop 4).length ∧ p.length < 2^63 := by decide +kernel
  obtain ⟨hp, hnm, hnr, hw, hbad, hpre, htag, hx, hsuf, h150, hplen⟩ := ev
  generalize (match protect boxOps kvW .block (hiddenPart cfg v) (List.replicate 56 5) with | .ok b => b | _ => []) = p at *
  have hst : maskWrite boxOps kvW cfg v (List.replicate 56 5) = .ok (windowPart cfg v ++ p) := by
    rw [maskWrite_eq _ _ _ _ _ (by decide), hp]; rfl
  have hread := maskRead_false_header boxOps kvN cfg [37] _ (p.drop 4) (by decide) hpre (List.cons_ne_nil _ _) htag hx
    (fun m => process_no_keys boxOps kvN rfl rfl _ m) (by show [42] ≠ _; simp) (windowOk_of_allSuffixes hsuf) (by simp)
  rw [List.append_assoc, List.append_assoc, List.take_append_drop, ← List.append_assoc, ← hw] at hread
  refine ⟨_, p, hst, rfl, ⟨hnm, hnr, hp, hplen, fun m => process_no_keys boxOps kvN rfl rfl _ m, Or.inl (by decide)⟩,
    hbad, hread, ?_, h150⟩
  rw [hread]
  intro h
  have hl := congrArg (fun o => match o with | ScanOut.ok b _ => b.length | _ => 0) h
  have : (joinSides cfg (windowPart cfg v) cfg.pattern).length = 16 := rfl
  simp only [List.length_append, this] at hl
  omega
/-- **Owner, any window the scan passes over**: `mask_owner` under the weaker window condition. -/
theorem mask_owner_window (c : CryptoOps) (kvW kvR : KeyView) (cfg : MaskCfg) (v rnd stored : Bytes)
    (hpat : cfg.pattern ≠ [])
    (hnm : matchKind cfg.kind (hiddenPart cfg v) = false) (hnr : registryMatch (hiddenPart cfg v) = false)
    (hrt : ∀ p, protect c kvW cfg.kind (hiddenPart cfg v) rnd = .ok p →
      maskWindowOk cfg (windowPart cfg v) p = true ∧
      RoundTripHyps c cfg.kind kvW kvR (hiddenPart cfg v) rnd p ∧
      hiddenPart cfg v ≠ p ++ afterContainer cfg (windowPart cfg v))
    (hw : maskWrite c kvW cfg v rnd = .ok stored) :
    maskRead c kvR cfg stored = .ok v true := by
  obtain ⟨p, hp, rfl⟩ := maskWrite_ok hpat hw
  obtain ⟨hwin, h, hne⟩ := hrt p hp
  obtain ⟨e, rfl, he, hlen, hproc⟩ := protect_roundtrip_facts c cfg.kind kvW kvR _ rnd p h hnm hnr hp
  rw [maskRead_owner_win c kvR cfg _ e _ hpat hwin he hlen (hproc _) hne, joinSides_parts]

/-- non-interference under the weaker window condition: two values with the same window are
indistinguishable for a reader who can open neither -/
theorem mask_noninterference_window (c : CryptoOps) (kvR : KeyView) (cfg : MaskCfg)
    (kvW₁ kvW₂ : KeyView) (v₁ v₂ rnd₁ rnd₂ p₁ p₂ stored₁ stored₂ : Bytes)
    (hpat : cfg.pattern ≠ [])
    (hwin : windowPart cfg v₁ = windowPart cfg v₂)
    (hok₁ : maskWindowOk cfg (windowPart cfg v₁) p₁ = true) (hok₂ : maskWindowOk cfg (windowPart cfg v₂) p₂ = true)
    (h₁ : NonOwnerHyps c kvW₁ kvR cfg v₁ rnd₁ p₁) (hw₁ : maskWrite c kvW₁ cfg v₁ rnd₁ = .ok stored₁)
    (h₂ : NonOwnerHyps c kvW₂ kvR cfg v₂ rnd₂ p₂) (hw₂ : maskWrite c kvW₂ cfg v₂ rnd₂ = .ok stored₂) :
    maskRead c kvR cfg stored₁ = maskRead c kvR cfg stored₂ := by
  rw [mask_other_window c kvW₁ kvR cfg v₁ rnd₁ p₁ stored₁ hpat hok₁ h₁ hw₁,
    mask_other_window c kvW₂ kvR cfg v₂ rnd₂ p₂ stored₂ hpat hok₂ h₂ hw₂, hwin]

/-- **Left window ending in one or two `%`** (`100%| sure`, `50%%| off` – the run of `%` in front of the
container is not a multiple of the tag length): if the rest of the window has no `%` and the container
is shorter than 2^48 bytes, the window condition holds – so a non-owner receives exactly window and
pattern, and the owner the value. The scan advances ONE byte after the failed parse at the first `%`
and so meets the real container's tag; a scan that skipped the whole 3-byte tag would jump into it. -/
theorem window_ok_trailing_pct (c : CryptoOps) (kvW : KeyView) (cfg : MaskCfg) (v rnd p w0 : Bytes) (j : Nat)
    (hl : cfg.left = true) (hj : j ≤ 2)
    (hwp : windowPart cfg v = w0 ++ List.replicate j 37) (hw0 : ∀ x ∈ w0, x ≠ 37)
    (hnm : matchKind cfg.kind (hiddenPart cfg v) = false) (hnr : registryMatch (hiddenPart cfg v) = false)
    (hp : protect c kvW cfg.kind (hiddenPart cfg v) rnd = .ok p) (hplen : p.length < 2^48) :
    maskWindowOk cfg (windowPart cfg v) p = true := by
  obtain ⟨e, _, _, rfl⟩ := c01_protect_ok hp hnm hnr
  rw [c01_serBytes_length] at hplen
  unfold maskWindowOk afterContainer
  simp only [hl, if_true, Bool.and_eq_true]
  refine ⟨?_, windowOk_nil _⟩
  rw [hwp]
  exact windowOk_trailing_pct w0 e [] cfg.kind.id j hj hw0 (by omega)

/-- **Right window of at most 12 bytes, whatever it contains**: fewer than 13 bytes after the container
can never be taken for a container, so the window condition holds for EVERY content. -/
theorem window_ok_right_short (cfg : MaskCfg) (w p : Bytes) (hl : cfg.left = false) (hlen : w.length ≤ 12) :
    maskWindowOk cfg w p = true := by
  unfold maskWindowOk afterContainer
  simp only [hl, Bool.false_eq_true, if_false, Bool.and_eq_true]
  exact ⟨windowOk_nil _, windowOk_short w hlen⟩

/-! ## non-vacuity: every hypothesis bundle above is met by a concrete instance -/

/-- LEFT window, AcraBlock kind, stand-in back end: "hello!" with a clear window of 2 bytes and pattern
`***`; written with key `[1,2,3]`; the owner reads with the rotated key list `[[4,5],[1,2,3],[1,2,9]]`
and gets `hello!`; a reader without keys gets `he***`. -/
example :
    let cfg : MaskCfg := ⟨[42,42,42], 2, true, .block⟩
    let v : Bytes := [104,101,108,108,111,33]
    let kvW : KeyView := ⟨none, none, some [1,2,3], none⟩
    let kvR : KeyView := ⟨none, none, some [4,5], some ([[4,5]] ++ [1,2,3] :: [[1,2,9]])⟩
    let kvN : KeyView := ⟨none, none, none, none⟩
    ∃ stored, maskWrite toyOps kvW cfg v (List.replicate 56 5) = .ok stored ∧
      maskRead toyOps kvR cfg stored = .ok v true ∧
      maskRead toyOps kvN cfg stored = .ok [104,101,42,42,42] true := by
  intro cfg v kvW kvR kvN
  have hs := toy_sealLaws
  have hsl := toy_sealLen
  have hkid := keyId_length toyOps toy_hashLen [1,2,3] []
  have hhid : hiddenPart cfg v = [108,108,111,33] := by decide
  have hwin : windowPart cfg v = [104,101] := by decide
  have hnm : matchKind cfg.kind (hiddenPart cfg v) = false := by rw [hhid]; decide
  have hnr : registryMatch (hiddenPart cfg v) = false := by rw [hhid]; decide
  obtain ⟨p, hpl, hno, hw⟩ := maskWrite_block_noKeys toyOps hs hsl kvW kvN cfg v (List.replicate 56 5) [1,2,3] rfl (by decide)
    hkid ⟨rfl, rfl⟩ rfl (by decide) (by decide) hnm hnr (by rw [hhid]; decide) (by rw [hhid]; decide) (by decide)
  have hp := hno.2.2.1
  have hpl' : p.length = 154 := by rw [hpl, hhid]; rfl
  have hclean : cleanWindow (windowPart cfg v) := by rw [hwin]; decide
  refine ⟨_, hw, ?_, ?_⟩
  · refine mask_owner toyOps kvW kvR cfg v _ _ (by decide) hclean hnm hnr ?_ hw
    intro p' hp'
    rw [hp] at hp'; cases hp'
    refine ⟨⟨hs, [1,2,3], [[4,5]], [[1,2,9]], hkid, rfl, rfl, ?_, ?_, by rw [hpl']; decide⟩, ?_⟩
    · intro k' hk' encKey _ hid
      simp only [List.mem_singleton] at hk'
      subst hk'
      exact absurd hid (by decide)
    · intro ek h
      rw [hsl.enc_len _ _ _ _ _ h]; decide
    · intro h
      have := congrArg List.length h
      rw [List.length_append, hpl', hhid] at this
      simp at this
      omega
  · rw [mask_other toyOps kvW kvN cfg v _ p _ (by decide) hclean hno hw, hwin]
    rfl

/-- RIGHT window, AcraStruct kind, executable stand-in back end (`H` = SHA-256): seven bytes with a clear
window of the last 3 and pattern `*`; the owner (matching private key first in the list, another key
after it) reads the value back; a reader without keys gets `*` followed by the window. -/
example :
    let priv := shimOps.privOfSeed (List.replicate 32 1)
    let other := shimOps.privOfSeed (List.replicate 32 2)
    let cfg : MaskCfg := ⟨[42], 3, false, .struct⟩
    let v : Bytes := [1,2,3,4,5,6,7]
    let kvW : KeyView := ⟨some (shimOps.pubOf priv), none, none, none⟩
    let kvR : KeyView := ⟨none, some ([] ++ priv :: [other]), none, none⟩
    let kvN : KeyView := ⟨none, none, none, none⟩
    ∃ stored, maskWrite shimOps kvW cfg v (List.replicate 88 7) = .ok stored ∧
      maskRead shimOps kvR cfg stored = .ok v true ∧
      maskRead shimOps kvN cfg stored = .ok [42,5,6,7] true := by
  intro priv other cfg v kvW kvR kvN
  have hpriv : shimOps.validPriv priv = true := shim_keygenLaws.valid_seed _ (by decide)
  have hhid : hiddenPart cfg v = [1,2,3,4] := by decide
  have hwin : windowPart cfg v = [5,6,7] := by decide
  have hnm : matchKind cfg.kind (hiddenPart cfg v) = false := by rw [hhid]; decide
  have hnr : registryMatch (hiddenPart cfg v) = false := by rw [hhid]; decide
  obtain ⟨p, hp⟩ := protect_struct_total shimOps shim_sealLaws shim_msgLaws shim_keygenLaws kvW priv (hiddenPart cfg v)
    (List.replicate 88 7) hpriv rfl (by rw [hhid]; decide) (by rw [hhid]; decide) (by decide)
  obtain ⟨hpl, _⟩ := protect_struct_length shimOps shim_sealLaws shim_sealLen shim_msgLen shim_keygenLaws kvW _ _ p hnm hnr hp
  have hpl' : p.length = 205 := by rw [hpl, hhid]; rfl
  have hw : maskWrite shimOps kvW cfg v (List.replicate 88 7) = .ok (joinSides cfg (windowPart cfg v) p) := by
    rw [maskWrite_eq shimOps kvW cfg v _ (by decide), hp]; rfl
  have hclean : cleanWindow (windowPart cfg v) := by rw [hwin]; decide
  refine ⟨_, hw, ?_, ?_⟩
  · refine mask_owner shimOps kvW kvR cfg v _ _ (by decide) hclean hnm hnr ?_ hw
    intro p' hp'
    rw [hp] at hp'; cases hp'
    refine ⟨⟨shim_sealLaws, shim_sealLen, shim_msgLaws, shim_msgLen, shim_keygenLaws, priv, [], [other], hpriv, rfl, rfl, by simp⟩, ?_⟩
    intro h
    have := congrArg List.length h
    rw [List.length_append, hpl', hhid] at this
    simp at this
    omega
  · have := mask_other shimOps kvW kvN cfg v _ p _ (by decide) hclean
      (nonOwner_of_no_keys shimOps kvW kvN cfg v _ p hnm hnr hp (by rw [hpl']; decide) (Or.inl (by decide)) ⟨rfl, rfl⟩) hw
    rw [this, hwin]
    rfl

/-- Key commitment (`boxOps`: `SealLaws` + `SealCommit`): a reader who HAS keys, but not the writer's, is a
non-owner (`nonOwner_of_commit`) and sees window and pattern; here the left window `[7]` of `[7,9,9]`. -/
example :
    let cfg : MaskCfg := ⟨[42], 1, true, .block⟩
    let v : Bytes := [7,9,9]
    let kvW : KeyView := ⟨none, none, some [1,2,3], none⟩
    let kvO : KeyView := ⟨none, none, some [9,9], some [[9,9],[1,2,4]]⟩
    ∃ stored, maskWrite boxOps kvW cfg v (List.replicate 56 5) = .ok stored ∧
      maskRead boxOps kvO cfg stored = .ok [7,42] true := by
  intro cfg v kvW kvO
  have hs := Box.sealLaws
  have hhid : hiddenPart cfg v = [9,9] := by decide
  have hwin : windowPart cfg v = [7] := by decide
  have hnm : matchKind cfg.kind (hiddenPart cfg v) = false := by rw [hhid]; decide
  have hnr : registryMatch (hiddenPart cfg v) = false := by rw [hhid]; decide
  have hkid : (keyId boxOps [1,2,3] []).length = 2 := by decide
  have e1 : boxOps.enc ((List.replicate 56 5).take 32) [] [9,9] (((List.replicate 56 (5:UInt8)).drop 32).take 12) =
      some (Box.esc (List.replicate 32 5) ++ (Box.esc [] ++ (Box.esc (List.replicate 12 5) ++ [9,9]))) := by decide +kernel
  have e2 : boxOps.enc [1,2,3] [] ((List.replicate 56 5).take 32) (((List.replicate 56 (5:UInt8)).drop 44).take 12) =
      some (Box.esc [1,2,3] ++ (Box.esc [] ++ (Box.esc (List.replicate 12 5) ++ List.replicate 32 5))) := by decide +kernel
  have hek : ∀ encKey, boxOps.enc [1,2,3] [] ((List.replicate 56 5).take 32) (((List.replicate 56 (5:UInt8)).drop 44).take 12) = some encKey →
      encKey.length < 65536 := by
    intro encKey h
    rw [e2] at h
    cases h
    decide
  obtain ⟨p, hp⟩ := protect_block_total boxOps hs kvW [1,2,3] (hiddenPart cfg v) (List.replicate 56 5) rfl (by decide)
    (by rw [hhid]; decide) (by rw [hhid]; decide) (by decide)
  have hpl : p.length < 2^63 := by
    obtain ⟨e, he, _, rfl⟩ := c01_protect_ok hp hnm hnr
    obtain ⟨key', hk', hcb⟩ := c01_encryptKind_block he hnm
    cases hk'
    rw [hhid] at hcb
    obtain ⟨encData, encKey, h1, h2, rfl⟩ := c01_createBlock_ok hcb
    rw [e1] at h1; rw [e2] at h2
    cases h1; cases h2
    rw [c01_serBytes_length, c01_buildBlock_length _ _ _ hkid]
    decide
  have hw : maskWrite boxOps kvW cfg v (List.replicate 56 5) = .ok (joinSides cfg (windowPart cfg v) p) := by
    rw [maskWrite_eq boxOps kvW cfg v _ (by decide), hp]; rfl
  refine ⟨_, hw, ?_⟩
  have := mask_other boxOps kvW kvO cfg v _ p _ (by decide) (by rw [hwin]; decide)
    (nonOwner_of_commit boxOps hs Box.sealCommit kvW kvO cfg v _ p [1,2,3] rfl rfl hkid hek hnm hnr hp hpl
      (Or.inl (by decide)) (by intro ks hks; cases hks; decide)) hw
  rw [this, hwin]
  rfl

/-- Non-interference and the short case, stand-in back end: `he|llo!` and `he|y` (same window `he`,
different hidden parts, different writers' randomness) are indistinguishable for a reader without
keys; the one-byte value `h` (not longer than the window) is shown as the pattern alone. -/
example :
    let cfg : MaskCfg := ⟨[42,42,42], 2, true, .block⟩
    let kvW : KeyView := ⟨none, none, some [1,2,3], none⟩
    let kvN : KeyView := ⟨none, none, none, none⟩
    ∃ s₁ s₂ s₃, maskWrite toyOps kvW cfg [104,101,108,108,111,33] (List.replicate 56 5) = .ok s₁ ∧
      maskWrite toyOps kvW cfg [104,101,121] (List.replicate 56 6) = .ok s₂ ∧
      maskWrite toyOps kvW cfg [104] (List.replicate 56 7) = .ok s₃ ∧
      maskRead toyOps kvN cfg s₁ = maskRead toyOps kvN cfg s₂ ∧ maskRead toyOps kvN cfg s₃ = .ok [42,42,42] true := by
  intro cfg kvW kvN
  have mk := fun v rnd => maskWrite_block_noKeys toyOps toy_sealLaws toy_sealLen kvW kvN cfg v rnd [1,2,3] rfl (by decide)
    (keyId_length toyOps toy_hashLen [1,2,3] []) ⟨rfl, rfl⟩ rfl (by decide) (by decide)
  obtain ⟨p₁, _, h₁, w₁⟩ := mk [104,101,108,108,111,33] (List.replicate 56 5) (by decide) (by decide) (by decide) (by decide) (by decide)
  obtain ⟨p₂, _, h₂, w₂⟩ := mk [104,101,121] (List.replicate 56 6) (by decide) (by decide) (by decide) (by decide) (by decide)
  obtain ⟨p₃, _, h₃, w₃⟩ := mk [104] (List.replicate 56 7) (by decide) (by decide) (by decide) (by decide) (by decide)
  refine ⟨_, _, _, w₁, w₂, w₃, ?_, ?_⟩
  · exact mask_noninterference toyOps kvN cfg kvW kvW _ _ _ _ p₁ p₂ _ _ (by decide) (by decide) (by decide) h₁ w₁ h₂ w₂
  · exact mask_short_other toyOps kvW kvN cfg [104] _ p₃ _ (by decide) (by decide) h₃ w₃

/-- no-panic theorems: both outcomes other than panic occur – a successful write, and a write that
fails (no key) without panicking -/
example : (∃ s, maskWrite toyOps ⟨none, none, some [1,2,3], none⟩ ⟨[42], 1, true, .block⟩ [7,9,9] (List.replicate 56 5) = .ok s) ∧
    maskWrite toyOps ⟨none, none, none, none⟩ ⟨[42], 1, true, .block⟩ [7,9,9] (List.replicate 56 5) = .err := by
  constructor
  · obtain ⟨p, hp⟩ := protect_block_total toyOps toy_sealLaws ⟨none, none, some [1,2,3], none⟩ [1,2,3] [9,9] (List.replicate 56 5)
      rfl (by decide) (by decide) (by decide) (by decide)
    refine ⟨[7] ++ p, ?_⟩
    rw [maskWrite_eq _ _ _ _ _ (by decide)]
    have : hiddenPart ⟨[42], 1, true, .block⟩ [7,9,9] = [9,9] := by decide
    rw [this, hp]; rfl
  · decide

/-- A session of two masked columns with DIFFERENT patterns, sides and window lengths, read by a client
without keys through the same session objects (`mask_session_other`; stand-in back end): `he|llo!` with
pattern `***` on the right of a left window of 2, and `hey` with pattern `#` on the left of a right
window of 1 – the reader gets `he***` and then `#y`: each column its own pattern. -/
example :
    let cfg₁ : MaskCfg := ⟨[42,42,42], 2, true, .block⟩
    let cfg₂ : MaskCfg := ⟨[35], 1, false, .block⟩
    let kvW : KeyView := ⟨none, none, some [1,2,3], none⟩
    let kvN : KeyView := ⟨none, none, none, none⟩
    ∃ s₁ s₂, maskWrite toyOps kvW cfg₁ [104,101,108,108,111,33] (List.replicate 56 5) = .ok s₁ ∧
      maskWrite toyOps kvW cfg₂ [104,101,121] (List.replicate 56 6) = .ok s₂ ∧
      (maskSessionColumns toyOps kvN MaskSession.init [(cfg₁, s₁), (cfg₂, s₂)]).2 =
        [.ok [104,101,42,42,42] true, .ok [35,121] true] := by
  intro cfg₁ cfg₂ kvW kvN
  have mk := fun cfg v rnd => maskWrite_block_noKeys toyOps toy_sealLaws toy_sealLen kvW kvN cfg v rnd [1,2,3] rfl (by decide)
    (keyId_length toyOps toy_hashLen [1,2,3] []) ⟨rfl, rfl⟩
  obtain ⟨p₁, _, h₁, w₁⟩ := mk cfg₁ [104,101,108,108,111,33] (List.replicate 56 5) rfl (by decide) (by decide) (by decide) (by decide)
    (by decide) (by decide) (by decide)
  obtain ⟨p₂, _, h₂, w₂⟩ := mk cfg₂ [104,101,121] (List.replicate 56 6) rfl (by decide) (by decide) (by decide) (by decide)
    (by decide) (by decide) (by decide)
  refine ⟨_, _, w₁, w₂, ?_⟩
  have hso := mask_session_other toyOps kvN MaskSession.init
    [(cfg₁, joinSides cfg₁ (windowPart cfg₁ [104,101,108,108,111,33]) p₁), (cfg₂, joinSides cfg₂ (windowPart cfg₂ [104,101,121]) p₂)]
    [(kvW, [104,101,108,108,111,33], List.replicate 56 5, p₁), (kvW, [104,101,121], List.replicate 56 6, p₂)] rfl
    (by
      intro i hi
      match i, hi with
      | 0, _ =>
        show cfg₁.pattern ≠ [] ∧ cleanWindow (windowPart cfg₁ [104,101,108,108,111,33]) ∧ _ ∧ _
        exact ⟨by decide, by decide, h₁, w₁⟩
      | 1, _ =>
        show cfg₂.pattern ≠ [] ∧ cleanWindow (windowPart cfg₂ [104,101,121]) ∧ _ ∧ _
        exact ⟨by decide, by decide, h₂, w₂⟩)
  have e0 := hso 0 (Nat.zero_lt_succ _)
  have e1 := hso 1 (Nat.succ_lt_succ (Nat.zero_lt_succ _))
  apply List.ext_getElem?
  intro i
  match i with
  | 0 => rw [e0]; rfl
  | 1 => rw [e1]; rfl
  | n + 2 =>
    rw [(mask_columns_independent toyOps kvN MaskSession.init _).1]
    rfl

/-- A hidden part that begins with a look-alike container header (`%%%`, declared length 15, id 0xF0)
followed by three bytes that are no AcraBlock: it is NOT passed through – the write seals it
(`mask_lookalike_header_sealed`), and a reader without keys sees window and pattern (`7*`). -/
example :
    let cfg : MaskCfg := ⟨[42], 1, true, .block⟩
    let hid : Bytes := containerTag ++ [15,0,0,0,0,0,0,0] ++ [idBlock] ++ [9,9,9]
    let v : Bytes := 7 :: hid
    let kvW : KeyView := ⟨none, none, some [1,2,3], none⟩
    let kvN : KeyView := ⟨none, none, none, none⟩
    ∃ stored e, maskWrite toyOps kvW cfg v (List.replicate 56 5) = .ok stored ∧
      stored = [7] ++ serBytes e idBlock ∧ SealedIn toyOps kvW .block hid (List.replicate 56 5) e ∧
      maskRead toyOps kvN cfg stored = .ok [7,42] true := by
  intro cfg hid v kvW kvN
  have hhid : hiddenPart cfg v = containerTag ++ [15,0,0,0,0,0,0,0] ++ [idBlock] ++ [9,9,9] := by decide
  have hwin : windowPart cfg v = [7] := by decide
  obtain ⟨hnm, hnr⟩ := header_lookalike_not_protected [15,0,0,0,0,0,0,0] [9,9,9] idBlock .block .block rfl (by decide) (by decide)
    (Or.inr (matchKind_short _ _ (by rw [List.length_take]; simp; omega)))
  rw [← hhid] at hnm hnr
  obtain ⟨p, _, hno, hw⟩ := maskWrite_block_noKeys toyOps toy_sealLaws toy_sealLen kvW kvN cfg v (List.replicate 56 5) [1,2,3] rfl
    (by decide) (keyId_length toyOps toy_hashLen [1,2,3] []) ⟨rfl, rfl⟩ rfl (by decide) (by decide) hnm hnr
    (by rw [hhid]; decide) (by rw [hhid]; decide) (by decide)
  obtain ⟨e, hne, hst, hsealed⟩ := mask_lookalike_header_sealed toyOps kvW cfg v _ _ [15,0,0,0,0,0,0,0] [9,9,9] idBlock .block
    (by decide) hhid rfl (by decide) (by decide)
    (Or.inr (matchKind_short _ _ (by rw [List.length_take]; simp; omega))) hw
  refine ⟨_, e, hw, ?_, ?_, ?_⟩
  · rw [hst, hwin]; rfl
  · rw [hhid] at hsealed; exact hsealed
  · rw [mask_other toyOps kvW kvN cfg v _ p _ (by decide) (by rw [hwin]; decide) hno hw, hwin]
    rfl

/-- `100% sure` with a left window of 4 (`100%`) and pattern `*` (stand-in back end, AcraBlock kind): the
window ends in `%` directly in front of the container's `%%%`; the window condition holds
(`window_ok_trailing_pct`), a reader without keys gets `100%*`. -/
example :
    let cfg : MaskCfg := ⟨[42], 4, true, .block⟩
    let v : Bytes := [49,48,48,37,32,115,117,114,101]
    let kvW : KeyView := ⟨none, none, some [1,2,3], none⟩
    let kvN : KeyView := ⟨none, none, none, none⟩
    ∃ stored, maskWrite toyOps kvW cfg v (List.replicate 56 5) = .ok stored ∧
      maskRead toyOps kvN cfg stored = .ok [49,48,48,37,42] true := by
  intro cfg v kvW kvN
  have hhid : hiddenPart cfg v = [32,115,117,114,101] := by decide
  have hwin : windowPart cfg v = [49,48,48,37] := by decide
  have hnm : matchKind cfg.kind (hiddenPart cfg v) = false := by rw [hhid]; decide
  have hnr : registryMatch (hiddenPart cfg v) = false := by rw [hhid]; decide
  obtain ⟨p, hpl, hno, hw⟩ := maskWrite_block_noKeys toyOps toy_sealLaws toy_sealLen kvW kvN cfg v (List.replicate 56 5) [1,2,3] rfl
    (by decide) (keyId_length toyOps toy_hashLen [1,2,3] []) ⟨rfl, rfl⟩ rfl (by decide) (by decide) hnm hnr
    (by rw [hhid]; decide) (by rw [hhid]; decide) (by decide)
  have hok := window_ok_trailing_pct toyOps kvW cfg v _ p [49,48,48] 1 rfl (by decide) (by rw [hwin]; rfl) (by decide)
    hnm hnr hno.2.2.1 (by rw [hpl, hhid]; decide)
  refine ⟨_, hw, ?_⟩
  rw [mask_other_window toyOps kvW kvN cfg v _ p _ (by decide) hok hno hw, hwin]
  rfl

end AcraModel.Props.C11
