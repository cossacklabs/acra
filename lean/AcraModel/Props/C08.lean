import AcraModel.Keystore.CrashLemmas
import AcraModel.Keystore.RefineCrash
import AcraModel.Keystore.ImportLemmas
import AcraModel.Keystore.RotateTool
import AcraModel.Keystore.SysFileLemmas
/-!
# C08 — a crash or I/O failure during a keystore write never loses or corrupts keys

The models of the write operations as lists of storage / back-end calls and their execution under faults
are in `AcraModel/Keystore/{V1,Calls,CallsImport}.lean` (generate, rotate, destroy; import, migration, kept
ring handles), `RotateTool.lean` (the key-rotation tool) and `SysFile.lean` (`Put`, `Copy`, `WriteKeyFile` at
system-call level); the lemmas in `CrashLemmas.lean`, `RefineCrash.lean`, `ImportLemmas.lean`,
`SysFileLemmas.lean`.
-/
namespace AcraModel.Props.C08
open AcraModel AcraModel.Keystore Generated

/-- `WriteKeyFile` makes its storage calls in the order the model assumes: directory, temporary file,
data, backup of the previous version, and only then the `Rename` over the target;
`backupHistoricalKeyFile` looks at the target first and tries `Link` before `Copy`. -/
theorem fact_v1_write_order :
    KeyNames.v1WriteKeyFileCalls =
      ["WriteKeyFile.MkdirAll", "WriteKeyFile.TempFile", "WriteKeyFile.WriteFile", "WriteKeyFile.<backup>", "WriteKeyFile.Rename",
       "backupHistoricalKeyFile.Stat", "backupHistoricalKeyFile.MkdirAll", "backupHistoricalKeyFile.Link", "backupHistoricalKeyFile.Copy"] := rfl

/-- `pushASNring` writes the temporary `<ring>.keyring.new` and then renames it over the ring – nothing else. -/
theorem fact_v2_push_order : KeyNames.v2PushCalls = ["Put", "Rename"] ∧ KeyNames.v2NewSuffix = ".new" := ⟨rfl, rfl⟩

/-- One file. Cut `WriteKeyFile` before any of its calls (`k` calls were made,
the final `Rename` was not): every current key file – the target included – still has its old content,
and every history directory still has all its files (it can only have gained the backup). So every key
readable before reads the same, and the key being written is still its old self. -/
theorem v1_crash_atomic (fs : FS) (f : FileId) (c : Content) (k : Nat)
    (hk : k < (writeKeyFileCalls fs f c).length) :
    (applyAll fs ((writeKeyFileCalls fs f c).take k)).1.cur = fs.cur ∧
    ∀ f', ∃ l, (applyAll fs ((writeKeyFileCalls fs f c).take k)).1.old f' = fs.old f' ++ l := by
  obtain ⟨pre, hshape, h1, h2⟩ := writeKeyFileCalls_shape fs f c
  rw [hshape] at hk ⊢
  have hk' : k ≤ pre.length := by simp at hk; omega
  rw [List.take_append_of_le_length hk']
  exact applyAll_keeps fs _ (fun x hx => h1 x (List.mem_of_mem_take hx)) (fun x hx => h2 x (List.mem_of_mem_take hx))

/-- **v1_crash_atomic (torn write).** The same when the cut tears the `WriteFile` of the temporary
(any content lands in the temporary file): a torn write never reaches a current key file. -/
theorem v1_torn_atomic (fs : FS) (f : FileId) (torn : Content) :
    (applyAll fs [.mkdirAll f, .tempFile f, .writeFile fs.nextTmp f torn]).1.cur = fs.cur ∧
    ∀ f', ∃ l, (applyAll fs [.mkdirAll f, .tempFile f, .writeFile fs.nextTmp f torn]).1.old f' = fs.old f' ++ l :=
  applyAll_keeps fs _ (List.all_eq_true.1 rfl) (List.all_eq_true.1 rfl)

/-- When all calls are made, the target holds completely the new content, no
other current file changed, and no temporary file is left. Together with `v1_crash_atomic`: the key
file being written is either its old self or completely the new one – for every cut. -/
theorem v1_write_complete (fs : FS) (f : FileId) (c : Content) (hf : fs.TmpFresh) :
    (applyAll fs (writeKeyFileCalls fs f c)).2 = true ∧
    (applyAll fs (writeKeyFileCalls fs f c)).1.cur = upd fs.cur f (some c) ∧
    (applyAll fs (writeKeyFileCalls fs f c)).1.tmps = fs.tmps :=
  writeKeyFile_complete fs f c hf

/-- A cut before `TempFile` has been executed leaves no temporary file, so
listing is not affected. (For later cuts see `v1_crash_live_counterexample`.) -/
theorem v1_crash_live_partial (fs : FS) (f : FileId) (c : Content) (k : Nat) (hk : k ≤ 1) :
    (applyAll fs ((writeKeyFileCalls fs f c).take k)).1.tmps = fs.tmps := by
  have : k = 0 ∨ k = 1 := by omega
  rcases this with rfl | rfl <;> simp [writeKeyFileCalls, applyAll, applyCall]

def ss0 : Slot := ⟨.ss, 0⟩
def sp0 : Slot := ⟨.sp, 0⟩

/-- Known finding `v1:leftover-temp-file`. The full liveness claim
is false for v1: generate a symmetric key, crash the rotation right after `TempFile` – the reopened
store reads the old key and accepts further writes, but `ListKeys` fails on the leftover temporary. -/
theorem v1_crash_live_counterexample :
    let cut := ((V1.init (-1)).step (.gen ss0)).1.stepF ⟨.ca, 1⟩ (.gen ss0)
    cut.2.2 = .crash ∧ (cut.1.clear.step (.cur ss0)).2 = .key 1 ∧ (cut.1.clear.step .list).2 = .err ∧
    ((cut.1.clear.step (.gen ss0)).1.step (.cur ss0)).2 = .key 3 := by decide +kernel

/-- Known finding `v1:key-pair-half-written`. A key pair is two files:
crash the rotation after the private file was renamed into place (call 9 is the `MkdirAll` that opens
the public file's `WriteKeyFile`) – the new private key is current together with the old public key. -/
theorem v1_pair_counterexample :
    let cut := ((V1.init (-1)).step (.gen sp0)).1.stepF ⟨.ca, 9⟩ (.gen sp0)
    cut.2.2 = .crash ∧ (cut.1.clear.step (.cur sp0)).2 = .key 2 ∧ (cut.1.clear.step (.pub sp0)).2 = .key 1 ∧
    (cut.1.clear.step (.all sp0)).2 = .keys [2, 1] := by decide +kernel

/-- Whatever call of a phase the fault hits and in whatever mode (error, crash
before/after, torn `Put`), afterwards every other ring is untouched and the ring of the phase is either
exactly what it was or exactly the ring the phase computed – never anything in between. -/
theorem v2_crash_atomic (ft : Fault) (x : X2) (s : Slot) (compute : Option Ring → Option (Option Ring)) :
    (∀ s', s' ≠ s → (x.phase ft s compute).st.rings s' = x.st.rings s') ∧
    ((x.phase ft s compute).st.rings s = x.st.rings s ∨
      ∃ r, compute (x.st.rings s) = some (some r) ∧ (x.phase ft s compute).st.rings s = some r) :=
  X2.phase_atomic ft x s compute

/-- Storage side. A transaction list that fails to apply installs nothing:
the phase's `compute` is `applyTxs`, which yields no ring at all when any transaction is refused, so
by `v2_crash_atomic` the stored ring is unchanged; the next operation starts from the stored ring
(every API call opens its ring afresh), hence no partially applied transaction is ever observable. -/
theorem v2_error_rollback (ft : Fault) (x : X2) (s : Slot) (txs : List Tx) (r : Ring)
    (hr : x.st.rings s = some r) (hfail : applyTxs r txs = none) :
    (x.write ft s txs).st.rings s = some r := by
  have h := (v2_crash_atomic ft x s (writeCompute txs)).2
  unfold X2.write
  rcases h with h | ⟨r', hr', _⟩
  · rw [h, hr]
  · simp [hr, hfail, writeCompute] at hr'

/-- Known finding `v2:leftover-keyring-new`. Crash a rotation right
after `Put(<ring>.keyring.new)` (call 5: Lock, Get, Unlock, Lock, Get, Put): the old key still reads, but
every later write to the ring is refused and the listing fails. -/
theorem v2_crash_live_counterexample :
    let cut := (V2.init.step (.gen ss0)).1.stepF ⟨.ca, 5⟩ (.gen ss0)
    cut.2.2 = .crash ∧ (cut.1.step (.cur ss0)).2 = .key 1 ∧ (cut.1.step (.gen ss0)).2 = .err ∧ (cut.1.step .list).2 = .err := by decide +kernel

/-- For every cache size, every history `h` (any operations at all), every
fault (error, crash before/after, torn write) at any call, and every *single-file* key (symmetric,
HMAC, audit log – a key pair is two files: known finding `v1:key-pair-half-written`,
`v1_pair_counterexample`): after generate/rotate of slot `s` is cut by the fault – including every
error path of `WriteKeyFile`/`backupHistoricalKeyFile` (backup after a failing `Stat`, `Copy` after a
failing `Link`) – no other key file and no other history directory has changed, the history of the
key only grew, and its current file is what it was or completely the new generation; in the latter
case the previous content is in the history. Hence every generation the storage held, it still holds
with the same content (`FS.holds` is what `V1.abs` reads), and a torn write never reaches a key. -/
theorem v1_write_op_atomic (c : Int) (h : List Op) (ft : Fault) (s : Slot) (hp : s.kind.isPair = false) :
    let st := ((V1.init c).run h).1
    let fs' := (st.stepF ft (.gen s)).1.fs
    (∀ f', f' ≠ privFile s → fs'.cur f' = st.fs.cur f' ∧ fs'.old f' = st.fs.old f') ∧
    (∃ l, fs'.old (privFile s) = st.fs.old (privFile s) ++ l) ∧
    (fs'.cur (privFile s) = st.fs.cur (privFile s) ∨
      (fs'.cur (privFile s) = some (.full (st.count s + 1)) ∧
        ∀ c0, st.fs.cur (privFile s) = some c0 → ∃ t, (t, c0) ∈ fs'.old (privFile s))) ∧
    (∀ f' g, st.fs.holds f' g = true → fs'.holds f' g = true) := by
  intro st fs'
  have hw := V1.stepF_gen_atomic st ft s hp
  exact ⟨hw.others, hw.grow, hw.target, fun f' g hh => hw.holds f' g hh⟩

/-- **v1_write_op_atomic (what a reopened store reads).** Same situation; after reopening (empty cache),
reading the current key of any slot `s'` gives what it gave before the faulted rotation – or, for the
rotated slot itself, the completely new key. -/
theorem v1_write_op_atomic_reads (c : Int) (h : List Op) (ft : Fault) (s s' : Slot) (hp : s.kind.isPair = false) :
    let st := ((V1.init c).run h).1
    let st' := (st.stepF ft (.gen s)).1
    (st'.clear.step (.cur s')).2 = (st.clear.step (.cur s')).2 ∨
    (s' = s ∧ (st'.clear.step (.cur s')).2 = .key (st.count s + 1)) := by
  exact V1.stepF_gen_reads _ ft s s' hp

/-- The same for destroy-rotated of a single-file key: under any fault the
storage is unchanged, or exactly the history file listed under the index is gone. -/
theorem v1_destroy_op_atomic (c : Int) (h : List Op) (ft : Fault) (s : Slot) (i : Nat) (hp : s.kind.isPair = false) :
    let st := ((V1.init c).run h).1
    let fs' := (st.stepF ft (.drot s i)).1.fs
    fs' = st.fs ∨ ∃ t c0, (st.fs.old (privFile s))[i - KeyNames.v1DestroyIndexOffset]? = some (t, c0) ∧
      fs' = { st.fs with old := upd st.fs.old (privFile s) ((st.fs.old (privFile s)).filter (·.1 ≠ t)) } :=
  V1.stepF_drot_atomic _ ft s i hp

/-- For every history `h` without destroy-current and without read-write opens
before the first generation (the hypotheses of `C06.v2_refines_spec`), every fault at any back-end
call, and every slot that *has been generated before* (the first generation is three ring writes and
can leave a ring without current key: known finding `v2:ring-without-current-key`): after
generate/rotate of `s` is cut by the fault, every other ring is untouched and the ring of `s` is what it
was, or has the new key appended while the old key is still current, or is completely rotated. In each
case every key that was readable reads the same and the current key is the old or the new generation. -/
theorem v2_write_op_atomic (h : List Op) (hops : ∀ o ∈ h, o.isDcur = false ∧ o.idxOk = true)
    (hgf : genFirst (fun _ => false) h = true) (ft : Fault) (s : Slot) (hn : (V2.init.run h).1.count s ≠ 0) :
    let st := (V2.init.run h).1
    let st' := (st.stepF ft (.gen s)).1
    ∃ r r', st.rings s = some r ∧ st'.rings s = some r' ∧
      (∀ s', s' ≠ s → st'.rings s' = st.rings s') ∧
      (r' = r ∨ r' = ⟨r.keys ++ [⟨st.count s + 1, .preActive, some (st.count s + 1)⟩], r.current⟩ ∨ r' = r.added (st.count s)) ∧
      (∀ q g, r.material q = some g → r'.material q = some g) ∧
      (r'.current.bind r'.material = some (st.count s) ∨ r'.current.bind r'.material = some (st.count s + 1)) := by
  intro st st'
  have hinv := (V2.run_sim h V2.init (fun _ => false) V2.Inv.init (by intro s hs; cases hs) hops hgf).1
  rcases hinv.ring s with ⟨_, h0⟩ | ⟨r, hr, _, hok⟩
  · exact absurd h0 hn
  · obtain ⟨ho, r', hr', hc⟩ := V2.stepF_gen_atomic st ft s r hr hok
    obtain ⟨hm, hcur⟩ := gen_outcomes_read hok hn hc
    exact ⟨r, r', hr, hr', ho, hc, hm, hcur⟩

/-- Destroy-rotated on an existing ring under any fault: every other ring is
untouched; the ring is what it was, or exactly the key listed under the index is destroyed. -/
theorem v2_destroy_op_atomic (st : V2) (ft : Fault) (s : Slot) (i : Nat) (r : Ring) (hr : st.rings s = some r) :
    (∀ s', s' ≠ s → (st.stepF ft (.drot s i)).1.rings s' = st.rings s') ∧
    ((st.stepF ft (.drot s i)).1.rings s = some r ∨
     ∃ act q, r.rotatedActive = some act ∧ act[i - KeyNames.v2DestroyIndexOffset]? = some q ∧
       (st.stepF ft (.drot s i)).1.rings s = some (r.destroyed q)) :=
  V2.stepF_drot_atomic st ft s i r hr

/-- Known finding `v2:ring-without-current-key`. The hypothesis
"generated before" of `v2_write_op_atomic` is needed: crash the very first generation of a slot after
the ring was created (call 3: Lock, Get, Put, Rename) – an empty ring without current key stays behind
and `ListKeys` fails for the whole store. Protocol: `C08.v2d ca 3 H O g:al F l`. -/
theorem v2_first_generation_counterexample :
    let cut := V2.init.stepF ⟨.ca, 3⟩ (.gen ⟨.al, 0⟩)
    cut.2.2 = .crash ∧ cut.1.rings ⟨.al, 0⟩ = some Ring.empty ∧ (cut.1.step .list).2 = .err := by decide +kernel

/-- `KeyBackuper.Import` writes every key file through a temporary file that is renamed over the target,
and removes the temporary when the write or the rename fails (the model's `importFileCalls` and the
clean-up in `X1.importFile`). -/
theorem fact_v1_import_order :
    KeystoreCrash.v1ImportCalls =
      ["Import.MkdirAll", "Import.TempFile", "Import.WriteFile", "Import.<cleanup>", "Import.Rename", "Import.<cleanup>"] := rfl

/-- Format v1. For every cache size, every history `h`, every bundle (any list of
key files, in any order, with repetitions) and every fault (error, crash before/after, torn write) at any
storage call of `KeyBackuper.Import`: no history directory changes, and every current key file – imported
or not – is exactly what it was or completely the key the bundle holds for it. So every key readable
before reads the same unless the bundle replaces it, and each imported key is absent/old or complete –
never half-written. (On the pinned tree `Import` wrote the files in place and a torn write left a
truncated key under its final name; repaired, repo-patches/51.) -/
theorem import_atomic_per_key (c : Int) (h : List Op) (ft : Fault) (files : List FileId) :
    let st := ((V1.init c).run h).1
    let fs' := (st.importF ft files).1.fs
    fs'.old = st.fs.old ∧
      ∀ f, fs'.cur f = st.fs.cur f ∨ (f ∈ files ∧ fs'.cur f = some (.full (st.count f.slot + 1))) := by
  intro st fs'
  exact X1.importFiles_atomic ft (fun f => .full (st.count f.slot + 1)) files ⟨st, [], 0, .ok, false⟩

/-- **import_atomic_per_key (v2).** For every history, every bundle of rings, both delegates (refuse /
overwrite an existing ring) and every fault at any back-end call of `ImportKeyRings`: every ring – imported
or not – is exactly what it was, or completely the imported ring, or (it did not exist before) the empty
ring that `openKeyRing` creates before the keys are installed. No ring ever holds a part of an import. -/
theorem import_atomic_per_key_v2 (h : List Op) (ft : Fault) (ow : Bool) (slots : List Slot) :
    let st := (V2.init.run h).1
    let st' := (st.importF ft ow slots).1
    ∀ s, st'.rings s = st.rings s ∨
      (s ∈ slots ∧ (st'.rings s = some (oneKeyRing (st.count s + 1)) ∨ (st.rings s = none ∧ st'.rings s = some Ring.empty))) := by
  intro st st' s
  exact X2.importRings_atomic ft ow (fun s => oneKeyRing (st.count s + 1)) slots ⟨st, [], 0, .ok, false⟩ s

def hm1 : Slot := ⟨.hm, 1⟩

/-- An import of several keys is a
sequence of per-key writes, it is NOT atomic as a whole, in either format. v1: crash right after the
`Rename` of the first of two files (call 3) – the first key is imported, the second absent. v2: crash after
the last call of the first ring (call 12: read phase 0–2, ring creation 3–7, key installation 8–12) – the
first ring is imported, the second missing. (A re-run of the import completes it: v1 overwrites; v2 needs
the overwriting delegate for the rings that already arrived.) -/
theorem import_not_atomic_as_a_whole_counterexample :
    (let cut := (V1.init (-1)).importF ⟨.ca, 3⟩ [privFile ss0, privFile hm1]
     cut.2.2.2 = .crash ∧ cut.1.fs.cur (privFile ss0) = some (.full 1) ∧ cut.1.fs.cur (privFile hm1) = none) ∧
    (let cut := V2.init.importF ⟨.ca, 12⟩ false [ss0, hm1]
     cut.2.2 = .crash ∧ cut.1.rings ss0 = some (oneKeyRing 1) ∧ cut.1.rings hm1 = none) := by decide +kernel

/-- Known finding `v2:ring-without-current-key`. The third case
of `import_atomic_per_key_v2` happens: crash the import of a new ring after `openKeyRing` (call 7) – the
empty ring stays behind, `ListKeys` fails for the whole store, and a repeated import with the default
delegate is refused (`ErrKeyRingExists`) although no key of the ring ever arrived. -/
theorem import_v2_empty_ring_counterexample :
    let cut := V2.init.importF ⟨.ca, 7⟩ false [ss0]
    cut.2.2 = .crash ∧ cut.1.rings ss0 = some Ring.empty ∧ (cut.1.step .list).2 = .err ∧
    (cut.1.importF ⟨.none, 0⟩ false [ss0]).2.2 = .err ∧ (cut.1.importF ⟨.none, 0⟩ true [ss0]).2.2 = .ok := by decide +kernel

/-- The v1→v2 migration imports a key with `OpenKeyRingRW`, `AddKey`,
`SetCurrent` – the model's step for one migrated key IS the generate/rotate step, so `v2_write_op_atomic`
(ring generated before) and `v2_first_generation_counterexample` (new ring) apply to every migrated key. -/
theorem migrate_key_is_generate (ft : Fault) (st : V2) (s : Slot) :
    (V2.migrateF ft st 0 false [s]).1 = (st.stepF ft (.gen s)).1 := by
  have hs : ft.shift 0 = ft := by cases ft; simp [Fault.shift]
  simp only [V2.migrateF, hs]
  generalize st.stepF ft (.gen s) = r
  obtain ⟨st1, tr, out⟩ := r
  cases out <;> rfl

/-- every handle write pops, when its sync fails, exactly the transactions it pushed -/
theorem fact_v2_tx_push_pop :
    KeystoreCrash.v2TxPushPop =
      [("setCurrent", 1, 1), ("changeKeyState", 1, 1), ("addKey", 1, 1), ("destroyKey", 2, 2), ("importASN1", 1, 1)] := rfl

/-- **v2_error_rollback (handle side).** A ring handle whose transaction log is empty has an empty log
again after any `AddKey` / `SetCurrent` / `DestroyKey` – whatever fault hit the sync (error at any back-end
call, including after the ring was replaced) and whether or not the operation was refused. Hence the next
write through the same handle applies its own transactions only: nothing of a failed operation is ever
written by a later one. (The model pops as many transactions as the regenerated table says; with the
table as it is – `fact_v2_tx_push_pop` – that is as many as were pushed.) -/
theorem v2_handle_error_rollback (ft : Fault) (s : Slot) (h : H2) (ops : List HOp) (hl : h.log = []) :
    (H2.hops ft s h ops).1.log = [] := by
  induction ops generalizing h with
  | nil => exact hl
  | cons op ops ih =>
    simp only [H2.hops]
    apply ih
    apply H2.hop_log ft s h op hl
    · cases op <;> rfl
    · rfl

/-- the order the model of the tool follows: per key id the new pair is generated in memory, per file
read – re-encrypt – stat – write in place, and `saveRotatedKeys` after both loops; its error is not
returned; nothing is saved when a key is generated -/
theorem fact_rotate_tool_order :
    KeystoreCrash.rotateFilesCalls =
      ["1:getRotatedPublicKey", "2:ReadFile", "2:rotateAcrastruct", "2:Stat", "2:WriteFile", "0:saveRotatedKeys"] ∧
    KeystoreCrash.rotateSaveErrorReturned = false ∧ KeystoreCrash.rotateKeySavedWhenGenerated = false := ⟨rfl, rfl, rfl⟩

/-- Known finding `rotate-tool:data-rewritten-before-key-saved`.
The property "no point of the tool's run, cut anywhere, leaves data that can be decrypted neither
with the old nor with the new key the keystore offers after restart" – is FALSE for the tool as it is. One
key id, events `read 0, rewrite 0, …, save`:
(1) crash right after the first rewrite (event 1): the file is under the new key, the keystore offers only
the old one; (2) no crash at all – the second file cannot be read (event 2 fails): the tool returns an
error without saving, the first file is lost; (3) the save itself fails (event 2 of a one-file run): the
error is logged, the tool reports success, the file is lost. -/
theorem rotate_tool_order_counterexample :
    (let cut := Rotate.exec Rotate.codeVariant ⟨.ca, 1⟩ 0 .init (Rotate.codeEvents [(0, 1)])
     cut.2 = .crash ∧ cut.1.files 0 0 = some 1 ∧ cut.1.offered 0 = [0]) ∧
    (let cut := Rotate.exec Rotate.codeVariant ⟨.err, 2⟩ 0 .init (Rotate.codeEvents [(0, 2)])
     cut.2 = .err ∧ cut.1.files 0 0 = some 1 ∧ cut.1.offered 0 = [0]) ∧
    (let cut := Rotate.exec Rotate.codeVariant ⟨.err, 2⟩ 0 .init (Rotate.codeEvents [(0, 1)])
     cut.2 = .ok ∧ cut.1.files 0 0 = some 1 ∧ cut.1.offered 0 = [0]) := by decide +kernel

/-- Known finding `rotate-tool:data-file-torn-in-place`. The tool
rewrites a data file in place (`ioutil.WriteFile`: truncate, then write). A write error while the first file is
rewritten (event 1 – disk full, quota, file size limit) makes the tool stop with an error, correctly – but the
file now holds a prefix of the new ciphertext: it can be decrypted with no key at all, old or new. -/
theorem rotate_tool_rewrite_error_counterexample :
    let cut := Rotate.exec Rotate.codeVariant ⟨.err, 1⟩ 0 .init (Rotate.codeEvents [(0, 1)])
    cut.2 = .err ∧ cut.1.files 0 0 = none ∧ cut.1.offered 0 = [0] := by decide +kernel

/-- The save of the new key pair opened up into the key store's own write
operation (v1: the 16 storage calls of the rotation of a key pair = two key files; v2: the 13 back-end calls of
`AddKey` + `SetCurrent`) and cut by a crash right after ANY of its calls (`j < 32` covers every call and, from 16 resp. 13 on, "no cut"):
after the restart the key store offers the old key alone or the new key and the old one – never nothing, never
the new key alone. The new key is offered exactly from the `Rename` that puts the new PRIVATE key file in place
(v1, call 8) / the `Rename` that installs the ring with the added key (v2, call 6) on; before that the rewritten
files are lost (known finding `rotate-tool:data-rewritten-before-key-saved`). In particular the v1 state "new
private key, old public key" (known finding `v1:key-pair-half-written`) already decrypts the rewritten files. -/
theorem rotate_save_cut_keeps_old_key :
    ∀ j < 32,
      ((Rotate.saveCutV1 j).2.2 = some (if 8 ≤ j then [1, 0] else [0])) ∧
      ((Rotate.saveCutV2 j).2.2 = some (if 6 ≤ j then [1, 0] else [0])) := by decide +kernel

/-- The order under which the property refuted by `rotate_tool_order_counterexample` holds. If the new key pair of
an id is saved before the first file of that id is rewritten and files are replaced atomically, then for
every file map (any key ids, any numbers of files), every fault mode and every cut, every data file can be
decrypted with a key the keystore offers after restart – old files with the old key, which stays offered as
a rotated key, rewritten files with the saved new key. This is the repair the known finding asks for; it is
a statement about the model's alternative event order, not about the tool as it is. -/
theorem rotate_tool_order_partial (clients : List (Nat × Nat)) (v : Rotate.Variant) (hv : v.atomicRewrite = true)
    (ft : Fault) : (Rotate.exec v ft 0 .init (Rotate.eventsSavedFirst clients)).1.Safe :=
  (Rotate.exec_ready v hv ft _ 0 .init (fun _ => false) Rotate.Inv.init (by intro c hc; cases hc)
    (Rotate.ready_savedFirst clients _)).safe

/-! The call-level theorems above treat a back-end / storage call that returns an error as not performed and one
that returns `nil` as completely performed. For `DirectoryBackend.Put` and `FileStorage.Copy` that is a claim
about Acra's code; it is proved here over the system-call level models of `Keystore/SysFile.lean`, whose
parameters are regenerated from the source (`Generated/KeystoreSys.lean`). -/

/-- `DirectoryBackend.Put` makes these error-returning calls in this order, tests the error of each before
the next; the clean-up closure is deferred after the `OpenFile` (call 3 onwards), guarded by `file != nil`,
disarmed (`file = nil`) only after the `Close` succeeded; the file is created exclusively. -/
theorem fact_put_syscalls :
    KeystoreSys.putCalls =
      [("b.osPath", "path", true), ("os.MkdirAll", "directory", true), ("os.OpenFile", "fullPath", true),
       ("file.Write", "data", true), ("file.Sync", "", true), ("file.Close", "", true)] ∧
    KeystoreSys.putDeferAt = 3 ∧ KeystoreSys.putDisarmAt = 6 ∧ KeystoreSys.putCleanupGuard = "file != nil" ∧
    KeystoreSys.putOpenFlags = ["O_CREATE", "O_EXCL", "O_WRONLY"] := ⟨rfl, rfl, rfl, rfl, rfl⟩

/-- The clean-up closure of `Put` closes the file and removes THE PATH THAT `OpenFile` CREATED: `os.Remove`
receives the same expression as `os.OpenFile`, and that expression is the OS path `osPath(path)`, not the key
path. -/
theorem fact_put_cleanup_removes_created_file :
    KeystoreSys.putCleanupCalls = [("file.Close", ""), ("os.Remove", "fullPath")] ∧
    Sys.putCode.removeArg = some Sys.putCode.openArg ∧
    KeystoreSys.putPathDefs.lookup "fullPath" = some "b.osPath(path)" := by decide +kernel

/-- the `Put` of the source satisfies what the model's clean-up lemma needs -/
theorem put_code_sound : Sys.putCode.Sound := ⟨by decide +kernel, by decide, by decide⟩

/-- `OpenFile` of the source creates the OS path -/
theorem put_code_open_path (e : Sys.PutEnv) : e.eval Sys.putCode.openArg = some e.fullPath := by
  have h : Sys.putCode.openArg = "fullPath" := by decide +kernel
  rw [h]; rfl

/-- Whatever fails inside `Put` – path check, `MkdirAll`, the exclusive create,
`write(2)` after any number of bytes, `fsync`, `close`, also several of them – when `Put` returns an error (the
process did not crash, the clean-up's `Remove` worked) the directory holds exactly the files it held before:
no `<ring>.keyring.new` is left, and a file that was there before (the reason for `ErrExist`) is not removed.
This is what the call-level model assumes of a failing `Put` (`X2.call … .err`: not performed). -/
theorem put_error_leaves_no_file (e : Sys.PutEnv) (f : Sys.PutFaults) (hf : f.remove = false) (d : Sys.Disk) (data : Bytes)
    (h : (Sys.put e f d data).2 = .err) : (Sys.put e f d data).1 = d :=
  Sys.putWith_err_unchanged _ put_code_sound e f hf d data h

/-- Hence a failed write is not sticky: once the fault is gone the same
`Put` succeeds and leaves exactly the data (the path being free, as it was for the first attempt). -/
theorem retry_after_put_error_succeeds (e : Sys.PutEnv) (f : Sys.PutFaults) (hf : f.remove = false) (d : Sys.Disk) (data : Bytes)
    (hfree : d e.fullPath = none) (h : (Sys.put e f d data).2 = .err) :
    Sys.put e Sys.PutFaults.none (Sys.put e f d data).1 data = (upd d e.fullPath (some data), .ok) := by
  rw [put_error_leaves_no_file e f hf d data h]
  exact Sys.putWith_none _ e d data e.fullPath (put_code_open_path e) hfree

/-- A `Put` that returns `nil` found nothing at the path and left exactly the data there –
what the call-level model assumes of a successful `Put`. -/
theorem put_ok_complete (e : Sys.PutEnv) (f : Sys.PutFaults) (d : Sys.Disk) (data : Bytes) (h : (Sys.put e f d data).2 = .ok) :
    d e.fullPath = none ∧ (Sys.put e f d data).1 = upd d e.fullPath (some data) := by
  obtain ⟨p, hp, hn, he⟩ := Sys.putWith_ok _ e f d data h
  have : p = e.fullPath := by
    rw [put_code_open_path e] at hp; cases hp; rfl
  subst this; exact ⟨hn, he⟩

/-- A crash inside `Put` (no clean-up runs) leaves the directory as it was or with
a prefix of the data at the path – the cases `cb`, `torn`, `ca` of the call-level fault model (known finding
`v2:leftover-keyring-new`). -/
theorem put_crash_leaves_prefix (e : Sys.PutEnv) (stage n : Nat) (d : Sys.Disk) (data : Bytes) :
    Sys.putCrash e stage n d data = d ∨ ∃ m, Sys.putCrash e stage n d data = upd d e.fullPath (some (data.take m)) :=
  Sys.putCrash_prefix e stage n d data

/-- The hypothesis that matters is WHICH path the clean-up removes:
hand `os.Remove` the key path instead of the OS path (they differ: the key path is relative) and a `write(2)`
that fails after 3 bytes leaves the torn file behind, `Put` returns an error, and the retry without any fault
is refused for ever (`O_EXCL`). -/
theorem put_cleanup_wrong_path_counterexample :
    let c : Sys.PutCode := { Sys.putCode with removeArg := some "path" }
    let e : Sys.PutEnv := ⟨"client/alice/storage-sym.keyring.new", "/keys/client/alice/storage-sym.keyring.new"⟩
    let r := Sys.putWith c e { write := some 3 } (fun _ => none) [1, 2, 3, 4, 5]
    r.2 = .err ∧ r.1 e.fullPath = some [1, 2, 3] ∧ (Sys.putWith c e Sys.PutFaults.none r.1 [1, 2, 3, 4, 5]).2 = .err := by
  decide +kernel

/-- `FileStorage.Copy` makes these error-returning calls in this order and the error of EVERY one is tested (or
returned) before `err` is assigned again; the closure that closes the destination is deferred after the
exclusive create of the destination. -/
theorem fact_copy_error_flow :
    KeystoreSys.copyCalls =
      [("os.Open", "src", true), ("srcFile.Stat", "", true), ("os.OpenFile", "dst", true),
       ("io.Copy", "dstFile", true), ("dstFile.Sync", "", true)] ∧
    KeystoreSys.copyDeferAt = 3 ∧ KeystoreSys.copyOpenFlags = ["O_CREATE", "O_EXCL", "O_WRONLY"] := ⟨rfl, rfl, rfl⟩

/-- the error of `io.Copy` is kept -/
theorem copy_code_kept : Sys.copyCode.copyKept = true := by decide +kernel

/-- `Copy` returns `nil` only when the destination did not exist and now holds exactly the
content of the source – for every fault pattern (any subset of its system calls failing, `io.Copy` after any
number of bytes). This is what the call-level model assumes of `Link`/`Copy` in `applyCall`: success = the
complete current content is in the history. -/
theorem copy_ok_complete (f : Sys.CopyFaults) (d : Sys.Disk) (src dst : Sys.Path) (h : (Sys.copy f d src dst).2 = .ok) :
    ∃ s, d src = some s ∧ d dst = none ∧ (Sys.copy f d src dst).1 = upd d dst (some s) :=
  Sys.copyWith_ok _ copy_code_kept f d src dst h

/-- The hypothesis "the error of `io.Copy` is tested before `err` is assigned
again" is needed: let `err = dstFile.Sync()` overwrite it and a copy that breaks off after 2 of 5 bytes is
reported as a success. -/
theorem copy_unchecked_counterexample :
    let c : Sys.CopyCode := { Sys.copyCode with copyKept := false }
    let d : Sys.Disk := fun p => if p = "k" then some [1, 2, 3, 4, 5] else none
    let r := Sys.copyWith c { copy := some 2 } d "k" "k.old/1"
    r.2 = .ok ∧ r.1 "k.old/1" = some [1, 2] := by decide +kernel

/-- A `Copy` that returns an error changed nothing, or – when its clean-up does not
remove the destination – left a prefix of the source under the destination name. -/
theorem copy_error_leaves_prefix (f : Sys.CopyFaults) (d : Sys.Disk) (src dst : Sys.Path) (h : (Sys.copy f d src dst).2 = .err) :
    (Sys.copy f d src dst).1 = d ∨
      (¬ (Sys.copyCode.removesDst = true ∧ f.remove = false) ∧ d dst = none ∧
        ∃ s n, d src = some s ∧ (Sys.copy f d src dst).1 = upd d dst (some (s.take n))) :=
  Sys.copyWith_err _ f d src dst h

/-- `WriteKeyFile` over the same file map, with `backupHistoricalKeyFile`
inlined and `Copy` at system-call level: when the rotation of an existing key file returns `nil`, the key file
holds the new data AND the history name holds the complete previous content – for every fault at every storage
call, every fault inside the history copy, with hard links or without. -/
theorem rotation_ok_keeps_previous_key (e : Sys.WkfEnv) (he : e.Distinct) (f : Sys.WkfFaults) (d : Sys.Disk)
    (data old : Bytes) (hold : d e.file = some old) (h : (Sys.writeKeyFileWith Sys.copyCode e f d data).2 = .ok) :
    (Sys.writeKeyFileWith Sys.copyCode e f d data).1 e.file = some data ∧
    (Sys.writeKeyFileWith Sys.copyCode e f d data).1 e.backup = some old :=
  Sys.writeKeyFileWith_ok _ copy_code_kept e he f d data old hold h

/-- When the rotation of `rotation_ok_keeps_previous_key` returns an error the key file is what it was. -/
theorem rotation_error_keeps_current_key (e : Sys.WkfEnv) (he : e.Distinct) (f : Sys.WkfFaults) (d : Sys.Disk)
    (data : Bytes) (h : (Sys.writeKeyFileWith Sys.copyCode e f d data).2 = .err) :
    (Sys.writeKeyFileWith Sys.copyCode e f d data).1 e.file = d e.file :=
  Sys.writeKeyFileWith_err _ e he f d data h

/-- The call-level form, on a storage without hard links (every history entry is
made by `Copy`), for every state of the store, every single-file key, every size of the key file and every file
size limit the copy may hit: a rotation that reports success has the new generation current and the previous
content complete in the history; one that reports an error left the current key alone. -/
theorem v1_nolink_rotation_atomic (st : V1) (s : Slot) (len : Nat) (limit : Option Nat) (c0 : Content)
    (hc0 : st.fs.cur (privFile s) = some c0) :
    ((Sys.V1.genNoLink Sys.copyCode st s len limit).2.2 = .ok →
      (Sys.V1.genNoLink Sys.copyCode st s len limit).1.fs.cur (privFile s) = some (.full (st.count s + 1)) ∧
      ∃ t, (t, c0) ∈ (Sys.V1.genNoLink Sys.copyCode st s len limit).1.fs.old (privFile s)) ∧
    ((Sys.V1.genNoLink Sys.copyCode st s len limit).2.2 = .err →
      (Sys.V1.genNoLink Sys.copyCode st s len limit).1.fs.cur (privFile s) = some c0) :=
  ⟨Sys.V1.genNoLink_ok _ copy_code_kept st s len limit c0 hc0, Sys.V1.genNoLink_err _ st s len limit c0 hc0⟩

/-- Known finding `v1:partial-history-copy`, repair offered as
repo-patches/53. With a clean-up that does not remove the destination, a history copy that hits the limit after
10 of 76 bytes makes the rotation fail – correctly – but leaves a truncated file under a history name: the key
that was current still reads, "all keys" of the slot does not any more. With the removing clean-up the failed
rotation leaves the storage as it was. -/
theorem copy_partial_history_counterexample :
    let st := ((V1.init (-1)).run [.gen ss0, .gen ss0]).1
    let keep := Sys.V1.genNoLink { Sys.copyCode with removesDst := false } st ss0 76 (some 10)
    let clean := Sys.V1.genNoLink { Sys.copyCode with removesDst := true } st ss0 76 (some 10)
    keep.2.2 = .err ∧ (keep.1.clear.step (.cur ss0)).2 = .key 2 ∧ (keep.1.clear.step (.all ss0)).2 = .err ∧
    clean.2.2 = .err ∧ (clean.1.clear.step (.all ss0)).2 = .keys [2, 1] := by decide +kernel

/-- the freshness hypothesis holds initially and after a completed write -/
example : FS.init.TmpFresh := by intro t ht; simp [FS.init] at ht

example : (applyAll FS.init (writeKeyFileCalls FS.init (privFile ss0) (.full 1))).1.cur (privFile ss0) = some (.full 1) := by
  have h := (v1_write_complete FS.init (privFile ss0) (.full 1) (by intro t ht; simp [FS.init] at ht)).2.1
  rw [h]; simp

/-- the hypotheses of `v2_write_op_atomic` are satisfiable: a slot generated twice, fault at call 7 -/
example :
    (∀ o ∈ [Op.gen ss0, .gen ss0], o.isDcur = false ∧ o.idxOk = true) ∧ genFirst (fun _ => false) [Op.gen ss0, .gen ss0] = true ∧
    (V2.init.run [.gen ss0, .gen ss0]).1.count ss0 ≠ 0 := by decide +kernel

/-- an instance of `v1_write_op_atomic` where the fault bites: crash after the `Link` (call 5) of the
third generation – the old key 2 is current and in the history twice, nothing is lost -/
example :
    let st := ((V1.init (-1)).run [.gen ss0, .gen ss0]).1
    let fs' := (st.stepF ⟨.ca, 5⟩ (.gen ss0)).1.fs
    fs'.cur (privFile ss0) = some (.full 2) ∧ (fs'.old (privFile ss0)).map (·.2) = [.full 1, .full 2] := by decide +kernel

/-- the complete, fault-free run of the tool as it is leaves everything decryptable (two key ids, three files) -/
example :
    let fin := Rotate.exec Rotate.codeVariant ⟨.none, 0⟩ 0 .init (Rotate.codeEvents [(0, 2), (1, 1)])
    fin.2 = .ok ∧ fin.1.files 0 1 = some 1 ∧ fin.1.offered 0 = [1, 0] ∧ fin.1.files 1 0 = some 1 ∧ fin.1.offered 1 = [1, 0] := by decide +kernel

/-- an instance of `import_atomic_per_key` where the fault bites: a torn write of the second file of a
pair import – the private file is new, the public file still the old one, nothing is torn -/
example :
    let st := ((V1.init (-1)).run [.gen sp0]).1
    let cut := st.importF ⟨.torn, 6⟩ [privFile sp0, pubFile sp0]
    cut.2.2.2 = .crash ∧ cut.1.fs.cur (privFile sp0) = some (.full 2) ∧ cut.1.fs.cur (pubFile sp0) = some (.full 1) := by decide +kernel

/-- a handle operation that fails in the middle: `DestroyKey` with an error at `Put` leaves the log empty and
the stored ring untouched; the next `AddKey` through the same handle adds a key and destroys nothing -/
example :
    let st := (V2.init.run [.gen ss0, .gen ss0]).1
    let r := (H2.open st ss0).map fun h0 => H2.hops ⟨.err, 2⟩ ss0 h0 [.destroy 1, .add]
    (r.map fun p => (p.2, p.1.log, (p.1.x.st.rings ss0).map (·.keys.map (·.data)))) =
      some ([.err, .ok], [], some [some 1, some 2, some 3]) := by decide +kernel

/-- a `Put` whose `write(2)` fails after 3 bytes: error returned, directory unchanged, retry succeeds -/
example :
    let e : Sys.PutEnv := ⟨"ring.new", "/keys/ring.new"⟩
    let r := Sys.put e { write := some 3 } (fun _ => none) [1, 2, 3, 4, 5]
    r.2 = .err ∧ r.1 e.fullPath = none ∧ (Sys.put e Sys.PutFaults.none r.1 [1, 2, 3, 4, 5]).2 = .ok := by decide +kernel

/-- the hypotheses of `rotation_ok_keeps_previous_key` are satisfiable, also on the `Copy` path -/
example :
    let e : Sys.WkfEnv := ⟨"k", "k123", "k.old/t"⟩
    let d : Sys.Disk := fun p => if p = "k" then some [1, 2] else none
    (Sys.writeKeyFileWith Sys.copyCode e { link := true } d [3, 4]).2 = .ok ∧
    (Sys.writeKeyFileWith Sys.copyCode e { link := true, copy := { copy := some 1 } } d [3, 4]).2 = .err := by decide +kernel

end AcraModel.Props.C08
