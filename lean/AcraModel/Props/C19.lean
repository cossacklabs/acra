import AcraModel.Typed.PolicyLemmas
import AcraModel.Typed.KindsLemmas
import AcraModel.Typed.RowLemmas
import AcraModel.Wire.ByteaLemmas
/-!
# C19 — typed columns come back in the declared type or per the failure policy

Property theorems about the model of the type-aware read path (`Typed/Policy.lean`: the real
decoder → (reveal) → encoder chain of both proxies) against the independent specification of
`Typed/Spec.lean`. The subscribers in between are an arbitrary function `reveal`.
-/
namespace AcraModel.Props.C19
open AcraModel AcraModel.Typed AcraModel.Wire

/-- Every encoder parses integers with the same width in `Encode`, `encodeDefault` and
`ValidateDefaultValue` (so a default accepted at start-up always encodes), 32 bits for the int32 types and
64 for the int64 types, and always in base 10. -/
theorem fact_parseIntBits :
    Generated.Typed.parseIntBits = [
      ("Int4DataTypeEncoder", "Encode", [32]), ("Int4DataTypeEncoder", "ValidateDefaultValue", [32]), ("Int4DataTypeEncoder", "encodeDefault", [32]),
      ("Int8DataTypeEncoder", "Encode", [64]), ("Int8DataTypeEncoder", "ValidateDefaultValue", [64]), ("Int8DataTypeEncoder", "encodeDefault", [64]),
      ("LongDataTypeEncoder", "Encode", [32]), ("LongDataTypeEncoder", "ValidateDefaultValue", [32]), ("LongDataTypeEncoder", "encodeDefault", [32]),
      ("LongLongDataTypeEncoder", "Encode", [64]), ("LongLongDataTypeEncoder", "ValidateDefaultValue", [64]), ("LongLongDataTypeEncoder", "encodeDefault", [64])] := rfl

/-- The encoders are registered under the type ids the configuration maps `data_type` to
(int32 → Int4OID / TypeLong, int64 → Int8OID / TypeLongLong, str → TextOID / TypeString, bytes → ByteaOID / TypeBlob). -/
theorem fact_encoder_registry :
    Generated.Typed.pgEncoders = [("Int4OID", "Int4DataTypeEncoder"), ("Int8OID", "Int8DataTypeEncoder"), ("TextOID", "TextDataType"), ("ByteaOID", "ByteaDataTypeEncoder")] ∧
    Generated.Typed.myEncoders = [("TypeLong", "LongDataTypeEncoder"), ("TypeLongLong", "LongLongDataTypeEncoder"), ("TypeString", "StringDataTypeEncoder"), ("TypeBlob", "BlobDataTypeEncoder")] ∧
    Generated.Typed.pgEncryptedTypeIDs = [("EncryptedType_Bytes", "ByteaOID"), ("EncryptedType_Int32", "Int4OID"), ("EncryptedType_Int64", "Int8OID"), ("EncryptedType_String", "TextOID")] ∧
    Generated.Typed.myEncryptedTypeIDs = [("EncryptedType_Bytes", "TypeBlob"), ("EncryptedType_Int32", "TypeLong"), ("EncryptedType_Int64", "TypeLongLong"), ("EncryptedType_String", "TypeString")] := ⟨rfl, rfl, rfl, rfl⟩

/-- In both proxies the decoder is subscribed before, and the encoder after, every subscriber that can
reveal a value (decoder first, encoder last). -/
theorem fact_wiring :
    Generated.Typed.pgSubscribeOrder.head? = some "decoderProcessor" ∧
    Generated.Typed.pgSubscribeOrder.getLast? = some "encoderProcessor" ∧
    Generated.Typed.mySubscribeOrder.getLast? = some "NewDataEncoderProcessor()" ∧
    Generated.Typed.mySubscribeOrder.idxOf "NewDataDecoderProcessor()" < Generated.Typed.mySubscribeOrder.idxOf "containerDetector" ∧
    Generated.Typed.mySubscribeOrder.idxOf "NewDataDecoderProcessor()" < Generated.Typed.mySubscribeOrder.idxOf "tokenProcessor" := by decide +kernel

/-- The failure-policy names of the configuration and the MySQL type codes the model uses. -/
theorem fact_policy_names_and_codes :
    Generated.Typed.onFailEmpty = "" ∧ Generated.Typed.onFailCiphertext = "ciphertext" ∧
    Generated.Typed.onFailDefault = "default_value" ∧ Generated.Typed.onFailError = "error" ∧
    myTypeCode .int32 = 3 ∧ myTypeCode .int64 = 8 ∧ myTypeCode .str = 254 ∧ myTypeCode .bytes = 252 := ⟨rfl, rfl, rfl, rfl, rfl, rfl, rfl, rfl⟩

/-- **int_codec_roundtrip (text).** Formatting an integer of the column's width and parsing it back gives
the same integer – including both boundary values. -/
theorem int_codec_roundtrip_text (bits : Nat) (n : Int) (hb : 1 ≤ bits) (h : inRange bits n) :
    parseInt (formatInt n) bits = some n := parseInt_formatInt bits n hb h

/-- **int_codec_roundtrip (binary).** The fixed-width forms (PostgreSQL big-endian, MySQL little-endian)
decode to the integer they encode, for every width and every in-range value; and every `k`-byte string is
the encoding of exactly the integer it decodes to. -/
theorem int_codec_roundtrip_binary (k : Nat) (n : Int) (hk : 1 ≤ k) (h : inRange (8 * k) n) :
    beToInt (intToBE k n) = n ∧ leToInt (intToLE k n) = n ∧
    (intToBE k n).length = k ∧ (intToLE k n).length = k :=
  ⟨beToInt_intToBE k n hk h, leToInt_intToLE k n hk h, intToBE_length k n, intToLE_length k n⟩

/-- every non-empty byte string is the binary form of the integer it decodes to, which is in range -/
theorem int_codec_binary_total (b : Bytes) (hb : 1 ≤ b.length) :
    intToBE b.length (beToInt b) = b ∧ inRange (8 * b.length) (beToInt b) ∧
    intToLE b.length (leToInt b) = b ∧ inRange (8 * b.length) (leToInt b) :=
  ⟨intToBE_beToInt b hb, beToInt_inRange b hb, intToLE_leToInt b hb, leToInt_inRange b hb⟩

/-- **int_codec_range.** Whatever `ParseInt` accepts lies in the range of the width – a value is never
wrapped – and the decimal form of any out-of-range integer is rejected. -/
theorem int_codec_range (bits : Nat) (hb : 1 ≤ bits) :
    (∀ s n, parseInt s bits = some n → inRange bits n) ∧
    (∀ n, ¬ inRange bits n → parseInt (formatInt n) bits = none) :=
  ⟨fun s n h => parseInt_inRange s bits n hb h, fun n h => parseInt_formatInt_out_of_range bits n hb h⟩

/-- **typed_owner (PostgreSQL).** When the value is revealed as a non-empty plaintext `m` that is a value
of the declared type, the client receives exactly the specification encoding of `m` as that type in the
format it asked for: binary integers big-endian of the declared width, text integers as their decimal
text, strings as they are, bytes as they are (binary) or as bytea hex (text). -/
theorem typed_owner_pg (s : Setting) (t : DataType) (binary : Bool) (d64 : Default64)
    (reveal : Bytes → Option Bytes) (wire x m w : Bytes)
    (ht : s.dataType = some t) (hx : pgDecode s binary wire = some x) (hr : reveal x = some m)
    (hm : m ≠ []) (hw : pgSpecEncode t binary m = some w) :
    pgTypedRead s binary d64 reveal wire = .value w false := by
  unfold pgTypedRead
  simp only [hx, hr]
  have hme : m.isEmpty = false := List.isEmpty_eq_false_iff.mpr hm
  unfold pgEncode
  simp only [hme, Bool.false_eq_true, if_false, ht]
  cases t <;> simp only [pgSpecEncode, bitsOf, Option.getD_some] at hw ⊢
  · cases hp : parseInt m 32 <;> simp_all
  · cases hp : parseInt m 64 <;> simp_all
  · simp_all
  · simp_all

/-- **typed_policy (PostgreSQL).** When the value is not revealed (and the stored data is non-empty and,
for integer columns, is not itself a decimal literal – a ciphertext never is), the client receives exactly
what the failure policy says, stated outright as a table:
* `error` → an encoding error for the statement;
* `default_value` with a (valid) default → the specification encoding of the default as the declared type;
* `ciphertext`, or `default_value` without a configured default → the stored value (bytea columns in text
  format as bytea hex). -/
theorem typed_policy_pg (s : Setting) (t : DataType) (binary : Bool) (d64 : Default64)
    (reveal : Bytes → Option Bytes) (wire x : Bytes)
    (ht : s.dataType = some t) (hx : pgDecode s binary wire = some x) (hr : reveal x = none)
    (hne : x ≠ []) (hv : validDefault s d64)
    (hnl : ∀ n, parseInt x (bitsOf t) ≠ some n ∨ bitsOf t = 0) :
    pgTypedRead s binary d64 reveal wire =
      match s.policy, defaultPlain s d64 with
      | .error, _ => .encodingError
      | .defaultValue, some d =>
        (match pgSpecEncode t binary d with
         | some w => .value w false
         | none => .otherError)
      | _, _ => .value (pgCipherForm t binary x) false := by
  unfold pgTypedRead
  simp only [hx, hr]
  rw [pgEncode_unrevealed s t binary _ d64 x ht hne hnl, pgEncodeOnFail_eq s t binary d64 ht]
  cases defaultPlain s d64 with
  | none => cases s.policy <;> rfl
  | some d => cases s.policy <;> dsimp only <;> cases pgSpecEncode t binary d <;> rfl

/-- the specification encoding of a value decodes under its type -/
theorem pgSpecEncode_decodes (t : DataType) (binary : Bool) (m w : Bytes)
    (h : pgSpecEncode t binary m = some w) : pgDecodesAs t binary w := by
  cases t <;> simp only [pgSpecEncode, pgDecodesAs] at h ⊢
  · cases hp : parseInt m 32 <;> simp [hp] at h
    cases binary <;> simp_all
    rw [← h]; exact intToBE_length 4 _
  · cases hp : parseInt m 64 <;> simp [hp] at h
    cases binary <;> simp_all
    rw [← h]; exact intToBE_length 8 _
  · cases binary <;> simp_all
    exact ⟨m, by rw [← h]; exact Bytea.decodeEscaped_pgEncodeToHex m⟩

/-- a stored value of an integer column that is itself a decimal literal of the declared width is
delivered as that integer (it is a value of the declared type), whoever reads it -/
theorem unrevealed_literal_pg (s : Setting) (t : DataType) (binary : Bool) (d64 : Default64)
    (reveal : Bytes → Option Bytes) (wire x : Bytes) (n : Int)
    (ht : s.dataType = some t) (hx : pgDecode s binary wire = some x) (hr : reveal x = none)
    (hb : bitsOf t ≠ 0) (hn : parseInt x (bitsOf t) = some n) :
    pgTypedRead s binary d64 reveal wire = .value (if binary then intToBE (bitsOf t / 8) n else x) false := by
  unfold pgTypedRead
  simp only [hx, hr]
  have hxe : x.isEmpty = false := by
    cases x with
    | nil => cases t <;> simp [parseInt] at hn hb
    | cons _ _ => rfl
  unfold pgEncode
  simp only [hxe, Bool.false_eq_true, if_false, ht]
  cases t <;> simp_all [bitsOf]

/-- **never_wrong_type (PostgreSQL).** For a valid setting and a plaintext that is a value of the declared
type, every value that is delivered either decodes under the declared type in the requested format, or the
value was not revealed, the policy is `ciphertext` (or `default_value` with no default configured) and the
delivered bytes are the stored value. Nothing else – in particular no value of another type and no partly
revealed value – is ever delivered. -/
theorem never_wrong_type_pg (s : Setting) (t : DataType) (binary : Bool) (d64 : Default64)
    (reveal : Bytes → Option Bytes) (wire x out : Bytes) (rb : Bool)
    (ht : s.dataType = some t) (hx : pgDecode s binary wire = some x) (hne : x ≠ [])
    (hv : validDefault s d64)
    (hrep : ∀ m, reveal x = some m → m ≠ [] ∧ (pgSpecEncode t binary m).isSome)
    (h : pgTypedRead s binary d64 reveal wire = .value out rb) :
    pgDecodesAs t binary out ∨
      (reveal x = none ∧ (s.policy = .ciphertext ∨ (s.policy = .defaultValue ∧ s.default = none)) ∧
        out = pgCipherForm t binary x) := by
  cases hr : reveal x with
  | some m =>
    obtain ⟨hm, hs⟩ := hrep m hr
    obtain ⟨w, hw⟩ := Option.isSome_iff_exists.mp hs
    rw [typed_owner_pg s t binary d64 reveal wire x m w ht hx hr hm hw] at h
    cases h
    exact Or.inl (pgSpecEncode_decodes t binary m _ hw)
  | none =>
    by_cases hlit : ∃ n, parseInt x (bitsOf t) = some n ∧ bitsOf t ≠ 0
    · obtain ⟨n, hn, hb⟩ := hlit
      rw [unrevealed_literal_pg s t binary d64 reveal wire x n ht hx hr hb hn] at h
      cases h
      left
      cases t <;> simp [bitsOf] at hb hn ⊢
      · cases binary <;> simp_all [pgDecodesAs]
      · cases binary <;> simp_all [pgDecodesAs]
    · rw [typed_policy_pg s t binary d64 reveal wire x ht hx hr hne hv (not_literal_of x _ hlit)] at h
      rcases policyTable_value _ _ _ _ _ _ h with ⟨d, _, hw, _⟩ | ⟨hp, hc⟩
      · exact .inl (pgSpecEncode_decodes t binary d _ hw)
      · cases hc
        exact .inr ⟨rfl, hp.imp_right fun ⟨h1, h2⟩ => ⟨h1, default_none_of_plain s t d64 ht hv h2⟩, rfl⟩

/-- **describe_matches_data (PostgreSQL), the description side.** For a type-aware column the row description announces
the declared type's OID (int4 23, int8 20, text 25, bytea 17). That the delivered value decodes under exactly that type
is `never_wrong_type_pg`, the only exception being the stored value handed over under the `ciphertext` policy.
(PostgreSQL has no roll-back of the description: under that policy the column is still announced as the declared type.) -/
theorem describe_matches_data_pg (s : Setting) (t : DataType) (dbOid : Nat) (ht : s.dataType = some t) :
    pgDescribe s true dbOid = pgOid t ∧
    (pgOid .int32 = 23 ∧ pgOid .int64 = 20 ∧ pgOid .str = 25 ∧ pgOid .bytes = 17) := by
  simp [pgDescribe, ht, pgOid]

theorem myDecode_blobLike (binary : Bool) (c o : Nat) (wire : Bytes) (ho : blobLike o) :
    myDecode binary c o wire = wire := by
  obtain ⟨h0, h1, h2, h3, _, _, _, h8, h9, h13⟩ := ho
  unfold myDecode
  cases binary <;> simp [h0, Generated.Typed.myTypeTiny, Generated.Typed.myTypeShort, Generated.Typed.myTypeYear,
    Generated.Typed.myTypeInt24, Generated.Typed.myTypeLong, Generated.Typed.myTypeLongLong, h1, h2, h3, h8, h9, h13]

theorem myEncodeBinaryAs_blobLike (o : Nat) (data : Bytes) (ho : blobLike o) :
    myEncodeBinaryAs o data = .value (lenenc data) false := by
  obtain ⟨_, h1, h2, h3, _, _, h6, h8, h9, h13⟩ := ho
  unfold myEncodeBinaryAs
  simp [Generated.Typed.myTypeNull, Generated.Typed.myTypeTiny, Generated.Typed.myTypeShort, Generated.Typed.myTypeYear,
    Generated.Typed.myTypeInt24, Generated.Typed.myTypeLong, Generated.Typed.myTypeLongLong, h1, h2, h3, h6, h8, h9, h13]

/-- **typed_owner (MySQL).** A revealed, non-empty plaintext that is a value of the declared type is
delivered as the specification encoding of that type (little-endian integers in the binary protocol,
length-encoded text otherwise) and the column keeps the declared type (no roll-back). -/
theorem typed_owner_my (s : Setting) (t : DataType) (binary : Bool) (o : Nat) (d64 : Default64)
    (reveal : Bytes → Option Bytes) (wire m w : Bytes)
    (ht : s.dataType = some t) (ho : blobLike o) (hr : reveal wire = some m)
    (hm : m ≠ []) (hw : mySpecEncode t binary m = some w) :
    myTypedRead s binary (myTypeCode t) o d64 reveal wire = .value w false := by
  unfold myTypedRead
  simp only [myDecode_blobLike binary _ o wire ho, hr]
  have hme : m.isEmpty = false := List.isEmpty_eq_false_iff.mpr hm
  unfold myEncode myTypeEncode
  simp only [hme, Bool.false_eq_true, if_false, ht]
  cases t <;> simp only [mySpecEncode, bitsOf] at hw ⊢
  · cases hp : parseInt m 32 <;> simp_all
  · cases hp : parseInt m 64 <;> simp_all
  · simp_all
  · simp_all

/-- **typed_policy (MySQL).** When the value is not revealed (stored data non-empty and, for integer
columns, not a decimal literal): `error` → encoding error for the statement; `default_value` with a valid
default → the default encoded as the declared type, column described as the declared type; `ciphertext`
(or no default configured) → the stored value, length-encoded, with the column description rolled back to
the type the database announced. -/
theorem typed_policy_my (s : Setting) (t : DataType) (binary : Bool) (o : Nat) (d64 : Default64)
    (reveal : Bytes → Option Bytes) (wire : Bytes)
    (ht : s.dataType = some t) (ho : blobLike o) (hr : reveal wire = none)
    (hne : wire ≠ []) (hv : validDefault s d64)
    (hnl : ∀ n, parseInt wire (bitsOf t) ≠ some n ∨ bitsOf t = 0) :
    myTypedRead s binary (myTypeCode t) o d64 reveal wire =
      match s.policy, defaultPlain s d64 with
      | .error, _ => .encodingError
      | .defaultValue, some d =>
        (match mySpecEncode t binary d with
         | some w => .value w false
         | none => .otherError)
      | _, _ => .value (lenenc wire) true := by
  unfold myTypedRead
  simp only [myDecode_blobLike binary _ o wire ho, hr]
  rw [myEncode_unrevealed s t binary _ o d64 wire ht hne hnl (myEncodeBinaryAs_blobLike o wire ho),
    myEncodeOnFail_eq s t binary d64 ht]
  cases defaultPlain s d64 with
  | none => cases s.policy <;> rfl
  | some d => cases s.policy <;> dsimp only <;> cases mySpecEncode t binary d <;> rfl

/-- the MySQL specification encoding of a value decodes under the declared type's column code -/
theorem mySpecEncode_decodes (t : DataType) (binary : Bool) (m w : Bytes)
    (h : mySpecEncode t binary m = some w) : myDecodesAs (myTypeCode t) binary w := by
  cases t <;> simp only [mySpecEncode, myDecodesAs, myTypeCode, Generated.Typed.myTypeLong, Generated.Typed.myTypeLongLong,
    Generated.Typed.myTypeString, Generated.Typed.myTypeBlob] at h ⊢
  · cases hp : parseInt m 32 <;> simp [hp] at h
    cases binary <;> simp_all
    · exact ⟨m, h.symm, by simp [hp]⟩
    · rw [← h]; exact intToLE_length 4 _
  · cases hp : parseInt m 64 <;> simp [hp] at h
    cases binary <;> simp_all
    · exact ⟨m, h.symm, by simp [hp]⟩
    · rw [← h]; exact intToLE_length 8 _
  · simp at h ⊢; exact ⟨m, h.symm⟩
  · simp at h ⊢; exact ⟨m, h.symm⟩

/-- a stored decimal literal of the declared width in an integer column is delivered as that integer -/
theorem unrevealed_literal_my (s : Setting) (t : DataType) (binary : Bool) (o : Nat) (d64 : Default64)
    (reveal : Bytes → Option Bytes) (wire : Bytes) (n : Int)
    (ht : s.dataType = some t) (ho : blobLike o) (hr : reveal wire = none)
    (hb : bitsOf t ≠ 0) (hn : parseInt wire (bitsOf t) = some n) :
    myTypedRead s binary (myTypeCode t) o d64 reveal wire =
      .value (if binary then intToLE (bitsOf t / 8) n else lenenc wire) false := by
  unfold myTypedRead
  simp only [myDecode_blobLike binary _ o wire ho, hr]
  have hxe : wire.isEmpty = false := by
    cases wire with
    | nil => cases t <;> simp [parseInt] at hn hb
    | cons _ _ => rfl
  unfold myEncode myTypeEncode
  simp only [hxe, Bool.false_eq_true, if_false, ht]
  cases t <;> simp_all [bitsOf]

/-- **describe_matches_data / never_wrong_type (MySQL).** For a valid setting, a column stored as a
blob-like type and a plaintext that is a value of the declared type: whatever value is delivered decodes
under the type the column definition finally announces – the declared type when the value was revealed,
replaced by the default or is itself a literal of that type, and the database's own type after the
roll-back when the stored value is handed over. So the description and the data always agree, and a value
is never delivered under the wrong type. -/
theorem describe_matches_data_my (s : Setting) (t : DataType) (binary : Bool) (o : Nat) (d64 : Default64)
    (reveal : Bytes → Option Bytes) (wire out : Bytes) (rb : Bool)
    (ht : s.dataType = some t) (ho : blobLike o) (hne : wire ≠ []) (hv : validDefault s d64)
    (hrep : ∀ m, reveal wire = some m → m ≠ [] ∧ (mySpecEncode t binary m).isSome)
    (h : myTypedRead s binary (myTypeCode t) o d64 reveal wire = .value out rb) :
    myDecodesAs (myDescribe s o rb) binary out ∧
    (rb = true → reveal wire = none ∧ out = lenenc wire ∧
      (s.policy = .ciphertext ∨ (s.policy = .defaultValue ∧ s.default = none))) := by
  have hblob : ∀ v : Bytes, myDecodesAs o binary (lenenc v) := by
    intro v
    obtain ⟨_, _, _, h3, _, _, _, h8, _, _⟩ := ho
    simp only [myDecodesAs, Generated.Typed.myTypeLong, Generated.Typed.myTypeLongLong, h3, h8, if_false]
    exact ⟨v, rfl⟩
  have hdesc : ∀ b, myDescribe s o b = if b then o else myTypeCode t := by
    intro b; cases b <;> simp [myDescribe, ht]
  cases hr : reveal wire with
  | some m =>
    obtain ⟨hm, hs⟩ := hrep m hr
    obtain ⟨w, hw⟩ := Option.isSome_iff_exists.mp hs
    rw [typed_owner_my s t binary o d64 reveal wire m w ht ho hr hm hw] at h
    cases h
    refine ⟨?_, by simp⟩
    rw [hdesc]; exact mySpecEncode_decodes t binary m _ hw
  | none =>
    by_cases hlit : ∃ n, parseInt wire (bitsOf t) = some n ∧ bitsOf t ≠ 0
    · obtain ⟨n, hn, hb⟩ := hlit
      rw [unrevealed_literal_my s t binary o d64 reveal wire n ht ho hr hb hn] at h
      cases h
      refine ⟨?_, by simp⟩
      rw [hdesc]
      have : mySpecEncode t binary wire = some (if binary then intToLE (bitsOf t / 8) n else lenenc wire) := by
        cases t <;> simp_all [mySpecEncode, bitsOf]
      exact mySpecEncode_decodes t binary wire _ this
    · rw [typed_policy_my s t binary o d64 reveal wire ht ho hr hne hv (not_literal_of wire _ hlit)] at h
      rcases policyTable_value _ _ _ _ _ _ h with ⟨d, _, hw, rfl⟩ | ⟨hp, hc⟩
      · exact ⟨by rw [hdesc]; exact mySpecEncode_decodes t binary d _ hw, by simp⟩
      · cases hc
        exact ⟨by rw [hdesc]; exact hblob wire,
          fun _ => ⟨rfl, rfl, hp.imp_right fun ⟨h1, h2⟩ => ⟨h1, default_none_of_plain s t d64 ht hv h2⟩⟩⟩

/-! ## every kind of column setting (plain, searchable, masked, tokenized) -/

/-- The predicate that decides whether the PostgreSQL proxy rewrites a column's description, as it is in the source:
`HasTypeAwareSupport` is `OnlyEncryption() || IsSearchable() || maskingSupport`, `maskingSupport` asks for a masking
pattern and a data type id, `OnlyEncryption` tests the masking, tokenization and search bits, and exactly the three
description handlers of the proxy consult it. Also the disjuncts of `IsBinaryDataOperation`, the data types masking may
be combined with and the token type → data type map the model of `Init` interprets. -/
theorem fact_type_aware_predicate :
    Generated.Typed.typeAwareDisjuncts = ["OnlyEncryption", "IsSearchable", "maskingSupport"] ∧
    Generated.Typed.maskingSupportRequires = ["GetMaskingPattern != \"\"", "not GetDBDataTypeID == 0"] ∧
    Generated.Typed.onlyEncryptionMask =
      (Generated.Typed.settingMaskingFlag ||| Generated.Typed.settingTokenizationFlag ||| Generated.Typed.settingSearchFlag) ∧
    Generated.Typed.typeAwareCallSites = ["handleParameterDescription", "handleRowDescription", "replaceOIDsInParsePackets"] ∧
    Generated.Typed.binaryOpDisjuncts = ["GetTokenType == TokenType_Bytes", "OnlyEncryption", "IsSearchable", "len GetMaskingPattern != 0"] ∧
    Generated.Typed.maskingDataTypes = ["EncryptedType_String", "EncryptedType_Bytes", "EncryptedType_Unknown"] ∧
    Generated.Typed.tokenTypeDataTypes = [("TokenType_Int32", "EncryptedType_Int32"), ("TokenType_Int64", "EncryptedType_Int64"),
      ("TokenType_String", "EncryptedType_String"), ("TokenType_Email", "EncryptedType_String"), ("TokenType_Bytes", "EncryptedType_Bytes")] :=
  ⟨rfl, rfl, rfl, rfl, rfl, rfl, rfl⟩

/-- The option flags are distinct bits and the table of accepted combinations has 44 entries. -/
theorem fact_setting_flags :
    Generated.Typed.settingFlags.map (·.2) = (List.range 15).map (2 ^ ·) ∧
    Generated.Typed.validSettingMasks.length = 44 := by decide

/-- **Which kinds of settings `Init` accepts, and with which type options.** The configuration of a column is accepted
exactly when the closed form `Shape.acceptsSpec` holds: a default needs a data type, the policy `default_value` and a
text the type's encoder accepts; an encryption-only column with a data type must be re-encrypted to AcraBlocks and one
without cannot have `response_on_fail`; a searchable column may declare a type with any policy (a default only with
`response_on_fail` written out); a masked column may declare `str` or `bytes` (never an integer type), only as AcraBlock and
with neither `response_on_fail` nor a default; a tokenized column has the type of its token and nothing else. -/
theorem init_accepts (r : RawColumn) : (initColumn r).isSome = r.shape.acceptsSpec r.raw.defaultOk := by
  rw [← accepts_eq_spec]
  unfold initColumn
  cases r.shape.accepts r.raw.defaultOk <;> simp

/-- **Which accepted settings are type aware** (as the source's predicate, interpreted over the regenerated disjuncts,
decides): encryption-only and searchable columns always, masked columns when they declare a data type, tokenized columns
never (their tokens are stored under the declared type itself, which the database announces). -/
theorem type_aware_kinds (r : RawColumn) (c : Column) (h : initColumn r = some c) :
    hasTypeAwareSupport c =
      (c.kind == .plain || c.kind == .searchable || (c.kind == .masked && c.setting.dataType.isSome)) := by
  obtain ⟨_, hk, hm, _, _, _⟩ := initColumn_some r c h
  obtain ⟨h1, h2, h3⟩ := mask_bits r.shape
  rw [hasTypeAwareSupport_eq]
  simp only [Column.onlyEncryption, Column.isSearchable, Column.hasMaskingPattern, Column.hasDBTypeID, hm, h1, h2, h3, hk]
  rfl

/-- A masked or tokenized column never has a failure policy other than `ciphertext` and never a default; a masked
column never declares an integer type. (So for these kinds a reader gets the typed value or the stored value, nothing else.) -/
theorem masked_tokenized_policy (r : RawColumn) (c : Column) (h : initColumn r = some c)
    (hk : c.kind = .masked ∨ c.kind = .tokenized) :
    c.setting.policy = .ciphertext ∧ c.setting.default = none ∧
    (c.kind = .masked → c.setting.dataType ≠ some .int32 ∧ c.setting.dataType ≠ some .int64) := by
  obtain ⟨ha, hk', _, ht, hp, hd⟩ := initColumn_some r c h
  rw [accepts_eq_spec] at ha
  have hks : r.shape.kind = c.kind := hk'.symm
  obtain ⟨ho, hdf, hty⟩ := acceptsSpec_masked_tokenized r.shape _ ha (by rw [hks]; exact hk)
  have hdn : r.raw.default = none := by
    have : r.raw.default.isSome = false := hdf
    cases hdv : r.raw.default <;> simp_all
  refine ⟨?_, by rw [hd, hdn], fun hm => ?_⟩
  · rw [hp]; unfold Shape.policy; rw [ho, hdf]; rfl
  · rw [ht]; exact hty (by rw [hks]; exact hm)

/-- **Only valid settings are accepted, whatever the kind**: the default of an accepted column is usable under the
declared type. -/
theorem initColumn_valid (r : RawColumn) (c : Column) (h : initColumn r = some c) :
    validDefault c.setting ⟨r.raw.defaultB64⟩ := by
  obtain ⟨ha, _, _, ht, _, hd⟩ := initColumn_some r c h
  rw [accepts_defaultOk] at ha
  have hdf : r.shape.hasDefault = r.raw.default.isSome := rfl
  unfold validDefault
  rw [hd, ht]
  cases hdv : r.raw.default with
  | none => trivial
  | some d =>
    simp only [Bool.and_eq_true, hdf, hdv, Option.isSome_some, Bool.not_true, Bool.false_or] at ha
    have hok := ha.2
    unfold RawSetting.defaultOk at hok
    rw [hdv] at hok
    cases hty : r.raw.dataType with
    | none => simp [hty] at hok
    | some t => cases t <;> simp_all

/-- For an encryption-only column in the default envelope the model of `Init` for all kinds (`initColumn`) agrees
with `initSetting`, the one the read-path theorems are stated with. -/
theorem initColumn_plain (raw : RawSetting) (ta : Bool) :
    (initColumn ⟨raw, .plain, false, ta, false, true⟩).map (·.setting) = initSetting raw := by
  have hsp := accepts_eq_spec (RawColumn.shape ⟨raw, .plain, false, ta, false, true⟩) raw.defaultOk
  have hb : ∀ (s : Setting) (sh : Shape), sh.kind = Kind.plain → isBinaryDataOperation ⟨s, .plain, sh.mask⟩ = true :=
    fun s sh hk => isBinaryDataOperation_of_kind s .plain sh (by simp [hk])
  unfold initColumn
  simp only [hsp]
  unfold initSetting RawSetting.defaultOk Shape.acceptsSpec RawColumn.shape Shape.policy
  obtain ⟨t, o, d, u, b64⟩ := raw
  rcases d with _ | d
  · cases t <;> cases o <;> simp [hb]
  · rcases t with _ | (_ | _ | _ | _) <;> rcases o with _ | (_ | _ | _) <;> simp [hb]

/-- **describe_matches_data for every kind (PostgreSQL).** For an accepted column that declares type `t`:
* encryption-only, searchable and masked columns (stored as bytea): the RowDescription and the ParameterDescription
  announce `t`'s OID whatever the database said, the parameter type in `Parse` is replaced by bytea – and every value
  delivered for the column decodes as `t` in the requested format, the only exception being the stored value handed
  over under the `ciphertext` policy (`never_wrong_type_pg`);
* tokenized columns: all three descriptions are left as the database / the client sent them. -/
theorem describe_matches_data_pg_kinds (r : RawColumn) (c : Column) (t : DataType) (dbOid clientOid : Nat)
    (h : initColumn r = some c) (ht : c.setting.dataType = some t) :
    (c.kind ≠ .tokenized →
      pgRowOid c dbOid = pgOid t ∧ pgParamOid c dbOid = pgOid t ∧ pgParseOid c clientOid = byteaOid ∧
      ∀ (binary : Bool) (reveal : Bytes → Option Bytes) (wire x out : Bytes) (rb : Bool),
        pgDecode c.setting binary wire = some x → x ≠ [] →
        (∀ m, reveal x = some m → m ≠ [] ∧ (pgSpecEncode t binary m).isSome) →
        pgTypedRead c.setting binary ⟨r.raw.defaultB64⟩ reveal wire = .value out rb →
        pgDecodesAs t binary out ∨
          (reveal x = none ∧ (c.setting.policy = .ciphertext ∨ (c.setting.policy = .defaultValue ∧ c.setting.default = none)) ∧
            out = pgCipherForm t binary x)) ∧
    (c.kind = .tokenized →
      pgRowOid c dbOid = dbOid ∧ pgParamOid c dbOid = dbOid ∧ pgParseOid c clientOid = clientOid) := by
  have hta := type_aware_kinds r c h
  constructor
  · intro hk
    have : hasTypeAwareSupport c = true := by
      rw [hta]
      cases hkk : c.kind <;> simp_all
    refine ⟨?_, ?_, ?_, ?_⟩
    · simp [pgRowOid, pgDescribe, ht, this]
    · simp [pgParamOid, pgDescribe, ht, this]
    · simp [pgParseOid, this]
    · intro binary reveal wire x out rb hx hne hrep hread
      exact never_wrong_type_pg c.setting t binary ⟨r.raw.defaultB64⟩ reveal wire x out rb ht hx hne
        (initColumn_valid r c h) hrep hread
  · intro hk
    have : hasTypeAwareSupport c = false := by rw [hta]; simp [hk]
    simp [pgRowOid, pgParamOid, pgParseOid, pgDescribe, ht, this]

/-- **describe_matches_data for every kind (MySQL).** The column definition of an accepted column of any kind that
declares type `t` announces `t`'s type code (the rewrite does not ask whether the setting is type aware) unless the row
processor rolled it back, and whatever value is delivered decodes under the type finally announced
(`describe_matches_data_my` for the column's setting). -/
theorem describe_matches_data_my_kinds (r : RawColumn) (c : Column) (t : DataType) (binary : Bool) (o : Nat)
    (reveal : Bytes → Option Bytes) (wire out : Bytes) (rb : Bool)
    (h : initColumn r = some c) (ht : c.setting.dataType = some t) (ho : blobLike o) (hne : wire ≠ [])
    (hrep : ∀ m, reveal wire = some m → m ≠ [] ∧ (mySpecEncode t binary m).isSome)
    (hread : myTypedRead c.setting binary (myTypeCode t) o ⟨r.raw.defaultB64⟩ reveal wire = .value out rb) :
    myColumnType c o false = myTypeCode t ∧ myColumnType c o true = o ∧
    myDecodesAs (myColumnType c o rb) binary out ∧
    (rb = true → reveal wire = none ∧ out = lenenc wire ∧
      (c.setting.policy = .ciphertext ∨ (c.setting.policy = .defaultValue ∧ c.setting.default = none))) := by
  refine ⟨by simp [myColumnType, myDescribe, ht], by simp [myColumnType, myDescribe, ht], ?_⟩
  exact describe_matches_data_my c.setting t binary o ⟨r.raw.defaultB64⟩ reveal wire out rb ht ho hne
    (initColumn_valid r c h) hrep hread

/-- **Only valid settings are accepted.** Whatever `Init` accepts has a default that is usable under the
declared type (integers parse within the declared width, bytes are valid base64), a default only together
with the `default_value` policy and a declared type, and no failure policy without a declared type. -/
theorem initSetting_valid (raw : RawSetting) (s : Setting) (h : initSetting raw = some s) :
    validDefault s ⟨raw.defaultB64⟩ ∧
    (s.default.isSome → s.policy = .defaultValue ∧ s.dataType.isSome) ∧
    (s.dataType = none → raw.onFail = none) := by
  rw [← initColumn_plain raw false] at h
  obtain ⟨c, hc, rfl⟩ := Option.map_eq_some_iff.mp h
  obtain ⟨ha, _, _, ht, hp, hd⟩ := initColumn_some _ c hc
  rw [accepts_eq_spec] at ha
  simp only [Shape.acceptsSpec, RawColumn.shape, Bool.and_eq_true, Bool.or_eq_true, Bool.not_eq_true', beq_iff_eq] at ha
  refine ⟨initColumn_valid _ c hc, ?_, ?_⟩
  · intro hds
    rw [hd] at hds
    rw [hp, ht]
    rcases ha.1 with h0 | h0
    · rw [hds] at h0; cases h0
    · exact ⟨h0.1.2, h0.1.1⟩
  · intro hn
    rw [ht] at hn
    have : raw.dataType.isSome = false := by rw [hn]; rfl
    simpa [this] using ha.2

/-! ## whole rows: the column loops of the two proxies -/

/-- Facts from the regenerated sources the row models rely on.
* PostgreSQL `handleQueryDataPacket`: the result format of column `i` is `GetParameterFormatByIndex(i, bindPacket.resultFormats)`
  – PostgreSQL's rule applied to the DECLARED codes of the Bind packet, for every `i`, under no other condition than
  "there is a Bind packet"; its error ends the row; it is compared with `dataFormatBinary` = `int(base.BinaryFormat)`; the
  default is text; the loop passes its own `ctx` to every `onColumnDecryption`, which drops the context the subscribers return.
* MySQL `processTextDataRow` / `processBinaryDataRow`: `onColumnDecryption` is called with the row's `ctx`, the context
  it returns is bound to a variable declared inside the loop body (never to `ctx`, and `ctx` is not assigned in the
  loop), and the roll-back test reads that per-column variable. -/
theorem fact_row_loops :
    Generated.Typed.pgRowFormatExpr = "GetParameterFormatByIndex(i, bindPacket.resultFormats)" ∧
    Generated.Typed.pgRowFormatConds = ["bindPacket != nil"] ∧
    Generated.Typed.pgRowFormatOp = 0 ∧ Generated.Typed.pgRowFormatSlice = 0 ∧
    Generated.Typed.pgRowFormatIndexGuard = false ∧ Generated.Typed.pgRowFormatErrReturned = true ∧
    Generated.Typed.pgRowBinaryArg = "format == dataFormatBinary" ∧
    Generated.Typed.pgDataFormatBinary = Generated.Typed.baseBinaryFormat ∧
    Generated.Typed.pgRowFormatDefault = Generated.Typed.baseTextFormat ∧
    Generated.Typed.baseTextFormat = Generated.Wire.pgBindFormatText ∧
    Generated.Typed.baseBinaryFormat = Generated.Wire.pgBindFormatBinary ∧
    Generated.Typed.pgRowCtxCarried = false ∧ Generated.Typed.pgOnColumnCtxDropped = true ∧
    Generated.Typed.myTextRowCtxBinding = ("ctx", "decrCtx", "decrCtx") ∧
    Generated.Typed.myBinaryRowCtxBinding = ("ctx", "decrCtx", "decrCtx") ∧
    Generated.Typed.myTextRowCtxFresh = true ∧ Generated.Typed.myBinaryRowCtxFresh = true ∧
    Generated.Typed.myTextRowCtxCarried = false ∧ Generated.Typed.myBinaryRowCtxCarried = false ∧
    Generated.Typed.myTextRowRollbackReadsReturned = true ∧ Generated.Typed.myBinaryRowRollbackReadsReturned = true ∧
    Generated.Typed.myOnColumnReturnsSubscriberCtx = true :=
  ⟨rfl, rfl, rfl, rfl, rfl, rfl, rfl, rfl, rfl, rfl, rfl, rfl, rfl, rfl, rfl, rfl, rfl, rfl, rfl, rfl, rfl, rfl⟩

/-- **pg_result_format_rule.** For EVERY list of result-format codes a Bind packet may carry and EVERY column index, the
format in which the proxy decodes and re-encodes column `i` is the format PostgreSQL itself uses for column `i`:
* no codes – text for every column;
* ONE code – that code for every column (not only the first);
* one code per column – the column's own code;
and a column for which PostgreSQL has no code (`n ≥ 2` codes, `i ≥ n`) is an error, never a silent default. A simple
query (no Bind) is text. -/
theorem pg_result_format_rule (rf : List Nat) (hv : ValidCodes rf) (i : Nat) :
    columnFormat (some rf) i = (match pgResultFormat rf i with | some c => .ok (c == 1) | none => .err) ∧
    (rf = [] → columnFormat (some rf) i = .ok false) ∧
    (∀ c, rf = [c] → columnFormat (some rf) i = .ok (c == 1)) ∧
    (2 ≤ rf.length → ∀ c, rf[i]? = some c → columnFormat (some rf) i = .ok (c == 1)) ∧
    columnFormat none i = .ok false := by
  have h := columnFormat_rule rf hv i
  refine ⟨h, ?_, ?_, ?_, columnFormat_simple i⟩
  · intro he; subst he; exact h
  · intro c he; subst he; exact h
  · intro hl c hc
    rw [h]
    match rf, hl with
    | a :: b :: r, _ =>
      simp only [pgResultFormat, hc]

/-- **pg_format_code_rule.** `GetParameterFormatByIndex` itself – used for the result formats of every column and for
the formats of the bound parameters (`BindPacket.GetParameters`) – is PostgreSQL's rule for a list of format codes: no
code → text, one code → that code for every index, otherwise the code at the index; an index without a code is an
error. (For valid codes; an unknown code is an error of the lookup.) -/
theorem pg_format_code_rule (codes : List Nat) (hv : ValidCodes codes) (i : Nat) :
    Wire.Pg.formatByIndex i codes = (match pgResultFormat codes i with | some c => .ok (c == 1) | none => .err) :=
  formatByIndex_rule codes hv i

/-- **row_columns_independent_pg.** In a DataRow the proxy delivers (`pgRow … = .cols outs`), the value at position `i`
is a function of column `i` alone: NULL stays NULL, and a column with a setting is what the single-column read path
`pgTypedRead` makes of ITS setting, ITS stored value and ITS keys (`reveal`) in the format PostgreSQL's rule gives
column `i` – whatever the other columns hold, decrypt or fail to decrypt. So `typed_owner_pg`, `typed_policy_pg`,
`never_wrong_type_pg` and `describe_matches_data_pg` hold for every column of every row, with
`binary := (pgResultFormat rf i == some 1)`: for all three shapes of the code list and every column index. -/
theorem row_columns_independent_pg (rf : Option (List Nat)) (hv : ∀ codes, rf = some codes → ValidCodes codes)
    (cols : List (RowColumn × Option Bytes)) (outs : List (Option (Bytes × Bool)))
    (h : pgRow rf Ctx.fresh cols = .cols outs) :
    outs.length = cols.length ∧
    (∀ (i : Nat) (c : RowColumn), cols[i]? = some (c, none) → outs[i]? = some none) ∧
    (∀ (i : Nat) (c : RowColumn) (wire : Bytes) (s : Setting) (d64 : Default64),
      cols[i]? = some (c, some wire) → c.setting = some (s, d64) →
      ∃ binary b rb,
        (match rf with
         | none => binary = false
         | some codes => ∃ code, pgResultFormat codes i = some code ∧ binary = (code == 1)) ∧
        pgTypedRead s binary d64 c.reveal wire = .value b rb ∧ outs[i]? = some (some (b, rb))) := by
  -- `pgRow` runs the loop with the regenerated `pgRowCtxCarried = false`
  have hloop : pgRowLoop false rf Ctx.fresh 0 cols = .cols outs := by
    cases rf with
    | none => exact h
    | some codes =>
      simp only [pgRow, getResultFormats_valid codes (hv codes rfl)] at h
      split at h
      · exact h
      · cases h
  rw [pgRowLoop_uncarried] at hloop
  obtain ⟨h1, h2, h3⟩ := collectRow_cols _ _ hloop
  refine ⟨by rw [h1, pgColsFrom_length], ?_, ?_⟩
  · intro i c hi
    apply h2
    rw [pgColsFrom_getElem?, hi]
    rfl
  · intro i c wire s d64 hi hs
    have hg : (pgColsFrom rf Ctx.fresh 0 cols)[i]? = some (some (pgColRes rf Ctx.fresh (0 + i) c wire)) := by
      rw [pgColsFrom_getElem?, hi]
      rfl
    obtain ⟨b, rb, hr, ho⟩ := h3 i _ hg
    rw [Nat.zero_add] at hr
    unfold pgColRes at hr
    cases rf with
    | none =>
      rw [columnFormat_simple] at hr
      simp only at hr
      rw [pgColumnChain_fresh c s d64 false wire hs] at hr
      exact ⟨false, b, rb, rfl, hr, ho⟩
    | some codes =>
      rw [columnFormat_rule codes (hv codes rfl) i] at hr
      cases hp : pgResultFormat codes i with
      | none => rw [hp] at hr; cases hr
      | some code =>
        rw [hp] at hr
        simp only at hr
        rw [pgColumnChain_fresh c s d64 _ wire hs] at hr
        exact ⟨code == 1, b, rb, ⟨code, hp, rfl⟩, hr, ho⟩

/-- **typed_owner_pg_row.** Extended protocol, any valid result-format codes, any column index `i`, any other columns: in
a delivered row the owner's value of a typed column at position `i` is the specification encoding of the plaintext as
the declared type IN THE FORMAT THE CLIENT ASKED FOR COLUMN `i` (`pgResultFormat codes i`: the one code when there is
one, the column's code otherwise, text without codes). -/
theorem typed_owner_pg_row (codes : List Nat) (hv : ValidCodes codes) (cols : List (RowColumn × Option Bytes))
    (outs : List (Option (Bytes × Bool))) (h : pgRow (some codes) Ctx.fresh cols = .cols outs)
    (i : Nat) (c : RowColumn) (s : Setting) (t : DataType) (d64 : Default64) (wire x m w : Bytes) (code : Nat)
    (hi : cols[i]? = some (c, some wire)) (hs : c.setting = some (s, d64)) (ht : s.dataType = some t)
    (hf : pgResultFormat codes i = some code)
    (hx : pgDecode s (code == 1) wire = some x) (hr : c.reveal x = some m) (hm : m ≠ [])
    (hw : pgSpecEncode t (code == 1) m = some w) :
    outs[i]? = some (some (w, false)) := by
  obtain ⟨_, _, h3⟩ := row_columns_independent_pg (some codes) (fun cs hc => by cases hc; exact hv) cols outs h
  obtain ⟨binary, b, rb, ⟨code', hc', hb⟩, hread, ho⟩ := h3 i c wire s d64 hi hs
  rw [hf] at hc'
  cases hc'
  subst hb
  rw [typed_owner_pg s t (code == 1) d64 c.reveal wire x m w ht hx hr hm hw] at hread
  cases hread
  exact ho

/-- **row_columns_independent_my.** For every MySQL result row (text or binary protocol), every mixture of columns the
reader can decrypt, cannot decrypt, or that hold garbage, and every mixture of failure policies: in a delivered row the
value and the roll-back mark at position `i` are what the single-column read path `myTypedRead` makes of column `i`'s OWN
setting, stored value and keys – no mark ("decrypted", "type conversion failed") and no setting of another column is
involved; NULL stays NULL. A row is refused exactly when some column's OWN outcome is an error (policy `error` on a
value that is not revealed, or a failing encoder), every column in front of it being deliverable. So `typed_owner_my`,
`typed_policy_my` and `describe_matches_data_my` hold for every column of every row. -/
theorem row_columns_independent_my (binary : Bool) (cols : List (RowColumn × Option Bytes)) :
    let row := if binary then myBinaryRow Ctx.fresh cols else myTextRow Ctx.fresh cols
    (∀ outs, row = .cols outs →
      outs.length = cols.length ∧
      (∀ (i : Nat) (c : RowColumn), cols[i]? = some (c, none) → outs[i]? = some none) ∧
      (∀ (i : Nat) (c : RowColumn) (wire : Bytes) (s : Setting) (d64 : Default64),
        cols[i]? = some (c, some wire) → c.setting = some (s, d64) →
        ∃ b rb, myTypedRead s binary c.colType c.originType d64 c.reveal wire = .value b rb ∧
          outs[i]? = some (some (b, rb)))) ∧
    ((∀ outs, row ≠ .cols outs) →
      ∃ (i : Nat) (c : RowColumn) (wire : Bytes), cols[i]? = some (c, some wire) ∧
        (row = .encodingError ↔ (myColumnChain Ctx.fresh c binary wire).2 = .encodingError) ∧
        (row = .otherError ↔ (myColumnChain Ctx.fresh c binary wire).2 = .otherError) ∧
        (∀ s d64, c.setting = some (s, d64) →
          (myColumnChain Ctx.fresh c binary wire).2 = myTypedRead s binary c.colType c.originType d64 c.reveal wire)) := by
  intro row
  -- `myTextRow` / `myBinaryRow` are the loop with the regenerated `…CtxCarried = false`
  have hrow : row = collectRow (myColsFrom binary Ctx.fresh cols) := by
    cases binary <;> exact myRowLoop_uncarried _ Ctx.fresh cols
  constructor
  · intro outs ho
    rw [hrow] at ho
    obtain ⟨h1, h2, h3⟩ := collectRow_cols _ _ ho
    refine ⟨by rw [h1, myColsFrom_length], ?_, ?_⟩
    · intro i c hi
      apply h2
      rw [myColsFrom_getElem?, hi]
      rfl
    · intro i c wire s d64 hi hs
      have hg : (myColsFrom binary Ctx.fresh cols)[i]? = some (some (myColumnChain Ctx.fresh c binary wire).2) := by
        rw [myColsFrom_getElem?, hi]
        rfl
      obtain ⟨b, rb, hr, hout⟩ := h3 i _ hg
      rw [myColumnChain_fresh c s d64 binary wire hs] at hr
      exact ⟨b, rb, hr, hout⟩
  · intro hne
    rw [hrow] at hne ⊢
    obtain ⟨i, r, h1, _, h3, h4, _⟩ := collectRow_error _ hne
    rw [myColsFrom_getElem?] at h1
    obtain ⟨⟨c, v⟩, hc, hv⟩ := Option.map_eq_some_iff.mp h1
    obtain ⟨wire, rfl, rfl⟩ := Option.map_eq_some_iff.mp hv
    exact ⟨i, c, wire, hc, h3, h4, fun s d64 hs => myColumnChain_fresh c s d64 binary wire hs⟩

/-- **Counterexample shape (what the carried context would do).** If the returned context were carried to the next
column (`ctx, value, err = handler.onColumnDecryption(ctx, …)`), a column the reader can decrypt followed by one it
cannot, with `response_on_fail: default_value`, would deliver the stored ciphertext of the second column instead of
the default: the loop with `carried = true` differs from the loop the source has. -/
theorem carried_context_counterexample :
    let c1 : RowColumn := ⟨some (⟨some .str, .ciphertext, none, true⟩, ⟨none⟩), fun _ => some [111, 107], 254, 253⟩
    let c2 : RowColumn := ⟨some (⟨some .str, .defaultValue, some [100], true⟩, ⟨none⟩), fun _ => none, 254, 253⟩
    myRowLoop false false Ctx.fresh [(c1, some [37, 37, 37]), (c2, some [37, 37, 38])]
      = .cols [some ([2, 111, 107], false), some ([1, 100], false)] ∧
    myRowLoop true false Ctx.fresh [(c1, some [37, 37, 37]), (c2, some [37, 37, 38])]
      = .cols [some ([2, 111, 107], false), some ([3, 37, 37, 38], false)] := by decide +kernel

/-! ## non-vacuity -/

/-- a revealed boundary integer in binary format: the hypotheses of `typed_owner_pg` are satisfiable -/
example : pgTypedRead ⟨some .int32, .error, none, true⟩ true ⟨none⟩
      (fun _ => some [45, 50, 49, 52, 55, 52, 56, 51, 54, 52, 56]) [37, 37, 37, 1, 2]   -- "-2147483648"
    = .value [0x80, 0, 0, 0] false := by decide

/-- an unrevealed envelope-like value under each policy (PostgreSQL, text format, hex form on the wire) -/
example : pgTypedRead ⟨some .int32, .defaultValue, some [55], true⟩ false ⟨none⟩ (fun _ => none)
      [92, 120, 50, 53, 50, 53, 50, 53]                                                  -- \x252525
    = .value [55] false := by decide
example : pgTypedRead ⟨some .str, .error, none, true⟩ false ⟨none⟩ (fun _ => none) [92, 120, 50, 53, 50, 53, 50, 53]
    = .encodingError := by decide

/-- MySQL: the stored value comes back length-encoded with the roll-back mark under policy `ciphertext` -/
example : myTypedRead ⟨some .int64, .ciphertext, none, true⟩ true 8 252 ⟨none⟩ (fun _ => none) [37, 37, 37]
    = .value [3, 37, 37, 37] true := by decide

example : blobLike 252 ∧ blobLike 253 ∧ blobLike 254 := by unfold blobLike; decide

/-- the three shapes of the result-format codes are valid code lists, and PostgreSQL's rule on them: ONE code `1` means
binary for column 2 as well; per-column codes give column 2 its own code; no codes mean text -/
example : ValidCodes [] ∧ ValidCodes [1] ∧ ValidCodes [0, 1, 1] ∧
    pgResultFormat [1] 2 = some 1 ∧ pgResultFormat [0, 1, 0] 2 = some 0 ∧ pgResultFormat [] 2 = some 0 ∧
    pgResultFormat [0, 1] 2 = none := by
  refine ⟨?_, ?_, ?_, rfl, rfl, rfl, rfl⟩ <;> intro c hc <;> simp at hc <;> omega

/-- a delivered PostgreSQL row (hypothesis of `row_columns_independent_pg` / `typed_owner_pg_row`): ONE result-format
code `1`, the typed column at index 1 behind a column that is handed over as stored; the int32 value 305419896 arrives
as the four bytes 12 34 56 78 -/
example : pgRow (some [1]) Ctx.fresh
      [(⟨some (⟨some .str, .ciphertext, none, true⟩, ⟨none⟩), fun _ => none, 0, 0⟩, some [37, 37, 37]),
       (⟨some (⟨some .int32, .error, none, true⟩, ⟨none⟩), fun _ => some [51, 48, 53, 52, 49, 57, 56, 57, 54], 0, 0⟩, some [37, 37, 38])]
    = .cols [some ([37, 37, 37], false), some ([0x12, 0x34, 0x56, 0x78], false)] := by decide +kernel

/-- a delivered MySQL row and a refused one (both branches of `row_columns_independent_my`): a decryptable column in
front of one that is not, with the policies `default_value` and `error` -/
example : myTextRow Ctx.fresh
      [(⟨some (⟨some .str, .ciphertext, none, true⟩, ⟨none⟩), fun _ => some [111, 107], 254, 253⟩, some [37, 37, 37]),
       (⟨some (⟨some .str, .defaultValue, some [100], true⟩, ⟨none⟩), fun _ => none, 254, 253⟩, some [37, 37, 38])]
    = .cols [some ([2, 111, 107], false), some ([1, 100], false)] := by decide
example : myBinaryRow Ctx.fresh
      [(⟨some (⟨some .str, .ciphertext, none, true⟩, ⟨none⟩), fun _ => some [111, 107], 254, 253⟩, some [37, 37, 37]),
       (⟨some (⟨some .int32, .error, none, true⟩, ⟨none⟩), fun _ => none, 3, 253⟩, some [37, 37, 38])]
    = .encodingError := by decide

/-- what the description handlers announce for an accepted column of each kind:
(type aware?, RowDescription and ParameterDescription for a bytea column, Parse for a parameter the client declared with
the type's own OID, MySQL column type for a VAR_STRING column) -/
def describeAll (r : RawColumn) (clientOid : Nat) : Option (Bool × Nat × Nat × Nat × Nat) :=
  (initColumn r).map fun c => (hasTypeAwareSupport c, pgRowOid c 17, pgParamOid c 17, pgParseOid c clientOid, myColumnType c 253 false)

/-- searchable + int32 (written by name, then by database id with `response_on_fail: error`): accepted, type aware, int4 -/
example : describeAll ⟨⟨some .int32, none, none, true, none⟩, .searchable, false, false, false, true⟩ 23 = some (true, 23, 23, 17, 3) := by decide +kernel
example : describeAll ⟨⟨some .int32, some .error, none, true, none⟩, .searchable, true, false, true, true⟩ 23 = some (true, 23, 23, 17, 3) := by decide +kernel
/-- masked + str: accepted, type aware, text; masked + int32: rejected; masked + str + `response_on_fail`: rejected -/
example : describeAll ⟨⟨some .str, none, none, true, none⟩, .masked, false, false, false, true⟩ 25 = some (true, 25, 25, 17, 254) := by decide +kernel
example : describeAll ⟨⟨some .int32, none, none, true, none⟩, .masked, false, false, false, true⟩ 23 = none := by decide +kernel
example : describeAll ⟨⟨some .str, some .error, none, true, none⟩, .masked, false, false, false, true⟩ 25 = none := by decide +kernel
/-- masked without a data type: accepted, not type aware, the database's description stands -/
example : describeAll ⟨⟨none, none, none, true, none⟩, .masked, false, false, false, true⟩ 25 = some (false, 17, 17, 25, 253) := by decide +kernel
/-- tokenized int64: accepted, not type aware (PostgreSQL leaves the description alone), MySQL announces LONGLONG;
a data type of its own is rejected -/
example : describeAll ⟨⟨some .int64, none, none, true, none⟩, .tokenized, false, false, false, true⟩ 20 = some (false, 17, 17, 20, 8) := by decide +kernel
example : describeAll ⟨⟨some .int64, none, none, true, none⟩, .tokenized, false, true, false, true⟩ 20 = none := by decide +kernel
/-- searchable + default without `response_on_fail` is rejected, with it accepted (an encryption-only column accepts both) -/
example : describeAll ⟨⟨some .int32, none, some [55], true, none⟩, .searchable, false, false, false, true⟩ 23 = none := by decide +kernel
example : (describeAll ⟨⟨some .int32, some .defaultValue, some [55], true, none⟩, .searchable, false, false, false, true⟩ 23).isSome = true := by decide +kernel
example : (describeAll ⟨⟨some .int32, none, some [55], true, none⟩, .plain, false, false, false, true⟩ 23).isSome = true := by decide +kernel

end AcraModel.Props.C19
