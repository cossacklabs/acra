import AcraModel.Wire.LenEncProofs
import AcraModel.Wire.PgLemmas
import AcraModel.Wire.MysqlLemmas
import AcraModel.Wire.ByteaLemmas
import AcraModel.Wire.PgExtLemmas
import AcraModel.Wire.PgDescribeLemmas
import AcraModel.Wire.MysqlColDefLemmas
import AcraModel.Wire.MysqlExecuteLemmas
import AcraModel.Typed.RowLemmas
/-!
# C12 — relayed messages stay byte-identical; rewritten ones stay well-formed

The lemmas the theorems are assembled from live next to the models (`Wire/*Lemmas.lean`, `Wire/LenEncProofs.lean`).

* part 1 – MySQL length-encoded integer/string codec (`decryptor/mysql/base/utils.go`)
* part 2 – PostgreSQL framing, DataRow parsing/rewriting, Query replacement (`decryptor/postgresql/packet_handler.go`)
* part 3 – MySQL packet framing, text and binary rows (`decryptor/mysql/{packet.go,response_proxy.go}`)
* part 4 – bytea text codecs (`utils/dbByteArrayEncoders.go`)
* part 5 – MySQL column definitions (`decryptor/mysql/column_field.go`, `type_conversion.go`)
* part 6 – MySQL COM_STMT_EXECUTE parameters (`decryptor/mysql/{packet.go,prepared_statements.go}`)
* part 7 – PostgreSQL RowDescription / ParameterDescription (`decryptor/postgresql/pg_decryptor.go` over pgproto3)
* part 8 – the decoder → encoder subscribers on columns without a setting (`decryptor/{postgresql,mysql}/data_encoder.go`)
-/
namespace AcraModel.Props.C12
open AcraModel AcraModel.Wire.LenEnc Generated.LenEnc

/-! ## part 1 — length-encoded codec: facts the proofs need from the regenerated tables -/

/-- The reader's switch has exactly the protocol's four markers, each guarded by the length it reads. -/
theorem fact_readCases :
    readCases = [(251, 0, 1, true, []), (252, 3, 3, false, pairsFrom 1 0 2),
      (253, 4, 4, false, pairsFrom 1 0 3), (254, 9, 9, false, pairsFrom 1 0 8)] := Proofs.fact_readCases

/-- The fall-through path reads one byte; an empty input is an error. -/
theorem fact_readDefault : readDefault = (1, pairsFrom 0 0 1) ∧ emptyIsError = true := Proofs.fact_readDefault

/-- The writer's thresholds are the protocol's: 250, 2^16-1, 2^24-1, 2^64-1 with markers fc, fd, fe. -/
theorem fact_putCases :
    putCases = [(250, -1, (List.range 1).map (fun j => 0 + 8 * j)), (65535, 252, (List.range 2).map (fun j => 0 + 8 * j)),
      (16777215, 253, (List.range 3).map (fun j => 0 + 8 * j)), (2^64 - 1, 254, (List.range 8).map (fun j => 0 + 8 * j))] :=
  Proofs.fact_putCases

/-- `LengthEncodedString` looks at the error of `LengthEncodedInt` before using the length. -/
theorem fact_strChecksErr : strChecksErrFirst = true := Proofs.fact_strChecksErr

/-- Values up to 250 are written as the single byte. -/
theorem put_small (n : Nat) (h : n ≤ 250) : putLengthEncodedInt n = [UInt8.ofNat n] := Proofs.put_small n h

/-- Closed form of the writer: marker byte and little-endian body by threshold. -/
theorem put_marker (n : Nat) :
    putLengthEncodedInt n =
      if n ≤ 250 then leBytes 1 n
      else if n ≤ 65535 then 252 :: leBytes 2 n
      else if n ≤ 16777215 then 253 :: leBytes 3 n
      else if n ≤ 2^64 - 1 then 254 :: leBytes 8 n
      else [] := Proofs.put_marker n

/-- The reader on a marker-prefixed input returns the little-endian value of the body. -/
theorem read_marker (m : UInt8) (k : Nat) (body r : Bytes) (hk : body.length = k)
    (hm : (m.toNat = 252 ∧ k = 2) ∨ (m.toNat = 253 ∧ k = 3) ∨ (m.toNat = 254 ∧ k = 8)) :
    lengthEncodedInt (m :: body ++ r) = .ok ⟨leVal body, false, k + 1⟩ := Proofs.read_marker m k body r hk hm

/-- The reader on a first byte ≤ 250 returns that byte. -/
theorem read_small (x : UInt8) (r : Bytes) (h : x.toNat ≤ 250) :
    lengthEncodedInt (x :: r) = .ok ⟨x.toNat, false, 1⟩ := Proofs.read_small x r h

/-- **Integer round trip.** Every 64-bit value written by `PutLengthEncodedInt`, followed by any
bytes, is read back by `LengthEncodedInt` as the same value, not NULL, consuming exactly the bytes
written. Covers every threshold (250/251, 2^16, 2^24) at once. -/
theorem lenenc_int_roundtrip (n : Nat) (r : Bytes) (h : n < 2^64) :
    lengthEncodedInt (putLengthEncodedInt n ++ r) = .ok ⟨n, false, (putLengthEncodedInt n).length⟩ :=
  Proofs.lenenc_int_roundtrip n r h

/-- **String round trip, NULL ≠ empty.** A value (or SQL NULL) written by `PutLengthEncodedString`
followed by any bytes is read back identically, consuming exactly what was written; NULL comes back
as NULL and the empty string as the empty string. -/
theorem lenenc_str_roundtrip (v : Option Bytes) (r : Bytes) (h : ∀ b, v = some b → b.length < 2^64) :
    lengthEncodedString (putLengthEncodedString v ++ r) = .ok (v, (putLengthEncodedString v).length) :=
  Proofs.lenenc_str_roundtrip v r h

/-- **Closed form of the reader** (the independent specification decoder): on a non-empty input the
reader's result is determined by the first byte exactly as the MySQL protocol says. -/
theorem lenenc_int_spec (x : UInt8) (r : Bytes) :
    lengthEncodedInt (x :: r) =
      if x.toNat = 251 then .ok ⟨0, true, 1⟩
      else if x.toNat = 252 then (if r.length < 2 then .err else .ok ⟨leVal (r.take 2), false, 3⟩)
      else if x.toNat = 253 then (if r.length < 3 then .err else .ok ⟨leVal (r.take 3), false, 4⟩)
      else if x.toNat = 254 then (if r.length < 8 then .err else .ok ⟨leVal (r.take 8), false, 9⟩)
      else .ok ⟨x.toNat, false, 1⟩ := Proofs.lenenc_int_spec x r

/-- An empty input is an error, not a value. -/
theorem lenenc_int_empty : lengthEncodedInt [] = .err := Proofs.lenenc_int_empty

/-- **No panic.** `LengthEncodedInt` never panics, whatever the input. -/
theorem lenenc_int_no_panic (data : Bytes) : lengthEncodedInt data ≠ .panic := Proofs.lenenc_int_no_panic data

/-- A successful integer read consumes between 1 and `|data|` bytes. -/
theorem lenenc_int_progress (data : Bytes) (res : IntRes) (h : lengthEncodedInt data = .ok res) :
    0 < res.n ∧ res.n ≤ data.length := Proofs.lenenc_int_progress data res h

/-- `LengthEncodedString` never panics, whatever the input. -/
theorem lenenc_str_no_panic (data : Bytes) : lengthEncodedString data ≠ .panic := Proofs.lenenc_str_no_panic data

/-- **Progress.** A successful string read consumes at least one byte and never more than the input
holds – so a caller's loop over a row terminates inside the buffer. -/
theorem lenenc_str_progress (data : Bytes) (v : Option Bytes) (n : Nat)
    (h : lengthEncodedString data = .ok (v, n)) : 0 < n ∧ n ≤ data.length := Proofs.lenenc_str_progress data v n h

/-- `SkipLengthEncodedString` never panics. -/
theorem lenenc_skip_no_panic (data : Bytes) : skipLengthEncodedString data ≠ .panic := Proofs.lenenc_skip_no_panic data

/-! ## part 2 — PostgreSQL -/

open AcraModel.Wire.Pg in
/-- Facts from the regenerated constants the PostgreSQL model relies on: the length field is 4 bytes
and counts itself, start-up packets carry no type byte (marker 0), a NULL column is length -1
(0xffffffff on the wire), Terminate is `X 0 0 0 4`, formats are 0 = text / 1 = binary. -/
theorem fact_pg_constants :
    Generated.Wire.pgDataRowLengthBufSize = 4 ∧ Generated.Wire.pgWithoutMessageType = 0 ∧
    Generated.Wire.pgNullColumnValue = -1 ∧ nullLen = 2^32 - 1 ∧
    Generated.Wire.pgTerminatePacket = [88, 0, 0, 0, 4] ∧ Generated.Wire.pgTerminateTag = [88] ∧
    Generated.Wire.pgBindFormatText = 0 ∧ Generated.Wire.pgBindFormatBinary = 1 ∧
    Generated.Wire.pgStartupRequest = [0, 3, 0, 0] ∧
    Generated.Wire.pgSSLRequestHeader = [0, 0, 0, 8, 4, 210, 22, 47] ∧
    Generated.Wire.pgCancelRequestHeader = [0, 0, 0, 16, 4, 210, 22, 46] ∧
    Generated.Wire.pgGSSENCRequestHeader = [0, 0, 0, 8, 4, 210, 22, 48] := by decide +kernel

open AcraModel.Wire.Pg in
/-- **Relay identity, PostgreSQL (database side).** Reading any well-framed message (any type byte, any
body) followed by any further bytes with `ReadPacket` and marshalling it again gives exactly the bytes
received, and the following bytes are left untouched on the stream. -/
theorem relay_identity_pg_db (t : UInt8) (body rest : Bytes) (ht : t.toNat ≠ 0) (h : body.length + 4 < 2^32) :
    ∃ p, readDb (encodeMsg t body ++ rest) = .ok (p, rest) ∧ marshal p = encodeMsg t body :=
  ⟨_, readDb_encodeMsg t body rest h, marshal_encodeMsg t body ht⟩

open AcraModel.Wire.Pg in
/-- **Relay identity, PostgreSQL (client side, after start-up).** Same for `readGeneralPacket`,
including the Terminate special case. -/
theorem relay_identity_pg_client (t : UInt8) (body rest : Bytes) (ht : t.toNat ≠ 0) (h : body.length + 4 < 2^32) :
    ∃ p, readGeneral (encodeMsg t body ++ rest) = .ok (p, rest) ∧ marshal p = encodeMsg t body :=
  ⟨_, readGeneral_encodeMsg t body rest h, marshal_encodeMsg t body ht⟩

open AcraModel.Wire.Pg in
/-- The specification decoder inverts the specification encoder of a message (so `encodeMsg` is a
faithful description of "well-framed": declared length = actual length). -/
theorem pg_msg_spec_roundtrip (t : UInt8) (body rest : Bytes) (h : body.length + 4 < 2^32) :
    decodeMsg (encodeMsg t body ++ rest) = some (t, body, rest) := by
  have hl : (beBytes 4 (body.length + 4)).length = 4 := beBytes_length _ _
  rw [encodeMsg_append, List.singleton_append]
  unfold decodeMsg
  simp only [List.take_left' hl, List.drop_left' hl, beVal_beBytes4 _ h]
  rw [if_neg (by simp [List.length_append]), if_neg (by simp [List.length_append])]
  simp

open AcraModel.Wire.Pg in
/-- **DataRow round trip** of the specification codec: every row (NULLs, empty values, any lengths
below the protocol's limits) decodes to itself, with every byte consumed. -/
theorem pg_row_roundtrip (r : Row) (hr : r.length < 2^16) (hb : ∀ b, some b ∈ r → b.length < 2^32 - 1) :
    decodeRow (encodeRow r) = some r := by
  have hl : (beBytes 2 r.length).length = 2 := beBytes_length _ _
  unfold decodeRow
  rw [if_neg (by have := encodeRow_length_ge r; omega), show (encodeRow r).take 2 = beBytes 2 r.length from List.take_left' hl,
    show (encodeRow r).drop 2 = r.flatMap encodeCol from List.drop_left' hl, beVal_beBytes2 _ hr,
    ← List.append_nil (r.flatMap encodeCol), decodeCols_encode r [] hb]

open AcraModel.Wire.Pg in
/-- **Rewritten DataRow stays well-formed (PostgreSQL).** For ANY per-column transformation `f`
(shrinking, growing, keeping the length) Acra's parse → transform → `updateDataFromColumns` pipeline
turns the DataRow of row `r` into exactly the specification encoding of the transformed row: the field
count and the NULL markers are preserved, every declared column length equals the actual length, the
packet length field equals the body length + 4, and columns whose transformation is the identity keep
their bytes. -/
theorem rewrite_wellformed_pg (f : Nat → Bytes → Bytes) (fmts : List Nat) (t : UInt8) (lb : Bytes)
    (r : Row) (hne : r ≠ []) (hr : r.length < 2^16)
    (hb : ∀ b, some b ∈ r → b.length < 2^32 - 1)
    (hb' : ∀ b, some b ∈ mapRow f 0 r → b.length < 2^32 - 1)
    (hsz : (encodeRow (mapRow f 0 r)).length + 4 < 2^32)
    (hf : ∀ i, i < r.length → ∃ b, formatByIndex i fmts = .ok b)
    (hck : checkFormats fmts = .ok ())
    (hnn : ∃ b, some b ∈ r) :
    rewriteRow (fun i d => .ok (f i d)) fmts ⟨t, lb, encodeRow r⟩ =
      .ok ⟨t, beBytes 4 ((encodeRow (mapRow f 0 r)).length + 4), encodeRow (mapRow f 0 r)⟩ :=
  have _ := hne
  rewriteRow_encodeRow f fmts t lb r hr hb hb' hsz hf hck hnn

open AcraModel.Wire.Pg in
/-- A DataRow whose columns are all NULL (or that has no columns) is left byte-identical, whatever the
subscribers would do. -/
theorem rewrite_allnull_identity_pg (g : Nat → Bytes → Out Bytes) (fmts : List Nat) (t : UInt8)
    (lb : Bytes) (r : Row) (hr : r.length < 2^16)
    (hf : ∀ i, i < r.length → ∃ b, formatByIndex i fmts = .ok b)
    (hck : checkFormats fmts = .ok ())
    (hn : ∀ v, v ∈ r → v = none) :
    rewriteRow g fmts ⟨t, lb, encodeRow r⟩ = .ok ⟨t, lb, encodeRow r⟩ := by
  rw [rewriteRow_encodeRow_eq g fmts t lb r hr (fun b hm => nomatch hn _ hm) hf hck, processCols_allNull g 0 r hn, Out.bind_ok]
  unfold updateDataFromColumns
  rw [map_colOf_not_changed]
  rfl

open AcraModel.Wire.Pg in
/-- A failing column transformation fails the whole row: no partly rewritten DataRow is produced. -/
theorem rewrite_fail_pg (g : Nat → Bytes → Out Bytes) (fmts : List Nat) (t : UInt8) (lb : Bytes)
    (pre post : Row) (b : Bytes) (hr : (pre ++ some b :: post).length < 2^16)
    (hb : ∀ x, some x ∈ pre ++ some b :: post → x.length < 2^32 - 1)
    (hf : ∀ i, i < (pre ++ some b :: post).length → ∃ fb, formatByIndex i fmts = .ok fb)
    (hck : checkFormats fmts = .ok ())
    (hpre : ∀ j d, pre[j]? = some (some d) → ∃ d', g j d = .ok d')
    (hg : g pre.length b = .err) :
    rewriteRow g fmts ⟨t, lb, encodeRow (pre ++ some b :: post)⟩ = .err := by
  rw [rewriteRow_encodeRow_eq g fmts t lb _ hr hb hf hck,
    processCols_fail g 0 pre post b (fun j d hj => by simpa using hpre j d hj) (by simpa using hg)]
  rfl

open AcraModel.Wire.Pg in
/-- **Rewritten Query stays well-formed.** `ReplaceQuery` on a simple Query message yields exactly the
well-framed Query message carrying the new text and its terminator. -/
theorem rewrite_wellformed_pg_query (lb old q : Bytes) (h : q.length + 5 < 2^32) :
    marshal (replaceSimpleQuery ⟨81, lb, old⟩ q) = encodeMsg 81 (q ++ [0]) := by
  have h1 : (q.length + 1 + lenSize) % 2^32 = (q ++ [0]).length + 4 := by
    rw [lenSize_eq, Nat.mod_eq_of_lt (by omega)]; simp
  unfold replaceSimpleQuery packetLength
  simp only [h1]
  exact marshal_encodeMsg 81 (q ++ [0]) (by decide)

open AcraModel.Wire.Pg in
/-- **Relay identity and specification round trip, Parse.** A well-formed Parse body (names without zero
bytes, any parameter type OIDs) is parsed into its fields and marshalled back to exactly its bytes, and
the specification decoder recovers name, query and OIDs. -/
theorem relay_identity_pg_parse (name query : Bytes) (oids : List Nat) (hn : NoZero name)
    (hq : NoZero query) (hl : oids.length < 2^16) (ho : ∀ o ∈ oids, o < 2^32) :
    (∃ p, newParsePacket (encodeParse name query oids) = .ok p ∧
      p.marshal = encodeParse name query oids ∧ p.length = (encodeParse name query oids).length) ∧
    decodeParse (encodeParse name query oids) = some (name, query, oids) :=
  ⟨marshal_newParsePacket name query oids hn hq hl ho, decodeParse_encodeParse name query oids hn hq hl ho⟩

open AcraModel.Wire.Pg in
/-- Facts from the regenerated sources the Parse/Bind models rely on: every big-endian integer read of
`decryptor/postgresql/utils.go` with the Go conversions applied to it. The counts of the extended protocol (number of
parameter type OIDs of Parse – `paramsNum.ToInt` –, number of format codes, parameters and result formats of Bind) and
the parameter lengths are converted with `int(…)` only: they are read as UNSIGNED 16-bit (32-bit) values, never through
`int16`/`int32`. The OID loop of `NewParsePacket` runs `numParams.ToInt()` times and takes 4 bytes each time. -/
theorem fact_pg_int_reads :
    Generated.Wire.pgIntReads = [("paramsNum.ToInt", 16, ["int"]), ("NewExecutePacket", 32, []),
      ("readUint16Array", 16, ["int"]), ("readUint16Array", 16, []),
      ("readParameterArray", 16, ["int"]), ("readParameterArray", 32, ["int"])] ∧
    Generated.Wire.pgParamsNumToInt = ["int"] ∧ Generated.Wire.pgU16ArrayCountConv = ["int"] ∧
    Generated.Wire.pgParamArrayCountConv = ["int"] ∧ Generated.Wire.pgParamArrayLenConv = ["int"] ∧
    Generated.Wire.pgParseLoopBound = "numParams.ToInt()" ∧ Generated.Wire.pgParseOidWidth = 4 := by decide +kernel

open AcraModel.Wire.Pg in
/-- **The count of a Parse message is an unsigned 16-bit integer**: for every two bytes `b`, the number of parameter
type OIDs `NewParsePacket` collects is the big-endian value of `b` (0 … 65535) – in particular 32768 … 65535 are counts,
not negative numbers. -/
theorem pg_parse_count_unsigned (b : Bytes) (h : b.length = 2) : paramsCount b = beVal b ∧ beVal b < 2^16 := by
  have := beVal_lt b
  rw [h] at this
  exact ⟨paramsCount_eq b (by omega), by omega⟩

open AcraModel.Wire.Pg in
/-- **pg_parse_roundtrip.** `Marshal ∘ NewParsePacket = id` on every well-formed Parse body – statement name and query
without zero bytes, ANY number 0 … 65535 of parameter type OIDs: the packet holds name and query with their terminators,
the two count bytes as received, exactly as many 4-byte OIDs as the count declares, `Marshal` gives back the body byte for
byte and `Length` its length; and the specification decoder recovers name, query and OIDs. -/
theorem pg_parse_roundtrip (name query : Bytes) (oids : List Nat) (hn : NoZero name)
    (hq : NoZero query) (hl : oids.length ≤ 65535) (ho : ∀ o ∈ oids, o < 2^32) :
    (∃ p, newParsePacket (encodeParse name query oids) = .ok p ∧
      p.name = name ++ [0] ∧ p.query = query ++ [0] ∧ p.paramsNum = beBytes 2 oids.length ∧
      p.params = oids.map (beBytes 4) ∧ p.params.length = oids.length ∧ paramsCount p.paramsNum = oids.length ∧
      p.marshal = encodeParse name query oids ∧ p.length = (encodeParse name query oids).length) ∧
    decodeParse (encodeParse name query oids) = some (name, query, oids) := by
  have hl' : oids.length < 2^16 := by omega
  obtain ⟨p, h1, h2, h3⟩ := marshal_newParsePacket name query oids hn hq hl' ho
  have h0 := newParsePacket_encodeParse name query oids hn hq hl' ho
  rw [h0] at h1
  cases h1
  refine ⟨⟨_, h0, rfl, rfl, rfl, rfl, by simp, ?_, h2, h3⟩, decodeParse_encodeParse name query oids hn hq hl' ho⟩
  rw [paramsCount_eq _ (by rw [beVal_beBytes2 _ hl']; omega), beVal_beBytes2 _ hl']

open AcraModel.Wire.Pg in
/-- **Rewritten Parse stays well-formed.** Whatever the proxy does to a well-formed Parse message with 0 … 65535
parameter types – the query observers replace the query text (`q = some text`), `replaceOIDsInParsePackets` re-types the
parameters selected by `sel` to `b` (bytea), both, or neither – the message it forwards is the well-framed Parse message
with the same statement name, the new (or same) query text and the re-typed (or same) parameter types: the declared
count equals the number of OIDs that follow and equals the count received, every parameter that is not selected keeps
its OID, the packet length is the length of the body + 4, and the specification decoder reads all of this back. When
nothing is replaced the packet is exactly the one received. -/
theorem rewrite_wellformed_pg_parse (name query lb : Bytes) (oids : List Nat) (q : Option Bytes) (sel : Nat → Bool)
    (b : Nat) (hn : NoZero name) (hq : NoZero query) (hl : oids.length ≤ 65535) (ho : ∀ o ∈ oids, o < 2^32)
    (hb : b < 2^32) (hq' : ∀ x, q = some x → NoZero x)
    (hsz : (encodeParse name (q.getD query) oids).length + 4 < 2^32) :
    ∃ p, handleParse ⟨80, lb, encodeParse name query oids⟩ q sel b = .ok p ∧
      ((q.isSome || (List.range oids.length).any sel) = true →
        marshal p = encodeMsg 80 (encodeParse name (q.getD query) (setParseOids oids sel b))) ∧
      ((q.isSome || (List.range oids.length).any sel) = false → p = ⟨80, lb, encodeParse name query oids⟩) ∧
      decodeParse p.body = some (name, q.getD query, setParseOids oids sel b) ∧
      (setParseOids oids sel b).length = oids.length ∧
      (∀ i o, oids[i]? = some o → (setParseOids oids sel b)[i]? = some (if sel i then b else o)) := by
  have hl' : oids.length < 2^16 := by omega
  have hqq : NoZero (q.getD query) := by
    cases q with
    | none => exact hq
    | some t => exact hq' t rfl
  have hdec := decodeParse_encodeParse name (q.getD query) (setParseOids oids sel b) hn hqq
    (by rw [setParseOids_length]; exact hl') (setParseOids_lt oids sel b ho hb)
  refine ⟨_, handleParse_wellformed name query lb oids q sel b hn hq hl' ho hq' hsz, ?_, ?_, ?_,
    setParseOids_length oids sel b, fun i o h => setParseOids_getElem? oids sel b i o h⟩
  · intro hc
    rw [if_pos hc]
    exact marshal_encodeMsg 80 _ (by decide)
  · intro hc
    rw [hc]
    rfl
  · cases hc : (q.isSome || (List.range oids.length).any sel) with
    | true => rw [if_pos rfl]; exact hdec
    | false =>
      obtain ⟨h1, h2⟩ := Bool.or_eq_false_iff.1 hc
      rw [if_neg (by simp)]
      cases q with
      | some x => cases h1
      | none =>
        rw [setParseOids_none oids sel b h2] at hdec ⊢
        exact hdec

open AcraModel.Wire.Pg in
/-- **Relay identity, Bind.** A well-formed Bind body is parsed into portal, statement, parameter formats,
parameter values (NULL ≠ empty) and result formats, and marshalled back to exactly its bytes. -/
theorem relay_identity_pg_bind (portal stmt : Bytes) (pf : List Nat) (pv : List (Option Bytes))
    (rf : List Nat) (hp : NoZero portal) (hs : NoZero stmt)
    (hpf : pf.length < 2^16 ∧ ∀ f ∈ pf, f < 2^16) (hrf : rf.length < 2^16 ∧ ∀ f ∈ rf, f < 2^16)
    (hpv : pv.length < 2^16 ∧ ∀ b, some b ∈ pv → b.length < 2^32 - 1) :
    ∃ p, newBindPacket (encodeBind portal stmt pf pv rf) = .ok p ∧
      BindPacket.marshal p = .ok (encodeBind portal stmt pf pv rf) :=
  ⟨_, newBindPacket_encodeBind portal stmt pf pv rf hp hs hpf hrf hpv,
    BindPacket.marshal_ok portal stmt pf pv rf hpf.1 hrf.1 hpv.1 hpv.2⟩

open AcraModel.Wire.Pg in
/-- **Rewritten Bind stays well-formed.** For ANY per-parameter transformation `f` (NULL parameters stay
NULL) `GetParameters → SetParameters → ReplaceBind` yields exactly the well-framed Bind message with the
transformed parameters: portal, statement and result formats untouched, parameter count and NULL markers
preserved, every declared parameter length equal to the actual one, the packet length equal to the body
length + 4, and parameter formats that denote the same format for every parameter
(`formatByIndex i (canonFormats pf n) = formatByIndex i pf`). -/
theorem rewrite_wellformed_pg_bind (f : Nat → Bytes → Bytes)
    (g : Nat → Bool → Option Bytes → Out (Option Bytes))
    (hg : ∀ i b v, g i b v = .ok (v.map (f i)))
    (portal stmt lb : Bytes) (pf : List Nat) (pv : List (Option Bytes)) (rf : List Nat)
    (hp : NoZero portal) (hs : NoZero stmt)
    (hpf : pf.length < 2^16 ∧ ∀ f ∈ pf, f < 2^16) (hrf : rf.length < 2^16 ∧ ∀ f ∈ rf, f < 2^16)
    (hpv : pv.length < 2^16 ∧ ∀ b, some b ∈ pv → b.length < 2^32 - 1)
    (hpv' : ∀ b, some b ∈ mapRow f 0 pv → b.length < 2^32 - 1)
    (hne : pv ≠ [])
    (hfmt : ∀ i, i < pv.length → ∃ b, formatByIndex i pf = .ok b)
    (hsz : (encodeBind portal stmt (canonFormats pf pv.length) (mapRow f 0 pv) rf).length + 4 < 2^32) :
    (∃ p, rewriteBind g ⟨66, lb, encodeBind portal stmt pf pv rf⟩ = .ok p ∧
      marshal p = encodeMsg 66 (encodeBind portal stmt (canonFormats pf pv.length) (mapRow f 0 pv) rf)) ∧
    (∀ i, i < pv.length → formatByIndex i (canonFormats pf pv.length) = formatByIndex i pf) :=
  ⟨⟨_, rewriteBind_wellformed f g hg portal stmt lb pf pv rf hp hs hpf hrf hpv hpv' hne hfmt hsz,
    marshal_encodeMsg 66 _ (by decide)⟩, formatByIndex_canonFormats pf pv.length hfmt⟩

/-! ## part 3 — MySQL -/

open AcraModel.Wire.My in
/-- Facts from the regenerated constants the MySQL model relies on, and agreement of the two tables of
fixed-width types (`extractData` reads exactly the widths `NumericTypesStorageBytes` declares), and
presence of the bounds checks in front of every read of `extractData` (the model's `.err` branches). -/
theorem fact_my_constants :
    Generated.Wire.myPacketHeaderSize = 4 ∧ Generated.Wire.mySequenceIDIndex = 3 ∧
    Generated.Wire.myMaxPayloadLen = 2^24 - 1 ∧
    Generated.Wire.myOkPacket = 0 ∧ Generated.Wire.myEOFPacket = 254 ∧ Generated.Wire.myErrPacket = 255 ∧
    Generated.Wire.myExtractFixed = Generated.Wire.myNumericStorageBytes ∧
    (∀ t, t ∈ Generated.Wire.myExtractLenEnc → Generated.Wire.myExtractFixed.find? (·.1 = t) = none) ∧
    Generated.Wire.myExtractFixedGuarded = true ∧ Generated.Wire.myExtractLenEncGuarded = true := by decide +kernel

open AcraModel.Wire.My in
/-- **Relay identity, MySQL – partial.** A packet whose payload has 1 … 2^24-2 bytes, followed by any
bytes, is read and dumped byte-identically and the following bytes stay on the stream.

The full statement (every payload, including those of 2^24-1 bytes or more that travel as several
packets, and zero-length packets) is FALSE for the code as it is – see
`relay_identity_mysql_multi_counterexample` and `relay_identity_mysql_exact_counterexample`; the extra
hypotheses here are exactly the input classes of the known findings `my-multipacket-relay` and
`my-zero-length-packet`. -/
theorem relay_identity_mysql_partial (seq : Nat) (payload rest : Bytes)
    (h1 : 1 ≤ payload.length) (h2 : payload.length < maxPayloadLen) :
    ∃ p, read (frame seq payload ++ rest) = .ok (p, rest) ∧ dump p = frame seq payload :=
  ⟨_, read_frame seq payload rest h1 h2, rfl⟩

open AcraModel.Wire.My in
/-- **Counterexample (known finding `my-multipacket-relay`).** A payload of more than 2^24-1 bytes is
received as two packets; `readPacket` keeps only the last header and `Dump` writes that one header in
front of the whole payload: the relayed bytes are 4 bytes shorter than, and different from, the received ones. -/
theorem relay_identity_mysql_multi_counterexample (seq : Nat) (p1 p2 : Bytes) (hp1 : p1.length = maxPayloadLen)
    (h1 : 1 ≤ p2.length) (h2 : p2.length < maxPayloadLen) :
    encodePayload seq (p1 ++ p2) = frame seq p1 ++ frame (seq + 1) p2 ∧
    read (encodePayload seq (p1 ++ p2)) =
      .ok (⟨leBytes 3 p2.length ++ [UInt8.ofNat ((seq + 1) % 256)], p1 ++ p2⟩, []) ∧
    (dump ⟨leBytes 3 p2.length ++ [UInt8.ofNat ((seq + 1) % 256)], p1 ++ p2⟩).length + 4
      = (encodePayload seq (p1 ++ p2)).length ∧
    dump ⟨leBytes 3 p2.length ++ [UInt8.ofNat ((seq + 1) % 256)], p1 ++ p2⟩ ≠ encodePayload seq (p1 ++ p2) :=
  have hlen := dump_length_multi seq (leBytes 3 p2.length ++ [UInt8.ofNat ((seq + 1) % 256)]) p1 p2 (by simp) hp1 h2
  ⟨encodePayload_two seq p1 p2 hp1 h2, read_multi seq p1 p2 hp1 h1 h2, hlen, fun he => by rw [he] at hlen; omega⟩

open AcraModel.Wire.My in
/-- **Counterexample (known finding `my-multipacket-relay`, exact multiple).** A payload of exactly
2^24-1 bytes is followed by an empty packet on the wire; that packet is rejected, so the message is not relayed at all. -/
theorem relay_identity_mysql_exact_counterexample (seq : Nat) (p1 : Bytes) (hp1 : p1.length = maxPayloadLen) :
    read (encodePayload seq p1) = .err := by
  unfold Wire.My.read
  rw [encodePayload_exact seq p1 hp1, readPacket_frame_max _ _ _ hp1, readPacket_frame_nil]
  rfl

open AcraModel.Wire.My in
/-- **`SetData` keeps the packet well-formed – partial** (payloads below 2^24-1 bytes): the dumped
packet is the 3-byte little-endian length, the unchanged sequence id and the new payload, and the
declared length equals the actual one. The full statement is false for larger payloads
(`setdata_mysql_counterexample`, known finding `my-setdata-16m`). -/
theorem rewrite_wellformed_mysql_setdata_partial (h old d : Bytes) (hd : d.length < maxPayloadLen) (hh : h.length = 4) :
    dump (setData ⟨h, old⟩ d) = leBytes 3 d.length ++ h.drop 3 ++ d ∧
    (h.drop 3).length = 1 ∧
    payloadLength (setData ⟨h, old⟩ d).header = d.length :=
  ⟨rfl, by simp [hh], payloadLength_leBytes _ _ (by rw [maxPayloadLen_eq] at hd; omega)⟩

open AcraModel.Wire.My in
/-- **Counterexample (known finding `my-setdata-16m`).** For a rewritten payload of 2^24 bytes
`updatePacketSize` declares length 0. -/
theorem setdata_mysql_counterexample (h old d : Bytes) (hd : d.length = 16777216) (hh : h.length = 4) :
    payloadLength (setData ⟨h, old⟩ d).header = 0 := by
  have _ := hh
  rw [show (setData ⟨h, old⟩ d).header = leBytes 3 d.length ++ h.drop 3 from rfl, payloadLength_leBytes_mod, hd]

open AcraModel.Wire.My in
/-- **Rewritten COM_QUERY / COM_STMT_PREPARE stays well-formed.** `replaceQuery` keeps the command byte,
carries the new text and declares its length. -/
theorem rewrite_wellformed_mysql_query (h old q : Bytes) (c : UInt8) (hq : q.length + 1 < maxPayloadLen) (hh : h.length = 4) :
    replaceQuery ⟨h, c :: old⟩ q = .ok ⟨leBytes 3 (q.length + 1) ++ h.drop 3, c :: q⟩ ∧
    (h.drop 3).length = 1 ∧
    payloadLength (leBytes 3 (q.length + 1) ++ h.drop 3) = (c :: q).length :=
  ⟨rfl, by simp [hh], payloadLength_leBytes _ _ (by rw [maxPayloadLen_eq] at hq; omega)⟩

open AcraModel.Wire.My in
/-- **Text row round trip** of the specification codec (NULL = 0xfb, empty = 0x00, all length classes). -/
theorem mysql_text_row_roundtrip (r : Row) (h : ∀ b, some b ∈ r → b.length < 2^64) :
    decodeTextRow r.length (encodeTextRow r) = some r := decodeTextRow_encodeTextRow r h

open AcraModel.Wire.My in
/-- **Binary row round trip** of the specification codec (NULL bitmap with offset 2, fixed-width and
length-encoded values). -/
theorem mysql_bin_row_roundtrip (types : List Nat) (r : Row)
    (hlen : types.length = r.length)
    (hT : ∀ t, t ∈ types → widthOf t ≠ .unknown)
    (hV : ∀ t v, (t, some v) ∈ types.zip r →
      (∀ k, widthOf t = .fixed k → v.length = k) ∧ (widthOf t = .lenenc → v.length < 2^64)) :
    decodeBinRow types (encodeBinRow types r) = some r := decodeBinRow_encodeBinRow types r hlen hT hV

open AcraModel.Wire.My in
/-- **Rewritten text row stays well-formed (MySQL).** For ANY per-column transformation `f`, when the
subscribers return the length-encoded form of `f i v` (what `DataEncoderProcessor` does in the text
protocol), `processTextDataRow` yields a row that decodes to the transformed row: field count and NULL
markers preserved, declared lengths = actual lengths, untouched fields byte-identical. -/
theorem rewrite_wellformed_mysql_text (f : Nat → Bytes → Bytes) (r : Row)
    (h : ∀ b, some b ∈ r → b.length < 2^64) (hf : ∀ j b, some b ∈ r → (f j b).length < 2^64) :
    ∃ out, textRow (fun i v => .ok (putLengthEncodedString (some (f i v)))) r.length (encodeTextRow r) = .ok out
      ∧ out = encodeTextRow (mapRowMy f 0 r) ∧ decodeTextRow r.length out = some (mapRowMy f 0 r) :=
  ⟨_, textRow_encodeTextRow f r h, rfl, decodeTextRow_mapRowMy f r hf⟩

open AcraModel.Wire.My in
/-- **Rewritten binary row stays well-formed (MySQL).** Same for `processBinaryDataRow`, for
transformations that keep the width of fixed-width columns: header byte, NULL bitmap and field order are
preserved and every value is in the wire form of its type. -/
theorem rewrite_wellformed_mysql_bin (types : List Nat) (f : Nat → Bytes → Bytes) (r : Row)
    (hlen : types.length = r.length)
    (hT : ∀ t, t ∈ types → widthOf t ≠ .unknown)
    (hV : ∀ t v, (t, some v) ∈ types.zip r →
      (∀ k, widthOf t = .fixed k → v.length = k) ∧ (widthOf t = .lenenc → v.length < 2^64))
    (hF : ∀ t v j, (t, some v) ∈ types.zip r →
      (∀ k, widthOf t = .fixed k → (f j v).length = k) ∧ (widthOf t = .lenenc → (f j v).length < 2^64)) :
    ∃ out, binRow (fun i v => .ok (encodeBinVal (types[i]!) (f i v))) types (encodeBinRow types r) = .ok out
      ∧ out = encodeBinRow types (mapRowMy f 0 r) ∧ decodeBinRow types out = some (mapRowMy f 0 r) :=
  ⟨_, binRow_encodeBinRow types f r hlen hT hV, rfl, decodeBinRow_mapRowMy types f r hlen hT hF⟩

/-! ## part 5 — MySQL column definitions -/

open AcraModel.Wire.My in
/-- Facts from the regenerated layout of `ParseResultField` / `Dump` the column-definition model relies on: the catalog
is skipped first, then the five strings in protocol order; the fixed block is guarded by a length check of exactly
its size (13 = marker + charset 2 + length 4 + type 1 + flags 2 + decimals 1 + filler 2, `fix:` 09) and read in that
order; `Dump` writes the same parts in the same order with the catalog `def`, the marker 0x0C and the default-value
length as a length-encoded integer (`fix:` 10); the extended-type-info and default-value lengths are bounds-checked. -/
theorem fact_coldef_layout :
    Generated.Wire.myColDefCatalogSkipped = true ∧
    Generated.Wire.myColDefStrings = ["Schema", "Table", "OrgTable", "Name", "OrgName"] ∧
    Generated.Wire.myColDefFixedParse = [("skip", 1), ("Charset", 2), ("ColumnLength", 4), ("Type", 1), ("Flag", 2), ("Decimal", 1), ("skip", 2)] ∧
    Generated.Wire.myColDefFixedGuard = (Generated.Wire.myColDefFixedParse.map (·.2)).sum ∧ fixedBlockLen = 13 ∧
    Generated.Wire.myColDefExtOffsetUsesN = true ∧ Generated.Wire.myColDefExtGuarded = true ∧
    Generated.Wire.myColDefDefaultGuardUint64 = true ∧
    Generated.Wire.myColDefCatalog = [100, 101, 102] ∧ Generated.Wire.myColDefMarker = 12 ∧
    Generated.Wire.myColDefDump = [("catalog", 0), ("Schema", 0), ("Table", 0), ("OrgTable", 0), ("Name", 0), ("OrgName", 0),
      ("extRaw", 0), ("extEmpty", 0), ("marker", 1), ("Charset", 2), ("ColumnLength", 4), ("Type", 1), ("Flag", 2), ("Decimal", 1),
      ("filler", 2), ("DefaultValueLength", 0), ("DefaultValue", 0)] := by decide +kernel

open AcraModel.Wire.My in
/-- The type configurations Acra writes into a re-typed column definition and the types for which it clears BlobFlag
(regenerated from `TypeConfigurations` / `specificTypes`). -/
theorem fact_coldef_types :
    Generated.Wire.myTypeConfigurations = [(3, 63, 9, 0), (8, 63, 20, 0), (252, 63, 65535, 0), (254, 8, 255, 0)] ∧
    Generated.Wire.mySpecificTypes = [254, 3, 8] ∧ Generated.Wire.myBlobFlag = 16 := by decide +kernel

open AcraModel.Wire.My in
/-- **coldef_no_panic.** `ParseResultField` never panics, whatever the packet (truncated anywhere, any declared
lengths, with or without the MariaDB extended-type-info capability): it returns a description or an error.
(True since `fix:` 09; before it a truncated definition panicked.) -/
theorem coldef_no_panic (p : Packet) (maria : Bool) : parseResultField p maria ≠ .panic :=
  parseResultField_no_panic p maria

open AcraModel.Wire.My in
/-- **coldef_roundtrip.** On every well-formed column definition (`encodeColDef s`: catalog `def`, canonical length
prefixes, NULL or present strings, with or without MariaDB extended type info – empty or not –, with or without a default
value) `ParseResultField` extracts exactly the fields of the definition, and `Dump` gives back the packet byte for
byte – both on the unchanged path (`Dump` of the description as parsed) and on the rebuild path (`changed = true`
with no field modified): `Dump ∘ Parse = id`. -/
theorem coldef_roundtrip (s : ColSpec) (h : Bytes) (hs : s.Ok) :
    parseResultField ⟨h, encodeColDef s⟩ s.ext.isSome = .ok (s.toColDef h) ∧
    (s.toColDef h).dump = h ++ encodeColDef s ∧
    ({ s.toColDef h with changed := true } : ColDef).dump = h ++ encodeColDef s :=
  ⟨parseResultField_encodeColDef s h hs, dump_unchanged s h, dump_changed s h⟩

open AcraModel.Wire.My in
/-- **Rewritten column definition stays well-formed (MySQL).** When `updateFieldEncodedType` re-types a well-formed
column definition to a type `nt` with a type configuration, the packet Acra sends is the header as received followed by
exactly the well-formed definition in which type, charset, column length and decimals are the configured ones and
BlobFlag is cleared for the "specific" types – every string, the extended type info, the other flags and the default
value byte-identical – and the payload has the SAME LENGTH as the one received, so the declared packet length
(which `Dump` does not recompute) is still the actual one. A column without a typed setting is relayed unchanged. -/
theorem rewrite_wellformed_mysql_coldef (s : ColSpec) (h : Bytes) (hs : s.Ok) (nt cs len dec : Nat)
    (hcfg : Generated.Wire.myTypeConfigurations.find? (·.1 = nt) = some (nt, cs, len, dec)) :
    (∃ f, parseResultField ⟨h, encodeColDef s⟩ s.ext.isSome = .ok f ∧
      (retype f (some nt)).dump = h ++ encodeColDef (retypeSpec s nt cs len dec) ∧
      (retype f (some nt)).originType = s.typ ∧
      (retype f none).dump = h ++ encodeColDef s) ∧
    (encodeColDef (retypeSpec s nt cs len dec)).length = (encodeColDef s).length :=
  ⟨⟨_, parseResultField_encodeColDef s h hs, (retype_dump s h nt cs len dec hcfg).2.2,
    (retype_dump s h nt cs len dec hcfg).2.1, dump_unchanged s h⟩,
   encodeColDef_length_retypeSpec s nt cs len dec⟩

open AcraModel.Wire.My in
/-- A parameter definition re-typed by `ParamsTrackHandler` differs from the received one in the type byte only. -/
theorem rewrite_wellformed_mysql_paramdef (s : ColSpec) (h : Bytes) (nt : Nat) :
    (retypeParam (s.toColDef h) (some nt)).dump = h ++ encodeColDef { s with typ := nt } ∧
    (encodeColDef { s with typ := nt }).length = (encodeColDef s).length :=
  ⟨retypeParam_dump s h nt, by rw [encodeColDef_length, encodeColDef_length]⟩

open AcraModel.Wire.My in
/-- **Counterexample (known finding `my-coldef-stale-header`).** The hypothesis "canonical length prefixes" of
`rewrite_wellformed_mysql_coldef` cannot be dropped: a definition whose (empty) schema is sent with a 3-byte length prefix
parses, and after re-typing `Dump` rebuilds it two bytes shorter behind the unchanged header, which still declares 28. -/
theorem coldef_stale_header_counterexample :
    ∃ f, parseResultField ⟨[28, 0, 0, 1], [3, 100, 101, 102, 0xfc, 0, 0, 1, 116, 1, 116, 1, 99, 1, 99, 0x0c, 63, 0, 9, 0, 0, 0, 0xfc, 0, 0, 0, 0, 0]⟩ false = .ok f ∧
      payloadLength (retype f (some 3)).header = 28 ∧ (retype f (some 3)).dump.length = 4 + 26 := ⟨_, by rfl, by decide +kernel, by decide +kernel⟩

/-! ## part 6 — MySQL COM_STMT_EXECUTE parameters -/

open AcraModel.Wire.My in
/-- Facts from the regenerated sources the COM_STMT_EXECUTE model relies on: the parameter block starts at offset 10,
`GetBindParameters` has its two bounds checks (`fix:` 11), a changed value becomes a BLOB (252), the unsigned flag is
recomputed for LONG and LONGLONG only, and the three tables of numeric types agree (the Go type a value is read into,
the bit size it is parsed back with, and `NumericTypesStorageBytes`). -/
theorem fact_execute_tables :
    hdrLen = 10 ∧ Generated.Wire.myExecuteGuards = 2 ∧ changedType = 252 ∧ Generated.Wire.mySignFlagTypes = [3, 8] ∧
    Generated.Wire.myUnsignedBinaryValue = 128 ∧ Generated.Wire.mySignedBinaryValue = 0 ∧
    Generated.Wire.myBoundDecode = [(1, "int8"), (2, "int16"), (3, "int32"), (4, "float32"), (5, "float64"), (6, "null"),
      (8, "int64"), (9, "int32"), (13, "int16")] ∧
    Generated.Wire.myBoundEncode = [(1, "int", 8), (2, "int", 16), (3, "int", 32), (4, "float", 32), (5, "float", 64), (6, "null", 0),
      (8, "int", 64), (9, "int", 32), (13, "int", 16)] ∧
    (∀ t sb, storageBytes t = some sb →
      (decodeKind t = some (.int sb) ∧ encodeKind t = some (.int sb)) ∨
      (decodeKind t = some (.float sb) ∧ encodeKind t = some (.float sb)) ∨
      (decodeKind t = some .null ∧ encodeKind t = some .null ∧ sb = 0)) :=
  ⟨rfl, rfl, rfl, rfl, rfl, rfl, rfl, rfl, tables_agree⟩

open AcraModel.Wire.My in
/-- **Integer text round trip.** `strconv.ParseInt(strconv.FormatInt(i, 10), 10, bits) = i` for every `i` of the signed
`bits`-bit range, and writing back the integer read from `w` little-endian bytes gives those bytes: an integer
parameter Acra only looks at (as decimal text) comes back bit-identical. -/
theorem execute_int_text_roundtrip :
    (∀ (bits : Nat) (i : Int), -((2^(bits-1) : Nat) : Int) ≤ i → i < ((2^(bits-1) : Nat) : Int) → parseInt bits (fmtInt i) = some i) ∧
    (∀ (w : Nat) (b : Bytes), b.length = w → intBytes w (toSigned (8*w) (leVal b)) = b) :=
  ⟨parseInt_fmtInt, intBytes_toSigned⟩

open AcraModel.Wire.My in
/-- **One parameter through `NewMysqlBoundValue → SetData → Encode`.** (i) a fixed-width integer parameter (TINY, SHORT,
YEAR, LONG, INT24, LONGLONG) that is not changed is consumed with its storage width and re-encoded to exactly its
bytes; (ii) the same for FLOAT/DOUBLE whenever strconv's shortest-text round trip holds for the value (hypothesis
`fo.parse w (fo.fmt w raw) = some raw`: all finite values and infinities; NaN payloads are canonicalised – excluded);
(iii) a string-like parameter is consumed with exactly its length-encoded size, re-encoded identically when
unchanged, and – the rule of the code – travels as a BLOB (type 252) holding the length-encoded new value when changed. -/
theorem rewrite_wellformed_mysql_execute_value (fo : FloatOps) :
    (∀ t w raw rest, storageBytes t = some w → decodeKind t = some (.int w) → encodeKind t = some (.int w) → 0 < w →
      raw.length = w →
      ∃ v, newBoundValue fo (raw ++ rest) t = .ok (v, w) ∧ v.paramType = t ∧ (v.setData (v.data.getD [])) = v ∧ v.encode fo = .ok raw) ∧
    (∀ t w raw rest, storageBytes t = some w → decodeKind t = some (.float w) → encodeKind t = some (.float w) →
      raw.length = w → fo.parse w (fo.fmt w raw) = some raw →
      ∃ v, newBoundValue fo (raw ++ rest) t = .ok (v, w) ∧ v.paramType = t ∧ v.encode fo = .ok raw) ∧
    (∀ t b b' rest, storageBytes t = none → b.length < 2^64 →
      newBoundValue fo (putLengthEncodedString (some b) ++ rest) t = .ok (⟨t, some b⟩, (putLengthEncodedString (some b)).length) ∧
      ((⟨t, some b⟩ : BoundValue).setData b).encode fo = .ok (putLengthEncodedString (some b)) ∧
      (b' ≠ b → ((⟨t, some b⟩ : BoundValue).setData b').paramType = changedType ∧
        ((⟨t, some b⟩ : BoundValue).setData b').encode fo = .ok (putLengthEncodedString (some b')))) := by
  refine ⟨?_, ?_, ?_⟩
  · intro t w raw rest hs hd he _ hr
    obtain ⟨h1, h2⟩ := value_roundtrip_int fo t w raw rest hs hd he hr
    exact ⟨_, h1, rfl, by simp [BoundValue.setData], h2⟩
  · intro t w raw rest hs hd he hr hlaw
    obtain ⟨h1, h2⟩ := value_roundtrip_float fo t w raw rest hs hd he hr hlaw
    exact ⟨_, h1, rfl, h2⟩
  · intro t b b' rest hs hb
    obtain ⟨h1, _, h3, h4⟩ := value_roundtrip_str fo t b b' rest hs hb
    exact ⟨h1, h3, h4⟩

open AcraModel.Wire.My in
/-- **Rewritten COM_STMT_EXECUTE stays well-formed – partial (frame).** When `SetParameters` succeeds the new payload
begins with the first `10 + (n+7)/8 + 1` bytes of the received one (command, statement id, flags, iteration count, NULL
bitmap – so the NULL markers – and the new-params-bound flag are byte-identical), followed by exactly two bytes per
parameter (same parameter count) and the encodings of the non-NULL values; the header gets the new payload length
and keeps the sequence id.

The full statement (`rewriteExecute` of a specification-encoded packet = the specification encoding of the transformed
parameter list) is `rewrite_wellformed_mysql_execute` below; it needs the hypothesis `SignFlagsCanonical` because it is
FALSE for the unsigned flag of LONG/LONGLONG parameters – see `execute_sign_flag_counterexample` (known finding
`my-execute-sign-flag`). This frame statement holds for ANY packet and value list `SetParameters` accepts. -/
theorem rewrite_wellformed_mysql_execute_partial (fo : FloatOps) (p p' : Packet) (vs : List BoundValue) (hne : vs ≠ [])
    (h : setParameters fo p vs = .ok p') :
    ∃ types vals, p'.data = p.data.take (hdrLen + ((vs.length + 7) >>> 3) + 1) ++ types ++ vals ∧
      hdrLen + ((vs.length + 7) >>> 3) + 1 ≤ p.data.length ∧ types.length = 2 * vs.length ∧
      encodeVals fo vs = .ok vals ∧ p'.header = updatePacketSize p.header p'.data.length := by
  obtain ⟨types, vals, h1, h2, h3, h4, h5⟩ := setParameters_frame fo p p' vs hne h
  exact ⟨types, vals, h3, h4, setTypes_length _ _ _ _ h1, h2, h5⟩

open AcraModel.Wire.My in
/-- **execute_params_roundtrip (whole packet, read side).** On every COM_STMT_EXECUTE payload the specification encoder
writes – 10-byte head, NULL bitmap, new-params-bound flag, `n ≥ 1` (type, unsigned-flag) pairs, then the wire values of
the non-NULL parameters, each well-formed for its type (fixed-width numerics with their storage width, everything else a
length-encoded string) – `GetBindParameters` returns exactly the specification's parameter list: parameter `i` is NULL iff
bit `i` of the bitmap is set, every other parameter is read at the right offset with exactly its wire length, integers as
their signed decimal text, strings as their bytes. -/
theorem execute_params_roundtrip (fo : FloatOps) (head : Bytes) (types : List (Nat × Nat)) (vals : List (Option Bytes))
    (hh : head.length = 10) (hl : types.length = vals.length) (hn : 0 < vals.length)
    (hty : ∀ tf ∈ types, tf.1 < 256)
    (hw : ∀ (j t f : Nat) (v : Bytes), types[j]? = some (t, f) → vals[j]? = some (some v) → WireOk t v) :
    getBindParameters fo (encodeExecute head types vals) vals.length = .ok (some (boundAll fo types vals)) ∧
    (boundAll fo types vals).length = vals.length ∧
    (∀ (j t f : Nat), types[j]? = some (t, f) → vals[j]? = some none → (boundAll fo types vals)[j]? = some ⟨t, none⟩) ∧
    (∀ (j t f : Nat) (v : Bytes), types[j]? = some (t, f) → vals[j]? = some (some v) →
      (boundAll fo types vals)[j]? = some (boundOf fo t (some v))) :=
  ⟨getBindParameters_encodeExecute fo head types vals hh hl hn hty hw, boundAll_length fo types vals hl,
    fun j t f h1 h2 => boundAll_getElem? fo types vals j t f none h1 h2,
    fun j t f v h1 h2 => boundAll_getElem? fo types vals j t f (some v) h1 h2⟩

open AcraModel.Wire.My in
/-- **Rewritten COM_STMT_EXECUTE stays well-formed – whole packet.** For every COM_STMT_EXECUTE payload the specification
encoder writes (`encodeExecute head types vals`: `n ≥ 1` parameters, every wire value well-formed for its type) and every
observer that maps the TEXT value of parameter `i` to `f i text`, `GetBindParameters → OnBind → SetParameters` yields the
packet whose payload is EXACTLY the specification encoding of the rewritten parameter list, with the new payload length
in the header and the sequence id kept:
* the 10-byte head, the parameter count, the NULL bitmap and the new-params-bound flag are the ones received (NULL
  parameters stay NULL, no other parameter becomes NULL);
* a parameter the observer does not change keeps its type, its unsigned flag and its value bytes – integers and floats
  bit-identical after the round trip through decimal text;
* a parameter the observer changes travels as a BLOB (type 252, flag kept) holding the length-encoded new text.
Hypotheses beyond well-formedness: `FloatLaw` (strconv's shortest-text round trip for the FLOAT/DOUBLE values present:
all finite values and infinities) and `SignFlagsCanonical` – the complement of the input class of the known finding
`my-execute-sign-flag`, for which the statement is false (`execute_sign_flag_counterexample`). -/
theorem rewrite_wellformed_mysql_execute (fo : FloatOps) (f : Nat → Bytes → Bytes) (g : Nat → Bytes → Out Bytes)
    (hg : ∀ i d, g i d = .ok (f i d)) (h head : Bytes) (types : List (Nat × Nat)) (vals : List (Option Bytes))
    (hh : head.length = 10) (hl : types.length = vals.length) (hn : 0 < vals.length)
    (hty : ∀ tf ∈ types, tf.1 < 256 ∧ tf.2 < 256)
    (hw : ∀ (j t fl : Nat) (v : Bytes), types[j]? = some (t, fl) → vals[j]? = some (some v) → WireOk t v)
    (hlaw : FloatLaw fo types vals) (hsf : SignFlagsCanonical types vals) :
    ∃ p', rewriteExecute fo g ⟨h, encodeExecute head types vals⟩ vals.length = .ok (some p') ∧
      p'.data = encodeExecute head (outTypes fo f 0 types vals) (outVals fo f 0 types vals) ∧
      p'.header = updatePacketSize h p'.data.length ∧
      (outTypes fo f 0 types vals).length = vals.length ∧ (outVals fo f 0 types vals).length = vals.length ∧
      (∀ j : Nat, (outVals fo f 0 types vals)[j]? = some none ↔ vals[j]? = some none) ∧
      (∀ (j t fl : Nat) (v : Option Bytes), types[j]? = some (t, fl) → vals[j]? = some v →
        (changedAt fo f j t v = false →
          (outTypes fo f 0 types vals)[j]? = some (t, fl) ∧ (outVals fo f 0 types vals)[j]? = some v) ∧
        (changedAt fo f j t v = true →
          (outTypes fo f 0 types vals)[j]? = some (changedType, fl) ∧
          (outVals fo f 0 types vals)[j]? = some ((boundOf fo t v).data.map (f j)))) := by
  refine ⟨_, rewriteExecute_encodeExecute fo f g hg h head types vals hh hl hn hty hw hlaw hsf, rfl, rfl,
    (out_length fo f 0 types vals hl).2.1, (out_length fo f 0 types vals hl).2.2,
    fun j => outVals_none_iff fo f 0 types vals hl j, ?_⟩
  intro j t fl v h1 h2
  have hj := out_getElem? fo f 0 types vals j t fl v h1 h2
  rw [Nat.zero_add] at hj
  exact ⟨fun hc => by rwa [hc] at hj, fun hc => by rwa [hc] at hj⟩

open AcraModel.Wire.My in
/-- **Counterexample (known finding `my-execute-sign-flag`).** "Fields that were not transformed keep their exact
bytes" fails for the unsigned flag: in an execute whose second (string) parameter is changed, the untouched first
parameter – LONG, flagged unsigned (0x80), bytes ff ff ff ff = 4294967295 – is sent on with the flag 0x00 (signed):
the database receives -1. First conjunct: the value is read as the text "-1"; second: `SetParameters` on the values
after the observer changed parameter 1 (for every float codec: no float parameter is involved). -/
theorem execute_sign_flag_counterexample (fo : FloatOps) :
    newBoundValue fo [0xff, 0xff, 0xff, 0xff, 1, 65] 3 = .ok (⟨3, some [45, 49]⟩, 4) ∧
    setParameters fo ⟨[23, 0, 0, 5], [0x17, 1, 0, 0, 0, 0, 1, 0, 0, 0, 0, 1, 3, 0x80, 0xfd, 0, 0xff, 0xff, 0xff, 0xff, 1, 65]⟩
        [⟨3, some [45, 49]⟩, (⟨0xfd, some [65]⟩ : BoundValue).setData [90]]
      = .ok ⟨[22, 0, 0, 5], [0x17, 1, 0, 0, 0, 0, 1, 0, 0, 0, 0, 1, 3, 0x00, 0xfc, 0, 0xff, 0xff, 0xff, 0xff, 1, 90]⟩ := by
  constructor
  · have h := (value_roundtrip_int fo 3 4 [0xff, 0xff, 0xff, 0xff] [1, 65] (by decide) (by decide) (by decide) rfl).1
    have ht : toSigned (8 * 4) (leVal [0xff, 0xff, 0xff, 0xff]) = -1 := by decide
    have hf : fmtInt (-1) = [45, 49] := by
      unfold fmtInt
      rw [if_pos (by decide), natDec]
      rfl
    rw [ht, hf] at h
    exact h
  · rfl

open AcraModel.Wire.My in
/-- **COM_STMT_EXECUTE handling never panics**: `GetBindParameters` on any packet with any parameter count, and the whole
`GetBindParameters → OnBind → SetParameters` rewrite with any (non-panicking) observer. (True since `fix:` 11.) -/
theorem mysql_execute_no_panic (fo : FloatOps) (g : Nat → Bytes → Out Bytes) (hg : ∀ i d, g i d ≠ .panic) (p : Packet) (n : Nat) :
    getBindParameters fo p.data n ≠ .panic ∧ rewriteExecute fo g p n ≠ .panic :=
  ⟨getBindParameters_no_panic fo p.data n, rewriteExecute_no_panic fo g hg p n⟩

/-! ## part 7 — PostgreSQL RowDescription / ParameterDescription -/

open AcraModel.Wire.Pg in
/-- Facts from the regenerated sources the description model relies on: the pgproto3 member layout of a field
description (18 bytes after the zero-terminated name, the data type OID at member 2), the only members Acra assigns
(`Fields[i].DataTypeOID`, `ParameterOIDs[i]`), and that it replaces the body behind the 5-byte prefix of the re-encoded
message without recomputing the packet's length buffer. -/
theorem fact_pg_describe :
    fdLayout = [("TableOID", 4), ("TableAttributeNumber", 2), ("DataTypeOID", 4), ("DataTypeSize", 2), ("TypeModifier", 4), ("Format", 2)] ∧
    layoutLen fdLayout = fdFixedLen ∧ fdFixedLen = 18 ∧ oidIndex = 2 ∧
    Generated.Wire.pgRowDescAssigned = ["Fields[i].DataTypeOID"] ∧ Generated.Wire.pgParamDescAssigned = ["ParameterOIDs[i]"] ∧
    Generated.Wire.pgHandleRowDescriptionSkip = 5 ∧ Generated.Wire.pgHandleParameterDescriptionSkip = 5 ∧
    Generated.Wire.pgHandleRowDescriptionUpdatesLength = false ∧ Generated.Wire.pgHandleParameterDescriptionUpdatesLength = false ∧
    Generated.Wire.pgMessageTypes.lookup "RowDescriptionType" = some 84 ∧
    Generated.Wire.pgMessageTypes.lookup "ParameterDescriptionType" = some 116 := by decide +kernel

open AcraModel.Wire.Pg in
/-- **RowDescription / ParameterDescription round trip** of the pgproto3 codec Acra uses, on protocol-conformant
messages (names without zero bytes, members within their widths, at most 65535 entries). -/
theorem pg_describe_roundtrip :
    (∀ (fs : List FieldDesc) (b : Bytes), (∀ f ∈ fs, FieldOk f) → encodeRowDesc fs = some b → decodeRowDesc b = some fs) ∧
    (∀ (oids : List Nat) (b : Bytes), (∀ o ∈ oids, o < 2^32) → encodeParamDesc oids = some b → decodeParamDesc b = some oids) :=
  ⟨decodeRowDesc_encodeRowDesc, decodeParamDesc_encodeParamDesc⟩

open AcraModel.Wire.Pg in
/-- **rowdescription_rewrite_frame.** On a protocol-conformant RowDescription whose query items match its columns,
`handleRowDescription` keeps the type byte and the length buffer, and the new body is the encoding of the SAME field
list in which only the data type OID of the selected columns is replaced: the field count and the body length are
unchanged (so the untouched length buffer still declares the actual length), every column keeps its name and all
other members, and a column that is not selected is identical. -/
theorem rowdescription_rewrite_frame (t : UInt8) (lb b : Bytes) (fs : List FieldDesc) (its : List (Option Nat))
    (h : ∀ f ∈ fs, FieldOk f) (he : encodeRowDesc fs = some b) (hl : its.length = fs.length) :
    ∃ b', handleRowDescription ⟨t, lb, b⟩ (some its) = ⟨t, lb, b'⟩ ∧
      encodeRowDesc (setOids fs its) = some b' ∧ b'.length = b.length ∧
      (setOids fs its).length = fs.length ∧
      (∀ (i : Nat) (f : FieldDesc), fs[i]? = some f → (setOids fs its)[i]? = some (match (its[i]?).join with
          | some oid => { f with members := f.members.set oidIndex oid }
          | none => f)) ∧
      ((∀ o, some o ∈ its → o < 2^32) → decodeRowDesc b' = some (setOids fs its)) := by
  obtain ⟨b', h1, h2, h3⟩ := handleRowDescription_encode t lb b fs its h he hl
  exact ⟨b', h3, h1, h2, setOids_length fs its, fun i f hi => setOids_getElem fs its i f hi,
    fun ho => decodeRowDesc_encodeRowDesc _ _ (setOids_fieldOk fs its h ho) h1⟩

open AcraModel.Wire.Pg in
/-- **ParameterDescription rewrite frame.** Same for `handleParameterDescription`: type byte and length buffer kept, the
parameter count and the body length unchanged, parameter `i` gets the OID of its typed setting and every other
parameter keeps its OID. -/
theorem parameterdescription_rewrite_frame (t : UInt8) (lb b : Bytes) (oids : List Nat) (its : List (Option Nat))
    (ho : ∀ o ∈ oids, o < 2^32) (he : encodeParamDesc oids = some b) :
    ∃ b', handleParameterDescription ⟨t, lb, b⟩ (some its) = ⟨t, lb, b'⟩ ∧
      encodeParamDesc (setParamOids oids its) = some b' ∧ b'.length = b.length ∧
      (setParamOids oids its).length = oids.length ∧
      (∀ (i : Nat) (o : Nat), oids[i]? = some o → (setParamOids oids its)[i]? = some (((its[i]?).join).getD o)) := by
  obtain ⟨b', h1, h2, h3⟩ := handleParameterDescription_encode t lb b oids its ho he
  refine ⟨b', h3, h1, h2, setParamOids_length oids its, ?_⟩
  intro i o hi
  simp [setParamOids, List.getElem?_mapIdx, hi]

open AcraModel.Wire.Pg in
/-- **Relay identity of descriptions.** Without registered settings, with a column count that does not match, with a
body pgproto3 rejects, or when no column/parameter has a typed setting, the packet is left exactly as received. -/
theorem describe_relay_identity (p : Packet) (its : List (Option Nat)) :
    handleRowDescription p none = p ∧ handleParameterDescription p none = p ∧
    (decodeRowDesc p.body = none → handleRowDescription p (some its) = p) ∧
    (decodeParamDesc p.body = none → handleParameterDescription p (some its) = p) ∧
    (∀ fs, decodeRowDesc p.body = some fs → its.length ≠ fs.length → handleRowDescription p (some its) = p) ∧
    (∀ fs, decodeRowDesc p.body = some fs → its.any (·.isSome) = false → handleRowDescription p (some its) = p) := by
  refine ⟨rfl, rfl, ?_, ?_, ?_, ?_⟩
  · intro h; simp [handleRowDescription, h]
  · intro h; simp [handleParameterDescription, h]
  · intro fs h hn; simp [handleRowDescription, h, hn]
  · intro fs h hn; simp [handleRowDescription, h, hn]

/-! ## part 8 — columns without any setting through the decoder → encoder subscribers -/

/-- **Relay identity of the PostgreSQL subscriber chain – partial.** A column value for which no setting is matched and
that nobody decrypts leaves `PgSQLDataDecoderProcessor → PgSQLDataEncoderProcessor` exactly as it arrived – in either
result format, whether or not it looks like bytea hex / escape text (the decoder's decoded form is dropped and the saved
original is given back) – EXCEPT a text that starts with `\x` and is not valid hex, which makes the decoder fail and
the row is refused (known finding `pg-chain-hex-lookalike`; the second disjunct is exactly that input class). -/
theorem relay_identity_pg_chain_partial (binary : Bool) (d : Bytes) :
    Typed.pgChainNoSetting binary d = .ok d ∨
      (Wire.Bytea.decodeEscaped d = .error .hex ∧ Typed.pgChainNoSetting binary d = .err) :=
  Typed.pgChainNoSetting_identity binary d

/-- **Counterexample (known finding `pg-chain-hex-lookalike`).** The text `\xZZ` of a column without any setting is
not relayed: the row is refused. -/
theorem relay_identity_pg_chain_counterexample : Typed.pgChainNoSetting false [92, 120, 90, 90] = .err := by decide

/-- **Relay identity of the MySQL subscriber chain.** A column value without a setting leaves
`DataDecoderProcessor → DataEncoderProcessor` in the wire form it arrived in: text protocol – the length-encoded value,
for every column type; binary protocol – the length-encoded value for string/blob-like types, and for the fixed-width
integer types (TINY, SHORT, YEAR, INT24, LONG, LONGLONG) the very `k` bytes received (binary → decimal text → binary is
the identity on every `k`-byte pattern). FLOAT / DOUBLE columns are outside the model (strconv float formatting;
covered by the direct oracle `my-chain-identity-bin`). -/
theorem relay_identity_my_chain (t : Nat) (v : Bytes) :
    Typed.myChainNoSetting false t v = .ok (Typed.lenenc v) ∧
    (Typed.blobLike t → Typed.myChainNoSetting true t v = .ok (Typed.lenenc v)) ∧
    (∀ k, Typed.intWidth t = some k → v.length = k → Typed.myChainNoSetting true t v = .ok v) :=
  ⟨Typed.myChainNoSetting_text t v, fun hb => Typed.myChainNoSetting_blob t v hb,
   fun k hk hv => Typed.myChainNoSetting_int t k v hk hv⟩

/-! ## no panics (the modelled readers and rewriters, whatever the input; restated in `Props/C14`) -/

open AcraModel.Wire.Pg in
/-- **PostgreSQL framing never panics.** Whatever bytes arrive (any length field, also smaller than the
field itself; truncated streams), `readGeneralPacket`, `ReadPacket`, `readStartupPacket` return a packet
or an error. (True since the `fix:` that rejects negative data lengths; before it `Grow` panicked.) -/
theorem pg_read_no_panic (started : Bool) (s : Bytes) :
    readClient started s ≠ .panic ∧ readGeneral s ≠ .panic ∧ readStartup s ≠ .panic ∧ readDb s ≠ .panic :=
  ⟨readClient_no_panic started s, readGeneral_no_panic s, readStartup_no_panic s, readDb_no_panic s⟩

open AcraModel.Wire.Pg in
/-- **DataRow parsing and rewriting never panic**, whatever the body, the result formats and the
(non-panicking) subscribers. -/
theorem pg_row_no_panic (g : Nat → Bytes → Out Bytes) (hg : ∀ i d, g i d ≠ .panic) (fmts : List Nat) (p : Packet) :
    parseColumns p.body fmts ≠ .panic ∧ rewriteRow g fmts p ≠ .panic :=
  ⟨parseColumns_no_panic p.body fmts, rewriteRow_no_panic g fmts p hg⟩

open AcraModel.Wire.Pg in
/-- **Parse and Bind handling never panics**, whatever the packet body (truncated parameter counts, parameter
lists shorter than announced, missing terminators …) and the (non-panicking) observers. -/
theorem pg_parse_bind_no_panic (g : Nat → Bool → Option Bytes → Out (Option Bytes)) (hg : ∀ i b v, g i b v ≠ .panic)
    (data q : Bytes) (p : Packet) (oq : Option Bytes) (sel : Nat → Bool) (b : Nat) :
    newParsePacket data ≠ .panic ∧ replaceParseQuery p q ≠ .panic ∧ handleParse p oq sel b ≠ .panic ∧
    newBindPacket data ≠ .panic ∧ rewriteBind g p ≠ .panic :=
  ⟨newParsePacket_no_panic data, replaceParseQuery_no_panic p q, handleParse_no_panic p oq sel b,
   newBindPacket_no_panic data, rewriteBind_no_panic g hg p⟩

open AcraModel.Wire.My in
/-- **MySQL framing never panics** (`readPacket` over any stream, `replaceQuery` on any payload), and
`readPacket` terminates: it is defined by well-founded recursion on the bytes left. -/
theorem mysql_read_no_panic (s q : Bytes) (p : Packet) :
    readPacket s ≠ .panic ∧ read s ≠ .panic ∧ replaceQuery p q ≠ .panic :=
  ⟨readPacket_no_panic s, read_no_panic s, replaceQuery_no_panic p q⟩

open AcraModel.Wire.My in
/-- **MySQL row processing never panics**, for any row bytes (truncated values, short NULL bitmaps, declared
lengths beyond the row), any field list and any (non-panicking) subscribers. -/
theorem mysql_row_no_panic (g : Nat → Bytes → Out Bytes) (hg : ∀ i v, g i v ≠ .panic) (n : Nat) (types : List Nat) (row : Bytes) :
    textRow g n row ≠ .panic ∧ binRow g types row ≠ .panic :=
  ⟨textRow_no_panic g hg n row, binRow_no_panic g hg types row⟩

/-! ## part 4 — bytea text codecs -/

open AcraModel.Wire.Bytea in
/-- **bytea_hex_roundtrip.** `DecodeEscaped (PgEncodeToHex b) = b` for every byte string. -/
theorem bytea_hex_roundtrip (b : Bytes) : decodeEscaped (pgEncodeToHex b) = .ok b := decodeEscaped_pgEncodeToHex b

open AcraModel.Wire.Bytea in
/-- **bytea_octal_roundtrip.** `DecodeOctal (EncodeToOctal b) = b` for every byte string (backslashes
doubled, non-printable bytes as three octal digits), and `DecodeEscaped` takes the octal branch on it
(the escape form never starts with `\x`). -/
theorem bytea_octal_roundtrip (b : Bytes) :
    decodeOctal (encodeToOctal b) = some b ∧ decodeEscaped (encodeToOctal b) = .ok b :=
  ⟨decodeOctal_encodeToOctal b, decodeEscaped_encodeToOctal b⟩

open AcraModel.Wire.Bytea in
/-- The escape form consists of printable ASCII only, and hex decoding accepts exactly twice as many
digits as it returns bytes. -/
theorem bytea_forms (b : Bytes) :
    (∀ c ∈ encodeToOctal b, isPrintable c = true) ∧ (∀ s r, hexDecode s = some r → s.length = 2 * r.length) :=
  ⟨encodeToOctal_printable b, hexDecode_length⟩

/-! ## non-vacuity -/

/-- non-vacuity: the hypotheses are met by a concrete 300-byte value (0xfc branch) with a suffix -/
example : lengthEncodedString (putLengthEncodedString (some (List.replicate 300 7)) ++ [1, 2, 3])
    = .ok (some (List.replicate 300 7), (putLengthEncodedString (some (List.replicate 300 7))).length) :=
  lenenc_str_roundtrip _ _ (by intro b hb; cases hb; rw [List.length_replicate]; decide)

open AcraModel.Wire.Pg in
/-- non-vacuity of `rewrite_wellformed_pg`: a row with a value, a NULL and an empty value; the
transformation grows column 0 and empties column 2 -/
example : ∃ p, rewriteRow (fun i d => .ok (if i = 0 then d ++ [9, 9] else [])) [] ⟨68, [0, 0, 0, 21], encodeRow [some [1], none, some []]⟩ = .ok p
    ∧ decodeRow p.body = some [some [1, 9, 9], none, some []] := ⟨_, by rfl, by decide +kernel⟩

open AcraModel.Wire.Pg in
/-- non-vacuity of `pg_parse_roundtrip` / `rewrite_wellformed_pg_parse`: the two count bytes `80 00` are the count 32768, and
a Parse message `("s", "select $1,$2", [23, 25])` whose query is replaced and whose first parameter is re-typed to bytea (17) -/
example : paramsCount [0x80, 0x00] = 32768 ∧
    (∃ p, handleParse ⟨80, [0, 0, 0, 0], encodeParse [115] [115, 101, 108] [23, 25]⟩ (some [113]) (fun i => i == 0) 17 = .ok p ∧
      decodeParse p.body = some ([115], [113], [17, 25]) ∧ p.lenBuf = [0, 0, 0, 18]) := ⟨by decide +kernel, _, by rfl, by decide +kernel, by decide +kernel⟩

open AcraModel.Wire.My in
/-- non-vacuity of the MySQL row theorems on a row with a NULL, an empty string and a value -/
example : decodeTextRow [none, some [], some [65]].length (encodeTextRow [none, some [], some [65]]) = some [none, some [], some [65]] :=
  mysql_text_row_roundtrip [none, some [], some [65]] (by
    intro b hb
    simp only [List.mem_cons, Option.some.injEq, List.not_mem_nil, or_false, reduceCtorEq, false_or] at hb
    rcases hb with rfl | rfl <;> decide)


open AcraModel.Wire.My in
/-- non-vacuity of `coldef_roundtrip` / `rewrite_wellformed_mysql_coldef`: a BLOB column `c` of table `t` with MariaDB
extended type info "json" and a default value, re-typed to LONG -/
example : ∃ s : ColSpec, s.Ok ∧ s.ext = some [0, 4, 106, 115, 111, 110] ∧ s.default = some [1, 2, 3] ∧
    Generated.Wire.myTypeConfigurations.find? (·.1 = 3) = some (3, 63, 9, 0) :=
  ⟨⟨some [], some [116], some [116], some [99], none, some [0, 4, 106, 115, 111, 110], 63, 65535, 252, 144, 0, some [1, 2, 3]⟩,
   ⟨by intro b hb; simp only [List.mem_cons, Option.some.injEq, List.not_mem_nil, or_false, reduceCtorEq] at hb
       rcases hb with rfl | rfl | rfl | rfl | hb <;> first | decide | exact absurd hb (by simp),
    by intro e he; cases he; decide, by decide, by decide, by decide, by decide, by decide,
    by intro d hd; cases hd; decide⟩, rfl, rfl, by decide⟩

open AcraModel.Wire.My in
/-- non-vacuity of `execute_params_roundtrip`: three parameters – the string "A", NULL, the blob "BC" -/
example : getBindParameters ⟨fun _ b => b, fun _ b => some b⟩
      ([0x17, 1, 0, 0, 0, 0, 1, 0, 0, 0] ++ [2] ++ [1] ++ [0xfd, 0, 6, 0, 0xfc, 0] ++ [1, 65, 2, 66, 67]) 3
    = .ok (some [⟨0xfd, some [65]⟩, ⟨6, none⟩, ⟨0xfc, some [66, 67]⟩]) ∧
    encodeExecute [0x17, 1, 0, 0, 0, 0, 1, 0, 0, 0] [(0xfd, 0), (6, 0), (0xfc, 0)] [some [65], none, some [66, 67]]
      = [0x17, 1, 0, 0, 0, 0, 1, 0, 0, 0] ++ [2] ++ [1] ++ [0xfd, 0, 6, 0, 0xfc, 0] ++ [1, 65, 2, 66, 67] := by
  constructor <;> decide +kernel

open AcraModel.Wire.My in
/-- non-vacuity of `rewrite_wellformed_mysql_execute`: the string "A" is changed to "Z", the NULL and the blob "BC" are
kept – the first parameter becomes a BLOB (252), everything else is byte-identical; the hypotheses hold for this
execute (no float, no LONG/LONGLONG parameter) -/
example : rewriteExecute ⟨fun _ b => b, fun _ b => some b⟩ (fun i d => .ok (if i = 0 then [90] else d))
      ⟨[23, 0, 0, 1], encodeExecute [0x17, 1, 0, 0, 0, 0, 1, 0, 0, 0] [(0xfd, 0), (6, 0), (0xfc, 0)] [some [65], none, some [66, 67]]⟩ 3
    = .ok (some ⟨[23, 0, 0, 1], encodeExecute [0x17, 1, 0, 0, 0, 0, 1, 0, 0, 0] [(0xfc, 0), (6, 0), (0xfc, 0)] [some [90], none, some [66, 67]]⟩) ∧
    FloatLaw ⟨fun _ b => b, fun _ b => some b⟩ [(0xfd, 0), (6, 0), (0xfc, 0)] [some [65], none, some [66, 67]] ∧
    SignFlagsCanonical [(0xfd, 0), (6, 0), (0xfc, 0)] [some [65], none, some [66, 67]] := by
  refine ⟨by decide +kernel, fun j t fl w v _ _ _ => rfl, ?_⟩
  intro j t fl sb v h1 _ h3 _
  exfalso
  have : j = 0 ∨ j = 1 ∨ j = 2 ∨ 3 ≤ j := by omega
  rcases this with rfl | rfl | rfl | hj
  · simp at h1; obtain ⟨rfl, _⟩ := h1; revert h3; decide
  · simp at h1; obtain ⟨rfl, _⟩ := h1; revert h3; decide
  · simp at h1; obtain ⟨rfl, _⟩ := h1; revert h3; decide
  · rw [List.getElem?_eq_none (by simpa using hj)] at h1; cases h1

open AcraModel.Wire.Pg in
/-- non-vacuity of `rowdescription_rewrite_frame`: two columns, the second re-typed to int4 (OID 23) -/
example : ∃ b', handleRowDescription ⟨84, [0, 0, 0, 50], (encodeRowDesc [⟨[105, 100], [1, 1, 23, 4, 0xffffffff, 0]⟩, ⟨[99], [1, 2, 17, 0xffff, 0xffffffff, 0]⟩]).getD []⟩ (some [none, some 23])
      = ⟨84, [0, 0, 0, 50], b'⟩ ∧ decodeRowDesc b' = some [⟨[105, 100], [1, 1, 23, 4, 0xffffffff, 0]⟩, ⟨[99], [1, 2, 23, 0xffff, 0xffffffff, 0]⟩] :=
  ⟨_, by rfl, by decide +kernel⟩

end AcraModel.Props.C12
