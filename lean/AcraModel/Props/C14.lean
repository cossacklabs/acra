import AcraModel.Props.C12
import AcraModel.Props.C03
import AcraModel.Props.C10
import AcraModel.Sql.MysqlComment
import AcraModel.Props.C13
import AcraModel.Sql.TokenizerLoop
import AcraModel.Censor.NilGuard
/-!
# C14 — no input can crash a handler or make it consume unbounded resources

This file COLLECTS the no-panic / termination / progress theorems of the modelled decoders (they are
proved in the property files of the subsystems and restated here so that C14's obligations are
explicit). Termination of every modelled loop is a definitional obligation: the models are total
Lean functions by structural or well-founded recursion whose measure decreases on every path
(`scan`, `processStructs`, `processBlocks` in `Envelope/Detector.lean`; the readers in `Wire/`).
The SQL TOKENIZER of both dialects (`sqlparser/token.go`: `Scan`, `Lex` and every scanner) is modelled in
`Sql/Tokenizer*.lean`; its theorems are the section `Tokenizer` of this file. Decoders without a model (the SQL GRAMMAR,
pg_query, YAML, ASN.1) are explored by the harness only – that part of C14 is exploration, not proof, and the evidence
says so.
-/
namespace AcraModel.Props.C14
open AcraModel AcraModel.Wire.LenEnc AcraModel.Envelope

/-- MySQL length-encoded integer reader never panics. -/
theorem lenenc_int_no_panic (data : Bytes) : lengthEncodedInt data ≠ .panic :=
  C12.lenenc_int_no_panic data

/-- MySQL length-encoded string reader never panics. -/
theorem lenenc_str_no_panic (data : Bytes) : lengthEncodedString data ≠ .panic :=
  C12.lenenc_str_no_panic data

/-- … and a successful read makes progress inside the buffer (callers' row loops terminate). -/
theorem lenenc_str_progress (data : Bytes) (v : Option Bytes) (n : Nat)
    (h : lengthEncodedString data = .ok (v, n)) : 0 < n ∧ n ≤ data.length :=
  C12.lenenc_str_progress data v n h

theorem lenenc_skip_no_panic (data : Bytes) : skipLengthEncodedString data ≠ .panic :=
  C12.lenenc_skip_no_panic data

/-! ## protected values, containers, column scans (proved in `Props/C03.lean`) -/

/-- `ExtractAcraBlockFromData` never panics (length fields taken from the data are bounded). -/
theorem extractBlock_no_panic : ∀ d : Bytes, extractBlock d ≠ .panic := C03.extractBlock_no_panic
/-- `ValidateAcraStructLength` never panics. -/
theorem validateStruct_no_panic : ∀ d : Bytes, validateStruct d ≠ .panic := C03.validateStruct_no_panic
/-- `ExtractAcraStruct` never panics. -/
theorem extractStruct_no_panic : ∀ d : Bytes, extractStruct d ≠ .panic := C03.extractStruct_no_panic
/-- `DecryptRotatedAcrastruct` never panics, for every key list, context, input and crypto back end. -/
theorem decryptStructRotated_no_panic :
    ∀ (c : CryptoOps) (ctx d : Bytes) (keys : List Bytes), decryptStructRotated c ctx d keys ≠ .panic :=
  C03.decryptStructRotated_no_panic
/-- `DeserializeEncryptedData` never panics and never allocates more than the input holds. -/
theorem deserialize_no_panic : ∀ d : Bytes, deserialize d ≠ .panic := C03.deserialize_no_panic
theorem deserialize_alloc_bounded (d i : Bytes) (id : UInt8) : deserialize d = .ok (i, id) → i.length ≤ d.length :=
  C03.deserialize_output_bound d i id
/-- `ExtractSerializedContainer` never panics and, when it succeeds, tells the caller to advance by
at least one byte and at most the bytes that are there – the column scan cannot loop or run out of range. -/
theorem extractContainer_no_panic : ∀ d : Bytes, extractContainer d ≠ .panic := C03.extractContainer_no_panic
theorem extractContainer_progress (d : Bytes) (n : Int) (cont : Bytes) (hd : d.length < 2^63) :
    extractContainer d = .ok (n, cont) → 0 < n ∧ n ≤ d.length := C03.extractContainer_bounds d n cont hd
/-- reveal / protect (registry handler) never panic. -/
theorem reveal_no_panic : ∀ (c : CryptoOps) (kv : KeyView) (d : Bytes), reveal c kv d ≠ .panic := C03.reveal_no_panic
theorem protect_no_panic :
    ∀ (c : CryptoOps) (kv : KeyView) (k : Kind) (d rnd : Bytes), protect c kv k d rnd ≠ .panic := C03.protect_no_panic
/-- `EnvelopeDetector.OnColumn` (any callback list) and the compatibility wrapper never panic; their
termination is the well-founded recursion of `scan` / `processStructs` / `processBlocks`. -/
theorem onColumn_no_panic : ∀ (cbs : List Callback) (d : Bytes), d.length < 2^63 → onColumn cbs d ≠ .panic :=
  C03.onColumn_no_panic
theorem onColumnCompat_no_panic :
    ∀ (cbs : List Callback) (d : Bytes), d.length < 2^63 → onColumnCompat cbs d ≠ .panic := C03.onColumnCompat_no_panic
/-- The scan's output is bounded by the input length times the largest replacement. -/
theorem onColumn_output_bounded (cbs : List Callback) (B : Nat)
    (hc : ∀ cb ∈ cbs, ∀ x b, cb x = .replaced b → b.length ≤ B) (rest out : Bytes) (hit : Bool) :
    scan cbs rest = .ok out hit → out.length ≤ rest.length * max 1 B := C03.scan_output_bound cbs B hc rest out hit

/-! ## token generators (proved in `Props/C10.lean`) -/

/-- Token generation never panics, for every token type, length and random stream (the e-mail
generator used to slice with a negative bound for values shorter than a TLD). -/
theorem token_generator_no_panic (ty : Token.TokenType) (n : Nat) (d : Token.Draws) : Token.genToken ty n d ≠ .panic :=
  C10.generator_never_panics ty n d

/-! ## records read back from the token store (proved in `Props/C10.lean`) -/

/-- `decodeInt32` / `decodeInt64` / `bytesToGolangValue` on ANY stored payload, and the `t.`-record path of
`Deanonymize` on any record: value or error, never a panic (a short stored integer used to crash
`binary.LittleEndian.Uint32/64`). -/
theorem decode_record_no_panic (ty : Token.TokenType) (data : Bytes) :
    Token.decodeAs ty data ≠ .panic ∧ Token.decTV ty data ≠ .panic := C10.decode_record_no_panic ty data

/-! ## MySQL version comments (`sqlparser.ExtractMysqlComment`, called by the tokenizer on client SQL) -/

/-- `sqlparser/comments.go`: `ExtractMysqlComment` cuts 3 + 2 bytes (`/*!`, `*/` – what the tokenizer
guarantees to be there) and handles "nothing follows the version digits" before slicing. (How many version
digits it takes is not needed for the claim; the model reads that bound from the source.) -/
theorem fact_mysql_comment :
    Generated.SqlComment.cutFront = 3 ∧ Generated.SqlComment.cutBack = 2 ∧
    Generated.SqlComment.noTextGuard = true := ⟨rfl, rfl, rfl⟩

/-- **No complete version comment makes `ExtractMysqlComment` panic** (ASCII model): the tokenizer
calls it with `/*!` … `*/`, i.e. at least 5 bytes; `/*!123*/`, `/*!*/`, `/*!12345*/` used to slice `sql[0:-1]`. -/
theorem extract_mysql_comment_no_panic (c : Bytes) (h : 5 ≤ c.length) : Sql.MysqlComment.extract c ≠ .panic := by
  unfold Sql.MysqlComment.extract
  rw [fact_mysql_comment.2.2]
  exact Sql.MysqlComment.extractWith_guard_no_panic c (by rw [fact_mysql_comment.1, fact_mysql_comment.2.1]; exact h)

/-- The pinned tree (no guard): `/*!123*/` panics. -/
theorem legacy_mysql_comment_counterexample :
    Sql.MysqlComment.extractWith false [47, 42, 33, 49, 50, 51, 42, 47] = .panic ∧
    Sql.MysqlComment.extractWith true [47, 42, 33, 49, 50, 51, 42, 47] = .ok ([49, 50, 51], []) := by decide

/-! ## wire readers and rewriters (proved in `Props/C12.lean`; statements are taken over verbatim) -/

/-- PostgreSQL packet readers (general, database-side, start-up) never panic on any byte string. -/
theorem pg_read_no_panic : type_of% @C12.pg_read_no_panic := @C12.pg_read_no_panic
/-- PostgreSQL DataRow parsing and rewriting never panics. -/
theorem pg_row_no_panic : type_of% @C12.pg_row_no_panic := @C12.pg_row_no_panic
/-- PostgreSQL Parse and Bind packet readers/rewriters never panic. -/
theorem pg_parse_bind_no_panic : type_of% @C12.pg_parse_bind_no_panic := @C12.pg_parse_bind_no_panic
/-- MySQL packet reader never panics. -/
theorem mysql_read_no_panic : type_of% @C12.mysql_read_no_panic := @C12.mysql_read_no_panic
/-- MySQL text and binary row processors never panic (truncated rows are rejected). -/
theorem mysql_row_no_panic : type_of% @C12.mysql_row_no_panic := @C12.mysql_row_no_panic
/-- MySQL column-definition parser never panics. -/
theorem mysql_coldef_no_panic : type_of% @C12.coldef_no_panic := @C12.coldef_no_panic
/-- MySQL COM_STMT_EXECUTE parameter reader/rewriter never panics. -/
theorem mysql_execute_no_panic : type_of% @C12.mysql_execute_no_panic := @C12.mysql_execute_no_panic

/-! ## the SQL tokenizer (`sqlparser/token.go`; model `Sql/Tokenizer.lean`, `Sql/TokenizerLoop.lean`)

The state of a tokenizer is the list of its live `Tokenizer` values (`[f]`, or `f` with the nested tokenizer of a
`/*! … */` comment behind it); `mu` counts the bytes they can still consume (+1 each). -/
section Tokenizer
open AcraModel.Sql.Tokenizer AcraModel.Generated.SqlToken

/-- `eofChar` is no byte value and belongs to no character class; the tables cover exactly `0 … eofChar` – what lets
the model represent `lastChar == eofChar` as the empty suffix. -/
theorem fact_tok_eof :
    eofChar = 256 ∧ digitVals.length = 257 ∧ (∀ n ∈ letterChars ++ digitChars ++ blankChars ++ simpleTokens, n < 256) := by
  decide +kernel

/-- `digitVal(eofChar)` is 16 (no digit in any base), every `isDigit` character has a decimal value, and
`ExtractMysqlComment` slices at `[3 : len-2]` and handles the comment that holds nothing but version digits. -/
theorem fact_tok_tables : TableFacts := tableFacts

/-- `isLetter` is exactly `A–Z a–z _ @`, `isDigit` exactly `0–9`, blanks are TAB LF CR SPACE -/
theorem fact_tok_classes :
    letterChars = 64 :: (List.range 26).map (· + 65) ++ 95 :: (List.range 26).map (· + 97) ∧
    digitChars = (List.range 10).map (· + 48) ∧ blankChars = [9, 10, 13, 32] := by decide +kernel

/-- identifier characters (letters, digits, `.` and every quote character) are ASCII: `bytes.ToLower` on an
identifier is the ASCII map the model uses. -/
theorem fact_tok_ident_ascii :
    ∀ n ∈ letterChars ++ digitChars ++ [46] ++ mysqlIdentQuotes ++ mysqlStrQuotes ++ ansiIdentQuotes ++ ansiStrQuotes ++
      pgIdentQuotes ++ pgStrQuotes, n < 128 := by decide +kernel

/-- the quote handlers: MySQL `` ` `` identifiers and `'` `"` strings; ANSI mode `` ` `` `"` identifiers and `'` strings;
PostgreSQL `"` identifiers and `'` strings. `byte(eofChar) = 0` is no quote (the end of input never looks like one),
and every string quote has a `stringTokenType` entry. -/
theorem fact_tok_quotes :
    (mysqlIdentQuotes, mysqlStrQuotes, mysqlIdentQuote) = ([96], [34, 39], 96) ∧
    (ansiIdentQuotes, ansiStrQuotes, ansiIdentQuote) = ([34, 96], [39], 34) ∧
    (pgIdentQuotes, pgStrQuotes, pgIdentQuote) = ([34], [39], 34) ∧
    stringTokenType = [(39, "SINGLE_QUOTE_STRING"), (34, "DOUBLE_QUOTE_STRING"), (96, "BACK_QUOTE_STRING")] ∧
    mysqlQuoteHandlerShape = "if dialect.ansiMode { return NewANSIQuoteHandler() }; return NewDefaultQuoteHandler()" ∧
    pgQuoteHandlerShape = "return NewQuoteHandler()" := ⟨rfl, rfl, rfl, rfl, rfl, rfl⟩

/-- every token name the scanners spell out and every `stringTokenType` value is a constant of `sql.go` (for the values
of the keyword map the extractor checks the same while reading the map, and the driver prints `?` for an unknown
name); the ids are strictly increasing in source order (hence pairwise different) and above 255, so a named token
is never 0 (end of input) nor a character token. -/
theorem fact_tok_token_ids :
    (∀ n ∈ modelTokenNames ++ stringTokenType.map (·.2), (tokenIds.lookup n).isSome = true) ∧
    strictlyIncreasing (tokenIds.map (·.2)) = true ∧ (∀ p ∈ tokenIds, 255 < p.2) := by
  refine ⟨by decide +kernel, by decide +kernel, by decide +kernel⟩

/-- the shape of `Scan` the model follows: the order of the outer cases, the case lists of the inner `switch ch`, the
three letter-prefixed literals, the bases handed to `scanMantissa`, the comment prefixes, `isCarat`, `consumeNext`'s
panic, and how `scanMySQLSpecificComment` builds the nested tokenizer (default dialect) and makes `Scan` start over:
`Scan` is a LOOP around one round (`scanToken`) and the start-over marker `rescan` is no token type – the stack a
`Scan` needs does not grow with the number of `/*! … */` comments (it used to: one recursive call per comment). -/
theorem fact_tok_scan_shape :
    scanOuterCases = ["isLetter(ch)", "isDigit(ch)", "ch == ':'", "ch == ';' && tkn.multi", "default"] ∧
    scanCaseChars = [[256], [61, 44, 59, 40, 41, 43, 42, 37, 94, 126], [38], [124], [63], [46], [47], [35], [45], [60], [62], [33], [36], []] ∧
    simpleTokens = [61, 44, 59, 40, 41, 43, 42, 37, 94, 126] ∧
    letterPrefixes = [([88, 120], 39, "tkn.scanHex()"), ([66, 98], 39, "tkn.scanBitLiteral()"), ([69, 101], 39, "tkn.scanString('\\'', PG_ESCAPE_STRING)")] ∧
    mantissaBases = [("scanHex", [16]), ("scanBitLiteral", [2]), ("scanNumber", [10, 16, 10, 10, 10])] ∧
    lineCommentPrefixes = ["//", "#", "--"] ∧
    blockCommentPrefixes = [("scanCommentType2", "/*"), ("scanMySQLSpecificComment", "/*!")] ∧
    caratShape = "ch == '.' || quoteHandler.IsIdentifierQuote(byte(ch)) || quoteHandler.IsStringLiteralQuote(byte(ch))" ∧
    consumeNextPanicsAtEof = true ∧
    specialCommentTail = "_, sql := ExtractMysqlComment(buffer.String()); tkn.specialComment = NewStringTokenizer(sql); return rescan, nil" ∧
    scanLoopShape = "for { if typ, val := tkn.scanToken(); typ != rescan { return typ, val } }" ∧ rescanIsNegative = true :=
  ⟨rfl, rfl, rfl, rfl, rfl, rfl, rfl, rfl, rfl, rfl, rfl, rfl⟩

/-- `ExtractMysqlComment`: `sql[3 : len(sql)-2]`, version = at most 5 digits (the 6th rune ends it), and the comment that
holds only version digits is handled (it used to slice with -1). -/
theorem fact_tok_version_comment :
    versionCommentLo = 3 ∧ versionCommentHi = 2 ∧ versionDigitLimit = 6 ∧ versionOnlyHandled = true := ⟨rfl, rfl, rfl, rfl⟩

/-- Latin-1 part of `unicode.IsSpace` / `unicode.IsDigit` as `ExtractMysqlComment` sees it -/
theorem fact_tok_unicode : latin1Spaces = [9, 10, 11, 12, 13, 32, 133, 160] ∧ latin1Digits = (List.range 10).map (· + 48) := by decide

/-- **One `Scan` never panics**, in any state of the tokenizer (any buffer, position, dialect, flags, nested
tokenizers): `consumeNext`'s `panic("unexpected EOF")` and the three slice expressions of `ExtractMysqlComment` are
unreachable. -/
theorem tokenizer_scan_no_panic (dd : Dialect) (l : List Frame) : ∃ t l', scan dd l = .ok (t, l') := by
  obtain ⟨t, l', h, _⟩ := scan_total dd l
  exact ⟨t, l', h⟩

/-- **`Lex` (the loop the generated parser calls; skips comments) never panics.** -/
theorem tokenizer_lex_no_panic (dd : Dialect) (ac : Bool) (l : List Frame) : ∃ t l', lex dd ac l = .ok (t, l') := by
  obtain ⟨t, l', h, _⟩ := lex_total dd ac l
  exact ⟨t, l', h⟩

/-- **Tokenising any byte string in any dialect never panics**: the whole loop `for { tok := Scan(); if tok == 0 { break } }`
returns a token stream. -/
theorem tokenizer_no_panic (d dd : Dialect) (input : Bytes) : ∃ ts, tokenize d dd input = .ok ts := by
  obtain ⟨ts, h, _⟩ := tokenize_spec d dd input
  exact ⟨ts, h⟩

/-- **Every `Scan` that returns anything but 0 has consumed at least one byte** (of the tokenizer or of its nested
comment tokenizer): the bytes left strictly decrease. This is what makes `lex` and `tokenize` total functions – their
definitions carry no fuel – and what rules out an endless `Lex` loop in the parser. -/
theorem tokenizer_progress (dd : Dialect) (l l' : List Frame) (t : Token)
    (h : scan dd l = .ok (t, l')) (hne : t.typ ≠ .eof) : mu l' < mu l := scan_progress h hne

/-- … and a `Scan` never gives bytes back. -/
theorem tokenizer_monotone (dd : Dialect) (l l' : List Frame) (t : Token) (h : scan dd l = .ok (t, l')) : mu l' ≤ mu l :=
  (scan_mu h).1

/-- the same for `Lex`: each call that does not report the end consumes input. -/
theorem tokenizer_lex_progress (dd : Dialect) (ac : Bool) (l l' : List Frame) (t : Token)
    (h : lex dd ac l = .ok (t, l')) (hne : t.typ ≠ .eof) : mu l' < mu l := by
  obtain ⟨t1, l1, e, _, g⟩ := lex_total dd ac l
  rw [h] at e; cases e; exact g hne

/-- **The parser's token loop ends**: `for { tok := Lex(); if tok == 0 { break } }` – with comments skipped or kept, and
whenever the grammar sets `ForceEOF` (after `k` tokens, or never) – returns a finite stream without panic from every
state. (`lexFrom` is defined by recursion on the bytes left; there is no step limit in it.) -/
theorem tokenizer_parser_loop_total (dd : Dialect) (ac : Bool) (force : Option Nat) (l : List Frame) :
    ∃ ts, lexFrom dd ac force l = .ok ts := lexFrom_total dd ac force l

/-- **At most `|input| + 1` tokens** (the final 0 included), for every input and dialect. -/
theorem tokenizer_token_count (d dd : Dialect) (input : Bytes) (ts : List (Token × Nat))
    (h : tokenize d dd input = .ok ts) : ts.length ≤ input.length + 1 := by
  obtain ⟨ts', e, g, _⟩ := tokenize_spec d dd input
  rw [h] at e; cases e; exact g

/-- **The payloads of all tokens together are no longer than the input + 1**, apart from the `?` placeholders: a `?`
is returned as `:v<n>` (`n` = its ordinal), 1 + (digits of `n`) bytes more than it consumed, and `n ≤ |input|`.
(`extraSum B ts` = (1 + decimal digits of `B`) for every `VALUE_ARG` token of `ts`.) Comment text, string values,
identifiers, numbers are each no longer than the bytes consumed for them; the inner text of a `/*! … */` comment is at
least 5 bytes shorter than the comment. -/
theorem tokenizer_alloc_bounded (d dd : Dialect) (input : Bytes) (ts : List (Token × Nat))
    (h : tokenize d dd input = .ok ts) : payloadSum ts ≤ input.length + 1 + extraSum input.length ts := by
  obtain ⟨ts', e, _, g⟩ := tokenize_spec d dd input
  rw [h] at e; cases e; exact g

/-- closed form: at most `(|input| + 1) · (2 + digits(|input|))` payload bytes – linear in the input up to the
logarithmic placeholder numbering. -/
theorem tokenizer_alloc_bounded_closed (d dd : Dialect) (input : Bytes) (ts : List (Token × Nat))
    (h : tokenize d dd input = .ok ts) :
    payloadSum ts ≤ (input.length + 1) * (2 + (decimal input.length).length) := by
  have h1 := tokenizer_alloc_bounded d dd input ts h
  have h2 := Nat.mul_le_mul_right (1 + (decimal input.length).length) (tokenizer_token_count d dd input ts h)
  have h3 := extraSum_le input.length ts
  rw [show 2 + (decimal input.length).length = 1 + (1 + (decimal input.length).length) by omega, Nat.mul_add, Nat.mul_one]
  omega

/-! ### link to the literal codec of C13 -/

/-- **String tokens round-trip.** The text the printer writes for a string value `b` (C13: `encodeBytesSQL b`, i.e.
`'…'` with backslash escapes) is read by `Scan`, in all three dialect variants and whatever follows (anything but
another quote), as ONE token `SINGLE_QUOTE_STRING` whose payload is exactly `b`, and `Scan` stops exactly behind the
literal. Together with C13's `literal_roundtrip` this ties the tokenizer model to the printer model. -/
theorem string_token_roundtrip (d : Dialect) (hd : d = .mysql ∨ d = .ansi ∨ d = .postgresql) (multi : Bool) (pv : Nat)
    (b rest : Bytes) (h : rest.head? ≠ some Sql.Literal.quote) :
    scanSuffix d multi pv (Sql.Literal.encodeBytesSQL b ++ rest) =
      .ok (.tok ⟨.named "SINGLE_QUOTE_STRING", b⟩ rest pv) := by
  have hlit := scanStr_of_literal _ _ _ _ _ (C13.literal_roundtrip b rest h)
  have hshape : Sql.Literal.encodeBytesSQL b ++ rest = 39 :: ((Sql.Literal.encodeBytesSQL b).tail ++ rest) := by
    simp [Sql.Literal.encodeBytesSQL, Sql.Literal.quote]
  rw [hshape]
  generalize (Sql.Literal.encodeBytesSQL b).tail ++ rest = t at hlit
  have hq : Sql.Literal.quote = 39 := rfl
  rw [hq] at hlit
  have hsb : skipBlank (39 :: t) = 39 :: t := by
    have : isBlank 39 = false := by decide
    simp [skipBlank, this]
  have hop : scanOperator 39 t = none := by simp [scanOperator]
  have hiq : isIdentQuote d 39 = false := by rcases hd with rfl | rfl | rfl <;> decide
  have hsq : isStrQuote d 39 = true := by rcases hd with rfl | rfl | rfl <;> decide
  have e1 : isLetter 39 = false := by decide
  have e2 : isDigit 39 = false := by decide
  have e3 : 39 ∉ simpleTokens := by decide
  have e4 : stringTokenTypeOf 39 = .named "SINGLE_QUOTE_STRING" := by decide
  unfold scanSuffix
  rw [hsb]
  simp [scanDispatch, e1, e2, e3, hop, hiq, hsq, scanString, hlit, e4, liftTok]

/-! ### non-vacuity: concrete token streams computed by the definitions the theorems are about -/

/-- `'a\'b''c' x` → one string token `a'b'c` (escape and doubled quote), in PostgreSQL -/
example : scanSuffix .postgresql false 0 (strBytes "'a\\'b''c' x") =
    .ok (.tok ⟨.named "SINGLE_QUOTE_STRING", strBytes "a'b'c"⟩ (strBytes " x") 0) := by decide +kernel

/-- `? ` → the first placeholder `:v1`; `1e+` followed by a letter → `LEX_ERROR`; `$` alone → `DOLLAR_SIGN` -/
example : scanSuffix .mysql false 0 (strBytes "? ") = .ok (.tok ⟨.named "VALUE_ARG", strBytes ":v1"⟩ (strBytes " ") 1) ∧
    scanSuffix .mysql false 0 (strBytes "1e+x") = .ok (.tok ⟨.named "LEX_ERROR", strBytes "1e+"⟩ (strBytes "x") 0) ∧
    scanSuffix .postgresql false 0 (strBytes "$") = .ok (.tok ⟨.named "DOLLAR_SIGN", strBytes "$"⟩ [] 0) := by decide +kernel

/-- `/*!50000 select*/ x` hands the nested tokenizer the text `select`; `/*!*/` (the former panic) an empty text -/
example : scanSuffix .mysql false 0 (strBytes "/*!50000 select*/ x") = .ok (.special (strBytes "select") (strBytes " x")) ∧
    scanSuffix .mysql false 0 (strBytes "/*!*/") = .ok (.special [] []) := by decide +kernel

/-- an unterminated string, comment and quoted identifier are `LEX_ERROR` tokens that consume the rest – never a panic -/
example : scanSuffix .mysql false 0 (strBytes "'ab") = .ok (.tok ⟨.named "LEX_ERROR", strBytes "ab"⟩ [] 0) ∧
    scanSuffix .mysql false 0 (strBytes "/* ab") = .ok (.tok ⟨.named "LEX_ERROR", strBytes "/* ab"⟩ [] 0) ∧
    scanSuffix .mysql false 0 (strBytes "`ab") = .ok (.tok ⟨.named "LEX_ERROR", strBytes "ab"⟩ [] 0) := by decide +kernel

/-- the theorems applied to a concrete statement: 41 bytes give at most 42 tokens -/
example : ∃ ts, tokenize .mysql .mysql (strBytes "select `a`, 1.5e3 from t where b = ? -- c") = .ok ts ∧ ts.length ≤ 42 := by
  obtain ⟨ts, h⟩ := tokenizer_no_panic .mysql .mysql (strBytes "select `a`, 1.5e3 from t where b = ? -- c")
  exact ⟨ts, h, Nat.le_trans (tokenizer_token_count _ _ _ ts h) (by decide +kernel)⟩

end Tokenizer

/-! ## acra-censor pattern matcher: comparators with pointer operands never look through a nil pointer

`AcraCensor.HandleQuery` runs the pattern matcher of `acra-censor/common/matching_logic.go` on every client statement
when an allow / deny handler has patterns. The matcher model of C05 is total by construction (a field of a nil tree is
"no match"); here the nil cases are explicit: `Censor/NilGuard.lean`, tables regenerated by factgen `censornil.go`. -/
section CensorNil
open AcraModel.Censor.NilGuard Generated

/-- the comparators that receive pointer fields the grammar can leave nil (`Where`, `Having`, `Limit`, index hints,
length and scale of a CAST / CONVERT type) – read from the call sites of `matching_logic.go` and the grammar table of
`sql.y` – and the pointer fields that are never nil in a parsed statement -/
theorem fact_optional_call_sites :
    optionalCalls.map (fun c => (c.2.1, c.2.2.1, c.2.2.2)) =
      [("areEqualLimit", "Union", "Limit"), ("areEqualWhere", "Select", "Where"), ("areEqualWhere", "Select", "Having"),
       ("areEqualLimit", "Select", "Limit"), ("areEqualWhere", "Update", "Where"), ("areEqualLimit", "Update", "Limit"),
       ("areEqualWhere", "Delete", "Where"), ("areEqualLimit", "Delete", "Limit"),
       ("areEqualIndexHints", "AliasedTableExpr", "Hints"), ("areEqualOptionalSQLVal", "ConvertType", "Length"),
       ("areEqualOptionalSQLVal", "ConvertType", "Scale")] ∧
    (CensorNil.ptrFieldCalls.filter (fun c => !optionalCalls.contains c)).map (fun c => (c.2.2.1, c.2.2.2)) =
      [("UpdateExpr", "Name"), ("SubstrExpr", "Name"), ("ConvertExpr", "Type"), ("ValuesFuncExpr", "Name"),
       ("ExistsExpr", "Subquery"), ("UpdateExpr", "Name")] := by decide +kernel

/-- every pointer field a comparator call site reads is a pointer field of `ast.go`, and its struct type was evident
to the extractor (no `?`) -/
theorem fact_call_sites_typed :
    CensorNil.ptrFieldCalls.all (fun c => CensorNil.ptrFields.any (fun f => f.1 == c.2.2.1 && f.2.1 == c.2.2.2)) = true := by
  decide +kernel

/-- **Every comparator that can receive a nil pointer guards all three nil combinations** (regenerated table): it
returns `true` when both operands are nil and `false` when exactly one is – before any dereference.
(`areEqualOptionalSQLVal` reduced to `if pattern == nil { return query == nil }` leaves "query nil, pattern set"
unguarded: pattern `CAST(x AS CHAR(10))` against `CAST(x AS CHAR)` then panics in `HandleQuery`.) -/
theorem fact_optional_comparators_guard_nil : optionalCallsGuarded = true := by decide +kernel

/-- **The pattern matcher never dereferences a nil optional operand.** For every call site of `matching_logic.go`
that hands a comparator a pointer field the grammar can leave nil, and for all four combinations of nil / non-nil
operands, the comparator does not panic – and it treats nil like Go's `==` on the pointers: two nil operands are
equal, a nil and a non-nil one are not, two non-nil ones are compared by the body. -/
theorem censor_optional_operands_never_panic {c : String × String × String × String} (hc : c ∈ optionalCalls)
    {α : Type} (body : α → α → Bool) (q p : Option α) :
    ptrCompare (guardsOf c.2.1) body q p ≠ .panic ∧
      ptrCompare (guardsOf c.2.1) body q p = .ok (match q, p with
        | some a, some b => body a b
        | none, none => true
        | _, _ => false) := by
  have h := fact_optional_comparators_guard_nil
  simp only [optionalCallsGuarded, List.all_eq_true] at h
  exact ptrCompare_total (h c hc) body q p

/-- **The check is not vacuous**: with the guard of the "query nil, pattern set" combination gone (the body reaches
`areEqualSQLVal(query, pattern)` with a nil query) the comparator panics on exactly that combination and on no other. -/
theorem seeded_guard_counterexample :
    let g : Guards := ⟨.retTrue, .deref, .retFalse⟩
    g.total = false ∧
    ptrCompare g (fun (_ _ : Nat) => true) none (some 10) = .panic ∧
    ptrCompare g (fun (_ _ : Nat) => true) none none = .ok true ∧
    ptrCompare g (fun (_ _ : Nat) => true) (some 10) none = .ok false ∧
    ptrCompare g (fun (_ _ : Nat) => true) (some 10) (some 10) = .ok true := by decide

/-- non-vacuity: the length of a CAST type is such a call site, and `CHAR` against `CHAR(10)` is "no match" -/
example : ("areEqualConvertType", "areEqualOptionalSQLVal", "ConvertType", "Length") ∈ optionalCalls ∧
    ptrCompare (guardsOf "areEqualOptionalSQLVal") (fun (a b : Nat) => a == b) none (some 10) = .ok false := by
  decide +kernel

end CensorNil

end AcraModel.Props.C14
