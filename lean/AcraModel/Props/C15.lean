import AcraModel.Envelope.Poison
import AcraModel.Envelope.PoisonLemmas
import AcraModel.Generated.Wiring
import AcraModel.Props.C01
import AcraModel.Props.C06
import AcraModel.Keystore.V1CacheKeys
import AcraModel.Generated.V1CacheKeys
/-!
# C15 — poison records always raise the alarm, ordinary data never does

Model: `AcraModel/Envelope/Poison.lean` (on top of the detector model); its lemmas: `Envelope/PoisonLemmas.lean`.
-/
namespace AcraModel.Props.C15
open AcraModel AcraModel.Envelope Generated AcraModel.Props.C01

/-- In both SQL proxies the poison detector is registered on the envelope detector before the
decrypt handler (and after the compatibility wrapper, which only records hits): a value is
checked for poison before anything can replace it. -/
theorem fact_poison_first :
    Wiring.pgCallbackOrder = ["wrapper", "poisonDetector", "decrypt"] ∧
    Wiring.mysqlCallbackOrder = ["wrapper", "poisonDetector", "decrypt"] := ⟨rfl, rfl⟩

/-- Every AcraTranslator decrypt operation runs the poison detector on its failure path. -/
theorem fact_translator_checks :
    Wiring.translatorPoisonChecks.map (·.1) = ["Decrypt", "DecryptSearchable", "DecryptSymSearchable", "DecryptSym"] ∧
    ∀ p ∈ Wiring.translatorPoisonChecks, 1 ≤ p.2 := ⟨rfl, by decide⟩

/-- **What each poison check of AcraTranslator scans.** Every `service.poisonDetector.OnColumn` call of the four
decrypt operations, with the variable it receives and what that variable HOLDS on the path to the call (data flow
regenerated from `service.go` and `hmac.ExtractHashAndData`): after a failed reveal the detector gets the very buffer
`DecryptWithHandler` had received; when no hash can be cut off (`hashPart == nil`) it gets `dataToDecrypt` – NOT
`containerData`, which is `nil` on that path (seeded change C15-4). -/
theorem fact_translator_sites :
    Wiring.translatorPoisonSites =
      [("Decrypt", "decrypt-failed", "acraStruct", "input", "input"),
       ("DecryptSearchable", "no-hash", "dataToDecrypt", "hash++input", "-"),
       ("DecryptSearchable", "decrypt-failed", "containerData", "rest-after-hash", "rest-after-hash"),
       ("DecryptSymSearchable", "no-hash", "dataToDecrypt", "hash++input", "-"),
       ("DecryptSymSearchable", "decrypt-failed", "containerData", "rest-after-hash", "rest-after-hash"),
       ("DecryptSym", "decrypt-failed", "acraBlock", "input", "input")] ∧
    Wiring.extractHashAndDataNilTogether = true := ⟨rfl, rfl⟩

/-- the same read the way the model reads it: on every failure path the detector scans data of the caller – the
whole `dataToDecrypt` when no hash was found, the rest behind the hash when the reveal failed -/
theorem fact_searchable_scans (k : Kind) (data d rest : Bytes) :
    Translator.siteBuffer (Translator.siteHolds (Translator.searchableOp k) "no-hash") data d rest = d ∧
    Translator.siteBuffer (Translator.siteHolds (Translator.searchableOp k) "decrypt-failed") data d rest = rest := by
  have h1 : Translator.siteHolds "DecryptSearchable" "no-hash" = "hash++input" := rfl
  have h2 : Translator.siteHolds "DecryptSymSearchable" "no-hash" = "hash++input" := rfl
  have h3 : Translator.siteHolds "DecryptSearchable" "decrypt-failed" = "rest-after-hash" := rfl
  have h4 : Translator.siteHolds "DecryptSymSearchable" "decrypt-failed" = "rest-after-hash" := rfl
  cases k <;> simp [Translator.searchableOp, Translator.siteBuffer, h1, h2, h3, h4]

/-! ## the traced scan computes the same bytes as the plain one

The alarm count is the second component of `scanT` / `onColumnT` / `onColumnCompatT` / `proxyOnColumn` /
`translatorDecrypt`. These functions return only after every callback has run, so a positive count
in the returned pair means: the intrusion callbacks ran BEFORE the value was delivered. The first
component is what is delivered; the theorems of this section say that it is exactly what the
untraced functions of `Detector.lean` compute, so every C01/C03 theorem about `scan`, `onColumn`,
`onColumnCompat` is a theorem about the delivered value. -/

/-- **Threading the alarm counter through the scan does not change what the scan returns**: the output
component of the traced scan is the plain scan run on the callbacks with their alarm bit dropped. -/
theorem scanT_output (cbsT : List CallbackT) (rest : Bytes) :
    (scanT cbsT rest).1 = scan (cbsT.map (fun f x => (f x).1)) rest := scanT_fst cbsT rest

/-- … in particular for callbacks that never raise the alarm (`plainT`) it is the plain scan. -/
theorem scanT_output_plain (cbs : List Callback) (rest : Bytes) :
    (scanT (cbs.map plainT) rest).1 = scan cbs rest := by
  rw [scanT_fst, outCbs_plainT]

/-- The same for `EnvelopeDetector.OnColumn` … -/
theorem onColumnT_output (cbsT : List CallbackT) (d : Bytes) :
    (onColumnT cbsT d).1 = onColumn (cbsT.map (fun f x => (f x).1)) d := onColumnT_fst cbsT d

/-- … and for the whole compatibility wrapper `OldContainerDetectorWrapper.OnColumn` (container scan,
then bare AcraStructs, then bare AcraBlocks). -/
theorem onColumnCompatT_output (cbsT : List CallbackT) (d : Bytes) :
    (onColumnCompatT cbsT d).1 = onColumnCompat (cbsT.map (fun f x => (f x).1)) d := onColumnCompatT_fst cbsT d

/-- What the SQL proxies deliver for a column value is `OldContainerDetectorWrapper.OnColumn` with the
callback list "poison detector (if callbacks are configured), decrypt handler"; the poison detector
answers "unchanged" unless it raised the alarm and the configured callbacks failed. Without
callbacks it is exactly the column processor of C01/C03. -/
theorem proxyOnColumn_output (c : CryptoOps) (cfg : PoisonCfg) (kv : KeyView) (d : Bytes) :
    (proxyOnColumn c cfg kv d).1 =
      onColumnCompat ((if cfg.hasCallbacks then [fun x => (poisonCallback c cfg x).1] else []) ++ [decryptCallback c kv]) d := by
  unfold proxyOnColumn
  rw [onColumnCompatT_fst]
  unfold proxyCallbacks outCbs
  cases cfg.hasCallbacks <;> rfl

/-- **Without configured intrusion callbacks nothing is ever reported**, whatever the value: the SQL
proxies do not register the poison detector (and the detector itself returns at once), AcraTranslator
scans with an empty callback list. -/
theorem no_callbacks_no_alarm (c : CryptoOps) (cfg : PoisonCfg) (kv : KeyView) (k : Kind) (d : Bytes)
    (h : cfg.hasCallbacks = false) :
    (proxyOnColumn c cfg kv d).2 = 0 ∧ (translatorDecrypt c cfg kv k d).2 = 0 :=
  quiet_poison_no_alarm c cfg kv k d fun x => by rw [poisonCallback_alarm, h]; rfl

/-- **A key store without poison keys never raises the alarm** (`GetPoison…Keys` fail: the detector
logs "skip poison record check due to a lack of poison keys" and returns the container unchanged). -/
theorem missing_poison_keys_no_alarm (c : CryptoOps) (cfg : PoisonCfg) (kv : KeyView) (k : Kind) (d : Bytes)
    (hp : cfg.pk.privs = none) (hs : cfg.pk.syms = none) :
    (proxyOnColumn c cfg kv d).2 = 0 ∧ (translatorDecrypt c cfg kv k d).2 = 0 :=
  quiet_poison_no_alarm c cfg kv k d fun x => by
    rw [poisonCallback_alarm, isPoison_no_keys c cfg.pk hp hs, Bool.and_false]

/-! ## a poison record always raises the alarm

`createPoison c pkW k dataLen rnd = .ok P`: `P` is a poison record of envelope kind `k` made with the
poison key(s) `pkW` (`poison.CreatePoisonRecord` / `CreateSymmetricPoisonRecord`).
`RoundTripHyps c k pkW cfg.pk …` are the hypotheses of the C01 round trip for that kind with the
detector's poison key view `cfg.pk` as reader: the key the record was made with occurs ANYWHERE in the
detector's poison key history (current or rotated), earlier keys do not accidentally open it. -/

/-- **A poison record inside a column value raises the alarm before the value is delivered** (SQL
proxies). Callbacks are configured; `P` is a poison record of either kind, made with the current or
a rotated poison key; it is stored alone or embedded: `pre ++ P ++ suf` with arbitrary `suf` and a
`pre` none of whose positions is processed by the proxy's callback stack (wrapper, poison detector,
decrypt handler) – see `poison_detected_in_text` for the checkable condition "no `%` in `pre`".
Then the alarm count returned together with the value is at least 1 – the intrusion callbacks ran
before `OnColumn` returned, i.e. before anything was delivered – and when running the callbacks
returns an error the column processing fails (`fatal`): the value is not delivered at all. -/
theorem poison_detected (c : CryptoOps) (cfg : PoisonCfg) (kv pkW : KeyView) (k : Kind) (dataLen : Nat)
    (rnd P pre suf : Bytes)
    (hcb : cfg.hasCallbacks = true)
    (hP : createPoison c pkW k dataLen rnd = .ok P)
    (h : RoundTripHyps c k pkW cfg.pk (rnd.take dataLen) (rnd.drop dataLen) P)
    (hpre : ∀ i, i < pre.length → ∃ hit,
      headStep [fun _ => Cb.same, fun x => (poisonCallback c cfg x).1, decryptCallback c kv]
        ((pre ++ P ++ suf).drop i) = .skip hit) :
    1 ≤ (proxyOnColumn c cfg kv (pre ++ P ++ suf)).2 ∧
    (cfg.callbackErr = true → (proxyOnColumn c cfg kv (pre ++ P ++ suf)).1 = .fatal) := by
  obtain ⟨e, rfl, he, hlen, hproc⟩ := createPoison_facts c k pkW cfg.pk dataLen rnd P h hP
  exact proxyOnColumn_poison c cfg kv k e pre suf hcb he hlen (isPoison_eq_true.2 ⟨_, hproc suf⟩) hpre

/-- … in particular when the bytes before the record contain no `%` (nothing there can look like a
container), and in particular for the record alone (`pre = suf = []`). -/
theorem poison_detected_in_text (c : CryptoOps) (cfg : PoisonCfg) (kv pkW : KeyView) (k : Kind) (dataLen : Nat)
    (rnd P pre suf : Bytes)
    (hcb : cfg.hasCallbacks = true)
    (hP : createPoison c pkW k dataLen rnd = .ok P)
    (h : RoundTripHyps c k pkW cfg.pk (rnd.take dataLen) (rnd.drop dataLen) P)
    (hpre : ∀ x ∈ pre, x ≠ 37) :
    1 ≤ (proxyOnColumn c cfg kv (pre ++ P ++ suf)).2 ∧
    (cfg.callbackErr = true → (proxyOnColumn c cfg kv (pre ++ P ++ suf)).1 = .fatal) :=
  poison_detected c cfg kv pkW k dataLen rnd P pre suf hcb hP h
    (by rw [List.append_assoc]; exact c01_skip_of_no_tag_byte _ pre (P ++ suf) hpre)

theorem poison_detected_alone (c : CryptoOps) (cfg : PoisonCfg) (kv pkW : KeyView) (k : Kind) (dataLen : Nat)
    (rnd P : Bytes)
    (hcb : cfg.hasCallbacks = true)
    (hP : createPoison c pkW k dataLen rnd = .ok P)
    (h : RoundTripHyps c k pkW cfg.pk (rnd.take dataLen) (rnd.drop dataLen) P) :
    1 ≤ (proxyOnColumn c cfg kv P).2 ∧ (cfg.callbackErr = true → (proxyOnColumn c cfg kv P).1 = .fatal) := by
  have := poison_detected_in_text c cfg kv pkW k dataLen rnd P [] [] hcb hP h (by intro x hx; cases hx)
  simpa using this

/-- **AcraTranslator**: a decrypt request (`Decrypt`, `DecryptSym`, … – any handler kind `k'`) whose data
contains a poison record, and which the client's own keys do not decrypt, raises the alarm and the
client gets an error (never the poison record's content, and no hint that it was one). -/
theorem poison_detected_translator (c : CryptoOps) (cfg : PoisonCfg) (kv pkW : KeyView) (k k' : Kind) (dataLen : Nat)
    (rnd P pre suf : Bytes)
    (hcb : cfg.hasCallbacks = true)
    (hP : createPoison c pkW k dataLen rnd = .ok P)
    (h : RoundTripHyps c k pkW cfg.pk (rnd.take dataLen) (rnd.drop dataLen) P)
    (hpre : ∀ x ∈ pre, x ≠ 37)
    (hfail : ∀ m, decryptWithHandler c kv k' (pre ++ P ++ suf) ≠ .ok m) :
    (translatorDecrypt c cfg kv k' (pre ++ P ++ suf)).1 = .err ∧
    1 ≤ (translatorDecrypt c cfg kv k' (pre ++ P ++ suf)).2 := by
  obtain ⟨e, rfl, he, hlen, hproc⟩ := createPoison_facts c k pkW cfg.pk dataLen rnd P h hP
  unfold translatorDecrypt
  cases hd : decryptWithHandler c kv k' (pre ++ serBytes e k.id ++ suf) with
  | ok m => exact absurd hd (hfail m)
  | panic => exact absurd hd (decryptWithHandler_ne_panic c kv k' _)
  | err =>
    simp only [hcb, if_true]
    refine ⟨trivial, ?_⟩
    exact translator_poison c cfg k e pre suf hcb he hlen (isPoison_eq_true.2 ⟨_, hproc suf⟩)
      (by rw [List.append_assoc]; exact c01_skip_of_no_tag_byte _ pre (serBytes e k.id ++ suf) hpre)

/-- the record alone, as the task of the translator's `Decrypt*` calls usually is -/
theorem poison_detected_translator_alone (c : CryptoOps) (cfg : PoisonCfg) (kv pkW : KeyView) (k k' : Kind)
    (dataLen : Nat) (rnd P : Bytes)
    (hcb : cfg.hasCallbacks = true)
    (hP : createPoison c pkW k dataLen rnd = .ok P)
    (h : RoundTripHyps c k pkW cfg.pk (rnd.take dataLen) (rnd.drop dataLen) P)
    (hfail : ∀ m, decryptWithHandler c kv k' P ≠ .ok m) :
    (translatorDecrypt c cfg kv k' P).1 = .err ∧ 1 ≤ (translatorDecrypt c cfg kv k' P).2 := by
  have := poison_detected_translator c cfg kv pkW k k' dataLen rnd P [] [] hcb hP h (by intro x hx; cases hx)
    (by simpa using hfail)
  simpa using this

/-- **AcraTranslator, searchable decrypts** (`DecryptSearchable` for `k' = .struct`, `DecryptSymSearchable`
for `k' = .block`; hash passed separately or not at all). Whatever reaches the poison detector – the whole
input when no hash can be cut off, the rest behind the hash otherwise (and the client's own keys do not
decrypt it) – if it contains a poison record, the alarm is raised and the client gets an error. On the
pinned tree `DecryptSearchable` returned the error WITHOUT running the detector when no hash could be
cut off (a poison record sent as is starts with `%`, never with a hash function number); repaired by
"fix: DecryptSearchable checks for poison records when no hash can be split off". -/
theorem poison_detected_translator_searchable (c : CryptoOps) (st : Translator.Store) (pkW : KeyView) (k k' : Kind)
    (dataLen : Nat) (rnd P pre suf data id : Bytes) (hash : Option Bytes)
    (hcb : st.poison.hasCallbacks = true)
    (hP : createPoison c pkW k dataLen rnd = .ok P)
    (h : RoundTripHyps c k pkW st.poison.pk (rnd.take dataLen) (rnd.drop dataLen) P)
    (hpre : ∀ x ∈ pre, x ≠ 37)
    (hd : (Searchable.extractHashAndData (Translator.dataToDecrypt data hash) = none ∧
            Translator.dataToDecrypt data hash = pre ++ P ++ suf) ∨
          (∃ hh, Searchable.extractHashAndData (Translator.dataToDecrypt data hash) = some (hh, pre ++ P ++ suf) ∧
            ∀ m, decryptWithHandler c (st.keys id) k' (pre ++ P ++ suf) ≠ .ok m)) :
    (Translator.decryptSearchableWith k' c st data hash (some id) none).1 = .err ∧
    1 ≤ (Translator.decryptSearchableWith k' c st data hash (some id) none).2 := by
  unfold Translator.decryptSearchableWith
  rw [Translator.checkRequest_ok false id (Or.inl rfl)]
  simp only
  rcases hd with ⟨hx, hdd⟩ | ⟨hh, hx, hfail⟩
  · rw [hx]
    simp only [(fact_searchable_scans k' data (Translator.dataToDecrypt data hash) []).1]
    refine ⟨trivial, ?_⟩
    obtain ⟨e, rfl, he, hlen, hproc⟩ := createPoison_facts c k pkW st.poison.pk dataLen rnd P h hP
    unfold Translator.poisonScan
    rw [hdd]
    simp only [hcb, if_true]
    exact translator_poison c st.poison k e pre suf hcb he hlen (isPoison_eq_true.2 ⟨_, hproc suf⟩)
      (by rw [List.append_assoc]; exact c01_skip_of_no_tag_byte _ pre (serBytes e k.id ++ suf) hpre)
  · rw [hx]
    simp only [(fact_searchable_scans k' data (Translator.dataToDecrypt data hash) (pre ++ P ++ suf)).2,
      translatorDecryptScan_self]
    obtain ⟨h1, h2⟩ := poison_detected_translator c st.poison (st.keys id) pkW k k' dataLen rnd P pre suf hcb hP h hpre hfail
    cases ht : translatorDecrypt c st.poison (st.keys id) k' (pre ++ P ++ suf) with
    | mk o a =>
      rw [ht] at h1 h2
      simp only at h1 h2
      subst h1
      exact ⟨rfl, h2⟩

/-- the record alone sent to a searchable decrypt without a hash: nothing can be cut off as a hash (a
serialized container starts with `%`), the detector runs over the record – alarm, error -/
theorem poison_detected_translator_searchable_alone (c : CryptoOps) (st : Translator.Store) (pkW : KeyView) (k k' : Kind)
    (dataLen : Nat) (rnd P id : Bytes)
    (hcb : st.poison.hasCallbacks = true)
    (hP : createPoison c pkW k dataLen rnd = .ok P)
    (h : RoundTripHyps c k pkW st.poison.pk (rnd.take dataLen) (rnd.drop dataLen) P) :
    (Translator.decryptSearchableWith k' c st P none (some id) none).1 = .err ∧
    1 ≤ (Translator.decryptSearchableWith k' c st P none (some id) none).2 := by
  have hx : Searchable.extractHashAndData (Translator.dataToDecrypt P none) = none := by
    obtain ⟨e, rfl, _, _, _⟩ := createPoison_facts c k pkW st.poison.pk dataLen rnd P h hP
    have : Searchable.extractHash (serBytes e k.id) = none := by
      unfold serBytes
      have ht : containerTag = [37, 37, 37] := by decide
      rw [ht]
      simp only [List.cons_append, Searchable.extractHash]
      have : Searchable.knownFunc 37 = false := by decide
      simp [this]
    simp [Translator.dataToDecrypt, Searchable.extractHashAndData, this]
  exact poison_detected_translator_searchable c st pkW k k' dataLen rnd P [] [] P id none hcb hP h
    (by intro x hx; cases hx) (Or.inl ⟨hx, by simp [Translator.dataToDecrypt]⟩)

/-! ## no false alarm

`SeenByDetector c cfg kv d s` (in `Envelope/PoisonLemmas.lean`): `s` is one of the byte strings the
proxy's column processor can hand to the poison detector while processing `d` –
(1) the rest of `d` from a position where the container tag `%%%` starts,
(2) the serialized container built around a non-empty contiguous part of `d` cut out by the legacy
    bare-AcraStruct scan,
(3) the serialized container built around a non-empty contiguous part of `o1`, the OUTPUT of the legacy
    bare-AcraStruct scan, cut out by the legacy bare-AcraBlock scan.

Case (3) cannot be dropped, i.e. the statement "an alarm implies that some part of `d` decrypts under
a poison key" is FALSE as it stands. Counterexample: `d` = a bare AcraStruct of the client whose plaintext is a bare poison AcraBlock. With the
client's keys the column processor returns alarm count 1 (the legacy AcraStruct scan replaces the
AcraStruct by its plaintext, the legacy AcraBlock scan then finds the poison record in that OUTPUT);
with a client that has no keys the count is 0 – no part of `d` itself opens under the poison keys.
The alarm is still not "false": the poison record was in the value, one encryption layer down. -/

/-- **Every alarm is caused by bytes that decrypt under a poison key.** If the SQL proxies' column
processor reports an alarm for the column value `d`, then callbacks are configured and one of the byte
strings the poison detector was handed while processing `d` (see `SeenByDetector`) opens under the
poison keys: `isPoison` = `RegistryHandler.Process` with the poison key view succeeds. -/
theorem no_false_alarm (c : CryptoOps) (cfg : PoisonCfg) (kv : KeyView) (d : Bytes)
    (h : 1 ≤ (proxyOnColumn c cfg kv d).2) :
    cfg.hasCallbacks = true ∧ ∃ s, SeenByDetector c cfg kv d s ∧ isPoison c cfg.pk s = true :=
  proxyOnColumn_alarm c cfg kv d h

/-- AcraTranslator: an alarm means that the client got an error, callbacks are configured and the rest
of the data from some position where `%%%` starts opens under the poison keys. -/
theorem no_false_alarm_translator (c : CryptoOps) (cfg : PoisonCfg) (kv : KeyView) (k : Kind) (d : Bytes)
    (h : 1 ≤ (translatorDecrypt c cfg kv k d).2) :
    cfg.hasCallbacks = true ∧ (translatorDecrypt c cfg kv k d).1 = .err ∧
    ∃ i, i < d.length ∧ startsWith containerTag (d.drop i) = true ∧ isPoison c cfg.pk (d.drop i) = true :=
  translator_alarm c cfg kv k d h

/-- **… and what opens under a poison key is a genuine envelope sealed under that key** (ideal
authenticity of the seal, `SealLaws c`; the poison key view's counterpart of C03's `reveal_genuine`). The internal envelope of the reported bytes is
an AcraBlock whose wrapped data key is a data key sealed under one of the poison symmetric keys and
whose data part is `m` sealed under that data key – or an AcraStruct whose wrapped key unwraps
under one of the poison private keys and whose body is `m` sealed under the unwrapped key. Nobody
without a poison key can make such bytes: ordinary data cannot raise the alarm. -/
theorem alarm_genuine (c : CryptoOps) (hs : SealLaws c) (cfg : PoisonCfg) (kv : KeyView) (d : Bytes)
    (h : 1 ≤ (proxyOnColumn c cfg kv d).2) :
    ∃ s, SeenByDetector c cfg kv d s ∧ ∃ internal id m, deserialize s = .ok (internal, id) ∧ reveal c cfg.pk s = .ok m ∧
      ((id = idBlock ∧ ∃ ks, cfg.pk.syms = some ks ∧ ∃ key ∈ ks, ∃ dek n1 n2,
          n1.length = nonceLen ∧ n2.length = nonceLen ∧
          c.enc key [] dek n2 = some (blockEncKey internal) ∧ c.enc dek [] m n1 = some (blockEncData internal)) ∨
       (id = idStruct ∧ ∃ ps, cfg.pk.privs = some ps ∧ ∃ priv ∈ ps, ∃ symKey n2, n2.length = nonceLen ∧ symKey ≠ [] ∧
          c.unwrap priv ((internal.drop 8).take 45) ((internal.drop 53).take 84) = some symKey ∧
          c.enc symKey [] m n2 = some (internal.drop 145))) := by
  obtain ⟨_, s, hseen, hpo⟩ := proxyOnColumn_alarm c cfg kv d h
  exact ⟨s, hseen, isPoison_genuine c hs cfg.pk s hpo⟩

/-- Contrapositive: **a value no part of which opens under a poison key raises no alarm.** -/
theorem no_poison_no_alarm (c : CryptoOps) (cfg : PoisonCfg) (kv : KeyView) (d : Bytes)
    (h : ∀ s, SeenByDetector c cfg kv d s → isPoison c cfg.pk s = false) : (proxyOnColumn c cfg kv d).2 = 0 :=
  Nat.eq_zero_of_not_pos fun h0 => by
    obtain ⟨_, s, hseen, hpo⟩ := proxyOnColumn_alarm c cfg kv d h0
    rw [h s hseen] at hpo
    cases hpo

/-- **Ordinary data never raises the alarm**: a column value that contains neither `%` nor `"` is not
handed to any callback – alarm count 0 for every crypto back end, all keys, every configuration
(`hl`: `d` with a 12-byte container header around it still has a `uint64` length). -/
theorem plain_data_no_alarm (c : CryptoOps) (cfg : PoisonCfg) (kv : KeyView) (d : Bytes) (hl : d.length + 12 < 2^64)
    (h37 : ∀ x ∈ d, x ≠ 37) (h34 : ∀ x ∈ d, x ≠ 34) : (proxyOnColumn c cfg kv d).2 = 0 :=
  proxyOnColumn_plain c cfg kv d hl h37 h34

/-- **An ordinary protected value of a client never raises the alarm**: a serialized container
(`serBytes e k.id`, what `protect` produces) that the reader's keys open to `m` and the poison keys do
not open, stored between bytes without `%`: the client receives exactly `before ++ m ++ after`, and the
alarm count is 0 – whether or not callbacks are configured. -/
theorem client_value_no_alarm (c : CryptoOps) (cfg : PoisonCfg) (kv : KeyView) (k : Kind) (e pre suf m : Bytes)
    (he : e ≠ []) (hlen : e.length + 12 < 2^63)
    (hproc : process c kv (serBytes e k.id ++ suf) = .ok m) (hne : m ≠ serBytes e k.id ++ suf)
    (hnp : isPoison c cfg.pk (serBytes e k.id ++ suf) = false)
    (hpre : ∀ x ∈ pre, x ≠ 37) (hsuf : ∀ x ∈ suf, x ≠ 37) :
    proxyOnColumn c cfg kv (pre ++ serBytes e k.id ++ suf) = (.ok (pre ++ m ++ suf) true, 0) :=
  proxyOnColumn_client_value c cfg kv k e pre suf m he hlen hproc hne hnp hpre hsuf

/-- … and under key commitment (`SealLaws` + `SealCommit`, deliberately no length law) the hypothesis
"the poison keys do not open it" holds for every AcraBlock-protected value of a client whose
symmetric key is not one of the poison keys: `protect`, store between text, read back – the client
gets its plaintext, no alarm. (`RoundTripHyps` are the C01 hypotheses for the reader; for the
AcraStruct kind the laws of Secure Message say nothing about unwrapping with a foreign private key,
so there "the poison keys do not open it" stays a hypothesis: `client_value_no_alarm`.) -/
theorem client_block_no_alarm (c : CryptoOps) (hcm : SealCommit c) (cfg : PoisonCfg) (kvW kvR : KeyView)
    (m rnd p pre suf : Bytes)
    (h : RoundTripHyps c .block kvW kvR m rnd p)
    (hnm : matchKind .block m = false) (hnr : registryMatch m = false)
    (hp : protect c kvW .block m rnd = .ok p) (hne : m ≠ p ++ suf)
    (hdisj : ∀ key ks, kvW.sym = some key → cfg.pk.syms = some ks → key ∉ ks)
    (hpre : ∀ x ∈ pre, x ≠ 37) (hsuf : ∀ x ∈ suf, x ≠ 37) :
    proxyOnColumn c cfg kvR (pre ++ p ++ suf) = (.ok (pre ++ m ++ suf) true, 0) := by
  obtain ⟨e, rfl, he, hlen, hproc⟩ := protect_roundtrip_facts c .block kvW kvR m rnd p h hnm hnr hp
  obtain ⟨hs, key, kpre, kpost, hkid, hW, _, _, hek, hpl⟩ := h
  have hnp : isPoison c cfg.pk (serBytes e Kind.block.id ++ suf) = false := by
    cases hpo : isPoison c cfg.pk (serBytes e Kind.block.id ++ suf) with
    | false => rfl
    | true =>
      obtain ⟨m', hm'⟩ := isPoison_eq_true.1 hpo
      exact absurd hm' (protect_block_not_opened c hs hcm kvW cfg.pk key m rnd _ suf hW hkid hek (by omega) hnm hnr hp
        (fun ks hks => hdisj key ks hW hks) m')
  exact proxyOnColumn_client_value c cfg kvR .block e pre suf m he hlen (hproc suf) hne hnp hpre hsuf

/-- **Damaged or foreign records never raise the alarm**: if the poison keys open neither the rest of the
value at any position where `%%%` starts nor the serialized form of any contiguous part of it, and
the client's keys do not open the serialized form of any contiguous part as an AcraStruct (so the
legacy scan replaces nothing), the alarm count is 0. -/
theorem damaged_no_alarm (c : CryptoOps) (cfg : PoisonCfg) (kv : KeyView) (d : Bytes)
    (h1 : ∀ i, i < d.length → startsWith containerTag (d.drop i) = true → isPoison c cfg.pk (d.drop i) = false)
    (h2 : ∀ x id, x <:+: d → x ≠ [] → isPoison c cfg.pk (serBytes x id) = false)
    (h3 : ∀ x, x <:+: d → x ≠ [] → ∀ m, process c kv (serBytes x idStruct) ≠ .ok m) :
    (proxyOnColumn c cfg kv d).2 = 0 :=
  proxyOnColumn_unreadable c cfg kv d h1 h2 h3

/-- **The model's callback stack is the one the source registers, and the poison detector sees every
container before a later callback can replace it.** With callbacks configured `proxyCallbacks` is
"poison detector, decrypt handler" (after the wrapper's own callback) – the order
`fact_poison_first` reads off `proxyFactory.New` of both SQL proxies – and for ANY list `later` of
callbacks registered after the poison detector (the decrypt handler, the masking processor, …),
whatever they answer: a container that opens under the poison keys raises the alarm in the callback
loop. The poison detector itself never replaces a container (it answers "unchanged" or fails). -/
theorem poison_checked_before_replace (c : CryptoOps) (cfg : PoisonCfg) (kv : KeyView) (hcb : cfg.hasCallbacks = true) :
    proxyCallbacks c cfg kv = [poisonCallback c cfg, plainT (decryptCallback c kv)] ∧
    (["wrapper", "poisonDetector", "decrypt"] = Wiring.pgCallbackOrder ∧
      ["wrapper", "poisonDetector", "decrypt"] = Wiring.mysqlCallbackOrder) ∧
    (∀ (later : List CallbackT) (cont : Bytes), isPoison c cfg.pk cont = true →
      1 ≤ (runCallbacksT cont (plainT (fun _ => Cb.same) :: poisonCallback c cfg :: later)).2) ∧
    (∀ cont b, (poisonCallback c cfg cont).1 ≠ .replaced b) := by
  refine ⟨by unfold proxyCallbacks; rw [hcb]; rfl, ⟨rfl, rfl⟩, ?_, ?_⟩
  · intro later cont hpo
    exact runCallbacksT_alarm_ge cont [plainT (fun _ => Cb.same)] (poisonCallback c cfg) later
      (by intro g hg; rw [List.mem_singleton.1 hg]; exact Or.inl rfl)
      (by rw [poisonCallback_alarm, hcb, hpo]; rfl)
  · intro cont b
    rw [poisonCallback_out]
    split <;> exact fun h => nomatch h

/-! ## the poison keys come from the real v1 key store (with its cache)

The `poison_detected*` theorems take the detector's poison keys as a key view and assume that the key a record was made
with occurs in it. This section discharges that assumption for the v1 filesystem key store: `Keystore/V1Cache.lean`
(C06's model of the store AND its key cache), run over any sequence of operations – rotations of the poison keys
included –, offers the key of every generation that was not destroyed (by the simulation `V1.run_sim` behind C06's `v1_refines_spec`; with a warm cache: every
generation offered before, `cache_monotone`), hence a poison record made under ANY such generation raises the alarm.
The one source-level premise of the cache model – the refresh of the cached file-name list after a rotation addresses
the entry the reader uses – is a regenerated fact about the text of the cache key (`fact_names_cache_key_spelling`). -/

section Store
open AcraModel.Keystore

/-- **The cached list of current + rotated private key file names is read and refreshed under ONE spelling of its key.**
`GetHistoricalPrivateKeyFilenames` reads and stores the entry under `.historical.` + `filepath.Join(dir, name)`;
`SaveKeyPairWithFilename` refreshes it under the same `filepath.Join`, `generateAndSaveSymmetricKey` and
`destroyRotatedKeyByIndex` under `filepath.Clean(dir + "/" + name)` – the same text for every directory spelling.
(Seeded change C15-5: `SaveKeyPairWithFilename` refreshes under the uncleaned `dir + "/" + name`.) -/
theorem fact_names_cache_key_spelling :
    Generated.V1CacheKeys.namesCacheKeySites =
      [("GetHistoricalPrivateKeyFilenames", "get", "join"), ("GetHistoricalPrivateKeyFilenames", "load", "join"),
       ("SaveKeyPairWithFilename", "refresh", "join"), ("destroyRotatedKeyByIndex", "refresh", "clean-sprintf"),
       ("generateAndSaveSymmetricKey", "refresh", "clean-sprintf")] ∧
    Generated.V1CacheKeys.privatePathFormat = ("%s%s%s", ["store.privateKeyDirectory", "string(os.PathSeparator)", "filename"]) := ⟨rfl, rfl⟩

/-- **Every refresh hits the entry the reader uses – for every spelling of the key directory and every key name**
(trailing separator, `//`, `./` … : all three writers normalise the path exactly like the reader). -/
theorem names_refresh_hits (dir name : String) :
    refreshHits "SaveKeyPairWithFilename" dir name = true ∧
    refreshHits "generateAndSaveSymmetricKey" dir name = true ∧
    refreshHits "destroyRotatedKeyByIndex" dir name = true := by
  have hget : normalising (siteSpelling "GetHistoricalPrivateKeyFilenames" "get") = true := by decide
  have hload : normalising (siteSpelling "GetHistoricalPrivateKeyFilenames" "load") = true := by decide
  exact ⟨refreshHits_of_normalising _ dir name (by decide) hget hload,
    refreshHits_of_normalising _ dir name (by decide) hget hload,
    refreshHits_of_normalising _ dir name (by decide) hget hload⟩

/-- … hence the store whose refreshes are addressed by the spelled keys (`V1.runK`, what the correspondence op
`C15.v1store` runs for each directory spelling) IS the store of `Keystore/V1Cache.lean` that C06's theorems are about. -/
theorem v1_store_with_spelled_keys_is_v1_store (dir pairName symName : String) (st : V1) (ops : List Op) :
    st.runK (refreshHits "SaveKeyPairWithFilename" dir pairName) (refreshHits "generateAndSaveSymmetricKey" dir symName) ops =
      st.run ops := by
  rw [(names_refresh_hits dir pairName).1, (names_refresh_hits dir symName).2.1, V1.runK_true]

/-- **Seeded change C15-5 as a theorem about the model.** When the refresh after a key-pair rotation misses the entry
(`hitPair = false`), a store with a warm cache offers only the NEW poison private key after the rotation: generation 1,
offered before, is gone – a poison AcraStruct made under it passes silently. With the refresh hitting, both are offered. -/
theorem refresh_miss_hides_rotated_poison_key_counterexample :
    ((V1.init 0).runK false true [.gen ppSlot, .all ppSlot, .gen ppSlot, .all ppSlot]).2 = [.ok, .keys [1], .ok, .keys [2]] ∧
    ((V1.init 0).runK true true [.gen ppSlot, .all ppSlot, .gen ppSlot, .all ppSlot]).2 = [.ok, .keys [1], .ok, .keys [2, 1]] := by
  decide +kernel

/-- **The v1 store (no cache) offers every poison key that was not destroyed – after ANY sequence of operations.**
For every run (generations/rotations of any keys, reads, listings, destructions of rotated keys by index, resets,
reopens; destroy-current excluded – C06's known finding) and every generation `g` of the poison key pair (`s = ppSlot`)
or the poison symmetric key (`s = psSlot`) that survives it, `GetPoisonPrivateKeys` / `GetPoisonSymmetricKeys` succeed
and return `g`. -/
theorem v1_store_offers_surviving_poison_keys (ops : List Op) (hops : ∀ o ∈ ops, o.isDcur = false) (s : Slot)
    (hs : s.kind.hasAll = true) (g : Nat)
    (hg : g ∈ ((Spec.runApi .v1 Spec.init ops).1 s).survivors) :
    ∃ l, offeredGens ((V1.init (-1)).run ops).1 s = some l ∧ g ∈ l := by
  have h := V1.run_sim ops (V1.init (-1)) V1.Inv.init hops
  have habs : (V1.init (-1)).abs = Spec.init := rfl
  rw [habs] at h
  obtain ⟨hinv, ha, _⟩ := h
  have h2 := (V1.step_sim _ (.all s) hinv rfl).2.2
  rw [ha] at h2
  have hne : ((Spec.runApi .v1 Spec.init ops).1 s).survivors ≠ [] := by
    intro he; rw [he] at hg; cases hg
  refine ⟨((Spec.runApi .v1 Spec.init ops).1 s).survivors.reverse, ?_, by simpa using hg⟩
  unfold offeredGens
  rw [h2]
  simp [Spec.stepApi, Spec.step, hs, hne, SpecSlot.allNewestFirst]

/-- **With a key cache of any size: a poison key the store offered once is offered as long as it survives.** If a
detection attempt (`GetPoisonPrivateKeys` / `GetPoisonSymmetricKeys` after `ops1`) was offered generation `g`, then
after any further operations `ops2` – rotations of the poison keys by this very handle, cache resets, reopens – `g` is
still offered, provided it was not destroyed. (From `cache_monotone`; this is what seeded change C15-5 breaks for
non-canonical key directories.) -/
theorem v1_cached_store_keeps_offering_poison_keys (cache : Int) (ops1 ops2 : List Op) (s : Slot) (g : Nat) (l1 : List Nat)
    (h1 : ∀ o ∈ ops1, o.isDcur = false) (h2 : ∀ o ∈ ops2, o.isDcur = false)
    (hobs : offeredGens ((V1.init cache).run ops1).1 s = some l1) (hg : g ∈ l1)
    (halive : g ∈ ((Spec.runApi .v1 Spec.init (ops1 ++ .all s :: ops2)).1 s).survivors) :
    ∃ l2, offeredGens (((((V1.init cache).run ops1).1.step (.all s)).1.run ops2).1) s = some l2 ∧ g ∈ l2 := by
  have hobs' : (((V1.init cache).run ops1).1.step (.all s)).2 = .keys l1 := by
    unfold offeredGens at hobs
    cases hx : (((V1.init cache).run ops1).1.step (.all s)).2 <;> rw [hx] at hobs <;> simp at hobs
    rw [hobs]
  obtain ⟨l2, hl2, hg2⟩ := AcraModel.Props.C06.cache_monotone cache ops1 ops2 s g l1 h1 h2 hobs' hg halive
  exact ⟨l2, by unfold offeredGens; rw [hl2], hg2⟩

/-- key material of the generations of the two poison keys: what `keys.New(keys.TypeEC)` / `GenerateSymmetricKey`
returned at the `g`-th generation (the store model identifies keys by generation number) -/
structure PoisonMaterial where
  priv : Nat → Bytes
  sym : Nat → Bytes

/-- the poison key view `PoisonRecordKeyStoreWrapper` presents to the detector over the store state `st`:
`GetServerDecryptionPrivateKeys` ↦ `GetPoisonPrivateKeys`, `GetClientIDSymmetricKeys` ↦ `GetPoisonSymmetricKeys` -/
def storePoisonView (km : PoisonMaterial) (st : V1) : KeyView :=
  ⟨none, (offeredGens st ppSlot).map (·.map km.priv), none, (offeredGens st psSlot).map (·.map km.sym)⟩

/-- **A poison AcraStruct made under ANY generation the store offers raises the alarm.** The detector reads its keys
from the store state `st`; the record was made with the public key of generation `g`, and `g` is among the generations
`GetPoisonPrivateKeys` returns: then the column value `pre ++ P ++ suf` raises the alarm before delivery. (`hside`: a
key offered BEFORE generation `g` either fails on the record or gives the same answer – the side condition of the C01
round trip.) -/
theorem poison_under_offered_generation_alarms_struct (c : CryptoOps) (km : PoisonMaterial) (st : V1) (g : Nat) (l : List Nat)
    (hoff : offeredGens st ppSlot = some l) (hg : g ∈ l)
    (hlaws : SealLaws c ∧ SealLen c ∧ MsgLaws c ∧ MsgLen c ∧ KeygenLaws c) (hvalid : c.validPriv (km.priv g) = true)
    (cfg : PoisonCfg) (hpk : cfg.pk = storePoisonView km st) (hcb : cfg.hasCallbacks = true)
    (kv pkW : KeyView) (hpub : pkW.pub = some (c.pubOf (km.priv g)))
    (dataLen : Nat) (rnd P pre suf : Bytes)
    (hP : createPoison c pkW .struct dataLen rnd = .ok P)
    (hside : ∀ g' ∈ l.takeWhile (fun x => x != g), ∀ s, createStruct c (c.pubOf (km.priv g)) [] (rnd.take dataLen) (rnd.drop dataLen) = .ok s →
      decryptStruct c (km.priv g') [] s = .err ∨ decryptStruct c (km.priv g') [] s = .ok (rnd.take dataLen))
    (hpre : ∀ x ∈ pre, x ≠ 37) :
    1 ≤ (proxyOnColumn c cfg kv (pre ++ P ++ suf)).2 ∧
    (cfg.callbackErr = true → (proxyOnColumn c cfg kv (pre ++ P ++ suf)).1 = .fatal) := by
  obtain ⟨b, hl⟩ := split_at_first g l hg
  obtain ⟨h1, h2, h3, h4, h5⟩ := hlaws
  apply poison_detected_in_text c cfg kv pkW .struct dataLen rnd P pre suf hcb hP _ hpre
  refine ⟨h1, h2, h3, h4, h5, km.priv g, (l.takeWhile (fun x => x != g)).map km.priv, b.map km.priv, hvalid, hpub, ?_, ?_⟩
  · rw [hpk]
    simp only [storePoisonView, hoff, Option.map_some]
    conv => lhs; rw [hl]
    simp
  · intro k' hk' s hs
    obtain ⟨g', hg', rfl⟩ := List.mem_map.mp hk'
    exact hside g' hg' s hs

/-- **A poison AcraBlock made under ANY generation the store offers raises the alarm** (`hside`, `hlen`: the side
conditions of the AcraBlock round trip – an offered key listed earlier whose 2-byte id collides does not unseal the
wrapped data key; the 2-byte id is 2 bytes and the length fields do not wrap). -/
theorem poison_under_offered_generation_alarms_block (c : CryptoOps) (km : PoisonMaterial) (st : V1) (g : Nat) (l : List Nat)
    (hoff : offeredGens st psSlot = some l) (hg : g ∈ l)
    (hlaws : SealLaws c) (hkid : (keyId c (km.sym g) []).length = 2)
    (cfg : PoisonCfg) (hpk : cfg.pk = storePoisonView km st) (hcb : cfg.hasCallbacks = true)
    (kv pkW : KeyView) (hsym : pkW.sym = some (km.sym g))
    (dataLen : Nat) (rnd P pre suf : Bytes)
    (hP : createPoison c pkW .block dataLen rnd = .ok P)
    (hside : ∀ g' ∈ l.takeWhile (fun x => x != g), ∀ encKey,
      c.enc (km.sym g) [] ((rnd.drop dataLen).take 32) (((rnd.drop dataLen).drop 44).take 12) = some encKey →
      keyId c (km.sym g') [] = keyId c (km.sym g) [] → c.dec (km.sym g') [] encKey = none)
    (hlen : ∀ encKey, c.enc (km.sym g) [] ((rnd.drop dataLen).take 32) (((rnd.drop dataLen).drop 44).take 12) = some encKey → encKey.length < 65536)
    (hplen : P.length < 2^63)
    (hpre : ∀ x ∈ pre, x ≠ 37) :
    1 ≤ (proxyOnColumn c cfg kv (pre ++ P ++ suf)).2 ∧
    (cfg.callbackErr = true → (proxyOnColumn c cfg kv (pre ++ P ++ suf)).1 = .fatal) := by
  obtain ⟨b, hl⟩ := split_at_first g l hg
  apply poison_detected_in_text c cfg kv pkW .block dataLen rnd P pre suf hcb hP _ hpre
  refine ⟨hlaws, km.sym g, (l.takeWhile (fun x => x != g)).map km.sym, b.map km.sym, hkid, hsym, ?_, ?_, hlen, hplen⟩
  · rw [hpk]
    simp only [storePoisonView, hoff, Option.map_some]
    conv => lhs; rw [hl]
    simp
  · intro k' hk' encKey henc hid
    obtain ⟨g', hg', rfl⟩ := List.mem_map.mp hk'
    exact hside g' hg' encKey henc hid

/-- **Composition, no cache: poison made under any surviving generation alarms – after any operation sequence on the
real store model.** The detector's keys are what the v1 store offers after the run `ops` (rotations of the poison key
pair included); the AcraStruct poison record was made under generation `g`, not destroyed by `ops`. -/
theorem poison_detected_v1_store_struct (c : CryptoOps) (km : PoisonMaterial) (ops : List Op) (hops : ∀ o ∈ ops, o.isDcur = false)
    (g : Nat) (hg : g ∈ ((Spec.runApi .v1 Spec.init ops).1 ppSlot).survivors)
    (hlaws : SealLaws c ∧ SealLen c ∧ MsgLaws c ∧ MsgLen c ∧ KeygenLaws c) (hvalid : c.validPriv (km.priv g) = true)
    (cfg : PoisonCfg) (hpk : cfg.pk = storePoisonView km ((V1.init (-1)).run ops).1) (hcb : cfg.hasCallbacks = true)
    (kv pkW : KeyView) (hpub : pkW.pub = some (c.pubOf (km.priv g)))
    (dataLen : Nat) (rnd P pre suf : Bytes)
    (hP : createPoison c pkW .struct dataLen rnd = .ok P)
    (hside : ∀ g' s, createStruct c (c.pubOf (km.priv g)) [] (rnd.take dataLen) (rnd.drop dataLen) = .ok s →
      decryptStruct c (km.priv g') [] s = .err ∨ decryptStruct c (km.priv g') [] s = .ok (rnd.take dataLen))
    (hpre : ∀ x ∈ pre, x ≠ 37) :
    1 ≤ (proxyOnColumn c cfg kv (pre ++ P ++ suf)).2 := by
  obtain ⟨l, hl, hgl⟩ := v1_store_offers_surviving_poison_keys ops hops ppSlot rfl g hg
  exact (poison_under_offered_generation_alarms_struct c km _ g l hl hgl hlaws hvalid cfg hpk hcb kv pkW hpub dataLen rnd P pre suf hP
    (fun g' _ s hs => hside g' s hs) hpre).1

/-- **Composition, warm cache: a poison AcraStruct made under a key that an earlier detection attempt was offered keeps
raising the alarm after any further operations of the handle** – in particular after `GeneratePoisonKeyPair` rotated
that key into the history (the scenario of seeded change C15-5). -/
theorem poison_detected_v1_cached_store_struct (c : CryptoOps) (km : PoisonMaterial) (cache : Int) (ops1 ops2 : List Op)
    (h1 : ∀ o ∈ ops1, o.isDcur = false) (h2 : ∀ o ∈ ops2, o.isDcur = false) (g : Nat) (l1 : List Nat)
    (hobs : offeredGens ((V1.init cache).run ops1).1 ppSlot = some l1) (hg : g ∈ l1)
    (halive : g ∈ ((Spec.runApi .v1 Spec.init (ops1 ++ .all ppSlot :: ops2)).1 ppSlot).survivors)
    (hlaws : SealLaws c ∧ SealLen c ∧ MsgLaws c ∧ MsgLen c ∧ KeygenLaws c) (hvalid : c.validPriv (km.priv g) = true)
    (cfg : PoisonCfg)
    (hpk : cfg.pk = storePoisonView km (((((V1.init cache).run ops1).1.step (.all ppSlot)).1.run ops2).1))
    (hcb : cfg.hasCallbacks = true)
    (kv pkW : KeyView) (hpub : pkW.pub = some (c.pubOf (km.priv g)))
    (dataLen : Nat) (rnd P pre suf : Bytes)
    (hP : createPoison c pkW .struct dataLen rnd = .ok P)
    (hside : ∀ g' s, createStruct c (c.pubOf (km.priv g)) [] (rnd.take dataLen) (rnd.drop dataLen) = .ok s →
      decryptStruct c (km.priv g') [] s = .err ∨ decryptStruct c (km.priv g') [] s = .ok (rnd.take dataLen))
    (hpre : ∀ x ∈ pre, x ≠ 37) :
    1 ≤ (proxyOnColumn c cfg kv (pre ++ P ++ suf)).2 := by
  obtain ⟨l2, hl2, hg2⟩ := v1_cached_store_keeps_offering_poison_keys cache ops1 ops2 ppSlot g l1 h1 h2 hobs hg halive
  exact (poison_under_offered_generation_alarms_struct c km _ g l2 hl2 hg2 hlaws hvalid cfg hpk hcb kv pkW hpub dataLen rnd P pre suf hP
    (fun g' _ s hs => hside g' s hs) hpre).1

/-- the warm-cache composition for the poison symmetric key and AcraBlock poison records (`GeneratePoisonSymmetricKey`) -/
theorem poison_detected_v1_cached_store_block (c : CryptoOps) (km : PoisonMaterial) (cache : Int) (ops1 ops2 : List Op)
    (h1 : ∀ o ∈ ops1, o.isDcur = false) (h2 : ∀ o ∈ ops2, o.isDcur = false) (g : Nat) (l1 : List Nat)
    (hobs : offeredGens ((V1.init cache).run ops1).1 psSlot = some l1) (hg : g ∈ l1)
    (halive : g ∈ ((Spec.runApi .v1 Spec.init (ops1 ++ .all psSlot :: ops2)).1 psSlot).survivors)
    (hlaws : SealLaws c) (hkid : (keyId c (km.sym g) []).length = 2)
    (cfg : PoisonCfg)
    (hpk : cfg.pk = storePoisonView km (((((V1.init cache).run ops1).1.step (.all psSlot)).1.run ops2).1))
    (hcb : cfg.hasCallbacks = true)
    (kv pkW : KeyView) (hsym : pkW.sym = some (km.sym g))
    (dataLen : Nat) (rnd P pre suf : Bytes)
    (hP : createPoison c pkW .block dataLen rnd = .ok P)
    (hside : ∀ g' encKey, g' ≠ g → c.enc (km.sym g) [] ((rnd.drop dataLen).take 32) (((rnd.drop dataLen).drop 44).take 12) = some encKey →
      keyId c (km.sym g') [] = keyId c (km.sym g) [] → c.dec (km.sym g') [] encKey = none)
    (hlen : ∀ encKey, c.enc (km.sym g) [] ((rnd.drop dataLen).take 32) (((rnd.drop dataLen).drop 44).take 12) = some encKey → encKey.length < 65536)
    (hplen : P.length < 2^63)
    (hpre : ∀ x ∈ pre, x ≠ 37) :
    1 ≤ (proxyOnColumn c cfg kv (pre ++ P ++ suf)).2 := by
  obtain ⟨l2, hl2, hg2⟩ := v1_cached_store_keeps_offering_poison_keys cache ops1 ops2 psSlot g l1 h1 h2 hobs hg halive
  exact (poison_under_offered_generation_alarms_block c km _ g l2 hl2 hg2 hlaws hkid cfg hpk hcb kv pkW hsym dataLen rnd P pre suf hP
    (fun g' hg' ek he hid => hside g' ek (mem_takeWhile_ne g g' l2 hg') he hid) hlen hplen hpre).1

end Store

/-! ## the hypotheses on concrete instances -/

/-- `poison_detected_in_text`, `no_false_alarm` (AcraBlock poison record, stand-in back end, ROTATED poison key, embedded,
failing callbacks):
the record was made with poison key `[1,2,3]`; the detector's key history is `[[4,5],[1,2,3],[1,2,9]]`;
it sits between `ab` and `c` in a column value. The alarm is raised, the value is not delivered, and
(`no_false_alarm`) the alarm is explained by bytes that open under the poison keys. -/
example :
    let pkW : KeyView := ⟨none, none, some [1,2,3], none⟩
    let pk : KeyView := ⟨none, none, some [4,5], some ([[4,5]] ++ [1,2,3] :: [[1,2,9]])⟩
    let cfg : PoisonCfg := ⟨true, true, pk⟩
    let kv : KeyView := ⟨none, none, some [8], some [[8]]⟩
    ∃ P, createPoison toyOps pkW .block 3 (List.replicate 59 5) = .ok P ∧
      1 ≤ (proxyOnColumn toyOps cfg kv ([97,98] ++ P ++ [99])).2 ∧
      (proxyOnColumn toyOps cfg kv ([97,98] ++ P ++ [99])).1 = .fatal ∧
      ∃ s, SeenByDetector toyOps cfg kv ([97,98] ++ P ++ [99]) s ∧ isPoison toyOps cfg.pk s = true := by
  intro pkW pk cfg kv
  have hs := toy_sealLaws
  obtain ⟨b, hb⟩ := block_create_total toyOps hs [1,2,3] [] ((List.replicate 59 5).take 3) ((List.replicate 59 5).drop 3)
    (by decide) (by decide) (by decide) (by decide)
  obtain ⟨hbl, hH⟩ := c01_blockRoundTripHyps hs toy_sealLen toy_hashLen (kvW := pkW) (kvR := cfg.pk) (pre := [[4,5]])
    (post := [[1,2,9]]) rfl rfl (by decide) hb
  have hbne : b ≠ [] := by intro h; rw [h] at hbl; simp at hbl
  have hP : createPoison toyOps pkW .block 3 (List.replicate 59 5) = .ok (serBytes b idBlock) := by
    rw [createPoison_block_eq toyOps pkW [1,2,3] 3 _ b rfl hb, c01_serialize_eq _ hbne]
  obtain ⟨h1, h2⟩ := poison_detected_in_text toyOps cfg kv pkW .block 3 _ _ [97,98] [99] rfl hP hH (by decide)
  exact ⟨_, hP, h1, h2 rfl, (no_false_alarm toyOps cfg kv _ h1).2⟩

/-- `poison_detected_translator_alone`, `poison_detected_alone` (AcraStruct poison record, executable stand-in back end): the record alone is sent
to `DecryptSym` by a client that has no keys – error for the client, alarm raised; in the SQL proxy
with working callbacks the alarm is raised as well. -/
example :
    let priv := shimOps.privOfSeed (List.replicate 32 1)
    let other := shimOps.privOfSeed (List.replicate 32 2)
    let pkW : KeyView := ⟨some (shimOps.pubOf priv), none, none, none⟩
    let pk : KeyView := ⟨none, some ([] ++ priv :: [other]), none, none⟩
    let cfg : PoisonCfg := ⟨true, false, pk⟩
    let kv : KeyView := ⟨none, none, none, none⟩
    ∃ P, createPoison shimOps pkW .struct 4 (List.replicate 92 7) = .ok P ∧
      (translatorDecrypt shimOps cfg kv .block P).1 = .err ∧ 1 ≤ (translatorDecrypt shimOps cfg kv .block P).2 ∧
      1 ≤ (proxyOnColumn shimOps cfg kv P).2 := by
  intro priv other pkW pk cfg kv
  have hpriv : shimOps.validPriv priv = true := shim_keygenLaws.valid_seed _ (by decide)
  obtain ⟨b, hb⟩ := struct_create_total shimOps shim_sealLaws shim_msgLaws shim_keygenLaws priv []
    ((List.replicate 92 7).take 4) ((List.replicate 92 7).drop 4) hpriv (by decide) (by decide) (by decide)
  have hbne : b ≠ [] := by
    obtain ⟨encKey, encData, _, _, hss⟩ := c01_createStruct_ok hb
    rw [hss]
    intro h
    have := congrArg List.length h
    simp [c01_structTag_length] at this
  have hP : createPoison shimOps pkW .struct 4 (List.replicate 92 7) = .ok (serBytes b idStruct) := by
    rw [createPoison_struct_eq shimOps pkW _ 4 _ b rfl hb, c01_serialize_eq _ hbne]
  have hH : RoundTripHyps shimOps .struct pkW cfg.pk ((List.replicate 92 7).take 4) ((List.replicate 92 7).drop 4)
      (serBytes b idStruct) :=
    ⟨shim_sealLaws, shim_sealLen, shim_msgLaws, shim_msgLen, shim_keygenLaws, priv, [], [other], hpriv, rfl, rfl, by simp⟩
  obtain ⟨h1, h2⟩ := poison_detected_translator_alone shimOps cfg kv pkW .struct .block 4 _ _ rfl hP hH
    (fun m => decryptWithHandler_no_keys shimOps kv rfl rfl _ _ m)
  exact ⟨_, hP, h1, h2, (poison_detected_alone shimOps cfg kv pkW .struct 4 _ _ rfl hP hH).1⟩

/-- `plain_data_no_alarm`, `damaged_no_alarm`, `client_block_no_alarm`: plain text; a value nobody can open although it carries all tags; and under key
commitment (`boxOps`) an AcraBlock-protected value of a client whose key `[1,2,3]` is not among the
poison keys `[[9,9],[1,2,4]]` (the second has the same 2-byte key id) – all with callbacks configured. -/
example :
    let pk : KeyView := ⟨none, none, some [9,9], some [[9,9],[1,2,4]]⟩
    let cfg : PoisonCfg := ⟨true, false, pk⟩
    let kvW : KeyView := ⟨none, none, some [1,2,3], none⟩
    let kvR : KeyView := ⟨none, none, some [1,2,3], some ([] ++ [1,2,3] :: [])⟩
    (proxyOnColumn boxOps cfg kvR [104,105,32,116,104,101,114,101]).2 = 0 ∧
    (proxyOnColumn boxOps ⟨true, false, ⟨none, none, none, none⟩⟩ ⟨none, none, none, none⟩
      [37,37,37,34,34,34,34,34,34,34,34,1,2,3]).2 = 0 ∧
    ∃ p, protect boxOps kvW .block [9,9] (List.replicate 56 5) = .ok p ∧
      proxyOnColumn boxOps cfg kvR ([97] ++ p ++ [98]) = (.ok ([97] ++ [9,9] ++ [98]) true, 0) := by
  intro pk cfg kvW kvR
  refine ⟨plain_data_no_alarm boxOps cfg kvR _ (by decide) (by decide) (by decide), ?_, ?_⟩
  · exact damaged_no_alarm boxOps _ _ _ (fun i _ _ => isPoison_no_keys boxOps _ rfl rfl _)
      (fun x id _ _ => isPoison_no_keys boxOps _ rfl rfl _) (fun x _ _ m => process_no_keys boxOps _ rfl rfl _ m)
  · have hs := Box.sealLaws
    have hnm : matchKind .block [9,9] = false := by decide
    have hnr : registryMatch [9,9] = false := by decide
    have hkid : (keyId boxOps [1,2,3] []).length = 2 := by decide
    have e1 : boxOps.enc ((List.replicate 56 5).take 32) [] [9,9] (((List.replicate 56 (5:UInt8)).drop 32).take 12) =
        some (Box.esc (List.replicate 32 5) ++ (Box.esc [] ++ (Box.esc (List.replicate 12 5) ++ [9,9]))) := by decide +kernel
    have e2 : boxOps.enc [1,2,3] [] ((List.replicate 56 5).take 32) (((List.replicate 56 (5:UInt8)).drop 44).take 12) =
        some (Box.esc [1,2,3] ++ (Box.esc [] ++ (Box.esc (List.replicate 12 5) ++ List.replicate 32 5))) := by decide +kernel
    have hek : ∀ encKey, boxOps.enc [1,2,3] [] ((List.replicate 56 5).take 32) (((List.replicate 56 (5:UInt8)).drop 44).take 12) = some encKey →
        encKey.length < 65536 := by
      intro encKey h; rw [e2] at h; cases h; decide
    obtain ⟨p, hp⟩ := protect_block_total boxOps hs kvW [1,2,3] [9,9] (List.replicate 56 5) rfl (by decide)
      (by decide) (by decide) (by decide)
    have hpl : 2 < p.length ∧ p.length < 2^63 := by
      obtain ⟨e, he, _, rfl⟩ := c01_protect_ok hp hnm hnr
      obtain ⟨key', hk', hcb⟩ := c01_encryptKind_block he hnm
      cases hk'
      obtain ⟨encData, encKey, h1, h2, rfl⟩ := c01_createBlock_ok hcb
      rw [e1] at h1; rw [e2] at h2
      cases h1; cases h2
      rw [c01_serBytes_length, c01_buildBlock_length _ _ _ hkid]
      decide
    refine ⟨p, hp, client_block_no_alarm boxOps Box.sealCommit cfg kvW kvR [9,9] _ p [97] [98]
      ⟨hs, [1,2,3], [], [], hkid, rfl, rfl, by simp, hek, hpl.2⟩ hnm hnr hp ?_ ?_ (by decide) (by decide)⟩
    · intro h
      have := congrArg List.length h
      rw [List.length_append] at this
      simp at this
      omega
    · intro key ks hk hks
      cases hk; cases hks
      decide

/-- `no_callbacks_no_alarm`, `missing_poison_keys_no_alarm`: the hypotheses are plain configuration facts -/
example : (proxyOnColumn shimOps ⟨false, false, ⟨none, none, some [1], some [[1]]⟩⟩ ⟨none, none, none, none⟩ [37,37,37,1]).2 = 0 ∧
    (proxyOnColumn shimOps ⟨true, true, ⟨none, none, none, none⟩⟩ ⟨none, none, none, none⟩ [37,37,37,1]).2 = 0 :=
  ⟨(no_callbacks_no_alarm shimOps _ _ .block _ rfl).1, (missing_poison_keys_no_alarm shimOps _ _ .block _ rfl rfl).1⟩

example : proxyCallbacks boxOps ⟨true, false, ⟨none, none, some [1], some [[1]]⟩⟩ ⟨none, none, none, none⟩ =
    [poisonCallback boxOps ⟨true, false, ⟨none, none, some [1], some [[1]]⟩⟩, plainT (decryptCallback boxOps ⟨none, none, none, none⟩)] :=
  (poison_checked_before_replace boxOps _ _ rfl).1

section StoreExamples
open AcraModel.Keystore

/-- `v1_store_offers_surviving_poison_keys`: after two generations of the poison key pair (and one of the symmetric key)
the rotated generation 1 is offered -/
example : ∃ l, offeredGens ((V1.init (-1)).run [.gen ppSlot, .gen ppSlot, .gen psSlot]).1 ppSlot = some l ∧ 1 ∈ l :=
  v1_store_offers_surviving_poison_keys _ (by intro o ho; simp at ho; rcases ho with rfl | rfl | rfl <;> rfl) ppSlot rfl 1
    (by decide +kernel)

/-- `v1_cached_store_keeps_offering_poison_keys`: unbounded cache, a detection attempt, then a rotation by the same handle -/
example : ∃ l2, offeredGens (((((V1.init 0).run [.gen ppSlot]).1.step (.all ppSlot)).1.run [.gen ppSlot]).1) ppSlot = some l2 ∧ 1 ∈ l2 :=
  v1_cached_store_keeps_offering_poison_keys 0 [.gen ppSlot] [.gen ppSlot] ppSlot 1 [1]
    (by intro o ho; simp at ho; subst ho; rfl) (by intro o ho; simp at ho; subst ho; rfl)
    (by decide +kernel) (by decide) (by decide +kernel)

/-- `poison_under_offered_generation_alarms_block` on the ROTATED poison symmetric key: the store (no cache) has seen two
generations, offers `[2, 1]`; the record was made under generation 1 (`[1,2,3]`), generation 2 (`[4,5]`) has another key
id; embedded between `ab` and `c` – alarm. -/
example :
    let km : PoisonMaterial := ⟨fun _ => [], fun g => if g = 1 then [1,2,3] else [4,5]⟩
    let st := ((V1.init (-1)).run [.gen psSlot, .gen psSlot]).1
    let pkW : KeyView := ⟨none, none, some [1,2,3], none⟩
    let cfg : PoisonCfg := ⟨true, false, storePoisonView km st⟩
    let kv : KeyView := ⟨none, none, some [8], some [[8]]⟩
    ∃ P, createPoison toyOps pkW .block 3 (List.replicate 59 5) = .ok P ∧
      1 ≤ (proxyOnColumn toyOps cfg kv ([97,98] ++ P ++ [99])).2 := by
  intro km st pkW cfg kv
  have hs := toy_sealLaws
  have hsl := toy_sealLen
  have hkid := keyId_length toyOps toy_hashLen [1,2,3] []
  obtain ⟨b, hb⟩ := block_create_total toyOps hs [1,2,3] [] ((List.replicate 59 5).take 3) ((List.replicate 59 5).drop 3)
    (by decide) (by decide) (by decide) (by decide)
  obtain ⟨hbl, _, hek⟩ := block_sizes toyOps hs hsl _ _ _ _ b hkid hb
  have hbne : b ≠ [] := by intro h; rw [h] at hbl; simp at hbl
  have hP : createPoison toyOps pkW .block 3 (List.replicate 59 5) = .ok (serBytes b idBlock) := by
    rw [createPoison_block_eq toyOps pkW [1,2,3] 3 _ b rfl hb, c01_serialize_eq _ hbne]
  have hoff : offeredGens st psSlot = some [2, 1] := by decide +kernel
  refine ⟨_, hP, (poison_under_offered_generation_alarms_block toyOps km st 1 [2, 1] hoff (by decide) hs hkid cfg rfl rfl kv pkW rfl
    3 _ _ [97,98] [99] hP ?_ ?_ ?_ (by decide)).1⟩
  · intro g' hg' encKey _ hid
    have : g' = 2 := by simpa using hg'
    subst this
    exact absurd hid (by decide)
  · intro ek h; rw [hek ek h]; decide
  · rw [c01_serBytes_length, hbl]; decide

end StoreExamples

end AcraModel.Props.C15
