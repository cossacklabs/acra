import AcraModel.Searchable.ProcessorLemmas
import AcraModel.Generated.Wiring
import AcraModel.Crypto.Box
/-!
# C09 — equality search over protected columns finds exactly the matching rows

Models: `AcraModel/Searchable/{Index,Rewrite,Eval,Processor}.lean`
(helper lemmas in `Lemmas.lean`, `ProcessorLemmas.lean`).

Cryptographic assumptions are hypotheses: `HashLen c` (HMAC-SHA256 yields 32 bytes) and collision
freedom *on the finitely many values at hand* (`NoColl c k S`) – never `HashInj` (all byte strings)
together with `HashLen`, which would be unsatisfiable.
-/
namespace AcraModel.Props.C09
open AcraModel AcraModel.Envelope AcraModel.Searchable Generated

/-- `hmac/hash.go`: one hash function, number 127 (= `255/2`), it is the default, its MAC has 32
bytes, the stored hash has `32 + 1` bytes, `GenerateHMAC` writes the default number in front of an
HMAC computed with the default function, and `ExtractHash` takes `size + 1` bytes after checking
that that many are there. -/
theorem fact_hash_layout :
    Searchable.sha256FuncNumber = 127 ∧ Searchable.defaultFuncNumber = Searchable.sha256FuncNumber ∧
    Searchable.hashFuncs = [(127, "sha256.New")] ∧ Searchable.sha256Size = 32 ∧
    Searchable.defaultHashSizeExtra = 1 ∧ Searchable.generatePrefixesDefaultFuncNumber = true ∧
    Searchable.generateUsesDefaultFunc = true ∧ Searchable.extractTakeExtra = Searchable.defaultHashSizeExtra ∧
    Searchable.extractChecksLength = true := ⟨rfl, rfl, rfl, rfl, rfl, rfl, rfl, rfl, rfl⟩

/-- The `substr` both query rewriters put around a searchable column starts at 1 and is exactly as
long as the hash `GenerateHMAC` writes (`GetDefaultHashSize()` = 33): PostgreSQL's
`getSubstrFuncNode` and every `SubstrExpr` MySQL's `OnQuery` builds (left side, right side of a
join). A different bound on either side would compare a truncated or over-long prefix with the
hash and no row would ever match. -/
theorem substr_len_matches :
    Searchable.pgSubstrFrom = 1 ∧ Searchable.pgSubstrLen = hashSize ∧
    Searchable.mysqlSubstrBounds = [(1, hashSize), (1, hashSize)] ∧ Searchable.pgSubstrFuncName = "substr" ∧
    ∀ d right, substrBounds d right = (1, hashSize) := by
  refine ⟨by decide, by decide, by decide, by decide, ?_⟩
  intro d right
  cases d <;> cases right <;> decide

/-- Both SQL proxies subscribe the HMAC processor exactly twice, once before and once after the
container detector, with nothing in between. -/
theorem fact_processor_around_detector :
    (Wiring.pgSubscriberOrder.filter (fun s => s = "hmacProcessor" || s = "containerDetector")) =
      ["hmacProcessor", "containerDetector", "hmacProcessor"] ∧
    (Wiring.mysqlSubscriberOrder.filter (fun s => s = "hmacProcessor" || s = "containerDetector")) =
      ["hmacProcessor", "containerDetector", "hmacProcessor"] ∧
    ((Wiring.pgSubscriberOrder.dropWhile (· ≠ "hmacProcessor")).take 3) = ["hmacProcessor", "containerDetector", "hmacProcessor"] ∧
    ((Wiring.mysqlSubscriberOrder.dropWhile (· ≠ "hmacProcessor")).take 3) = ["hmacProcessor", "containerDetector", "hmacProcessor"] := by
  decide +kernel

/-- The filters select `<column> <op> <value>` only for `=` and `<>` (MySQL also `<=>`), and
`ChangeSearchableOperator` maps the equality-like operators to `=` and the inequality-like ones to `<>`
(its tables also hold the LIKE family, which the filters never select); on the operators the model
distinguishes this is: -/
theorem fact_operators :
    Searchable.pgValueOps = ["=", "<>"] ∧
    Searchable.mysqlValueOps = ["sqlparser.EqualStr", "sqlparser.NotEqualStr", "sqlparser.NullSafeEqualStr"] ∧
    (∀ d, changeOp d .eq = .eq ∧ changeOp d .ne = .ne ∧ changeOp d .lt = .lt) ∧
    changeOp .mysql .nullSafeEq = .eq ∧
    (∀ d op, valueOp d op = true → hashedOp d op = true) :=
  ⟨rfl, rfl, fun d => ⟨changeOp_eq d, changeOp_ne d, changeOp_lt d⟩, changeOp_nse, valueOp_hashedOp⟩

/-- What the searchable encryptor stores for a value that is not itself an envelope is the hash of
the plaintext under the client's HMAC key followed by an envelope. -/
theorem stored_shape (c : CryptoOps) (k : Bytes) (kv : KeyView) (kind : Kind) (v rnd s : Bytes)
    (hv : registryMatch v = false) (h : searchableEncrypt c (some k) kv kind v rnd = .ok s) :
    ∃ e, s = generateHMAC c k v ++ e ∧ protect c kv kind v rnd = .ok e := by
  simp only [searchableEncrypt, hv, Bool.false_eq_true, if_false] at h
  cases hp : protect c kv kind v rnd with
  | err | panic => simp [hp] at h
  | ok e =>
    simp only [hp, Out.ok.injEq] at h
    exact ⟨e, h.symm, rfl⟩

/-- **Equal plaintexts written by the same client carry the same blind index**: the first 33 bytes
of a stored value (what `substr(column, 1, 33)` yields) are `GenerateHMAC(key, plaintext)`,
whatever envelope follows – in particular independent of the randomness of the encryption and of
the envelope kind. -/
theorem index_deterministic (c : CryptoOps) (hl : HashLen c) (k v e e' : Bytes) :
    index (generateHMAC c k v ++ e) = generateHMAC c k v ∧
    index (generateHMAC c k v ++ e) = index (generateHMAC c k v ++ e') := by
  rw [index_stored c hl, index_stored c hl]
  exact ⟨rfl, rfl⟩

/-- the same, end to end through the encryptor: two writes of one plaintext (different randomness,
even different envelope kinds) have equal indexes -/
theorem index_deterministic_encrypt (c : CryptoOps) (hl : HashLen c) (k : Bytes) (kv : KeyView)
    (kind kind' : Kind) (v rnd rnd' s s' : Bytes) (hv : registryMatch v = false)
    (h : searchableEncrypt c (some k) kv kind v rnd = .ok s)
    (h' : searchableEncrypt c (some k) kv kind' v rnd' = .ok s') :
    index s = index s' := by
  obtain ⟨e, hs, _⟩ := stored_shape c k kv kind v rnd s hv h
  obtain ⟨e', hs', _⟩ := stored_shape c k kv kind' v rnd' s' hv h'
  rw [hs, hs']
  exact (index_deterministic c hl k v e e').2

/-- **Different plaintexts carry different blind indexes** – for values among which HMAC under the
client's key has no collision (hypothesis about the finite set `S` of values at hand). -/
theorem index_injective (c : CryptoOps) (hl : HashLen c) (k : Bytes) (S : Bytes → Prop) (hnc : NoColl c k S)
    (v v' e e' : Bytes) (hv : S v) (hv' : S v') (hne : v ≠ v') :
    index (generateHMAC c k v ++ e) ≠ index (generateHMAC c k v' ++ e') := by
  rw [index_stored c hl, index_stored c hl]
  intro h
  exact hne (hnc v v' hv hv' ((generateHMAC_eq_iff c k v v').mp h))

/-- **Exactness of the rewritten search for one row.** Let `cond` be a condition whose comparisons
have a supported form (`supported`: a searchable column on the left compared by `=`/`<>` (MySQL also
`<=>`) with a literal, a cast literal (PostgreSQL) or a placeholder, or with another searchable column
of the same client; everything else must not touch searchable columns nor reuse a hashed
placeholder). If `OnQuery` rewrites it to `dc` and `OnBind` turns the bound values `params` into
`params'`, then the database – evaluating `dc` literally on the stored row with `params'` – selects
the row **iff** `cond` holds for the row's plaintexts with the original values. Closed under AND/OR
by structural recursion; inequality gives the complement; joins compare plaintexts. Hypotheses: the
row's searchable columns hold `hash ++ envelope` written under the HMAC key the session uses
(`RowOk`), HMAC yields 32 bytes, and HMAC is collision free on the plaintexts of the row and the
searched values (`S`); searched values are not themselves envelopes. -/
theorem search_exact (x : QCtx) (hl : HashLen x.c) (k : Bytes) (hk : x.hkey = some k)
    (cond : Cond) (params params' : List Bytes) (dc : DbCond)
    (hsup : supported x (itemParams x cond) cond = true)
    (hq : rewriteCond x cond = .ok dc) (hb : rewriteBind x cond params = .ok params')
    (S : Bytes → Prop) (hnc : NoColl x.c k S)
    (row : Row) (pv : ColRef → Option Bytes) (hrow : RowOk x k row pv)
    (hpvS : ∀ c p, x.searchable c = true → pv c = some p → S p)
    (hvS : ∀ v ∈ condValues x params cond, S v ∧ registryMatch v = false) :
    evalDb params' row dc = holds pv params cond := by
  have hlt := rewriteBind_lt hb
  obtain ⟨_, hb', hp⟩ := rewriteBind_ok x k hk cond params hlt fun v hv => (hvS v hv).2
  cases hb.symm.trans hb'
  exact search_exact_aux x hl k hk (itemParams x cond) params params' hp hlt S hnc row pv hrow hpvS
    cond dc hsup (fun _ h => h) hvS hq

/-- **The rows selected are exactly the rows whose plaintexts satisfy the condition**: `search`
(rewrite statement, rewrite bound values, literal evaluation by the database) returns precisely
those stored rows whose plaintext view satisfies the condition the client wrote. `view row` is the
plaintext view of each stored row. -/
theorem search_exact_rows (x : QCtx) (hl : HashLen x.c) (k : Bytes) (hk : x.hkey = some k)
    (cond : Cond) (params : List Bytes) (rows out : List Row)
    (hsup : supported x (itemParams x cond) cond = true)
    (S : Bytes → Prop) (hnc : NoColl x.c k S)
    (view : Row → ColRef → Option Bytes)
    (hrows : ∀ row ∈ rows, RowOk x k row (view row) ∧ ∀ c p, x.searchable c = true → view row c = some p → S p)
    (hvS : ∀ v ∈ condValues x params cond, S v ∧ registryMatch v = false)
    (hs : search x cond params rows = .ok out) :
    out = rows.filter (fun row => holds (view row) params cond) := by
  unfold search at hs
  cases hq : rewriteCond x cond with
  | err | panic => simp [hq] at hs
  | ok dc =>
    simp only [hq] at hs
    cases hb : rewriteBind x cond params with
    | err | panic => simp [hb] at hs
    | ok params' =>
      simp only [hb, Out.ok.injEq] at hs
      rw [← hs]
      unfold evalRows
      apply List.filter_congr
      intro row hr
      exact search_exact x hl k hk cond params params' dc hsup hq hb S hnc row (view row) (hrows row hr).1
        (hrows row hr).2 hvS

/-- Special case spelled out (one searchable column, one stored value): `column = literal` selects
the row iff its plaintext equals the literal, `column <> literal` iff it differs. -/
theorem search_exact_literal (x : QCtx) (hl : HashLen x.c) (k : Bytes) (hk : x.hkey = some k)
    (col : ColRef) (honly : ∀ c, x.searchable c = true ↔ c = col) (v p e : Bytes) (dcEq dcNe : DbCond)
    (S : Bytes → Prop) (hnc : NoColl x.c k S) (hv : S v) (hp : S p) (hm : registryMatch v = false)
    (hqe : rewriteCond x (.cmp (.col col) .eq (.lit v)) = .ok dcEq)
    (hqn : rewriteCond x (.cmp (.col col) .ne (.lit v)) = .ok dcNe) :
    evalDb [] [(col, generateHMAC x.c k p ++ e)] dcEq = (p == v) ∧
    evalDb [] [(col, generateHMAC x.c k p ++ e)] dcNe = (p != v) := by
  have hs : x.searchable col = true := (honly col).mpr rfl
  have hveq := valueOp_eq x.d
  have hvne := valueOp_ne x.d
  have hrow : RowOk x k [(col, generateHMAC x.c k p ++ e)] (fun c => if c = col then some p else none) := by
    constructor
    · intro c hc
      have hcc := (honly c).mp hc
      subst hcc
      exact ⟨p, e, by simp, by simp [Row.get]⟩
    · intro c hc
      have hne : c ≠ col := by
        intro e'
        subst e'
        rw [hs] at hc
        cases hc
      have hne' : ¬ col = c := fun e' => hne e'.symm
      simp [Row.get, hne, hne']
  have hpvS : ∀ c q, x.searchable c = true → (fun c => if c = col then some p else none) c = some q → S q := by
    intro c q _ hq
    by_cases hcc : c = col
    · simp [hcc] at hq; subst hq; exact hp
    · simp [hcc] at hq
  have key : ∀ (op : Op) (dc : DbCond), valueOp x.d op = true → rewriteCond x (.cmp (.col col) op (.lit v)) = .ok dc →
      evalDb [] [(col, generateHMAC x.c k p ++ e)] dc = evalOp op p v := by
    intro op dc hvo hq
    have hc : classify x (.col col) op (.lit v) = .value col v := by simp [classify, hs, hvo]
    rw [search_exact x hl k hk (.cmp (.col col) op (.lit v)) [] [] dc (by simp [supported, supportedCmp, hc]) hq
      (by simp [rewriteBind, rewriteBindWith, itemParams, hc, hashShared, bindCount, bindData, bindEntries]) S hnc _ _ hrow hpvS
      (by intro w hw; simp [condValues, hc] at hw; subst hw; exact ⟨hv, hm⟩)]
    simp [holds, valOf, evalCmp]
  exact ⟨key .eq dcEq hveq hqe, key .ne dcNe hvne hqn⟩

/-! ### what the rewrite does *not* cover (the model follows the code) -/

/-- **Value on the left side is not rewritten** (`'v' = column`): the filter only looks at
comparisons whose *left* operand is a column, so the statement reaches the database as written and
compares the whole stored value with the literal. `search_exact` therefore requires the column on
the left (`supported`). Known finding `value-on-left`. -/
theorem value_on_left_not_rewritten (x : QCtx) (col : ColRef) (op : Op) (v : Bytes) :
    rewriteCond x (.cmp (.lit v) op (.col col)) = .ok (.cmp (.const v) op (.col col)) ∧
    rewriteCond x (.cmp (.param 0) op (.col col)) = .ok (.cmp (.param 0) op (.col col)) := by
  simp [rewriteCond, rewriteCmp, classify, Operand.toDb]

/-- … and so a row whose plaintext equals the searched value is *not* selected (the stored value is
longer than any value that hashes to its first 33 bytes … concretely: a stored value never equals
its own plaintext when the plaintext is shorter than 33 bytes). -/
theorem value_on_left_counterexample (x : QCtx) (hl : HashLen x.c) (k : Bytes) (col : ColRef) (v e : Bytes)
    (hshort : v.length < 33) :
    evalDb [] [(col, generateHMAC x.c k v ++ e)] (.cmp (.const v) .eq (.col col)) = false ∧
    holds (fun c => if c = col then some v else none) [] (.cmp (.lit v) .eq (.col col)) = true := by
  constructor
  · have hlen : (generateHMAC x.c k v ++ e).length ≥ 33 := by
      rw [List.length_append, generateHMAC_length x.c hl, hashSize_eq]; omega
    have hne : v ≠ generateHMAC x.c k v ++ e := by
      intro h
      rw [← h] at hlen
      omega
    simp [evalDb, evalExpr, Row.get, evalCmp, evalOp, hne]
  · simp [holds, valOf, evalCmp, evalOp]

/-- **A placeholder under a type cast** (PostgreSQL `column = $1::bytea`): `OnQuery` wraps the column
in `substr` but neither it nor `OnBind` looks under the cast, so the bound value reaches the
database unhashed and is compared with the 33-byte index. Known finding `cast-placeholder`. -/
theorem cast_placeholder_not_hashed (x : QCtx) (hpg : x.d = .pg) (col : ColRef) (hs : x.searchable col = true)
    (values : List Bytes) :
    rewriteCond x (.cmp (.col col) .eq (.castParam 0)) = .ok (.cmp (substrOf .pg false col false) .eq (.castParam 0)) ∧
    rewriteBind x (.cmp (.col col) .eq (.castParam 0)) values = .ok values := by
  have hv := valueOp_eq .pg
  have hc := changeOp_eq .pg
  simp [rewriteCond, rewriteCmp, classify, hs, hpg, hv, hc, rewriteBind, rewriteBindWith, itemParams, hashShared, bindCount, bindData, bindEntries]

/-! ## `OnBind` next to other kinds of columns, and with a placeholder used twice -/

/-- `hmac/decryptor/{postgresql,mysql}/hashQuery.go`: `OnBind` compares `len(indexes)` with the number of
`bindData` entries of SEARCHABLE columns only, and `replaceValuesWithHMACs` replaces a position once. -/
theorem fact_bind_repaired :
    SearchBind.pgBindCountsSearchableOnly = true ∧ SearchBind.mysqlBindCountsSearchableOnly = true ∧
    SearchBind.pgReplacesOnce = true ∧ SearchBind.mysqlReplacesOnce = true := by decide

/-- **The count check of `OnBind` can never make it give up**: `ParseSearchQueryPlaceholdersSettings`
also records the placeholders of consistently tokenized columns, but the entries of searchable columns
it records are never more than the placeholders `OnBind` collects – for every statement, whatever
mixture of searchable, tokenized, encrypted-only and plain columns it compares, in every order. -/
theorem bind_count_never_skips (x : QCtx) (cond : Cond) :
    bindCount true x cond ≤ (itemParams x cond).length := bindCount_own_le x cond

/-- **Every search parameter is hashed, exactly once, whatever else the statement compares**: given
an HMAC key, placeholders inside the bound values and search values that are not themselves envelopes,
`OnBind` succeeds and forwards `HMAC(value)` at every placeholder of a supported comparison with a
searchable column – also when that placeholder occurs in several comparisons – and every other bound
value as the client sent it. (Together with `search_exact` this closes the case "statement that also
compares a tokenized column".) -/
theorem bind_hashes_every_search_parameter (x : QCtx) (k : Bytes) (hk : x.hkey = some k) (cond : Cond)
    (params : List Bytes) (hlt : ∀ j ∈ itemParams x cond, j < params.length)
    (hm : ∀ v ∈ condValues x params cond, registryMatch v = false) :
    ∃ params', rewriteBind x cond params = .ok params' ∧
      ∀ j, params'[j]? = if j ∈ itemParams x cond then (params[j]?).map (generateHMAC x.c k) else params[j]? :=
  rewriteBind_ok x k hk cond params hlt hm

/-- The pinned tree (`len(bindData) > len(indexes)`): `tok = $1 AND data = $2` with `tok` consistently
tokenized and `data` searchable – `OnBind` forwards BOTH bound values as the client sent them: the search
parameter reaches the database in clear and matches no blind index. Fixed (`fact_bind_repaired`). -/
theorem legacy_mixed_counterexample (x : QCtx) (tok data : ColRef) (ht : x.tokenized tok = true)
    (hts : x.searchable tok = false) (hd : x.searchable data = true) (a b : Bytes) :
    legacyRewriteBind x (.and (.cmp (.col tok) .eq (.param 0)) (.cmp (.col data) .eq (.param 1))) [a, b] = .ok [a, b] := by
  have hv := valueOp_eq x.d
  have hne : tok ≠ data := by intro e; rw [e, hd] at hts; cases hts
  simp [legacyRewriteBind, rewriteBindWith, itemParams, classify, bindCount, bindData, bindEntries, assign, ht, hts, hd, hv]

/-- The pinned tree (no `replaced` set): `data = $1 OR data = $1` – the one bound value is replaced by
the hash OF ITS HASH, which matches no blind index. Fixed (`fact_bind_repaired`). -/
theorem legacy_shared_counterexample (x : QCtx) (k : Bytes) (hk : x.hkey = some k) (data : ColRef)
    (hd : x.searchable data = true) (v : Bytes) (hm : registryMatch v = false)
    (hm2 : registryMatch (generateHMAC x.c k v) = false) :
    legacyRewriteBind x (.or (.cmp (.col data) .eq (.param 0)) (.cmp (.col data) .eq (.param 0))) [v]
      = .ok [generateHMAC x.c k (generateHMAC x.c k v)] := by
  have hv := valueOp_eq x.d
  simp [legacyRewriteBind, rewriteBindWith, itemParams, classify, bindCount, bindData, bindEntries, assign, hd, hv,
    hashShared, calcHmac_plain x k v hk hm, calcHmac_plain x k _ hk hm2]

/-! ## a value whose index does not match its content is not handed out -/

/-- `NewHashProcessor` (and with it `DecryptRotatedSearchableAcraStruct` / `…AcraBlock`): whenever
a value that starts with a hash is accepted, the hash is the genuine index of exactly the plaintext
handed out. Contrapositive: **a stored value whose hash differs from `GenerateHMAC(key, decrypted
content)` is not delivered as valid plaintext.** -/
theorem bad_index_not_valid (c : CryptoOps) (hl : HashLen c) (k : Bytes) (proc : Bytes → Out Bytes)
    (data h p : Bytes) (he : extractHash data = some h)
    (hok : hashProcessor c (some k) proc data = .ok p) :
    h = generateHMAC c k p ∧ proc (data.drop h.length) = .ok p := by
  obtain ⟨hp, heq⟩ := hashProcessor_checked c (some k) proc data h p he hok
  exact ⟨(isEqual_iff c hl k p he).mp heq, hp⟩

/-- the same for the two library entry points -/
theorem bad_index_not_valid_library (c : CryptoOps) (hl : HashLen c) (k : Bytes) (keys : List Bytes) (ctx : Bytes)
    (data h p : Bytes) (he : extractHash data = some h) :
    (decryptSearchableStruct c k keys ctx data = .ok p → h = generateHMAC c k p) ∧
    (decryptSearchableBlock c k keys ctx data = .ok p → h = generateHMAC c k p) :=
  ⟨fun hok => (bad_index_not_valid c hl k _ data h p he hok).1,
   fun hok => (bad_index_not_valid c hl k _ data h p he hok).1⟩

/-- AcraTranslator `DecryptSearchable` / `DecryptSymSearchable` -/
theorem bad_index_not_valid_translator (c : CryptoOps) (hl : HashLen c) (k : Bytes) (kv : KeyView) (kd : Kind)
    (data h p : Bytes) (he : extractHash data = some h)
    (hok : translatorDecrypt c (some k) kv kd data = .ok p) :
    h = generateHMAC c k p := by
  obtain ⟨_, heq⟩ := translatorDecrypt_checked c (some k) kv kd data h p he hok
  exact (isEqual_iff c hl k p he).mp heq

/-- without the client's HMAC key nothing that carries a hash is accepted -/
theorem bad_index_no_key (c : CryptoOps) (proc : Bytes → Out Bytes) (data h p : Bytes)
    (he : extractHash data = some h) : hashProcessor c none proc data ≠ .ok p := by
  intro hok
  have := (hashProcessor_checked c none proc data h p he hok).2
  simp [isEqual] at this

/-- **SQL proxies** (`hmacProcessor → containerDetector → hmacProcessor`): a column `hash ++ envelope…`
whose hash is not the index of what the detector decrypted is handed to the client *as stored* –
never the decrypted bytes –; if it is the genuine index the decrypted bytes are delivered. Either
way the processor keeps nothing for the next column. -/
theorem bad_index_not_valid_proxy (c : CryptoOps) (hl : HashLen c) (k : Bytes) (det : Bytes → ScanOut) (s : PState)
    (col h d : Bytes) (hit : Bool)
    (he : extractHash col = some h) (hm : matchEnvelope (col.drop h.length) = .ok true)
    (hd : det (col.drop h.length) = .ok d hit) :
    (h ≠ generateHMAC c k d → column c (some k) det s col = .ok (PState.init, some col)) ∧
    (h = generateHMAC c k d → column c (some k) det s col = .ok (PState.init, some d)) := by
  have hc := column_searchable c (some k) det s col h d hit he hm hd
  constructor
  · intro hne
    have : isEqual c (some k) h d = false := by
      cases hq : isEqual c (some k) h d
      · rfl
      · exact absurd ((isEqual_iff c hl k d he).mp hq) hne
    simpa [this] using hc
  · intro heq
    have : isEqual c (some k) h d = true := (isEqual_iff c hl k d he).mpr heq
    simpa [this] using hc

/-- **Columns do not influence each other**: what a column turns into does not depend on the
columns processed before it (the first call ignores and clears the state, the second leaves none).
On the pinned tree this was false – see `legacy_*`. -/
theorem columns_independent (c : CryptoOps) (hkey : Option Bytes) (det : Bytes → ScanOut) (s : PState) (col : Bytes) :
    column c hkey det s col = column c hkey det PState.init col ∧
    ∀ s1 out, column c hkey det s col = .ok (s1, some out) → s1 = PState.init :=
  ⟨column_stateless c hkey det s PState.init col, fun s1 out h => column_resets c hkey det s s1 col out h⟩

/-- A genuine searchable value comes back as its plaintext through the proxy chain, provided the
detector decrypts the envelope (`det e = ok v`) and the envelope is recognised as one. -/
theorem proxy_roundtrip (c : CryptoOps) (hl : HashLen c) (k : Bytes) (det : Bytes → ScanOut) (s : PState)
    (v e : Bytes) (hit : Bool) (hm : matchEnvelope e = .ok true) (hd : det e = .ok v hit) :
    column c (some k) det s (generateHMAC c k v ++ e) = .ok (PState.init, some v) := by
  have he := extractHash_stored c hl k v e
  have hlen : (generateHMAC c k v).length = 33 := by rw [generateHMAC_length c hl, hashSize_eq]
  have hdrop : (generateHMAC c k v ++ e).drop (generateHMAC c k v).length = e := by simp
  exact (bad_index_not_valid_proxy c hl k det s _ (generateHMAC c k v) v hit he (by rw [hdrop]; exact hm)
    (by rw [hdrop]; exact hd)).2 rfl

/-! ### the defect of the pinned tree (repaired by `fix: hmac.Processor verifies on its second call …`) -/

/-- Before the repair: after a searchable column whose (verified) plaintext itself starts with the
hash function number and is at least 33 bytes long – with no envelope after those 33 bytes – the
processor was left with `hashData` set and a nil `matchedHash`, and **every further `OnColumn` call
panicked** (nil-pointer dereference), for any data. -/
theorem legacy_next_column_panics (c : CryptoOps) (hkey : Option Bytes) (s : PState) (x h plain hp : Bytes)
    (h1 : s.hashData = some x) (h2 : s.matchedHash = some h) (hv : isEqual c hkey h plain = true)
    (he : extractHash plain = some hp) (hm : matchEnvelope (plain.drop hp.length) = .ok false) :
    ∃ o, legacyOnColumn c hkey s plain = .ok o ∧ o.data = plain ∧ ∀ next, legacyOnColumn c hkey o.st next = .panic := by
  obtain ⟨o, ho, hdata, hh, hmn⟩ := legacy_second_call_poisons c hkey s x h plain hp h1 h2 hv he hm
  exact ⟨o, ho, hdata, fun next => legacy_poisoned_panics c hkey o.st x hh hmn next⟩

/-- Before the repair: if an envelope does follow those 33 bytes, the plaintext was **delivered
without its first 33 bytes**, and the next column – unless its value happened to hash to those 33
bytes – was **replaced by this column's plaintext**. -/
theorem legacy_next_column_replaced (c : CryptoOps) (hkey : Option Bytes) (s : PState) (x h plain hp : Bytes)
    (h1 : s.hashData = some x) (h2 : s.matchedHash = some h) (hv : isEqual c hkey h plain = true)
    (he : extractHash plain = some hp) (hm : matchEnvelope (plain.drop hp.length) = .ok true) :
    ∃ o, legacyOnColumn c hkey s plain = .ok o ∧ o.data = plain.drop hp.length ∧
      ∀ next, isEqual c hkey hp next = false →
        ∃ o', legacyOnColumn c hkey o.st next = .ok o' ∧ o'.data = plain := by
  obtain ⟨o, ho, hdata, hraw, hh⟩ := legacy_second_call_truncates c hkey s x h plain hp h1 h2 hv he hm
  refine ⟨o, ho, hdata, ?_⟩
  intro next hne
  have hmh : o.st.matchedHash = some hp := by
    simp [legacyOnColumn, pProcess, h1, h2, hv, he, hm] at ho
    subst ho; rfl
  refine ⟨⟨{ o.st with hashData := none }, o.st.rawData, true⟩, ?_, hraw⟩
  simp [legacyOnColumn, pProcess, hh, hmh, hne]

/-! ## non-vacuity -/

/-- a law instance exists: the hypotheses of the theorems above are jointly satisfiable. `Box` has
injective HMAC (so `NoColl` holds for every `S`); `HashLen` is satisfied by an instance with a
constant-length hash, with `NoColl` on a finite set of values. -/
def lenOps : CryptoOps :=
  { boxOps with hmac := fun _ m => (m ++ List.replicate 32 0).take 32,
                sha256 := fun m => (m ++ List.replicate 32 0).take 32 }

/-- `HashLen` is satisfiable (together with `NoColl` on a finite set, below) -/
theorem lenOps_hashLen : HashLen lenOps where
  hmac_len := by intro k m; simp [lenOps, List.length_take]
  sha_len := by intro m; simp [lenOps, List.length_take]

example : NoColl boxOps [1] (fun _ => True) := by
  intro a b _ _ h
  exact (Box.hashInj.hmac_inj [1] a [1] b h).2

/-- `NoColl` on a finite set for a 32-byte hash -/
example : NoColl lenOps [1] (fun v => v = [1, 2] ∨ v = [3]) := by
  intro a b ha hb h
  cases ha with
  | inl ha => cases hb with
    | inl hb => rw [ha, hb]
    | inr hb => subst ha; subst hb; exact absurd h (by decide)
  | inr ha => cases hb with
    | inl hb => subst ha; subst hb; exact absurd h (by decide)
    | inr hb => rw [ha, hb]

/-- the supported fragment is inhabited by the forms the property names: literal, cast, placeholder,
inequality, AND/OR, join -/
example :
    let x : QCtx := { c := lenOps, d := .pg, hkey := some [1], kv := ⟨none, none, none, none⟩,
                      searchable := fun c => c.col = 1 }
    let cond : Cond := .and (.or (.cmp (.col ⟨0, 1⟩) .eq (.lit [65])) (.cmp (.col ⟨0, 1⟩) .ne (.param 0)))
                            (.and (.cmp (.col ⟨0, 1⟩) .eq (.col ⟨1, 1⟩)) (.cmp (.col ⟨0, 0⟩) .lt (.cast [7])))
    supported x (itemParams x cond) cond = true ∧ itemParams x cond = [0] := by decide +kernel

/-- `bind_hashes_every_search_parameter` is not vacuous: a statement that compares a tokenized column,
a searchable column (twice with the same placeholder) and a plain column -/
example :
    let x : QCtx := { c := lenOps, d := .pg, hkey := some [1], kv := ⟨none, none, none, none⟩,
                      searchable := fun c => c.col = 1, tokenized := fun c => c.col = 0 }
    let cond : Cond := .and (.cmp (.col ⟨0, 0⟩) .eq (.param 0))
                            (.or (.cmp (.col ⟨0, 1⟩) .eq (.param 1)) (.and (.cmp (.col ⟨0, 1⟩) .ne (.param 1)) (.cmp (.col ⟨0, 2⟩) .eq (.param 2))))
    itemParams x cond = [1, 1] ∧ bindCount true x cond = 1 ∧ bindCount false x cond = 2 ∧
    supported x (itemParams x cond) cond = true := by decide +kernel

/-- the legacy defect is reachable: a 33-byte plaintext `7f 00…00` with its genuine hash -/
example :
    let plain : Bytes := 0x7f :: List.replicate 32 0
    let h := generateHMAC lenOps [1] plain
    extractHash plain = some plain ∧ matchEnvelope (plain.drop 33) = .ok false ∧
    isEqual lenOps (some [1]) h plain = true := by decide +kernel

end AcraModel.Props.C09
