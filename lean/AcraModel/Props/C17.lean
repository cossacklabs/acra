import AcraModel.KeystoreSec.ConcurrentSeq
import AcraModel.KeystoreSec.ConcurrentOrder
import AcraModel.KeystoreSec.ConcurrentRefine
import AcraModel.KeystoreSec.ConcurrentFresh
import AcraModel.KeystoreSec.ConcurrentCreate
import AcraModel.KeystoreSec.ConcurrentLock
import AcraModel.KeystoreSec.FileLockLemmas
import AcraModel.KeystoreSec.ConcurrentCurrent
import AcraModel.Generated.KeystoreCreate
import AcraModel.Generated.FileLock
/-!
# C17 — concurrent keystore writers never lose each other's updates

The model is `KeystoreSec/Concurrent.lean`: handles as programs of back-end calls over one shared back end.
Ring files may be missing at the start (`St.ex`); `OpenKeyRingRW` (`Op.open`) creates them.
All theorems quantify over **every schedule** (`sched : List Nat`, any interleaving of any number
of threads at the granularity of single back-end calls) and every program of operations per thread.
They are read off two invariants of `run`: `Inv` (locks, files, commit log) and the simulation `Sim` by the
atomic key store, in which each handle operation is one step. That sequence numbers increase is an invariant
of the atomic store, carried over by the simulation (`run_order`); that they stay unique next to imports is an
invariant of the concurrent model itself (`TxInv`).

The lock itself is one abstract object in that model. The theorems of `section lockfile` are about what the
directory back end really locks – the inode of `<dir>/.lock`, through one descriptor per handle – for every
history of handles being opened and closed (`KeystoreSec/FileLock.lean`), and tie it to that abstract lock.
-/
namespace AcraModel.Props.C17
open AcraModel AcraModel.KeystoreSec.Conc

open Generated.KeystoreSec in
/-- The state-transition table the model's `prepare` consults is the one of
`api.KeyStateTransitionValid`: destroyed is terminal, a key can be destroyed only from pre-active,
deactivated or compromised. -/
theorem fact_transitions :
    transitions = [(1, [2, 4, 5, 6]), (2, [3, 4, 5]), (3, [2, 4, 5]), (4, [5, 6]), (5, [6])] ∧
    asnKeyPreActive = 1 ∧ asnKeyDestroyed = 6 ∧ asnNoKey = -1 ∧ firstSeqnum = 1 :=
  ⟨rfl, rfl, rfl, rfl, rfl⟩

open Generated.KeystoreSec in
/-- The write cycle is the program of back-end calls the model runs: `Lock` first and `Unlock`
deferred (always executed), then pull (`Get` → verify → load), apply the pending transactions, push
(sign → `Put <ring>.keyring.new` → `Rename` onto `<ring>.keyring`), commit. The read cycle is
`RLock`, deferred `RUnlock`, pull. Every mutating ring method pushes its transactions, syncs and pops
them again on error. -/
theorem fact_write_cycle :
    writeKeyRingCalls = ["s.fs.Lock", "defer:s.fs.Unlock", "s.pullRingUpdates", "ring.applyPendingTX", "s.pushNewRingState", "ring.commitTX"] ∧
    readKeyRingCalls = ["s.fs.RLock", "defer:s.fs.RUnlock", "s.pullRingUpdates"] ∧
    pullRingUpdatesCalls = ["s.fetchASNring", "s.verifyKeyRing", "ring.loadASN1"] ∧
    fetchASNringCalls = ["s.fs.Get"] ∧
    pushNewRingStateCalls = ["s.signKeyRing", "s.pushASNring"] ∧
    pushASNringCalls = ["s.fs.Put", "s.fs.Rename"] ∧ pushASNringPutPath = ["newPath"] ∧
    keyringSuffix = ".keyring" ∧ newSuffix = ".new" ∧
    addKeyCalls = ["r.pushTX", "r.store.syncKeyRing", "r.popTX"] ∧
    setCurrentCalls = ["r.pushTX", "r.store.syncKeyRing", "r.popTX"] ∧
    changeKeyStateCalls = ["r.pushTX", "r.store.syncKeyRing", "r.popTX"] ∧
    destroyKeyCalls = ["r.pushTX", "r.pushTX", "r.store.syncKeyRing", "r.popTX", "r.popTX"] :=
  ⟨rfl, rfl, rfl, rfl, rfl, rfl, rfl, rfl, rfl, rfl, rfl, rfl, rfl⟩

open Generated.KeystoreCreate in
/-- Ring creation is the program of back-end calls the model runs for `Op.open`: `OpenKeyRingRW` makes a
fresh handle object (`newKeyRing`: no keys, current marker `asn1.NoKey` – the model's `emptyRing`) and calls
`openKeyRing`, which takes the EXCLUSIVE lock first (`Unlock` deferred), pulls the ring under it, and
pushes the fresh handle's ring only inside `if err != nil { if err == backend.ErrNotExist {…} }` of that
very pull: the existence check and the creation happen under one lock, with no read/write cycle of its own
(no shared-lock pre-check) before it. `OpenKeyRing` is a fresh handle object plus the read cycle. -/
theorem fact_open_cycle :
    openCycleCalls = ["s.fs.Lock", "defer:s.fs.Unlock", "s.pullRingUpdates", "s.pushNewRingState"] ∧
    openCreateGuard = ["err != nil", "err == backend.ErrNotExist"] ∧
    openErrAssigns = ["err=s.fs.Lock()", "err2=s.fs.Unlock()", "err=err2", "err=s.pullRingUpdates()"] ∧
    openKeyRingRWCalls = ["newKeyRing", "s.openKeyRing"] ∧
    openKeyRingROCalls = ["newKeyRing", "s.readKeyRing"] ∧
    newKeyRingData = ["Purpose=asn1.LikelyUTF8String(path)", "Keys=make([]asn1.Key, 0)", "Current=asn1.NoKey"] ∧
    emptyRing = ⟨[], noKey⟩ :=
  ⟨rfl, rfl, rfl, rfl, rfl, rfl, rfl⟩

open Generated.KeystoreSec in
/-- The optimistic checks are the ones `Tx.apply` models, on the values `prepare` takes from the handle's
view: `KeyRing.setCurrent` records the current marker **the handle sees** (`r.data.Current`, before the
ring is pulled from the store) in the transaction, and `txSetKeyCurrent.Apply` refuses
(`errTxConcurrentModification`) when the marker found in the pulled ring is a different one, then
requires both keys to exist; `txChangeKeyState.Apply` refuses when the key's state is not the one seen;
`txAddKey.Apply` refuses a sequence number that is taken; `nextSeqnum` is "last key + 1". -/
theorem fact_optimistic_checks :
    setCurrentBody = ["oldSeqnum := r.data.Current", "r.pushTX(&txSetKeyCurrent{oldSeqnum, newSeqnum})", "err := r.store.syncKeyRing(r)", "if err != nil { r.popTX() }", "return err"] ∧
    txSetKeyCurrentApply = ["if ring.data.Current != tx.oldSeqnum { return errTxConcurrentModification }", "if tx.oldSeqnum != asn1.NoKey { oldKey, _ := ring.data.KeyWithSeqnum(tx.oldSeqnum) if oldKey == nil { return errTxKeyNotFound } }", "newKey, _ := ring.data.KeyWithSeqnum(tx.newSeqnum)", "if newKey == nil { return errTxKeyNotFound }", "ring.data.Current = tx.newSeqnum", "return nil"] ∧
    txChangeKeyStateApply = ["key, _ := ring.data.KeyWithSeqnum(tx.keySeqnum)", "if key == nil { return errTxKeyNotFound }", "oldState := asn1.KeyState(tx.oldState)", "newState := asn1.KeyState(tx.newState)", "if key.State != oldState { return errTxConcurrentModification }", "key.State = newState", "return nil"] ∧
    txAddKeyApply = ["k, _ := ring.data.KeyWithSeqnum(tx.newKey.Seqnum)", "if k != nil { return errTxKeyExists }", "ring.data.Keys = append(ring.data.Keys, *tx.newKey)", "return nil"] ∧
    nextSeqnumBody = ["if len(r.data.Keys) == 0 { return firstSeqnum }", "return r.data.Keys[len(r.data.Keys)-1].Seqnum + 1"] := by
  refine ⟨by rfl, by rfl, by rfl, by rfl, by rfl⟩

/-- the model's own constants agree with the regenerated ones -/
theorem fact_model_constants :
    noKey = Generated.KeystoreSec.asnNoKey ∧ (stPreActive : Int) = Generated.KeystoreSec.asnKeyPreActive ∧
    (stDestroyed : Int) = Generated.KeystoreSec.asnKeyDestroyed ∧
    (⟨[], noKey⟩ : Ring).nextSeq = Generated.KeystoreSec.firstSeqnum := by decide

/-- an initial state: nobody holds a lock, no temporary file, nothing committed yet, every handle idle
with an arbitrary (possibly stale) snapshot and an arbitrary program -/
structure Initial (s : St) : Prop where
  writer : s.writer = none
  readers : s.readers = []
  new : ∀ p, s.new p = none
  commits : s.commits = []
  idle : ∀ i, (s.h i).pc = .idle
  done : ∀ i, (s.h i).done = []
  /-- representation convention: the content of a ring file that does not exist is the empty ring -/
  missing : ∀ p, s.ex p = false → s.cur p = emptyRing

theorem initial_inv (s : St) (h : Initial s) : Inv s.cur s where
  holder := by intro i hi; simp [inCS, h.idle i] at hi
  rd := by intro i; simp [h.readers, isReader, h.idle i]
  rdNodup := by simp [h.readers]
  excl := by intro hc; exact absurd h.writer hc
  todoW := by intro i hi; simp [inCS, h.idle i] at hi
  todoR := by intro i hi; simp [isReader, h.idle i] at hi
  gotOk := by intro i hi; simp [h.idle i] at hi
  putOk := by intro i hi; simp [h.idle i] at hi
  noNew := by intro p hp; exact absurd (h.new p) hp
  lin := by intro p; simp [commitsOn, h.commits, replay]
  mine := by intro i; simp [commitsBy, h.commits, h.done i, okWrites, h.idle i]
  miss := by intro p hp; exact ⟨h.missing p hp, by simp [commitsOn, h.commits]⟩
  crt := by intro i hi; simp [h.idle i] at hi

/-- **Mutual exclusion.** Under every schedule at most one handle is between `Lock` and `Unlock`, and
while one is, no reader holds the shared lock. -/
theorem mutual_exclusion (s0 : St) (h0 : Initial s0) (sched : List Nat) (i j : Nat) :
    let s := run s0 sched
    (inCS (s.h i).pc → inCS (s.h j).pc → i = j) ∧ (inCS (s.h i).pc → s.readers = []) := by
  intro s
  have hinv := run_inv s0.cur s0 sched (initial_inv s0 h0)
  exact ⟨fun hi hj => cs_unique hinv hi hj, fun hi => hinv.excl (by rw [hinv.holder i hi]; nofun)⟩

/-- **Linearisability as a refinement, no lost update.** Under every schedule the concurrent key store
refines the *atomic* key store, in which each handle operation is one indivisible step
(`atomicOp`: prepare the transactions from the handle's snapshot, apply them to the stored ring; success
stores the new ring, a failed optimistic check only refreshes the snapshot, a rejected operation and a
re-read store nothing). `linTrace s0 sched` lists the operations in the order of their linearisation
points – each a step of the operation's own thread between its first and last step: the atomic
`Rename` of a successful write, the `Get` under the lock of a failing write or of a re-read, the
preparation of a rejected one. With `a` the atomic store after running `linTrace s0 sched`
sequentially from the same rings and snapshots:

1. the stored state is the sequential one: `s.cur p = a.cur p` for every ring path;
2. the successful writing operations of the sequential run (among them, with the empty transaction list,
   an `OpenKeyRingRW` that found its ring) are exactly the commit log, in the order of their linearisation
   points, and for every ring path the stored ring is the fold of the committed transaction lists over the initial ring
   (every one applying successfully – no update is lost, none is applied twice);
3. every operation returned what the sequential run returned at its linearisation point: per thread,
   the results of the sequential run are the thread's finished operations with their results, in
   program order, followed by the one operation that has passed its linearisation point but not yet
   unlocked (`pending`; empty for an idle handle);
4. handles that are not in the middle of a write hold the snapshot the sequential run gives them. -/
theorem v2_linearizable (s0 : St) (h0 : Initial s0) (sched : List Nat) :
    let s := run s0 sched
    let a := atomicRun (AState.init s0) (linTrace s0 sched)
    (∀ p, s.cur p = a.cur p) ∧
    (committed a.log = s.commits ∧ ∀ p, replay (s0.cur p) (commitsOn s p) = some (s.cur p)) ∧
    (∀ i, resultsOf a.log i = (s.h i).done ++ pending (s.h i)) ∧
    (∀ i, (s.h i).pc ≠ .got → (s.h i).pc ≠ .put → (s.h i).snap = a.snap i) := by
  intro s a
  have hinv0 := initial_inv s0 h0
  have hsim0 := sim_init s0 h0.idle h0.done h0.commits
  have hsim := run_sim s0.cur s0 _ sched hinv0 hsim0
  have hinv := run_inv s0.cur s0 sched hinv0
  exact ⟨fun p => (hsim.cur p).symm, ⟨hsim.commits, hinv.lin⟩, hsim.res, fun i h1 h2 => (hsim.snap i h1 h2).symm⟩

/-- corollary at quiescence: when handle `i` is idle, the results of its operations in the sequential
run are exactly the results its finished operations returned -/
theorem quiescent_results (s0 : St) (h0 : Initial s0) (sched : List Nat) (i : Nat)
    (hq : ((run s0 sched).h i).pc = .idle) :
    resultsOf (atomicRun (AState.init s0) (linTrace s0 sched)).log i = ((run s0 sched).h i).done := by
  have := (v2_linearizable s0 h0 sched).2.2.1 i
  rwa [pending_of_pc (by rw [hq]; rfl), List.append_nil] at this

/-- **Exactly once.** Under every schedule, the transaction lists committed by a handle are exactly
those of its operations that returned success, in program order, each once – plus the one in flight
between its rename and its unlock. Operations that returned an error (stale snapshot detected by
`errTxConcurrentModification` / `errTxKeyExists` / `errTxKeyNotFound`, or rejected before taking the
lock) are not in the commit log: they left no effect. -/
theorem success_iff_committed_once (s0 : St) (h0 : Initial s0) (sched : List Nat) (i : Nat) :
    let s := run s0 sched
    commitsBy s i = okWrites (s.h i).done ++ (if (s.h i).pc = .renamed then [(s.h i).txs] else []) :=
  (run_inv s0.cur s0 sched (initial_inv s0 h0)).mine i

/-- corollary at quiescence: when handle `i` is idle its committed transaction lists are exactly its
successful operations -/
theorem quiescent_commits (s0 : St) (h0 : Initial s0) (sched : List Nat) (i : Nat)
    (hq : ((run s0 sched).h i).pc = .idle) :
    commitsBy (run s0 sched) i = okWrites ((run s0 sched).h i).done := by
  simpa [hq] using success_iff_committed_once s0 h0 sched i

/-- **Readers never see a partial write.** Under every schedule, whatever value any `Get` of a ring
file returns – to a reader under the shared lock or to a writer under the exclusive lock – is the
result of applying all transaction lists committed so far to the initial ring: a complete, committed
state (the half-written `<ring>.keyring.new` is never what a `Get` of `<ring>.keyring` returns). -/
theorem reader_sees_complete_ring (s0 : St) (h0 : Initial s0) (sched : List Nat) (i p : Nat) (v : Ring)
    (hget : (stepCall (run s0 sched) i).2 = .get p v) :
    replay (s0.cur p) (commitsOn (run s0 sched) p) = some v := by
  have hl := (run_inv s0.cur s0 sched (initial_inv s0 h0)).lin
  have hst := stepCall_spec (run s0 sched) i
  generalize run s0 sched = s at hst hl hget
  rw [hget] at hst
  generalize (stepCall s i).1 = s' at hst
  -- every rule of `Step` whose call is `.get p v` has `v = s.cur p`
  cases hst <;> exact hl _

/-- **A stale snapshot is safe.** Whatever snapshot a handle holds when it starts an operation, once
it has read the ring under the lock its snapshot is the stored ring, and what it then writes is its
transaction list applied to the *stored* ring (never to the stale one). -/
theorem stale_snapshot_safe (s0 : St) (h0 : Initial s0) (sched : List Nat) (i : Nat) :
    let s := run s0 sched
    ((s.h i).pc = .got → (s.h i).snap = s.cur (s.h i).path) ∧
    ((s.h i).pc = .put → s.new (s.h i).path = some (s.h i).snap ∧
        applyAll (s.h i).txs (s.cur (s.h i).path) = some (s.h i).snap) := by
  intro s
  have hinv := run_inv s0.cur s0 sched (initial_inv s0 h0)
  exact ⟨fun h => (hinv.gotOk i h).1, fun h => hinv.putOk i h⟩

/-- **Sequence numbers stay unique – even with imports** (the part of `seqnums_unique_increasing` that
needs no exclusion). If the initial rings have pairwise different sequence numbers and imported key
lists do too, then under every schedule every stored ring has pairwise different sequence numbers.

*Partial* with respect to "increasing", which is false once imports run on the ring
(`import_overwrite_order_counterexample`, `import_stale_add_counterexample`); the full statement for
rings without imports is `seqnums_unique_increasing` below. -/
theorem seqnums_unique_increasing_partial (s0 : St) (h0 : Initial s0) (hok : ∀ p, RingOK (s0.cur p))
    (hops : ∀ i, ∀ op ∈ (s0.h i).todo, OpOK op) (htx : ∀ i, (s0.h i).txs = [])
    (sched : List Nat) (p : Nat) :
    RingOK ((run s0 sched).cur p) := by
  have hinv := run_inv s0.cur s0 sched (initial_inv s0 h0)
  have ht0 : TxInv s0 := ⟨hops, by intro i t ht; simp [htx i] at ht, by intro c hc; simp [h0.commits] at hc⟩
  have ht := run_txinv s0 sched ht0
  refine replay_ok _ _ _ ?_ (hok p) (hinv.lin p)
  intro ts hts t htt
  simp only [commitsOn, List.mem_map, List.mem_filter] at hts
  obtain ⟨c, ⟨hc, _⟩, rfl⟩ := hts
  exact ht.commits c hc t htt

/-- what `seqnums_unique_increasing` needs of the initial state, for the ring path `p`: the stored ring
is strictly increasing, every handle of that ring holds a snapshot that is a *prefix* of it – the stored
ring continues the snapshot with consecutive numbers from the snapshot's `nextSeqnum` on (true of a
freshly opened handle, and of any stale snapshot of a ring numbered `1..n`) – and no handle of that ring
imports key lists (the exclusion made by the known finding `import-race-lost-update` and by the
`ImportOverwrite` delegate; handles of *other* rings may import). -/
structure OrderedStart (s : St) (p : Nat) : Prop where
  incr : Incr (s.cur p)
  snap : ∀ i, (s.h i).path = p → SnapPrefix (s.h i).snap (s.cur p)
  noImport : ∀ i, (s.h i).path = p → ∀ op ∈ (s.h i).todo, NoImport op

/-- **Sequence numbers are unique and strictly increasing in ring order, for all schedules.** For a ring
on which no handle runs an import, under every schedule of any number of threads the stored ring's
sequence numbers are strictly increasing in ring order (hence pairwise different), and the
*snapshot-prefix invariant* holds throughout: every handle's possibly stale snapshot is a prefix of the
stored ring, continued by consecutive numbers – so the number a stale handle computes before taking the
lock is either present in the stored ring (→ `errTxKeyExists`) or the stored ring's own next number. -/
theorem seqnums_unique_increasing (s0 : St) (h0 : Initial s0) (p : Nat) (hp : OrderedStart s0 p) (sched : List Nat) :
    let s := run s0 sched
    Incr (s.cur p) ∧ RingOK (s.cur p) ∧
    ∀ i, (s.h i).path = p → (s.h i).pc ≠ .put → SnapPrefix (s.h i).snap (s.cur p) := by
  intro s
  obtain ⟨_, hincr, hpre, _⟩ := run_order s0.cur p s0 sched (initial_inv s0 h0) (sim_init s0 h0.idle h0.done h0.commits)
    hp.incr hp.snap hp.noImport
  exact ⟨hincr, incr_nodup _ hincr, hpre⟩

/-- the same for freshly opened handles: every handle of ring `p` starts with the stored ring as its
snapshot (what opening a ring gives) -/
theorem seqnums_unique_increasing_fresh (s0 : St) (h0 : Initial s0) (p : Nat) (hi : Incr (s0.cur p))
    (hfresh : ∀ i, (s0.h i).path = p → (s0.h i).snap = s0.cur p)
    (hno : ∀ i, (s0.h i).path = p → ∀ op ∈ (s0.h i).todo, NoImport op) (sched : List Nat) :
    Incr ((run s0 sched).cur p) :=
  (seqnums_unique_increasing s0 h0 p ⟨hi, fun i h => by rw [hfresh i h]; exact snapPrefix_refl _, hno⟩ sched).1

/-- the same for rings numbered `1..n` (what `AddKey` alone produces) and arbitrarily stale snapshots
of them (numbered `1..m`, `m ≤ n`) -/
theorem seqnums_unique_increasing_numbered (s0 : St) (h0 : Initial s0) (p : Nat) (n : Nat)
    (hcur : (s0.cur p).seqs = runFrom 1 n)
    (hsnap : ∀ i, (s0.h i).path = p → ∃ m, m ≤ n ∧ (s0.h i).snap.seqs = runFrom 1 m)
    (hno : ∀ i, (s0.h i).path = p → ∀ op ∈ (s0.h i).todo, NoImport op) (sched : List Nat) :
    Incr ((run s0 sched).cur p) := by
  refine (seqnums_unique_increasing s0 h0 p ⟨?_, ?_, hno⟩ sched).1
  · unfold Incr; rw [hcur]; exact runFrom_incr 1 n
  · intro i hi
    obtain ⟨m, hmn, hm⟩ := hsnap i hi
    exact snapPrefix_of_numbered _ _ m (n - m) hm (by rw [hcur]; congr 1; omega)

/-- **A stale snapshot is safe, strong form: it either fails or does what a fresh handle does.** For a
ring without imports (`OrderedStart`), at every point of the sequential run that `v2_linearizable` relates
the concurrent execution to, the snapshot of every handle of the ring is a prefix of the stored ring;
therefore whenever the handle's next operation succeeds from that (possibly stale) snapshot, the same
operation started from a *fresh* snapshot of the stored ring prepares the same transactions, stores the
same ring and returns the same result. (An operation that fails its optimistic check from a stale
snapshot has no effect and refreshes the snapshot – `atomicOp`.) -/
theorem stale_success_is_fresh_success (s0 : St) (h0 : Initial s0) (p : Nat) (hp : OrderedStart s0 p) (sched : List Nat)
    (i : Nat) (hi : (s0.h i).path = p) :
    let a := atomicRun (AState.init s0) (linTrace s0 sched)
    SnapPrefix (a.snap i) (a.cur p) ∧
    ∀ op txs r' sn', atomicOp (a.cur p) (a.snap i) op = (r', sn', some txs) →
      atomicOp (a.cur p) (a.cur p) op = (r', sn', some txs) := by
  intro a
  obtain ⟨hA, _⟩ := run_order s0.cur p s0 sched (initial_inv s0 h0) (sim_init s0 h0.idle h0.done h0.commits)
    hp.incr hp.snap hp.noImport
  have hpre : SnapPrefix (a.snap i) (a.cur p) := hA.pre i hi
  exact ⟨hpre, fun op txs r' sn' h => atomicOp_fresh _ _ op txs r' sn' hpre h⟩

/-- **The current key is the one of the last committed `SetCurrent`.** Under every schedule, for every
ring path, the current marker of the stored ring is the one written by the last transaction list in the
commit log (rename order) that sets it – `SetCurrent`, or an import – and the initial marker when there
is none: a `SetCurrent` that committed earlier never overrides one that committed later, whatever the
interleaving of the back-end calls. -/
theorem current_is_last_committed (s0 : St) (h0 : Initial s0) (sched : List Nat) (p : Nat) :
    ((run s0 sched).cur p).current = lastCurrent (s0.cur p).current (commitsOn (run s0 sched) p) :=
  replay_current _ _ _ ((run_inv s0.cur s0 sched (initial_inv s0 h0)).lin p)

/-- **Every committed `SetCurrent` replaced the marker its handle had seen.** Under every schedule: split
the commit log of a ring at any committed `SetCurrent` transaction `{old, new}`; then the commits before it
replay (from the initial ring) to a ring whose current marker is `old` – the marker in the handle's view
when the operation was prepared – and which holds the key `new`. A `SetCurrent` prepared from a view that
another writer's committed `SetCurrent` has made stale is therefore never in the commit log: with
`success_iff_committed_once` it returned an error, and (`stale_setCurrent_fails`) the atomic store it is
compared with says the same. This is the statement the oracle class `not-linearizable:setcurrent-stale`
judges on the implementation's history. -/
theorem committed_setCurrent_saw_current (s0 : St) (h0 : Initial s0) (sched : List Nat) (p : Nat)
    (pre post : List (List Tx)) (old new : Int)
    (hsplit : commitsOn (run s0 sched) p = pre ++ [.setCurrent old new] :: post) :
    ∃ r1, replay (s0.cur p) pre = some r1 ∧ r1.current = old ∧ r1.hasSeq new = true := by
  have hlin := (run_inv s0.cur s0 sched (initial_inv s0 h0)).lin p
  rw [hsplit, replay_append] at hlin
  obtain ⟨r1, h1, h2⟩ := Option.bind_eq_some_iff.mp hlin
  simp only [replay, applyAll, Option.bind_eq_some_iff] at h2
  obtain ⟨_, ⟨r2, h2, _⟩, _⟩ := h2
  obtain ⟨hc, hn, _⟩ := setCurrent_apply_pre h2
  exact ⟨r1, h1, hc, hn⟩

/-- **A stale `SetCurrent` fails.** In the atomic key store a `SetCurrent` from a handle whose view has a
different current marker than the stored ring fails, stores nothing and refreshes the view. -/
theorem stale_setCurrent_fails (ring snap : Ring) (s : Int) (h : snap.current ≠ ring.current) :
    atomicOp ring snap (.setCurrent s) = (ring, ring, none) :=
  -- `prepare` puts the view's marker into `oldSeqnum`, and the first test of `txSetKeyCurrent.Apply` compares it
  -- with the stored one
  atomicOp_stale nofun rfl (by rw [applyAll_singleton]; exact if_pos fun e => h e.symm)

/-- the scenario of the oracle's corpus, in the atomic store: ring `[key 1 (current)]`; handle A adds key 2;
handle B (fresh view) adds key 3 and makes it current; A's `SetCurrent 2` – prepared from "current is 1" –
fails and key 3 stays current (non-vacuity of `stale_setCurrent_fails`) -/
example :
    let r0 : Ring := ⟨[⟨1, 2, 1⟩], 1⟩
    let a1 := atomicOp r0 r0 (.addKey 10)
    let b1 := atomicOp a1.1 a1.1 (.addKey 11)
    let b2 := atomicOp b1.1 b1.2.1 (.setCurrent 3)
    let a2 := atomicOp b2.1 a1.2.1 (.setCurrent 2)
    b2.2.2.isSome = true ∧ a2.2.2 = none ∧ a2.1.current = 3 := by decide

/-- **A ring is created only while it is missing – creation overwrites nothing.** Under every schedule,
whenever a handle is between the `Get` and the `Rename` of a write (`got`/`put`): its operation is
`OpenKeyRingRW` **iff** the ring file does not exist; and in that case the ring is still missing at this
very moment, nothing has ever been committed on its path, and what the handle is about to store is the
empty ring with no transactions. (The `Get` that said `ErrNotExist` and the `Put`/`Rename` are under one
exclusive lock – `fact_open_cycle` – so no other handle can have created the ring in between.) -/
theorem creation_only_of_missing_ring (s0 : St) (h0 : Initial s0) (sched : List Nat) (i : Nat) :
    let s := run s0 sched
    ((s.h i).pc = .got ∨ (s.h i).pc = .put) →
      ((∃ rest, (s.h i).todo = .open :: rest) ↔ s.ex (s.h i).path = false) ∧
      (s.ex (s.h i).path = false →
        s.cur (s.h i).path = emptyRing ∧ commitsOn s (s.h i).path = [] ∧ (s.h i).txs = []) := by
  intro s hpc
  have hinv := run_inv s0.cur s0 sched (initial_inv s0 h0)
  obtain ⟨h1, h2⟩ := hinv.crt i hpc
  exact ⟨h1.symm, fun hex => ⟨(hinv.miss _ hex).1, (hinv.miss _ hex).2, h2 hex⟩⟩

/-- a ring on whose path something was committed exists, and a ring that exists keeps existing -/
theorem committed_ring_exists (s0 : St) (h0 : Initial s0) (sched : List Nat) (p : Nat) :
    (commitsOn (run s0 sched) p ≠ [] → (run s0 sched).ex p = true) ∧
    (s0.ex p = true → (run s0 sched).ex p = true) := by
  have hinv := run_inv s0.cur s0 sched (initial_inv s0 h0)
  exact ⟨fun hne => Decidable.byContradiction fun hex => hne (hinv.miss p ((Bool.not_eq_true _).mp hex)).2,
    run_ex_mono s0 sched p⟩

/-- **Every successful `AddKey` is in the stored ring exactly once.** For a ring on which no handle runs
an import (`OrderedStart`; the ring may exist at the start or be created during the run), under every
schedule: every operation of a handle of this ring that returned success with a `txAddKey` in its
transaction list has its key in the stored ring – exactly one key of the stored ring carries the sequence
number that operation assigned. (Later `SetState`/`DestroyKey` operations change state and material of
that key, they never remove it; a creating `OpenKeyRingRW` never runs once a key is committed –
`creation_only_of_missing_ring`.) -/
theorem add_reflected_exactly_once (s0 : St) (h0 : Initial s0) (p : Nat) (hp : OrderedStart s0 p) (sched : List Nat)
    (i : Nat) (hi : (s0.h i).path = p) (op : Op) (txs : List Tx) (hop : op ≠ .refresh)
    (hdone : (op, some txs) ∈ ((run s0 sched).h i).done) (k : Key) (hk : Tx.add k ∈ txs) :
    ((run s0 sched).cur p).seqs.count k.seq = 1 :=
  (run_order s0.cur p s0 sched (initial_inv s0 h0) (sim_init s0 h0.idle h0.done h0.commits) hp.incr hp.snap
    hp.noImport).2.2.2 i hi op txs hdone k hk

/-- the same for `AddKey` operations by name: the transaction list of a successful `AddKey(d)` is one
`txAddKey` of a pre-active key with that material, and exactly one key of the stored ring carries its
sequence number -/
theorem addKey_reflected_exactly_once (s0 : St) (h0 : Initial s0) (p : Nat) (hp : OrderedStart s0 p) (sched : List Nat)
    (i : Nat) (hi : (s0.h i).path = p) (d : Nat) (txs : List Tx)
    (hdone : (Op.addKey d, some txs) ∈ ((run s0 sched).h i).done) :
    ∃ seq, txs = [.add ⟨seq, stPreActive, d⟩] ∧ ((run s0 sched).cur p).seqs.count seq = 1 := by
  rcases run_done_shape s0.cur s0 sched (initial_inv s0 h0) (sim_init s0 h0.idle h0.done h0.commits) i _ txs hdone with
    ⟨hr, _⟩ | ⟨snap, hprep⟩
  · cases hr
  · have e : txs = [.add ⟨snap.nextSeq, stPreActive, d⟩] := prepare_some hprep
    exact ⟨snap.nextSeq, e, add_reflected_exactly_once s0 h0 p hp sched i hi (.addKey d) txs nofun hdone _
      (by rw [e]; exact .head _)⟩

/-- what the creation theorems need of a ring that does not exist at the start: every handle of the path
holds the empty snapshot of a fresh handle object (what `newKeyRing` gives; `OpenKeyRingRW` resets it
anyway) and none of them imports -/
structure MissingStart (s : St) (p : Nat) : Prop where
  missing : s.ex p = false
  snap : ∀ i, (s.h i).path = p → (s.h i).snap = emptyRing
  noImport : ∀ i, (s.h i).path = p → ∀ op ∈ (s.h i).todo, NoImport op

theorem MissingStart.ordered {s : St} {p : Nat} (h0 : Initial s) (h : MissingStart s p) : OrderedStart s p :=
  ⟨by rw [h0.missing p h.missing]; decide,
   fun i hi => by rw [h.snap i hi, h0.missing p h.missing]; exact snapPrefix_refl _, h.noImport⟩

/-- **Linearisability extends to ring creation: no `AddKey` is lost when the ring did not exist at the
start.** Any number of handles race to create the ring with `OpenKeyRingRW` and add keys to it; under every
schedule the stored ring is the replay, from the empty ring, of exactly the committed transaction lists
in linearisation order (the creating rename first – an empty list), its sequence numbers are strictly
increasing, and every `AddKey` that returned success has its key in the stored ring exactly once. -/
theorem created_ring_keeps_every_add (s0 : St) (h0 : Initial s0) (p : Nat) (hp : MissingStart s0 p) (sched : List Nat) :
    let s := run s0 sched
    replay emptyRing (commitsOn s p) = some (s.cur p) ∧ Incr (s.cur p) ∧
    ∀ i, (s0.h i).path = p → ∀ d txs, (Op.addKey d, some txs) ∈ (s.h i).done →
      ∃ seq, txs = [.add ⟨seq, stPreActive, d⟩] ∧ (s.cur p).seqs.count seq = 1 := by
  intro s
  have hinv := run_inv s0.cur s0 sched (initial_inv s0 h0)
  have hl := hinv.lin p
  rw [h0.missing p hp.missing] at hl
  exact ⟨hl, (seqnums_unique_increasing s0 h0 p (hp.ordered h0) sched).1,
    fun i hi d txs hd => addKey_reflected_exactly_once s0 h0 p (hp.ordered h0) sched i hi d txs hd⟩

section lockfile
open AcraModel.KeystoreSec.FileLock

open Generated.FileLock in
/-- How a handle gets its lock: `newFileLock(path)` makes exactly one call, `os.Create(path)` on its own
parameter, and keeps the descriptor (`lockFile`) and the path; `os.Create` (Go standard library) passes
`O_RDWR|O_CREATE|O_TRUNC` – it creates the file only when the path names nothing and otherwise opens the file
the path names (no `O_EXCL`). Both constructors of `DirectoryBackend` anchor the lock at the same path,
`filepath.Join(root, lockFile)` with `lockFile = ".lock"`. This is the model's `LOp.openH`. -/
theorem fact_filelock_open :
    newFileLockCalls = ["os.Create"] ∧ newFileLockOpenArg = ["path"] ∧ newFileLockParams = ["path"] ∧
    newFileLockAssigns = ["lock, err := os.Create(path)"] ∧
    newFileLockFields = ["lockFile=lock", "path=path"] ∧
    osCreateFlags = ["O_RDWR", "O_CREATE", "O_TRUNC"] ∧
    createBackendLockPath = ["filepath.Join(root, lockFile)"] ∧
    openBackendLockPath = ["filepath.Join(root, lockFile)"] ∧
    lockFileName = ".lock" :=
  ⟨rfl, rfl, rfl, rfl, rfl, rfl, rfl, rfl, rfl⟩

open Generated.FileLock in
/-- How a handle gives its lock up: `fileLock.Close` makes exactly one call, `l.lockFile.Close()` – it closes
the descriptor and does NOT remove (or rename) the lock file, so the model's close step runs with
`closeUnlinks = false`. `DirectoryBackend.Close` only closes the lock (and logs), `KeyStore.Close` only closes the
back end. Besides the two constructors only `ListAll` mentions the lock file's name (to skip it), and the only
functions that use the lock's stored path are the poisoning / recovery pair (which close and re-open the same
path, `os.Create(l.path)`, after a failed `LOCK_UN`). -/
theorem fact_filelock_close :
    fileLockCloseCalls = ["l.lockFile.Close"] ∧
    backendCloseCalls = ["b.lock.Close", "b.log.WithError().Warn", "b.log.WithError"] ∧
    keyStoreCloseCalls = ["s.fs.Close", "runtime.SetFinalizer"] ∧
    lockPathUsers = ["fileLock.poisonLock", "fileLock.recoverLock"] ∧
    lockFileNameUsers = ["CreateDirectoryBackend", "OpenDirectoryBackend", "DirectoryBackend.ListAll"] ∧
    poisonLockCalls = ["l.lockFile.Close"] ∧ recoverLockCalls = ["os.Create"] ∧ recoverLockOpenArg = ["l.path"] ∧
    closeUnlinks = false :=
  -- `closeUnlinks` is computed from the three call lists; the other conjuncts compare literals
  ⟨rfl, rfl, rfl, rfl, rfl, rfl, rfl, rfl, by decide +kernel⟩

open Generated.FileLock in
/-- The lock cycle is the one the model runs: `Lock` / `RLock` take the handle's mutex first
(`LOp.enter`), then call `syscall.Flock` on the handle's own descriptor with `LOCK_EX` / `LOCK_SH` (`LOp.acquire`),
giving the mutex back only on an error path; `Unlock` / `RUnlock` release the mutex (deferred) after
`syscall.Flock(fd, LOCK_UN)` (`LOp.release`). The `DirectoryBackend` methods only delegate. -/
theorem fact_filelock_cycle :
    lockCalls = ["l.lockSync.Lock", "l.recoverLock", "l.lockSync.Unlock", "syscall.Flock", "l.lockSync.Unlock"] ∧
    rLockCalls = ["l.lockSync.Lock", "l.recoverLock", "l.lockSync.Unlock", "syscall.Flock", "l.lockSync.Unlock"] ∧
    unlockCalls = ["defer:l.lockSync.Unlock", "syscall.Flock", "l.poisonLock"] ∧
    rUnlockCalls = ["defer:l.lockSync.Unlock", "syscall.Flock", "l.poisonLock"] ∧
    lockFlockMode = ["syscall.LOCK_EX"] ∧ rLockFlockMode = ["syscall.LOCK_SH"] ∧
    unlockFlockMode = ["syscall.LOCK_UN"] ∧ rUnlockFlockMode = ["syscall.LOCK_UN"] ∧
    lockFlockFd = ["int(l.lockFile.Fd())"] ∧ rLockFlockFd = ["int(l.lockFile.Fd())"] ∧
    unlockFlockFd = ["int(l.lockFile.Fd())"] ∧ rUnlockFlockFd = ["int(l.lockFile.Fd())"] ∧
    backendLockCalls = ["b.lock.Lock"] ∧ backendRLockCalls = ["b.lock.RLock"] ∧
    backendUnlockCalls = ["b.lock.Unlock"] ∧ backendRUnlockCalls = ["b.lock.RUnlock"] :=
  ⟨rfl, rfl, rfl, rfl, rfl, rfl, rfl, rfl, rfl, rfl, rfl, rfl, rfl, rfl, rfl, rfl⟩

/-- the regenerated `Close` behaviour, as an equation the theorems below rewrite with -/
theorem close_keeps_lock_file : closeUnlinks = false := fact_filelock_close.2.2.2.2.2.2.2.2

/-- **All handles of a key directory lock the same file.** With the code's `Close`, for every history `ops` of
handles being opened, closed, locking and unlocking – from a directory in which `.lock` exists already (`p =
some _`) or not (`p = none`) – every handle ever opened (still open or closed since) refers to one and the
same inode, and that inode is the one the path `.lock` names now: the next handle to be opened will get it,
too. -/
theorem lock_inode_shared (p : Option Nat) (ops : List LOp) :
    let s := lrun closeUnlinks (linit p) ops
    ∀ i, i < s.n → s.path = some (s.h i).ino ∧ ∀ j, j < s.n → (s.h i).ino = (s.h j).ino := by
  rw [close_keeps_lock_file]
  intro s i hi
  have hs : Single s := lrun_single _ ops (linit_single p)
  exact ⟨hs i hi, fun j hj => hs.ino_eq hi hj⟩

/-- **Mutual exclusion carries over to any number of handles opened and closed at any time.** With the code's
`Close`, in every reachable state of the life-cycle model: two handles whose descriptors hold an exclusive
`flock` are the same handle, and while one handle holds the exclusive lock no other handle holds any lock,
shared or exclusive. -/
theorem lifecycle_mutual_exclusion (p : Option Nat) (ops : List LOp) (i j : Nat) :
    let s := lrun closeUnlinks (linit p) ops
    ((s.h i).held = some .ex → (s.h j).held = some .ex → i = j) ∧
    ((s.h i).held = some .ex → i ≠ j → (s.h j).held = none) := by
  rw [close_keeps_lock_file]
  intro s
  have hexcl := global_excl (lrun_inv false (linit p) ops (linit_inv p)) (lrun_single _ ops (linit_single p))
  refine ⟨fun hi hj => Decidable.byContradiction fun hij => ?_, fun hi hij => hexcl i j hij hi⟩
  have := hexcl i j hij hi
  rw [hj] at this; cases this

/-- **What `flock(2)` alone gives, whatever `Close` does:** exclusion among the handles whose descriptors refer
to the *same inode* – an exclusive holder, and next to it no other holder on that inode. (With a `Close` that
unlinks, handles of one directory can refer to different inodes: `unlinking_close_counterexample`.) -/
theorem flock_excludes_per_inode (cu : Bool) (p : Option Nat) (ops : List LOp) (i j : Nat) :
    let s := lrun cu (linit p) ops
    i ≠ j → (s.h i).ino = (s.h j).ino → (s.h i).held = some .ex → (s.h j).held = none :=
  (lrun_inv cu (linit p) ops (linit_inv p)).excl i j

/-- **The per-handle mutex keeps a handle from converting its own lock.** In every reachable state (whatever
`Close` does) a handle that is asking for a `flock` (inside `Lock()` / `RLock()`) holds its mutex and no `flock`
yet, and a handle that holds a `flock` holds its mutex and is not asking for another one – so `flock(2)`'s
silent conversion of a lock already held through the same descriptor never happens. -/
theorem handle_never_converts_its_flock (cu : Bool) (p : Option Nat) (ops : List LOp) (i : Nat) :
    let s := lrun cu (linit p) ops
    ((s.h i).want ≠ none → (s.h i).isOpen = true ∧ (s.h i).mutex = true ∧ (s.h i).held = none) ∧
    ((s.h i).held ≠ none → (s.h i).isOpen = true ∧ (s.h i).mutex = true ∧ (s.h i).want = none) :=
  ⟨(lrun_inv cu (linit p) ops (linit_inv p)).wantOpen i, (lrun_inv cu (linit p) ops (linit_inv p)).heldOpen i⟩

/-- **The life cycle of the real lock refines the abstract lock of the concurrency model.** With the code's
`Close`, every history of opens, closes, lock and unlock calls on any number of handles is, seen through the
abstraction "writer = the handle holding `LOCK_EX`, readers = the handles holding `LOCK_SH`" (`Abs`), a sequence of
moves of the abstract lock (`AStep`: the exclusive lock is granted only when there is no writer and no reader,
the shared lock only when there is no writer; opening a handle, entering `Lock()`, closing a handle that holds
nothing are stutter steps; closing a handle that holds a lock releases it). -/
theorem lifecycle_refines_abstract_lock (p : Option Nat) (ops : List LOp) :
    ∃ b, Abs (lrun closeUnlinks (linit p) ops) b ∧ AReach ALock.free b := by
  rw [close_keeps_lock_file]
  exact lrun_refines (linit p) ops (linit_inv p) (linit_single p) ALock.free ALock.free .refl (linit_abs p)

/-- **The abstract lock is the one `mutual_exclusion` and `v2_linearizable` are about.** Under every
schedule the lock of the concurrency model (`St.writer`, `St.readers` – what `stepCall` consults before it lets
a thread `Lock`/`RLock`) moves only by moves of the same abstract lock. Together with
`lifecycle_refines_abstract_lock`: the all-schedules theorems of this file assume a lock that behaves like
`ALock`, and the lock file – for every history of handles opened and closed – is one. -/
theorem conc_lock_is_abstract_lock (s0 : St) (h0 : Initial s0) (sched : List Nat) :
    ∃ b, LockView (run s0 sched) b ∧ AReach ALock.free b :=
  run_lockView s0.cur s0 sched (initial_inv s0 h0) ALock.free ALock.free .refl
    ⟨by simp [ALock.free, h0.writer], by intro j; simp [ALock.free, h0.readers]⟩

/-- **Why a `Close` that unlinks is fatal, in general:** in every reachable state (whatever `Close` does), when
the path `.lock` names nothing, the handle opened next gets an inode that no handle opened before refers to –
`flock` will never make it wait for any of them. -/
theorem unlinked_open_gets_new_inode (cu : Bool) (p : Option Nat) (ops : List LOp) :
    let s := lrun cu (linit p) ops
    s.path = none → ∀ i, i < s.n → ((lstep cu s .openH).h s.n).ino ≠ (s.h i).ino := by
  intro s hp i hi
  have hinv : LInv s := lrun_inv cu (linit p) ops (linit_inv p)
  have := hinv.freshH i hi
  simp only [lstep, hp, KeystoreSec.FileLock.upd_same]
  omega

/-- S is opened, T is opened and closed again, U is opened; S and then U ask for the exclusive lock -/
def stuHistory : List LOp :=
  [.openH, .openH, .closeH 1, .openH, .enter 0 .ex, .acquire 0, .enter 2 .ex, .acquire 2]

/-- **Counterexample for the unlinking `Close`.** If `fileLock.Close` also removed the lock file, the history
S open, T open, T close, U open would leave S and U – both open – on *different* inodes, and both would hold the
exclusive `flock` at the same time. (With the code's `Close` the same history leaves U waiting inside
`Lock()`: second part.) -/
theorem unlinking_close_counterexample :
    let s := lrun true (linit none) stuHistory
    ((s.h 0).isOpen = true ∧ (s.h 2).isOpen = true ∧ (s.h 0).ino ≠ (s.h 2).ino ∧
      (s.h 0).held = some .ex ∧ (s.h 2).held = some .ex) ∧
    (let t := lrun false (linit none) stuHistory
     (t.h 0).ino = (t.h 2).ino ∧ (t.h 0).held = some .ex ∧ (t.h 2).held = none ∧ (t.h 2).want = some .ex) := by
  decide

/-- with the code's `Close`, `stuHistory` leaves S holding the exclusive lock (and U waiting for it) -/
example : ((lrun closeUnlinks (linit none) stuHistory).h 0).held = some .ex := by
  rw [close_keeps_lock_file]; decide

/-- two readers share the lock of the existing `.lock` (inode 7); one closes; a handle opened afterwards gets the
same inode and waits for the exclusive lock while the other reader holds its own -/
example : let s := lrun closeUnlinks (linit (some 7))
              [.openH, .openH, .enter 0 .sh, .acquire 0, .enter 1 .sh, .acquire 1, .closeH 0, .openH, .enter 2 .ex, .acquire 2]
    (s.h 0).isOpen = false ∧ (s.h 1).held = some .sh ∧ (s.h 2).want = some .ex ∧ (s.h 2).held = none ∧ (s.h 2).ino = 7 := by
  rw [close_keeps_lock_file]; decide

/-- the abstract lock really moves: from the free lock, handle 0 takes the exclusive lock and gives it back,
then handles 1 and 2 share it -/
example : AReach ALock.free ⟨none, fun j => if j = 2 then true else if j = 1 then true else false⟩ :=
  .step (.step (.step (.step .refl
    (.lock 0 rfl (fun _ => rfl) (b := ⟨some 0, fun _ => false⟩) rfl (fun _ => rfl)))
    (.unlock 0 rfl (b := ⟨none, fun _ => false⟩) rfl (fun _ => rfl)))
    (.rlock 1 rfl (b := ⟨none, fun j => if j = 1 then true else false⟩) rfl (fun _ => rfl)))
    (.rlock 2 rfl rfl (fun _ => rfl))

end lockfile

/-- two handles (threads 0 and 1) on ring 0, both with the same empty snapshot, each adding a key -/
def demo : St where
  cur := fun _ => ⟨[], noKey⟩
  new := fun _ => none
  writer := none
  readers := []
  h := fun i => ⟨0, ⟨[], noKey⟩, [], if i = 0 then [.addKey 10] else if i = 1 then [.addKey 11, .addKey 12] else [], [], .idle⟩
  commits := []

example : Initial demo := ⟨rfl, rfl, fun _ => rfl, rfl, fun _ => rfl, fun _ => rfl, fun _ h => nomatch h⟩

/-- thread 1 loses the race with a stale snapshot (its seqnum 1 exists: `errTxKeyExists`), its
retry with the refreshed snapshot succeeds: the final ring holds 10 then 12 with seqnums 1, 2 -/
example : (run demo [0, 1, 0, 0, 0, 0, 1, 1, 1, 1, 1, 1, 1, 1]).cur 0 = ⟨[⟨1, 1, 10⟩, ⟨2, 1, 12⟩], noKey⟩ := by rfl

example : ((run demo [0, 1, 0, 0, 0, 0, 1, 1, 1, 1, 1, 1, 1, 1]).h 1).done.map (·.2.isSome) = [false, true] := by rfl

/-- two handles, both with the snapshot of the freshly created empty ring, each importing its own key list -/
def importRace : St where
  cur := fun _ => ⟨[], noKey⟩
  new := fun _ => none
  writer := none
  readers := []
  h := fun i => ⟨0, ⟨[], noKey⟩, [], if i = 0 then [.importKeys [⟨1, 1, 10⟩] noKey] else if i = 1 then [.importKeys [⟨1, 1, 11⟩] noKey] else [], [], .idle⟩
  commits := []

/-- **Known finding (C17, `import-race-lost-update`).** `txSetKeys` carries no optimistic check:
when two handles import into the same ring at the same time both operations succeed and the key
list of the first is overwritten – the keys of a *successful* import are gone. (Linearisability in
the sense of `v2_linearizable` still holds – the stored ring is the replay of both commits – but
sequentially the second import is refused with `ErrKeyRingExists`; the check that refuses it runs
outside the lock that protects the write.) Replayed on the real key store by the harness
(`mode:import-race`, every schedule). -/
theorem import_race_counterexample :
    let s := run importRace [0, 0, 0, 0, 0, 1, 1, 1, 1, 1]
    (s.h 0).done.map (·.2.isSome) = [true] ∧ (s.h 1).done.map (·.2.isSome) = [true] ∧
    s.cur 0 = ⟨[⟨1, 1, 11⟩], noKey⟩ := by
  refine ⟨by rfl, by rfl, by rfl⟩

def oneRing (cur : Ring) (progs : Nat → Ring × List Op) : St where
  cur := fun _ => cur
  new := fun _ => none
  writer := none
  readers := []
  h := fun i => ⟨0, (progs i).1, [], (progs i).2, [], .idle⟩
  commits := []

/-- **`ImportOverwrite` breaks the order** (the scenario excluded by `OrderedStart.noImport`; needs an
`ImportOverwrite` delegate, which Acra never installs). Stored ring 1,2; handle 1 holds that snapshot;
handle 0 overwrites the ring with 1,2,6; handle 1 then adds a key with the number 3 it computed from
its snapshot – not in the ring, so `txAddKey` appends it: 1,2,6,3 – unique, not increasing. -/
theorem import_overwrite_order_counterexample :
    let r12 : Ring := ⟨[⟨1, 1, 10⟩, ⟨2, 1, 11⟩], noKey⟩
    let s0 := oneRing r12 fun i => (r12, if i = 0 then [.importKeys [⟨1, 1, 10⟩, ⟨2, 1, 11⟩, ⟨6, 1, 12⟩] noKey]
                                          else if i = 1 then [.addKey 13] else [])
    Initial s0 ∧ Incr (s0.cur 0) ∧ (∀ i, SnapPrefix (s0.h i).snap (s0.cur 0)) ∧
    ((run s0 [0, 0, 0, 0, 0, 1, 1, 1, 1, 1]).cur 0).seqs = [1, 2, 6, 3] ∧
    ¬ Incr ((run s0 [0, 0, 0, 0, 0, 1, 1, 1, 1, 1]).cur 0) := by
  exact ⟨⟨rfl, rfl, fun _ => rfl, rfl, fun _ => rfl, fun _ => rfl, fun _ h => nomatch h⟩, by decide, fun _ => snapPrefix_refl _, by rfl, by decide⟩

/-- **One import next to a stale handle breaks the order, too** (same class as the known finding
`import-race-lost-update`: the existence check of the import runs outside the lock that protects its
write). Empty ring; handle 1 holds the empty snapshot; handle 0 imports 5,6; handle 1 adds a key with
number 1: 5,6,1. -/
theorem import_stale_add_counterexample :
    let s0 := oneRing ⟨[], noKey⟩ fun i => (⟨[], noKey⟩, if i = 0 then [.importKeys [⟨5, 1, 10⟩, ⟨6, 1, 11⟩] noKey]
                                          else if i = 1 then [.addKey 13] else [])
    Initial s0 ∧ ((run s0 [0, 0, 0, 0, 0, 1, 1, 1, 1, 1]).cur 0).seqs = [5, 6, 1] := by
  exact ⟨⟨rfl, rfl, fun _ => rfl, rfl, fun _ => rfl, fun _ => rfl, fun _ h => nomatch h⟩, by rfl⟩

/-- **The prefix hypothesis is needed** (no import involved): a ring with a gap in its numbering
(1,2,6 – only an import produces one) and a handle whose snapshot 1,2 is not a prefix in the sense of
`SnapPrefix` (the ring does not continue with 3): the handle appends 3 after 6. -/
theorem stale_gap_counterexample :
    let s0 := oneRing ⟨[⟨1, 1, 10⟩, ⟨2, 1, 11⟩, ⟨6, 1, 12⟩], noKey⟩ fun i =>
      (⟨[⟨1, 1, 10⟩, ⟨2, 1, 11⟩], noKey⟩, if i = 0 then [.addKey 13] else [])
    Initial s0 ∧ Incr (s0.cur 0) ∧ (∀ i, ∀ op ∈ (s0.h i).todo, NoImport op) ∧
    ((run s0 [0, 0, 0, 0, 0]).cur 0).seqs = [1, 2, 6, 3] := by
  refine ⟨⟨rfl, rfl, fun _ => rfl, rfl, fun _ => rfl, fun _ => rfl, fun _ h => nomatch h⟩, by decide, fun i => ?_, by rfl⟩
  dsimp only [oneRing]
  split <;> decide

/-- `OrderedStart` holds of the race `demo` (fresh empty snapshots, only `AddKey`s) -/
example : OrderedStart demo 0 :=
  ⟨by decide, fun _ _ => snapPrefix_refl _, fun i _ => by
    dsimp only [demo]
    split
    · decide
    · split <;> decide⟩

/-- a genuinely stale prefix snapshot: stored 1,2,3, snapshot 1 -/
example : SnapPrefix ⟨[⟨1, 1, 10⟩], noKey⟩ ⟨[⟨1, 1, 10⟩, ⟨2, 1, 11⟩, ⟨3, 1, 12⟩], noKey⟩ := ⟨2, by decide⟩

/-- the sequential run of the race `demo`: thread 1's first `AddKey` is linearised as a failure (stale
snapshot), its retry as a success -/
example : (resultsOf (atomicRun (AState.init demo) (linTrace demo [0, 1, 0, 0, 0, 0, 1, 1, 1, 1, 1, 1, 1, 1])).log 1).map (·.2.isSome)
    = [false, true] := by rfl

/-- two handles open the same not yet existing ring for writing and add a key each -/
def createRace : St where
  cur := fun _ => emptyRing
  new := fun _ => none
  writer := none
  readers := []
  h := fun i => ⟨0, emptyRing, [], if i = 0 then [.open, .addKey 10] else if i = 1 then [.open, .addKey 11] else [], [], .idle⟩
  commits := []
  ex := fun _ => false

example : Initial createRace := ⟨rfl, rfl, fun _ => rfl, rfl, fun _ => rfl, fun _ => rfl, fun _ _ => rfl⟩

example : MissingStart createRace 0 :=
  ⟨rfl, fun _ _ => rfl, fun i _ => by
    dsimp only [createRace]
    split
    · decide
    · split <;> decide⟩

/-- handle 0 creates the ring (`Lock, Get = ErrNotExist, Put, Rename, Unlock`) and adds key 10; handle 1,
which asked for the lock in between, finds the ring (`Lock, Get, Unlock` – it does NOT create) and adds
key 11 with the next sequence number: both keys are there -/
example : (run createRace [0, 0, 1, 0, 0, 0, 0, 0, 0, 0, 0, 1, 1, 1, 1, 1, 1, 1, 1]).cur 0
    = ⟨[⟨1, 1, 10⟩, ⟨2, 1, 11⟩], noKey⟩ := by rfl

example : ((run createRace [0, 0, 1, 0, 0, 0, 0, 0, 0, 0, 0, 1, 1, 1, 1, 1, 1, 1, 1]).h 1).done
    = [(.open, some []), (.addKey 11, some [.add ⟨2, 1, 11⟩])] := by rfl

/-- the two linearisation points of `OpenKeyRingRW` in the commit log: the creating rename of handle 0,
the `Get` of handle 1 that found the ring – both with the empty transaction list -/
example : ((run createRace [0, 0, 1, 0, 0, 0, 0, 0, 0, 0, 0, 1, 1, 1]).commits).map (fun c => (c.tid, c.txs))
    = [(0, []), (0, [.add ⟨1, 1, 10⟩]), (1, [])] := by rfl

end AcraModel.Props.C17
