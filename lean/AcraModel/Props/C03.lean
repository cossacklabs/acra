import AcraModel.Envelope.SafeExamples
import AcraModel.Envelope.SafeBound
import AcraModel.Envelope.SafeCompatSame
import AcraModel.Crypto.ShimLaws
import AcraModel.Envelope.TranslatorLemmas
import AcraModel.Props.C09
import AcraModel.Searchable.MatchLemmas
import AcraModel.Envelope.SearchHashLemmas
import AcraModel.Generated.SearchMatcher
/-!
# C03 — any modification of a protected value is detected, never mis-decrypted

Models: `AcraModel/Envelope/{AcraBlock,AcraStruct,Container,Detector}.lean`,
helper lemmas: `AcraModel/Envelope/Safe*.lean`. The "no panic" / bound theorems also serve C14
(no input can crash a handler or make it loop or allocate without bound).
-/
namespace AcraModel.Props.C03
open AcraModel AcraModel.Envelope Generated

/-- Sizes add up: the AcraStruct header is 8+45+84+8 = 145 bytes, the AcraBlock header 18, the
container header 12, and the field positions of the AcraBlock are consecutive. -/
theorem fact_layout_sizes :
    structMin = 145 ∧ structTagLen = 8 ∧ structPubLen = 45 ∧ structKeyBlockLen = 129 ∧ structDataLenSize = 8 ∧
    blockMin = 18 ∧ blockKeyPos = 18 ∧ containerMin = 12 ∧
    Layout.blockTagBeginSize = 4 ∧ Layout.blockRestAcraBlockLengthPosition = 4 ∧ Layout.blockRestAcraBlockLengthSize = 8 ∧
    Layout.blockKeyEncryptionKeyTypePosition = 12 ∧ Layout.blockKeyEncryptionKeyIDPosition = 13 ∧
    Layout.blockKeyEncryptionKeyIDSize = 2 ∧ Layout.blockDataEncryptionTypePosition = 15 ∧
    Layout.blockDataEncryptionKeyLengthPosition = 16 ∧ Layout.blockDataEncryptionKeyLengthSize = 2 ∧
    Layout.containerTagBeginSize = 3 ∧ Layout.containerLengthSize = 8 := by decide

/-- Tags and ids: eight `"` for the AcraStruct, its first four for the AcraBlock, `%%%` for the
container; envelope ids 0xF0 (AcraBlock) and 0xF1 (AcraStruct); only backend 0 is registered. -/
theorem fact_layout_tags :
    structTag = List.replicate 8 34 ∧ blockTag = List.replicate 4 34 ∧ containerTag = List.replicate 3 37 ∧
    idBlock = 240 ∧ idStruct = 241 ∧ Layout.blockKeyBackends = [0] ∧ Layout.blockDataBackends = [0] ∧
    Layout.blockKeyEncryptionBackendTypeSecureCell = 0 ∧ Layout.blockDataEncryptionBackendTypeSecureCell = 0 := by decide

/-! ## no decoder panics, whatever the bytes (no crypto law needed: holds for every `c`) -/

/-- `ExtractAcraBlockFromData` never panics, whatever the input bytes. -/
theorem extractBlock_no_panic : ∀ d : Bytes, extractBlock d ≠ .panic := extractBlock_ne_panic

/-- `ValidateAcraStructLength` never panics, whatever the input bytes. -/
theorem validateStruct_no_panic : ∀ d : Bytes, validateStruct d ≠ .panic := validateStruct_ne_panic

/-- `GetDataLengthFromAcraStruct` slices `data[137:145]` unguarded: it panics exactly on inputs shorter
than the 145-byte header. Every caller checks the length first (see `validateStruct_no_panic`,
`matchOld_no_panic`, `processStructs_no_panic`). -/
theorem getDataLength_no_panic : ∀ d : Bytes, structMin ≤ d.length → getDataLength d ≠ .panic := by
  intro d h; rw [getDataLength_eq d h]; simp

/-- … and it does panic on every shorter input (the guard in the callers is necessary). -/
theorem getDataLength_panics_when_short : ∀ d : Bytes, d.length < structMin → getDataLength d = .panic :=
  getDataLength_short

/-- `ExtractAcraStruct` never panics: declared lengths that are negative as `int`, overflow, or exceed
the buffer are rejected before slicing. -/
theorem extractStruct_no_panic : ∀ d : Bytes, extractStruct d ≠ .panic := extractStruct_ne_panic

/-- `DecryptAcrastruct` never panics, for every key, context and input and every crypto back end. -/
theorem decryptStruct_no_panic : ∀ (c : CryptoOps) (priv ctx d : Bytes), decryptStruct c priv ctx d ≠ .panic :=
  decryptStruct_ne_panic

/-- `DecryptRotatedAcrastruct` never panics, for every list of private keys. -/
theorem decryptStructRotated_no_panic :
    ∀ (c : CryptoOps) (ctx d : Bytes) (keys : List Bytes), decryptStructRotated c ctx d keys ≠ .panic :=
  decryptStructRotated_ne_panic

/-- `validateSerializedContainer` never panics. -/
theorem validateContainer_no_panic : ∀ d : Bytes, validateContainer d ≠ .panic := validateContainer_ne_panic

/-- `matchOldContainer` never panics (it reads the AcraStruct length only after validation). -/
theorem matchOld_no_panic : ∀ d : Bytes, matchOld d ≠ .panic := matchOld_ne_panic

/-- `getEnvelopeIDFromData` never panics. -/
theorem getEnvelopeID_no_panic : ∀ d : Bytes, getEnvelopeID d ≠ .panic := getEnvelopeID_ne_panic

/-- `getSerializedContainerLength` slices `data[3:11]` unguarded: it panics exactly below 11 bytes … -/
theorem containerInternalLength_no_panic :
    ∀ d : Bytes, 11 ≤ d.length → containerInternalLength d ≠ .panic := containerInternalLength_ne_panic

theorem containerInternalLength_panics_when_short :
    ∀ d : Bytes, d.length < 11 → containerInternalLength d = .panic := containerInternalLength_short

/-- … but `DeserializeEncryptedData` only calls it after `validateSerializedContainer` accepted the
data (more than 12 bytes), so deserialisation never panics. -/
theorem deserialize_no_panic : ∀ d : Bytes, deserialize d ≠ .panic := deserialize_ne_panic

/-- `ExtractSerializedContainer` never panics. -/
theorem extractContainer_no_panic : ∀ d : Bytes, extractContainer d ≠ .panic := extractContainer_ne_panic

/-- `AcraBlock.Decrypt` calls through a nil backend when the backend byte is unknown (this mirrors
Go), but never on a block that `ExtractAcraBlockFromData` accepted: that function checks both
backend bytes against the registered tables. -/
theorem decryptBlock_extracted_no_panic (c : CryptoOps) (keys : List Bytes) (ctx d : Bytes) (n : Nat) (b : Bytes) :
    extractBlock d = .ok (n, b) → decryptBlock c keys ctx b ≠ .panic :=
  decryptBlock_extracted_ne_panic c keys ctx d n b

/-- The two `ContainerHandler.Decrypt` implementations never panic (the AcraBlock one decrypts only
what `ExtractAcraBlockFromData` returned). -/
theorem decryptKind_no_panic : ∀ (c : CryptoOps) (kv : KeyView) (k : Kind) (i : Bytes), decryptKind c kv k i ≠ .panic :=
  decryptKind_ne_panic

/-- `RegistryHandler.DecryptWithHandler` never panics. -/
theorem decryptWithHandler_no_panic :
    ∀ (c : CryptoOps) (kv : KeyView) (k : Kind) (d : Bytes), decryptWithHandler c kv k d ≠ .panic :=
  decryptWithHandler_ne_panic

/-- **Reveal never brings the handler down**: `RegistryHandler.Process` returns a value or an error
for every byte string, every key-store answer and every crypto back end. -/
theorem process_no_panic : ∀ (c : CryptoOps) (kv : KeyView) (d : Bytes), process c kv d ≠ .panic := process_ne_panic

theorem reveal_no_panic : ∀ (c : CryptoOps) (kv : KeyView) (d : Bytes), reveal c kv d ≠ .panic := process_ne_panic

/-- **Protect never brings the handler down** either, whatever bytes it is given (including bytes that
look like an envelope already). -/
theorem protect_no_panic :
    ∀ (c : CryptoOps) (kv : KeyView) (k : Kind) (d rnd : Bytes), protect c kv k d rnd ≠ .panic := protect_ne_panic

/-! ## the column scans stay inside the buffer, terminate, never panic

`scan`, `processStructs`, `processBlocks` are defined by well-founded recursion on the length of the
remaining buffer: their very definition is the termination proof (every iteration consumes at least
one byte). What remains is that the "slice out of range" branches are unreachable.

Model artefact: `Bytes` is a mathematical list, so it can be longer than any Go
slice. For a buffer of `2^63` bytes or more a declared container length `≥ 2^63` passes the (unsigned)
range check of `ExtractSerializedContainer` and becomes negative as `int`
(see `extractContainer_bounds_needs_int_range` at the end). Go slices are shorter than `2^63` bytes,
so the hypothesis `d.length < 2^63` below holds for every input that can exist. -/

/-- **The fix in `ExtractSerializedContainer`**: on success the caller is told to advance by at least
one byte and by no more than the data holds. -/
theorem extractContainer_bounds (d : Bytes) (n : Int) (cont : Bytes) (hd : d.length < 2^63) :
    extractContainer d = .ok (n, cont) → 0 < n ∧ n ≤ d.length := extractContainer_bounds' hd

/-- An extracted AcraBlock is a prefix of the data, at least the 18-byte header long. -/
theorem extractBlock_bounds (d : Bytes) (n : Nat) (b : Bytes) :
    extractBlock d = .ok (n, b) → 18 ≤ n ∧ n ≤ d.length ∧ b = d.take n := extractBlock_bounds'

/-- An extracted AcraStruct is a prefix of the data, at least the 145-byte header long (and it passes
`ValidateAcraStructLength`). -/
theorem extractStruct_bounds (d : Bytes) (n : Nat) (s : Bytes) :
    extractStruct d = .ok (n, s) → 145 ≤ n ∧ n ≤ d.length ∧ s = d.take n ∧ validateStruct s = .ok () :=
  extractStruct_bounds'

/-- **`OnColumn`'s loop never panics, for ALL callback lists**: callbacks are total functions, the
extractor never panics, and the skip length is in range, so `inBuffer[inIndex:]` is always valid. -/
theorem scan_no_panic : ∀ (cbs : List Callback) (rest : Bytes), rest.length < 2^63 → scan cbs rest ≠ .panic :=
  scan_ne_panic

/-- `EnvelopeDetector.OnColumn` never panics. -/
theorem onColumn_no_panic : ∀ (cbs : List Callback) (d : Bytes), d.length < 2^63 → onColumn cbs d ≠ .panic :=
  onColumn_ne_panic

/-- `ProcessAcraStructs` never panics when the per-struct handler does not (the unguarded
`GetDataLengthFromAcraStruct` is only reached with more than 145 bytes left; a declared length that is
non-positive or exceeds the buffer is skipped, not sliced). No length hypothesis needed. -/
theorem processStructs_no_panic (proc : Bytes → Out Bytes) (hp : ∀ x, proc x ≠ .panic) :
    ∀ rest, processStructs proc rest ≠ .panic := processStructs_ne_panic proc hp

/-- `ProcessAcraBlocks` never panics when the per-block handler does not. -/
theorem processBlocks_no_panic (proc : Bytes → Out Bytes) (hp : ∀ x, proc x ≠ .panic) :
    ∀ rest, processBlocks proc rest ≠ .panic := processBlocks_ne_panic proc hp

/-- `OldContainerDetectorWrapper.OnAcraStruct` / `OnAcraBlock` never panic. -/
theorem onBare_no_panic : ∀ (cbs : List Callback) (id : UInt8) (bare : Bytes), onBare cbs id bare ≠ .panic :=
  onBare_ne_panic

/-- **The transparent column processor never panics**: `OldContainerDetectorWrapper.OnColumn`
(container scan, then bare AcraStructs, then bare AcraBlocks) for every callback list and every
column value. -/
theorem onColumnCompat_no_panic :
    ∀ (cbs : List Callback) (d : Bytes), d.length < 2^63 → onColumnCompat cbs d ≠ .panic := onColumnCompat_ne_panic

/-- With the decrypt callback (which swallows every error) the scan never reports a fatal error –
a damaged value cannot turn into a failed query. True for any callbacks that never answer `fatal`. -/
theorem scan_never_fatal (cbs : List Callback) (hc : ∀ cb ∈ cbs, ∀ x, cb x ≠ .fatal) :
    ∀ rest, scan cbs rest ≠ .fatal := scan_ne_fatal cbs hc

theorem scan_decrypt_never_fatal (c : CryptoOps) (kv : KeyView) (rest : Bytes) :
    scan [decryptCallback c kv] rest ≠ .fatal :=
  scan_ne_fatal _ (List.forall_mem_singleton.2 (decryptCallback_ne_fatal c kv)) rest

theorem onColumn_decrypt_never_fatal (c : CryptoOps) (kv : KeyView) (d : Bytes) :
    onColumn [decryptCallback c kv] d ≠ .fatal :=
  onColumn_ne_fatal _ (List.forall_mem_singleton.2 (decryptCallback_ne_fatal c kv)) d

/-- … and the same for the whole compatibility wrapper: neither the container scan nor the legacy
struct/block scans can fail with the decrypt callback. -/
theorem onColumnCompat_decrypt_never_fatal (c : CryptoOps) (kv : KeyView) (d : Bytes) :
    onColumnCompat [decryptCallback c kv] d ≠ .fatal :=
  onColumnCompat_ne_fatal _ (List.forall_mem_singleton.2 (decryptCallback_ne_fatal c kv)) d

/-! ## bounded output (no unbounded allocation) -/

/-- The internal envelope `DeserializeEncryptedData` returns is never longer than its input. -/
theorem deserialize_output_bound (d i : Bytes) (id : UInt8) : deserialize d = .ok (i, id) → i.length ≤ d.length :=
  deserialize_length

/-- **Law-free structural bound on `OnColumn`'s output**: if no callback ever returns more than `B`
bytes, the output has at most `|input| · max 1 B` bytes (each step consumes ≥ 1 input byte and emits
either that byte or one replacement). -/
theorem scan_output_bound (cbs : List Callback) (B : Nat)
    (hc : ∀ cb ∈ cbs, ∀ x b, cb x = .replaced b → b.length ≤ B) (rest out : Bytes) (hit : Bool) :
    scan cbs rest = .ok out hit → out.length ≤ rest.length * max 1 B := scan_output_le cbs B hc rest out hit

/-- **Reveal never grows a value** (laws of the real back end's algorithm: `SealLaws` + `SealLen`, both
proved for the Shim; no commitment assumed): the plaintext is at least 44 bytes shorter than the input. -/
theorem reveal_output_bound (c : CryptoOps) (hs : SealLaws c) (hl : SealLen c) (kv : KeyView) (d m : Bytes) :
    reveal c kv d = .ok m → m.length + 44 ≤ d.length := process_length hs hl

/-- **`OnColumn` with the decrypt callback never grows a value** (same laws): each replacement is
shorter than the declared length of the container it replaces, so the output buffer – allocated
with capacity `len(inBuffer)` in the Go code – never has to grow. -/
theorem scan_decrypt_output_bound (c : CryptoOps) (hs : SealLaws c) (hl : SealLen c) (kv : KeyView)
    (rest out : Bytes) (hit : Bool) :
    scan [decryptCallback c kv] rest = .ok out hit → out.length ≤ rest.length := scan_decrypt_le hs hl kv rest out hit

theorem onColumn_decrypt_output_bound (c : CryptoOps) (hs : SealLaws c) (hl : SealLen c) (kv : KeyView)
    (d out : Bytes) (hit : Bool) :
    onColumn [decryptCallback c kv] d = .ok out hit → out.length ≤ d.length := by
  unfold onColumn
  split
  · intro h; cases h; exact Nat.le_refl _
  · exact scan_decrypt_le hs hl kv d out hit

/-! ## a damaged value is handed back unchanged -/

/-- If at no position the callbacks produce a replacement, the scan output is the input. -/
theorem scan_unchanged (cbs : List Callback) (rest : Bytes)
    (hs : ∀ i, i < rest.length → startsWith containerTag (rest.drop i) = true →
      ∀ n cont, extractContainer (rest.drop i) = .ok (n, cont) → runCallbacks cont cbs = .skip) :
    ∃ hit, scan cbs rest = .ok rest hit := scan_same cbs rest hs

/-- **Whatever cannot be decrypted is returned byte-identical**: if `Process` fails on every suffix of
the column value that starts with the container tag, `OnColumn` with the decrypt callback returns
the value unchanged (and no error). -/
theorem onColumn_damaged_unchanged (c : CryptoOps) (kv : KeyView) (rest : Bytes)
    (hs : ∀ i, i < rest.length → startsWith containerTag (rest.drop i) = true →
      ∀ m, process c kv (rest.drop i) ≠ .ok m) :
    ∃ hit, onColumn [decryptCallback c kv] rest = .ok rest hit :=
  onColumn_decrypt_same c kv rest (fun i hi hst m hm => absurd hm (hs i hi hst m))

/-- **The transparent column processor hands a value it cannot decrypt back byte for byte**
(`OldContainerDetectorWrapper.OnColumn`: container scan, then bare AcraStructs, then bare AcraBlocks).
If `Process` fails at every position where a container tag starts, and on the serialized form of every
contiguous part of the value (that is what the legacy scans hand to the callbacks), the client
receives exactly the stored bytes, and no error. -/
theorem onColumnCompat_damaged_unchanged (c : CryptoOps) (kv : KeyView) (rest : Bytes)
    (h1 : ∀ i, i < rest.length → startsWith containerTag (rest.drop i) = true →
      ∀ m, process c kv (rest.drop i) ≠ .ok m)
    (h2 : ∀ x id s, x <:+: rest → serialize x id = .ok s → ∀ m, process c kv s ≠ .ok m) :
    ∃ hit, onColumnCompat [decryptCallback c kv] rest = .ok rest hit :=
  onColumnCompat_decrypt_same c kv rest h1 h2

/-! ## accepted ⇒ genuine (ideal authenticity of the seal: `SealLaws c`)

What the reader accepts is literally what the writer builds for exactly that plaintext under one of
the reader's keys. Consequences under commitment (`SealCommit c`, never together with a length
law): keeping the sealed data part fixes the plaintext; splicing parts of two values is rejected. -/

/-- **AcraBlock: accepted ⇒ genuine.** If `AcraBlock.Decrypt` returns `m`, then for one of the reader's
keys there are a data key and nonces such that the block, from byte 12 on, is exactly what
`CreateAcraBlock`/`Build` produces: backend ids, the key id of that key, the 2-byte length of the
sealed data key, the data key sealed under the reader's key, and `m` sealed under the data key
(same context). The only bytes `Decrypt` never looks at – hence free – are the first twelve: tag and
rest-length (checked by `ExtractAcraBlockFromData`, see `reveal_genuine`). -/
theorem decryptBlock_genuine (c : CryptoOps) (hs : SealLaws c) (keys : List Bytes) (ctx b m : Bytes)
    (h : decryptBlock c keys ctx b = .ok m) :
    ∃ key ∈ keys, ∃ dek n1 n2 encKey encData,
      n1.length = nonceLen ∧ n2.length = nonceLen ∧
      c.enc key ctx dek n2 = some encKey ∧ c.enc dek ctx m n1 = some encData ∧
      encKey = (b.take (18 + leVal ((b.take 18).drop 16))).drop 18 ∧
      encData = b.drop (18 + leVal ((b.take 18).drop 16)) ∧
      b.drop 12 = (buildBlock (keyId c key ctx) encKey encData).drop 12 := by
  obtain ⟨hl, h12, h15, key, hm, dek, hid, hk, hd⟩ := decryptBlock_ok_parts h
  obtain ⟨n2, hn2, e2⟩ := hs.enc_of_dec _ _ _ _ hk
  obtain ⟨n1, hn1, e1⟩ := hs.enc_of_dec _ _ _ _ hd
  refine ⟨key, hm, dek, n1, n2, blockEncKey b, blockEncData b, hn1, hn2, e2, e1, rfl, rfl, ?_⟩
  rw [hid]
  exact block_layout_from12 b hl h12 h15

/-- **AcraStruct: accepted ⇒ genuine.** If `DecryptAcrastruct` returns `m`, the input is
`tag | pub(45) | wrapped(84) | len(8) | body` with `len = |body|`, the wrapped key unwraps under the
reader's private key to a symmetric key, and `body` is `m` sealed under that key and the context –
the shape `CreateAcrastruct` produces. -/
theorem decryptStruct_genuine (c : CryptoOps) (hs : SealLaws c) (priv ctx d m : Bytes)
    (h : decryptStruct c priv ctx d = .ok m) :
    ∃ pub wrapped body symKey n2, pub.length = 45 ∧ wrapped.length = 84 ∧ n2.length = nonceLen ∧
      d = structTag ++ pub ++ wrapped ++ leBytes 8 body.length ++ body ∧
      c.unwrap priv pub wrapped = some symKey ∧ symKey ≠ [] ∧ c.enc symKey ctx m n2 = some body := by
  obtain ⟨hv, symKey, hne, hu, hd⟩ := decryptStruct_ok_parts h
  obtain ⟨n2, hn2, e2⟩ := hs.enc_of_dec _ _ _ _ hd
  have hl := (validateStruct_ok hv).1
  refine ⟨(d.drop 8).take 45, (d.drop 53).take 84, d.drop 145, symKey, n2, ?_, ?_, hn2,
    validateStruct_layout hv, hu, hne, e2⟩
  · rw [List.length_take, List.length_drop]; omega
  · rw [List.length_take, List.length_drop]; omega

/-- … and when the ephemeral public key in the AcraStruct belongs to a valid key pair (as it does when
`CreateAcrastruct` made it) and the reader's key is valid, the wrapped key is literally
`wrap ePriv (pubOf priv) symKey` (ideal authenticity of Secure Message, `MsgLaws c`). -/
theorem decryptStruct_genuine_sender (c : CryptoOps) (hs : SealLaws c) (hm : MsgLaws c) (priv ePriv ctx rest m : Bytes)
    (hp : c.validPriv priv = true) (he : c.validPriv ePriv = true)
    (h : decryptStruct c priv ctx (structTag ++ c.pubOf ePriv ++ rest) = .ok m) (hlen : (c.pubOf ePriv).length = 45) :
    ∃ wrapped body symKey n1 n2, n1.length = nonceLen ∧ n2.length = nonceLen ∧
      rest = wrapped ++ leBytes 8 body.length ++ body ∧
      c.wrap ePriv (c.pubOf priv) symKey n1 = some wrapped ∧ c.enc symKey ctx m n2 = some body := by
  obtain ⟨pub, wrapped, body, symKey, n2, hpl, hwl, hn2, hd, hu, _, e2⟩ := decryptStruct_genuine c hs _ _ _ _ h
  simp only [List.append_assoc] at hd
  have h1 := List.append_cancel_left hd
  have h2 := List.append_inj h1 (by rw [hlen, hpl])
  obtain ⟨h3, h4⟩ := h2
  subst h3
  obtain ⟨n1, hn1, e1⟩ := hm.wrap_of_unwrap ePriv priv wrapped symKey he hp hu
  exact ⟨wrapped, body, symKey, n1, n2, hn1, hn2, by rw [h4]; simp, e1, e2⟩

/-- **No mis-decryption (AcraBlock).** Whoever keeps the sealed data part of a value cannot make the
reader return anything but the original plaintext, whatever else is modified, truncated, extended
or spliced (tag, lengths, backend ids, key id, key part): if the bytes after the key part are a
ciphertext of `m0` and the block decrypts at all, it decrypts to `m0` – and only in the original
context. -/
theorem block_no_misdecrypt (c : CryptoOps) (hs : SealLaws c) (hc : SealCommit c) (keys : List Bytes)
    (ctx b m dek0 ctx0 m0 n0 ct0 : Bytes) (h : decryptBlock c keys ctx b = .ok m)
    (hdata : b.drop (18 + leVal ((b.take 18).drop 16)) = ct0) (h0 : c.enc dek0 ctx0 m0 n0 = some ct0) :
    m = m0 ∧ ctx = ctx0 := by
  obtain ⟨key, _, dek, n1, n2, encKey, encData, _, _, _, e1, _, hed, _⟩ := decryptBlock_genuine c hs keys ctx b m h
  rw [hed, hdata] at e1
  obtain ⟨_, h2, h3⟩ := hc.enc_inj _ _ _ _ _ _ _ _ _ e1 h0
  exact ⟨h3, h2⟩

/-- **Splicing is rejected (AcraBlock).** The key part of one value (data key `dek1`) combined with the
data part of another value (sealed under `dek2 ≠ dek1`) is never accepted, under any key list. -/
theorem block_splice_rejected (c : CryptoOps) (hs : SealLaws c) (hc : SealCommit c) (keys : List Bytes)
    (ctx b key1 dek1 nk encKey1 dek2 ctx2 m2 nd ct2 : Bytes)
    (hk : c.enc key1 ctx dek1 nk = some encKey1) (hd : c.enc dek2 ctx2 m2 nd = some ct2) (hne : dek1 ≠ dek2)
    (hkey : (b.take (18 + leVal ((b.take 18).drop 16))).drop 18 = encKey1)
    (hdata : b.drop (18 + leVal ((b.take 18).drop 16)) = ct2) :
    ∀ m, decryptBlock c keys ctx b ≠ .ok m := by
  intro m h
  obtain ⟨key, _, dek, n1, n2, encKey, encData, _, _, e2, e1, hek, hed, _⟩ := decryptBlock_genuine c hs keys ctx b m h
  rw [hek, hkey] at e2
  rw [hed, hdata] at e1
  obtain ⟨_, _, h3⟩ := hc.enc_inj _ _ _ _ _ _ _ _ _ e2 hk
  obtain ⟨h4, _, _⟩ := hc.enc_inj _ _ _ _ _ _ _ _ _ e1 hd
  exact hne (h3.symm.trans h4)

/-- **No mis-decryption (AcraStruct).** If the sealed body of an AcraStruct (the bytes after the
145-byte header) is a ciphertext of `m0`, a successful decryption yields `m0`, in the original context. -/
theorem struct_no_misdecrypt (c : CryptoOps) (hs : SealLaws c) (hc : SealCommit c)
    (priv ctx d m k0 ctx0 m0 n0 ct0 : Bytes) (h : decryptStruct c priv ctx d = .ok m)
    (hdata : d.drop 145 = ct0) (h0 : c.enc k0 ctx0 m0 n0 = some ct0) : m = m0 ∧ ctx = ctx0 := by
  obtain ⟨_, symKey, _, _, hd⟩ := decryptStruct_ok_parts h
  obtain ⟨n2, _, e2⟩ := hs.enc_of_dec _ _ _ _ hd
  rw [hdata] at e2
  obtain ⟨_, h2, h3⟩ := hc.enc_inj _ _ _ _ _ _ _ _ _ e2 h0
  exact ⟨h3, h2⟩

/-- **Reveal: accepted ⇒ genuine.** If `RegistryHandler.Process` returns `m` for `d`, then the internal
envelope `DeserializeEncryptedData` cuts out of `d` (the declared-length part of a serialized
container, or `d` itself for a bare envelope) is
* either *exactly* the AcraBlock `Build` produces for `m` – tag, rest-length and all – under one of
  the client's symmetric keys (empty context),
* or an AcraStruct of the shape `CreateAcrastruct` produces for `m`, whose wrapped key unwraps under
  one of the server's private keys.
In particular a value altered anywhere inside the internal envelope reveals to the original plaintext
or fails; bytes of `d` outside the internal envelope are only the 12-byte container header and
whatever follows the declared length. -/
theorem reveal_genuine (c : CryptoOps) (hs : SealLaws c) (kv : KeyView) (d m : Bytes) (h : reveal c kv d = .ok m) :
    ∃ internal id, deserialize d = .ok (internal, id) ∧
      ((id = idBlock ∧ ∃ ks, kv.syms = some ks ∧ ∃ key ∈ ks, ∃ dek n1 n2 encKey encData,
          n1.length = nonceLen ∧ n2.length = nonceLen ∧
          c.enc key [] dek n2 = some encKey ∧ c.enc dek [] m n1 = some encData ∧
          internal = buildBlock (keyId c key []) encKey encData) ∨
       (id = idStruct ∧ ∃ ps, kv.privs = some ps ∧ ∃ priv ∈ ps, ∃ pub wrapped body symKey n2,
          pub.length = 45 ∧ wrapped.length = 84 ∧ n2.length = nonceLen ∧
          internal = structTag ++ pub ++ wrapped ++ leBytes 8 body.length ++ body ∧
          c.unwrap priv pub wrapped = some symKey ∧ symKey ≠ [] ∧ c.enc symKey [] m n2 = some body)) := by
  obtain ⟨k, i, hd, hk⟩ := process_ok h
  refine ⟨i, k.id, hd, ?_⟩
  cases k with
  | block =>
    left
    obtain ⟨hh, hr, _, ks, hks, hdec⟩ := decryptKind_block_ok hk
    obtain ⟨hl, h12, h15, key, hm, dek, hid, hkd, hdd⟩ := decryptBlock_ok_parts hdec
    obtain ⟨n2, hn2, e2⟩ := hs.enc_of_dec _ _ _ _ hkd
    obtain ⟨n1, hn1, e1⟩ := hs.enc_of_dec _ _ _ _ hdd
    refine ⟨rfl, ks, hks, key, hm, dek, n1, n2, blockEncKey i, blockEncData i, hn1, hn2, e2, e1, ?_⟩
    rw [hid]
    exact block_layout_full i hl h12 h15 ((blockHeaderOk_iff i).1 hh).1 hr
  | struct =>
    right
    obtain ⟨ps, hps, priv, hpm, hdec⟩ := decryptKind_struct_ok hk
    exact ⟨rfl, ps, hps, priv, hpm, decryptStruct_genuine c hs priv [] i m hdec⟩

/-- **Reveal never yields different plaintext.** If the data part of the internal AcraBlock (or the body
of the internal AcraStruct) of `d` is a ciphertext of `m0`, then `reveal` either fails or returns
exactly `m0` – whatever else in `d` was flipped, truncated, extended, re-typed or spliced in. -/
theorem reveal_no_misdecrypt (c : CryptoOps) (hs : SealLaws c) (hc : SealCommit c) (kv : KeyView)
    (d internal : Bytes) (id : UInt8) (k0 ctx0 m0 n0 ct0 : Bytes)
    (hd : deserialize d = .ok (internal, id)) (h0 : c.enc k0 ctx0 m0 n0 = some ct0)
    (hdata : (id = idBlock ∧ internal.drop (18 + leVal ((internal.take 18).drop 16)) = ct0) ∨
             (id = idStruct ∧ internal.drop 145 = ct0)) :
    reveal c kv d = .err ∨ reveal c kv d = .ok m0 := by
  cases hr : reveal c kv d with
  | err => exact .inl rfl
  | panic => exact absurd hr (process_ne_panic c kv d)
  | ok m =>
    right
    obtain ⟨k, i, hd', hk⟩ := process_ok hr
    rw [hd] at hd'
    simp only [Out.ok.injEq, Prod.mk.injEq] at hd'
    obtain ⟨rfl, hid⟩ := hd'
    cases k with
    | block =>
      rcases hdata with ⟨_, hdat⟩ | ⟨hi, _⟩
      · obtain ⟨_, _, _, ks, _, hdec⟩ := decryptKind_block_ok hk
        rw [(block_no_misdecrypt c hs hc ks [] internal m k0 ctx0 m0 n0 ct0 hdec hdat h0).1]
      · rw [hi] at hid; exact absurd hid (by decide)
    | struct =>
      rcases hdata with ⟨hi, _⟩ | ⟨_, hdat⟩
      · rw [hi] at hid; exact absurd hid (by decide)
      · obtain ⟨ps, _, priv, _, hdec⟩ := decryptKind_struct_ok hk
        rw [(struct_no_misdecrypt c hs hc priv [] internal m k0 ctx0 m0 n0 ct0 hdec hdat h0).1]

/-! ## a swapped search hash

A searchable value is stored as `hash ++ envelope` (`hash` = function number + HMAC of the plaintext).
The searchable reveal entry points – `DecryptRotatedSearchableAcraStruct` / `…AcraBlock`
(`decryptSearchableStruct/Block`), AcraTranslator `DecryptSearchable` / `DecryptSymSearchable`
(`Searchable.translatorDecrypt`, the core of `Translator.decryptSearchableWith`) and the two-pass
`hmac.Processor` around the envelope detector in the SQL proxies (`Searchable.column`) – re-verify the
hash after decryption. The theorems below are derived from C09's `bad_index_not_valid*`. -/

section SearchableHash
open AcraModel.Searchable AcraModel.Envelope.Translator

/-- Generic form (`NewHashProcessor` around any decrypting function `proc`). The envelope `e` is intact
and `proc` reveals `m` from it; the 33 bytes in front of it were replaced by ANY well-formed hash `h'`
(known function number, 32 more bytes – so that it is cut off as a hash). Then: whatever is accepted is
exactly `m`, and that happens only if `h'` is the genuine index of `m`; any other `h'` makes the reveal
fail (an error – not a panic, not another plaintext). -/
theorem searchable_hash_checked (c : CryptoOps) (hl : HashLen c) (k : Bytes) (proc : Bytes → Out Bytes)
    (h' e m : Bytes) (hwf : extractHash (h' ++ e) = some h') (hdec : proc e = .ok m) :
    (∀ p, hashProcessor c (some k) proc (h' ++ e) = .ok p → p = m ∧ h' = generateHMAC c k m) ∧
    (h' ≠ generateHMAC c k m → hashProcessor c (some k) proc (h' ++ e) = .err) ∧
    (h' = generateHMAC c k m → hashProcessor c (some k) proc (h' ++ e) = .ok m) := by
  rw [hashProcessor_hashed c hl k hwf hdec]
  by_cases heq : h' = generateHMAC c k m
  · rw [if_pos heq]
    exact ⟨fun p hp => ⟨(Out.ok.inj hp).symm, heq⟩, fun hne => absurd heq hne, fun _ => rfl⟩
  · rw [if_neg heq]
    exact ⟨fun p hp => (nomatch hp), fun _ => rfl, fun h => absurd h heq⟩

/-- **A swapped search hash makes every searchable reveal fail.** `e` is an intact envelope of `m`
(each entry point's own decrypt step reveals `m` from it) and `h'` any well-formed hash other than the
genuine index of `m` put in front of it. Then
* the library calls `DecryptRotatedSearchableAcraStruct` / `DecryptRotatedSearchableAcraBlock` return an error,
* AcraTranslator's `DecryptSearchable` / `DecryptSymSearchable` answer with an error, whether the hash
  is passed as the separate argument or concatenated in front of the envelope,
* the SQL proxies' chain `hmacProcessor → detector → hmacProcessor` hands the client the STORED bytes
  unchanged (never the decrypted ones) and keeps no state for the next column. -/
theorem searchable_hash_swap (c : CryptoOps) (hl : HashLen c) (k : Bytes) (h' e m : Bytes)
    (hwf : extractHash (h' ++ e) = some h') (hne : h' ≠ generateHMAC c k m) :
    (∀ privs ctx, decryptStructRotated c ctx e privs = .ok m → decryptSearchableStruct c k privs ctx (h' ++ e) = .err) ∧
    (∀ keys ctx, decryptWholeBlock c keys ctx e = .ok m → decryptSearchableBlock c k keys ctx (h' ++ e) = .err) ∧
    (∀ kv kd, decryptWithHandler c kv kd e = .ok m → Searchable.translatorDecrypt c (some k) kv kd (h' ++ e) = .err) ∧
    (∀ (st : Store) id kd, st.hmac id = some k → decryptWithHandler c (st.keys id) kd e = .ok m →
      (decryptSearchableWith kd c st e (some h') (some id) none).1 = .err ∧
      (decryptSearchableWith kd c st (h' ++ e) none (some id) none).1 = .err) ∧
    (∀ det s hit, matchEnvelope e = .ok true → det e = .ok m hit →
      column c (some k) det s (h' ++ e) = .ok (PState.init, some (h' ++ e))) := by
  have hp : ∀ proc : Bytes → Out Bytes, proc e = .ok m → hashProcessor c (some k) proc (h' ++ e) = .err :=
    fun proc hd => (hashProcessor_hashed c hl k hwf hd).trans (if_neg hne)
  have htr : ∀ kv kd, decryptWithHandler c kv kd e = .ok m → Searchable.translatorDecrypt c (some k) kv kd (h' ++ e) = .err := by
    intro kv kd hd
    rw [translatorDecrypt_eq, hwf]
    exact hp _ hd
  refine ⟨fun privs ctx hd => hp _ hd, fun keys ctx hd => hp _ hd, htr, ?_, ?_⟩
  · intro st id kd hk hd
    rw [decryptSearchableWith_fst, decryptSearchableWith_fst, hk]
    exact ⟨htr _ kd hd, htr _ kd hd⟩
  · intro det s hit hm hd
    have hdrop : (h' ++ e).drop h'.length = e := List.drop_left
    exact (C09.bad_index_not_valid_proxy c hl k det s (h' ++ e) h' m hit hwf (by rw [hdrop]; exact hm)
      (by rw [hdrop]; exact hd)).1 hne

/-- **The hash of value A in front of the envelope of value B.** If HMAC under the client's key does
not collide on the two values at hand (finite hypothesis `NoColl` on `{a, m}` – not injectivity on all
byte strings, which 32-byte MACs cannot have), the index of `a ≠ m` in front of an envelope of `m` is a
swapped hash in the sense of `searchable_hash_swap`: every searchable reveal entry point fails (the
transparent path returns the stored bytes). -/
theorem searchable_hash_of_other_value (c : CryptoOps) (hl : HashLen c) (k a e m : Bytes)
    (hnc : NoColl c k (fun v => v = a ∨ v = m)) (ham : a ≠ m) :
    extractHash (generateHMAC c k a ++ e) = some (generateHMAC c k a) ∧
    generateHMAC c k a ≠ generateHMAC c k m ∧
    (∀ kv kd, decryptWithHandler c kv kd e = .ok m →
      Searchable.translatorDecrypt c (some k) kv kd (generateHMAC c k a ++ e) = .err) ∧
    (∀ keys ctx, decryptWholeBlock c keys ctx e = .ok m →
      decryptSearchableBlock c k keys ctx (generateHMAC c k a ++ e) = .err) ∧
    (∀ privs ctx, decryptStructRotated c ctx e privs = .ok m →
      decryptSearchableStruct c k privs ctx (generateHMAC c k a ++ e) = .err) ∧
    (∀ det s hit, matchEnvelope e = .ok true → det e = .ok m hit →
      column c (some k) det s (generateHMAC c k a ++ e) = .ok (PState.init, some (generateHMAC c k a ++ e))) := by
  have hwf := extractHash_stored c hl k a e
  have hne : generateHMAC c k a ≠ generateHMAC c k m := fun h =>
    ham (hnc a m (Or.inl rfl) (Or.inr rfl) ((generateHMAC_eq_iff c k a m).mp h))
  obtain ⟨h1, h2, h3, _, h5⟩ := searchable_hash_swap c hl k (generateHMAC c k a) e m hwf hne
  exact ⟨hwf, hne, h3, h2, h1, h5⟩

/-- **Hash function byte changed / hash cut short.** When the bytes in front of the envelope do not
start with a registered hash function number, or fewer than 33 bytes are there at all, nothing is cut
off as a hash: AcraTranslator's searchable decrypts answer with an error at once, for any keys. -/
theorem searchable_hash_unknown_function (c : CryptoOps) (hkey : Option Bytes) (kv : KeyView) (kd : Kind) (d : Bytes)
    (h : d.length < hashSize ∨ ∃ b rest, d = b :: rest ∧ knownFunc b = false) :
    Searchable.translatorDecrypt c hkey kv kd d = .err := by
  have hx : extractHash d = none := by
    rcases h with h | ⟨b, rest, rfl, hk⟩
    · cases d with
      | nil => rfl
      | cons b rest =>
        have : rest.length < macLen := by rw [List.length_cons, hashSize_eq] at h; rw [macLen_eq]; omega
        simp [extractHash, this]
    · simp [extractHash, hk]
  unfold Searchable.translatorDecrypt extractHashAndData
  rw [hx]

/-- Whatever a searchable reveal entry point accepts (any input, damaged in any way) carries in front
the genuine index of exactly the plaintext handed out, and the rest of the input decrypts to that
plaintext – the hash can never "validate" different content. (C09's `bad_index_not_valid*` for the
library calls and the translator, restated next to the other C03 acceptance theorems.) -/
theorem searchable_accept_is_genuine (c : CryptoOps) (hl : HashLen c) (k : Bytes) (data h p : Bytes)
    (he : extractHash data = some h) :
    (∀ privs ctx, decryptSearchableStruct c k privs ctx data = .ok p →
      h = generateHMAC c k p ∧ decryptStructRotated c ctx (data.drop h.length) privs = .ok p) ∧
    (∀ keys ctx, decryptSearchableBlock c k keys ctx data = .ok p →
      h = generateHMAC c k p ∧ decryptWholeBlock c keys ctx (data.drop h.length) = .ok p) ∧
    (∀ kv kd, Searchable.translatorDecrypt c (some k) kv kd data = .ok p →
      h = generateHMAC c k p ∧ decryptWithHandler c kv kd (data.drop h.length) = .ok p) :=
  ⟨fun _ _ hok => C09.bad_index_not_valid c hl k _ data h p he hok,
   fun _ _ hok => C09.bad_index_not_valid c hl k _ data h p he hok,
   fun kv kd hok => ⟨C09.bad_index_not_valid_translator c hl k kv kd data h p he hok,
     (translatorDecrypt_checked c (some k) kv kd data h p he hok).1⟩⟩

/-- **The genuine hash pins the plaintext.** Take ANY input that still starts with the genuine index of `m`
(the envelope behind it may have been flipped, truncated, extended, re-typed or replaced by another
value's envelope): whatever a searchable reveal entry point accepts has the same HMAC as `m` – so, HMAC
not colliding on the two values at hand, it IS `m`. A spliced envelope of another value behind the hash of
`m` is therefore rejected by the hash check even where the envelope itself is intact. -/
theorem searchable_hash_pins_plaintext (c : CryptoOps) (hl : HashLen c) (k m rest p : Bytes)
    (hnc : NoColl c k (fun v => v = p ∨ v = m)) :
    (∀ privs ctx, decryptSearchableStruct c k privs ctx (generateHMAC c k m ++ rest) = .ok p → p = m) ∧
    (∀ keys ctx, decryptSearchableBlock c k keys ctx (generateHMAC c k m ++ rest) = .ok p → p = m) ∧
    (∀ kv kd, Searchable.translatorDecrypt c (some k) kv kd (generateHMAC c k m ++ rest) = .ok p → p = m) := by
  have he := extractHash_stored c hl k m rest
  have hpin : generateHMAC c k m = generateHMAC c k p → p = m := fun h =>
    hnc p m (Or.inl rfl) (Or.inr rfl) ((generateHMAC_eq_iff c k p m).mp h.symm)
  exact ⟨fun _ _ hok => hpin (C09.bad_index_not_valid c hl k _ _ _ p he hok).1,
         fun _ _ hok => hpin (C09.bad_index_not_valid c hl k _ _ _ p he hok).1,
         fun kv kd hok => hpin (C09.bad_index_not_valid_translator c hl k kv kd _ _ p he hok)⟩

/-- no searchable reveal entry point panics where its decrypt step does not: the hash handling itself
(cutting off, comparing) has no failing slice or index -/
theorem searchable_reveal_no_panic (c : CryptoOps) (hkey : Option Bytes) (kv : KeyView) (kd : Kind) (d : Bytes) :
    Searchable.translatorDecrypt c hkey kv kd d ≠ .panic ∧
    (∀ proc : Bytes → Out Bytes, (∀ x, proc x ≠ .panic) → hashProcessor c hkey proc d ≠ .panic) := by
  refine ⟨?_, fun proc hp => hashProcessor_ne_panic c hkey hp d⟩
  rw [translatorDecrypt_eq]
  split
  · exact fun h => nomatch h
  · exact hashProcessor_ne_panic c hkey (decryptWithHandler_ne_panic c kv kd) d

/-! ### splices: something between the hash and the envelope

`hashA ++ hashB ++ envB` (the hash of one stored value put in front of the whole of another),
`hashA ++ junk ++ envA`, `hash ++ window bytes ++ envelope`: the column still starts with a well-formed
search hash, but the envelope no longer follows it directly. -/

open Generated.SearchMatcher in
/-- `EnvelopeMatcher.Match` hands the WHOLE data to the envelope detector – the detector's loop visits
every offset – and reports whether the matcher's callback (which only raises a flag and returns the
container unchanged) was invoked: this is `Searchable.matchEnvelope`. The first call of
`hmac.Processor.OnColumn` asks it about everything behind the extracted hash
(`data[p.matchedHash.Length():]`) and cuts the hash off – remembering it and the raw column – exactly when
the answer is "matched": this is the first branch of `Searchable.pOnColumn`. A shortcut in `Match` that
answers without running the detector (e.g. "data does not *start* with a tag") changes the first list. -/
theorem fact_matcher_whole_data :
    matcherMatchBody = ["matcher.detector.OnColumn(context.TODO(), data)", "result := matcher.matched", "matcher.matched = false", "return result"] ∧
    matcherNewBody = ["envelopeDetector := NewEnvelopeDetector()", "var detector base.DecryptionSubscriber = envelopeDetector", "if base.OldContainerDetectionOn { detector = NewOldContainerDetectorWrapper(envelopeDetector) }", "matcher := &EnvelopeMatcher{detector: detector}", "envelopeDetector.AddCallback(matcher)", "return matcher"] ∧
    matcherCallbackBody = ["matcher.matched = true", "return container, nil"] ∧
    processorMatchArgs = ["data[p.matchedHash.Length():]"] ∧
    processorFirstCall = ["ctx = context.WithValue(ctx, onColumnCalledCtxKey{}, true)", "p.hashData, p.matchedHash, p.rawData = nil, nil, nil", "p.matchedHash = ExtractHash(data)", "if p.matchedHash == nil { return ctx, data, nil }", "if !p.envelopeMatcher.Match(data[p.matchedHash.Length():]) { p.matchedHash = nil return ctx, data, nil }", "p.rawData = make([]byte, len(data))", "copy(p.rawData, data)", "p.hashData = p.rawData[:p.matchedHash.Length()]", "return ctx, data[p.matchedHash.Length():], nil"] := by
  refine ⟨by rfl, by rfl, by rfl, by rfl, by rfl⟩

/-- **`Match` finds an envelope at ANY offset.** Whatever bytes `pre` stand in front of it: if the data from
some offset on starts with the container tag and `ExtractSerializedContainer` accepts it (the declared length
covers the header and fits into what is there – true of every stored envelope, whatever follows it),
`EnvelopeMatcher.Match(pre ++ rest)` is true. -/
theorem match_finds_envelope_anywhere (pre rest : Bytes) (n : Int) (cont : Bytes)
    (ht : startsWith containerTag rest = true) (he : extractContainer rest = .ok (n, cont)) :
    matchEnvelope (pre ++ rest) = .ok true :=
  matchEnvelope_finds_container pre rest n cont ht he

/-- **No partial reveal behind a search hash.** Take EVERY column value of the shape `h ++ pre ++ rest`
where `h` is cut off as a search hash (33 bytes starting with the hash function number) and `rest` starts
with a serialized envelope – at any distance `pre` from the hash: another value's hash, inserted bytes, the
clear window of a masked value, nothing. Whatever the detector `det` of the chain does (any keys, any
callbacks): if the two-pass chain `hmacProcessor → detector → hmacProcessor` delivers a value `out` at all,
then `out` is either the STORED bytes, unchanged, or it is exactly what the detector made of everything
behind the hash AND `h` is the genuine search index of that very output. It is never `h ++ …plaintext…`:
the hash is cut off whenever an envelope follows anywhere, and what is then delivered is verified against
it. (A detector that fails fatally delivers nothing through this chain; the state is left clean otherwise.) -/
theorem searchable_splice_no_partial_reveal (c : CryptoOps) (hl : HashLen c) (k : Bytes) (det : Bytes → ScanOut)
    (s : PState) (h pre rest : Bytes) (n : Int) (cont : Bytes)
    (hwf : extractHash (h ++ (pre ++ rest)) = some h)
    (ht : startsWith containerTag rest = true) (he : extractContainer rest = .ok (n, cont))
    (s' : PState) (out : Bytes)
    (hcol : column c (some k) det s (h ++ (pre ++ rest)) = .ok (s', some out)) :
    s' = PState.init ∧
    (out = h ++ (pre ++ rest) ∨
      ∃ hit, det (pre ++ rest) = .ok out hit ∧ h = generateHMAC c k out) := by
  have hdrop : (h ++ (pre ++ rest)).drop h.length = pre ++ rest := List.drop_left
  have hm := matchEnvelope_finds_container pre rest n cont ht he
  cases hd : det (pre ++ rest) with
  | ok d hit =>
    obtain ⟨h1, h2⟩ := C09.bad_index_not_valid_proxy c hl k det s (h ++ (pre ++ rest)) h d hit hwf
      (by rw [hdrop]; exact hm) (by rw [hdrop]; exact hd)
    by_cases hq : h = generateHMAC c k d
    · cases (h2 hq).symm.trans hcol
      exact ⟨rfl, Or.inr ⟨hit, rfl, hq⟩⟩
    · cases (h1 hq).symm.trans hcol
      exact ⟨rfl, Or.inl rfl⟩
  | _ =>
    simp only [column, columnWith, pOnColumn, Bool.false_eq_true, if_false, hwf, hdrop, hm, hd] at hcol
    cases hcol

/-- **… so behind the genuine hash of `m` only `m` or the stored bytes come out.** If the 33 bytes in front
are the genuine index of `m` (value A's hash) and HMAC does not collide on `m` and the delivered value
(finite `NoColl`), a splice `hash(m) ++ pre ++ envelope…` comes back as stored or – when what the detector
made of `pre ++ envelope…` is `m` itself, i.e. `pre` is empty and the envelope is `m`'s – as `m`. In
particular `hashA ++ hashB ++ envB` is never delivered as `hashA ++ hashB ++ B`, nor as `hashB ++ B`. -/
theorem searchable_splice_genuine_or_stored (c : CryptoOps) (hl : HashLen c) (k : Bytes) (det : Bytes → ScanOut)
    (s : PState) (m pre rest : Bytes) (n : Int) (cont : Bytes)
    (ht : startsWith containerTag rest = true) (he : extractContainer rest = .ok (n, cont))
    (s' : PState) (out : Bytes)
    (hnc : NoColl c k (fun v => v = out ∨ v = m))
    (hcol : column c (some k) det s (generateHMAC c k m ++ (pre ++ rest)) = .ok (s', some out)) :
    out = generateHMAC c k m ++ (pre ++ rest) ∨ out = m := by
  have hwf := extractHash_stored c hl k m (pre ++ rest)
  rcases (searchable_splice_no_partial_reveal c hl k det s _ pre rest n cont hwf ht he s' out hcol).2 with h | ⟨_, _, hq⟩
  · exact Or.inl h
  · exact Or.inr (hnc out m (Or.inl rfl) (Or.inr rfl) ((generateHMAC_eq_iff c k out m).mp hq.symm))

end SearchableHash

/-! ## non-vacuity

Concrete values live in `Envelope/SafeExamples.lean`: `exBlock` is a genuine AcraBlock of `exMsg = [1,2,3]`
under `exKey` built with the Box back end (175 bytes), `exContainer` its serialized container
(187 bytes), `exDamaged` the container with one byte of the key part changed, `exSpliced` the key
part of one value with the data part of another, `exBadBackend` the block with an unregistered backend
id, `exStruct` a well-formed AcraStruct header with three data bytes. -/


/-- why `d.length < 2^63` is needed in group B (and only there): on a buffer of `2^63` bytes whose
declared container length is `2^63`, `ExtractSerializedContainer` succeeds with a *negative* `int` … -/
theorem extractContainer_bounds_needs_int_range :
    ∃ (d : Bytes) (n : Int) (cont : Bytes), extractContainer d = .ok (n, cont) ∧ n < 0 :=
  ⟨hugeHdr ++ List.replicate (2^63) 0, _, _, extractContainer_huge _ List.length_replicate, toInt64_huge⟩

/-- … and the loop would slice out of range. No Go slice is that long. -/
theorem scan_no_panic_needs_int_range : ∃ (cbs : List Callback) (rest : Bytes), scan cbs rest = .panic :=
  ⟨_, _, scan_huge (List.replicate (2^63) 0) List.length_replicate⟩

/-- the law bundles of group E are satisfiable: Box has seal authenticity + commitment + message laws,
the Shim (the algorithm the harness links Acra against) has the authenticity and length laws -/
example : SealLaws boxOps ∧ SealCommit boxOps ∧ MsgLaws boxOps := ⟨Box.sealLaws, Box.sealCommit, Box.msgLaws⟩
example : SealLaws shimOps ∧ MsgLaws shimOps := ⟨shim_sealLaws, shim_msgLaws⟩
/-- the bundle of the output bounds in group C (no commitment there) -/
example : SealLaws shimOps ∧ SealLen shimOps := ⟨shim_sealLaws, shim_sealLen⟩

/-- group E' (swapped search hash) is applicable: an instance with 32-byte MACs (`C09.lenOps`, Box
sealing), a genuine serialized AcraBlock of `exMsg` that the block handler reveals, the index of the
other value `exMsg2` as well-formed swapped hash, and no collision between the two values -/
example :
    let e := unwrapOr (protect C09.lenOps exKv .block exMsg exRnd)
    let h' := Searchable.generateHMAC C09.lenOps [1] exMsg2
    HashLen C09.lenOps ∧ Searchable.extractHash (h' ++ e) = some h' ∧ h' ≠ Searchable.generateHMAC C09.lenOps [1] exMsg ∧
    decryptWithHandler C09.lenOps exKv .block e = .ok exMsg ∧
    Searchable.decryptWholeBlock C09.lenOps [exKey2, exKey] [] (e.drop 12) = .ok exMsg ∧
    Searchable.translatorDecrypt C09.lenOps (some [1]) exKv .block (h' ++ e) = .err ∧
    Searchable.translatorDecrypt C09.lenOps (some [1]) exKv .block (Searchable.generateHMAC C09.lenOps [1] exMsg ++ e) = .ok exMsg ∧
    Searchable.NoColl C09.lenOps [1] (fun v => v = exMsg2 ∨ v = exMsg) := by
  intro e h'
  refine ⟨C09.lenOps_hashLen, ?_⟩
  -- the six evaluated parts as one conjunct: one evaluation of `e` serves them all
  simp only [← and_assoc]
  refine ⟨by decide +kernel, ?_⟩
  intro a b ha hb h
  rcases ha with rfl | rfl <;> rcases hb with rfl | rfl
  · rfl
  · exact absurd h (by decide)
  · exact absurd h (by decide)
  · rfl

/-- the splice theorems are applicable: `hashA ++ hashB ++ envB…` with the index of `exMsg2` in front of the
index of `exMsg` in front of a genuine serialized container followed by more bytes – the column starts with a
well-formed hash, the envelope is recognised at offset 33 of what follows the hash, and `Match` finds it there -/
example :
    let rest := exContainer ++ [1, 2, 3]
    let hA := Searchable.generateHMAC C09.lenOps [1] exMsg2
    let hB := Searchable.generateHMAC C09.lenOps [1] exMsg
    Searchable.extractHash (hA ++ (hB ++ rest)) = some hA ∧ startsWith containerTag rest = true ∧
    extractContainer rest = .ok (187, rest) ∧ Searchable.matchEnvelope (hB ++ rest) = .ok true := by
  intro rest hA hB
  simp only [← and_assoc]
  exact (fun h => ⟨h, match_finds_envelope_anywhere hB rest 187 rest h.1.2 h.2⟩) (by decide +kernel)

/-- decoders: both an error and a success occur (block family) -/
example : extractBlock [] = .err ∧ extractBlock (exBlock ++ [1, 2]) = .ok (175, exBlock) := by decide +kernel
example : decryptBlock boxOps [exKey2, exKey] [] exBlock = .ok exMsg ∧
    decryptBlock boxOps [exKey2] [] exBlock = .err := by decide +kernel
/-- `decryptBlock` does panic on bytes `extractBlock` rejects (unregistered backend, matching key id):
the hypothesis of `decryptBlock_extracted_no_panic` is needed and is met by `exBlock` -/
example : decryptBlock boxOps [exKey] [] exBadBackend = .panic ∧ extractBlock exBadBackend = .err := by decide +kernel

/-- struct family -/
example : validateStruct [] = .err ∧ validateStruct exStruct = .ok () := by decide +kernel
example : getDataLength [] = .panic ∧ getDataLength exStruct = .ok 3 := by decide +kernel
example : extractStruct [] = .err ∧ extractStruct (exStruct ++ [1, 2]) = .ok (148, exStruct) := by decide +kernel
example : decryptStruct boxOps [1] [] exStruct = .err ∧ decryptStruct safeToyOps [1] [] exStruct = .ok [9, 9, 9] ∧
    decryptStructRotated safeToyOps [] exStruct [] = .err ∧ decryptStructRotated safeToyOps [] exStruct [[1]] = .ok [9, 9, 9] := by
  decide +kernel

/-- container family -/
example : validateContainer [] = .err ∧ validateContainer exContainer = .ok idBlock := by decide +kernel
example : matchOld [] = .err ∧ matchOld exBlock = .ok (idBlock, 175) ∧ matchOld exStruct = .ok (idStruct, 148) := by decide +kernel
example : getEnvelopeID [] = .err ∧ getEnvelopeID exContainer = .ok (idBlock, false) ∧
    getEnvelopeID exBlock = .ok (idBlock, true) := by decide +kernel
example : containerInternalLength [] = .panic := by decide +kernel
example : deserialize [] = .err ∧ deserialize (exContainer ++ [1, 2, 3]) = .ok (exBlock, idBlock) := by decide +kernel
example : extractContainer [] = .err ∧
    extractContainer (exContainer ++ [1, 2, 3]) = .ok (187, exContainer ++ [1, 2, 3]) := by decide +kernel

/-- reveal / protect: success on the genuine value (container and bare form), error on the damaged one -/
example : reveal boxOps exKv exContainer = .ok exMsg ∧ reveal boxOps exKv exBlock = .ok exMsg ∧
    reveal boxOps exKv exDamaged = .err ∧ reveal boxOps exKv [] = .err := by decide +kernel
example : protect boxOps exKv .block exMsg exRnd = .ok exContainer ∧
    protect boxOps ⟨none, none, none, none⟩ .block exMsg exRnd = .err := by decide +kernel

/-- group E hypotheses are met: the genuine block decrypts (`decryptBlock_genuine`, `reveal_genuine`); its
data part is the Box ciphertext of `exMsg` (`block_no_misdecrypt`, `reveal_no_misdecrypt`) -/
example : exBlock.drop (18 + leVal ((exBlock.take 18).drop 16)) = exEncData ∧
    boxOps.enc (exRnd.take 32) [] exMsg ((exRnd.drop 32).take 12) = some exEncData := by decide +kernel

/-- `block_splice_rejected` applies to `exSpliced` (key part of value 1, data part of value 2, data keys
`5…5 ≠ 6…6`) – and indeed it is rejected -/
example : boxOps.enc exKey [] (exRnd.take 32) ((exRnd.drop 44).take 12) = some exEncKey ∧
    boxOps.enc (exRnd2.take 32) [] exMsg2 ((exRnd2.drop 32).take 12) = some exEncData2 ∧
    exRnd.take 32 ≠ exRnd2.take 32 ∧
    (exSpliced.take (18 + leVal ((exSpliced.take 18).drop 16))).drop 18 = exEncKey ∧
    exSpliced.drop (18 + leVal ((exSpliced.take 18).drop 16)) = exEncData2 := exSpliced_parts
example : ∀ m, decryptBlock boxOps [exKey2, exKey] [] exSpliced ≠ .ok m :=
  block_splice_rejected boxOps Box.sealLaws Box.sealCommit _ [] exSpliced exKey (exRnd.take 32)
    ((exRnd.drop 44).take 12) exEncKey (exRnd2.take 32) [] exMsg2 ((exRnd2.drop 32).take 12) exEncData2
    exSpliced_parts.1 exSpliced_parts.2.1 exSpliced_parts.2.2.1 exSpliced_parts.2.2.2.1 exSpliced_parts.2.2.2.2

/-- AcraStruct side of group E: with commitment (`boxOpenOps`: Box seal, permissive unwrap) a concrete
AcraStruct decrypts and its body is the ciphertext of `exMsg`; with the real back end's laws (Shim) a
genuine AcraStruct with valid keys, 45-byte public key and 84-byte wrapped key exists
(hypotheses of `decryptStruct_genuine`, `decryptStruct_genuine_sender`, `struct_no_misdecrypt`) -/
example : SealLaws boxOpenOps ∧ SealCommit boxOpenOps ∧ decryptStruct boxOpenOps [1] [] exStruct2 = .ok exMsg ∧
    exStruct2.drop 145 = exBody ∧ boxOpenOps.enc exSymKey [] exMsg (List.replicate 12 5) = some exBody :=
  ⟨boxOpen_sealLaws, boxOpen_sealCommit, by decide +kernel⟩
example : ∃ priv ePriv rest m, shimOps.validPriv priv = true ∧ shimOps.validPriv ePriv = true ∧
    (shimOps.pubOf ePriv).length = 45 ∧
    decryptStruct shimOps priv [] (structTag ++ shimOps.pubOf ePriv ++ rest) = .ok m :=
  struct_witness shimOps shim_sealLaws shim_sealLen shim_msgLaws shim_msgLen shim_keygenLaws

/-- column scan: a buffer that is one genuine container is replaced by the plaintext; the damaged one
satisfies the hypothesis of `onColumn_damaged_unchanged` (the only position where `%%%` starts is 0,
and `Process` fails there), so it is returned unchanged -/
example : scan [decryptCallback boxOps exKv] exContainer = .ok exMsg true :=
  scan_single _ exContainer 187 exContainer exMsg (by decide +kernel) (by decide +kernel) (by decide +kernel) (by decide +kernel)
example : ∃ hit, onColumn [decryptCallback boxOps exKv] exDamaged = .ok exDamaged hit :=
  onColumn_damaged_unchanged boxOps exKv exDamaged (by
    have h := allSuffixes_drop (p := fun s => !startsWith containerTag s || process boxOps exKv s == .err)
      (l := exDamaged) (by decide +kernel)
    intro i hi hs m hm
    have := h i hi
    rw [hs, hm] at this
    cases this)

/-- `onColumnCompat_damaged_unchanged`: a truncated value that still carries all three tags (container
tag, then the AcraStruct/AcraBlock tag) meets both hypotheses – nothing shorter than 18 bytes is ever
revealed – and comes back unchanged -/
example : ∃ hit, onColumnCompat [decryptCallback boxOps exKv] [37, 37, 37, 34, 34, 34, 34, 34, 34, 34, 34, 1, 2, 3]
    = .ok [37, 37, 37, 34, 34, 34, 34, 34, 34, 34, 34, 1, 2, 3] hit :=
  onColumnCompat_damaged_unchanged boxOps exKv _
    (by
      have h : ∀ i, i < 14 → startsWith containerTag (([37, 37, 37, 34, 34, 34, 34, 34, 34, 34, 34, 1, 2, 3] : Bytes).drop i) = true →
          process boxOps exKv (([37, 37, 37, 34, 34, 34, 34, 34, 34, 34, 34, 1, 2, 3] : Bytes).drop i) = .err := by decide +kernel
      intro i hi hs m hm
      rw [h i hi hs] at hm
      cases hm)
    (fun x id s hx hs => process_serialized_short boxOps exKv x s id
      (Nat.lt_of_le_of_lt hx.length_le (by decide +kernel)) hs)

end AcraModel.Props.C03
