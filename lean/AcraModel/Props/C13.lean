import AcraModel.Sql.LiteralLemmas
import AcraModel.Sql.Ident
import AcraModel.Sql.ExprRoundTrip
import AcraModel.Sql.ExprSound
import AcraModel.Sql.ExprSubst
import AcraModel.Sql.ExprConverse
import AcraModel.Sql.FormsCheck
import AcraModel.Sql.Grammar
import AcraModel.Sql.ExprTokens
import AcraModel.Sql.SelectRoundTrip
import AcraModel.Sql.SelectTokens
/-!
# C13 — re-serialised statements mean the same as the statements received

Property theorems only. Part 1: the literal codec – what `SQLVal.Format` prints for a string value is
read back by the tokenizer as the same bytes, for every byte string, whatever follows the literal.
(The escape table and the `\x` prefix rule are regenerated from `sqltypes/value.go`.)
Part 2: the expression fragment (`Sql/Expr.lean`) – the printer `format` (no parentheses of its own, only `ParenExpr`
nodes print them) and the precedence-climbing parser `parseExpr` over the regenerated `%left/%right` table of `sql.y`:
every tree in the image of the parser (`Producible`) is read back from its printed form, also after any substitution of
`SQLVal` leaves; a tree that is not producible (an operand of too low a level without its `ParenExpr`) is not.
Part 3: statement forms (`Sql/Forms.lean`) – for every statement node the print paths of its `Format` method and the
grammar alternatives that build it are regenerated from `ast.go` / `ast_methods.go` / `sql.y`; on every print path every
field the grammar can fill on that path is printed (`fact_format_prints_all_fields`, `format_keeps_clauses`).
Part 4: what the grammar actions keep (`Sql/Grammar.lean`) – for every alternative of `sql.y` reachable from the DML
statements the positions whose value flows into `$$` are regenerated; every symbol with a semantic value is used
(`grammar_uses_every_operand`), hence no derivation loses a lexeme it reads (`derivation_keeps_lexemes`); the generated
parser `sql.go` is in step with `sql.y` (`fact_generated_parser_matches_grammar`). For the expression fragment the
token conservation is proved on the parser itself (`parse_keeps_lexemes`).
Part 5: the SELECT core (`Sql/Select.lean`) – select list with aliases and `*`, FROM with join chains, WHERE, GROUP BY,
HAVING, ORDER BY, LIMIT around the expression fragment: `select_roundtrip`.
-/
namespace AcraModel.Props.C13
open AcraModel AcraModel.Sql.Literal Generated.SqlLiterals

/-- the escape table of `sqltypes`: NUL, BS, TAB, LF, CR, ctrl-Z, `"`, `'`, `\` -/
theorem fact_encodeRef :
    encodeRef = [(0, 48), (8, 98), (9, 116), (10, 110), (13, 114), (26, 90), (34, 34), (39, 39), (92, 92)] := by decide

/-- the table is a bijection onto letters that are not `x`/`X`, both quote characters and the backslash
are escaped, and the unescaped prefix is `\x` – what the round trip needs -/
theorem codecFacts : CodecFacts where
  inverse := by decide
  specials := by decide
  prefix_eq := by decide

/-- **String literals round-trip, for all byte strings.** The text printed for a `StrVal` with value `b`
(`'…'` with backslash escapes; a value starting with `\x` keeps that prefix) is scanned by the tokenizer
back to exactly `b`, consuming exactly the literal, whatever follows it (anything but another quote,
which no printer output puts there). -/
theorem literal_roundtrip (b rest : Bytes) (h : rest.head? ≠ some quote) :
    scanString quote true ((encodeBytesSQL b).tail ++ rest) = some (b, rest) := by
  have F := codecFacts
  unfold encodeBytesSQL
  simp only [List.cons_append, List.tail_cons, List.append_assoc, List.singleton_append]
  unfold encodeBody
  rw [F.prefix_eq]
  by_cases hp : ([backslash, 120].isPrefixOf b && decide (b.length ≥ [backslash, 120].length)) = true
  · simp only [hp, if_true]
    match b, hp with
    | c :: d :: cs, hp =>
      simp only [List.isPrefixOf, Bool.and_true, Bool.and_eq_true, beq_iff_eq] at hp
      obtain ⟨⟨hc, hd⟩, _⟩ := hp
      subst hc; subst hd
      simp only [List.length_cons, List.length_nil, List.drop_succ_cons, List.drop_zero, List.cons_append, List.nil_append]
      rw [scan_escape]
      simp only [show isX 120 = true by decide, Bool.and_self, if_true]
      rw [scan_escape_body F quote (Or.inl rfl) cs false rest h]; rfl
    | [], hp => simp [List.isPrefixOf] at hp
    | [_], hp => simp [List.isPrefixOf] at hp
  · simp only [hp, Bool.false_eq_true, if_false]
    exact scan_escape_body F quote (Or.inl rfl) b true rest h

/-- **PostgreSQL escape strings round-trip**: `E'` + escaped value + `'` is scanned back to the value. -/
theorem escape_string_roundtrip (b rest : Bytes) (h : rest.head? ≠ some quote) (f : Bool) :
    scanString quote f ((encodeEscapeString b).tail ++ rest) = some (b, rest) := by
  unfold encodeEscapeString
  simp only [List.cons_append, List.tail_cons, List.append_assoc, List.singleton_append]
  exact scan_escape_body codecFacts quote (Or.inl rfl) b f rest h

open AcraModel.Sql.Ident in
/-- **Quoted identifiers round-trip.** Any non-empty name, printed in quotes with its quote characters doubled
(`formatIDForDialect` for names that need escaping, `writeQuotedID` for names written in quotes), is read back by
`scanLiteralIdentifier` as exactly that name, consuming exactly the quoted text (dialects with one identifier quote
character: MySQL default mode and PostgreSQL). -/
theorem ident_roundtrip (q : UInt8) (name rest : Bytes) (hne : name ≠ []) (h : rest.head? ≠ some q) :
    scanQuotedIdent q ((quoteIdent q name).tail ++ rest) = some (name, rest) := by
  unfold quoteIdent scanQuotedIdent
  simp only [List.cons_append, List.tail_cons, List.append_assoc, List.nil_append]
  rw [scanBody_quoted q name rest h]
  cases name with
  | nil => exact absurd rfl hne
  | cons c cs => simp

/-- non-vacuity: a value with every special byte, starting with the `\x` prefix -/
example : scanString quote true ((encodeBytesSQL [92, 120, 0, 39, 34, 92, 10, 255, 120]).tail ++ [32, 97]) =
    some ([92, 120, 0, 39, 34, 92, 10, 255, 120], [32, 97]) := literal_roundtrip _ _ (by decide)

open AcraModel.Sql.Ident in
/-- non-vacuity: the name a"b"" in PostgreSQL quotes, followed by a dot -/
example : scanQuotedIdent 34 ((quoteIdent 34 [97, 34, 98, 34, 34]).tail ++ [46, 120]) = some ([97, 34, 98, 34, 34], [46, 120]) :=
  ident_roundtrip _ _ _ (by decide) (by decide)

/-! # Part 2: the expression fragment -/

section Expr
open AcraModel.Sql.Expr Generated.SqlPrec

/-- **strict order of the levels**: in the `%left/%right` block of `sql.y`, OR < AND < NOT < (BETWEEN) < comparison <
`|` < `&` < shifts < `+ -` < `* / DIV % MOD` < `^` < unary – the positions the model's parser and the proofs use -/
theorem fact_levels_strict :
    ["OR", "AND", "NOT", "BETWEEN", "'='", "'|'", "'&'", "SHIFT_LEFT", "'+'", "'*'", "'^'", "UNARY"].map lvlTok =
      [3, 4, 5, 6, 7, 8, 9, 10, 11, 12, 13, 14] := by decide +kernel

/-- the tokens that share a level: all comparison operators with IS, LIKE, REGEXP; `+` with `-`; `*` with `/`, DIV, `%`,
MOD; `<<` with `>>`; `~` with UNARY (the `%prec` of the other prefix operators) -/
theorem fact_levels_shared :
    ["'='", "'<'", "'>'", "LE", "GE", "NE", "NULL_SAFE_EQUAL", "IS", "LIKE", "REGEXP"].map lvlTok = List.replicate 10 lCmp ∧
    ["'+'", "'-'"].map lvlTok = [11, 11] ∧ ["'*'", "'/'", "DIV", "'%'", "MOD"].map lvlTok = List.replicate 5 12 ∧
    ["SHIFT_LEFT", "SHIFT_RIGHT"].map lvlTok = [10, 10] ∧ ["'~'", "UNARY"].map lvlTok = [lUnary, lUnary] := by decide +kernel

/-- **associativity per level**: every binary level of the fragment is `%left`, the two prefix levels are `%right` -/
theorem fact_assoc :
    [lOr, lAnd, lCmp, 8, 9, 10, 11, 12, 13].map assocAt = List.replicate 9 "left" ∧
    [lNot, lUnary].map assocAt = ["right", "right"] := by decide +kernel

/-- every `value_expression TOK value_expression` rule of the grammar is a binary operator of the model, with the
operator constant the rule's action uses and the text `ast.go` gives it (and the model has no other) -/
theorem fact_binary_rules :
    binaryExprRules.map (fun r => (r.1, r.2.1)) =
      [("'&'", "BitAndStr"), ("'|'", "BitOrStr"), ("'^'", "BitXorStr"), ("'+'", "PlusStr"), ("'-'", "MinusStr"),
       ("'*'", "MultStr"), ("'/'", "DivStr"), ("DIV", "IntDivStr"), ("'%'", "ModStr"), ("MOD", "ModStr"),
       ("SHIFT_LEFT", "ShiftLeftStr"), ("SHIFT_RIGHT", "ShiftRightStr")] ∧
    binaryExprRules.all (fun r => Sym.all.any (fun s => s.yacc == r.1 && (s.binop.map BinOp.const) == some r.2.1)) = true ∧
    BinOp.all.all (fun o => o.sym.binop == some o && o.sym.text == o.text) = true := by decide +kernel

/-- the prefix operator rules: token, precedence (`%prec UNARY`, `'~'` its own, same level), constant, text; exactly the
rules for `+` and `-` fold an `IntVal` operand into a signed literal -/
theorem fact_unary_rules :
    unaryExprRules.map (fun r => (r.1, r.2.1, r.2.2.1)) =
      [("BINARY", "UNARY", "BinaryStr"), ("UNDERSCORE_BINARY", "UNARY", "UBinaryStr"), ("'+'", "UNARY", "UPlusStr"),
       ("'-'", "UNARY", "UMinusStr"), ("'~'", "'~'", "TildaStr"), ("'!'", "UNARY", "BangStr")] ∧
    unaryExprRules.all (fun r => lvlTok r.2.1 == lUnary) = true ∧
    UnOp.all.all (fun o => o.sym.unop == some o) = true ∧
    UnOp.all.map UnOp.folds = [true, true, false, false, false, false] ∧
    UnOp.all.map UnOp.text = ["+", "-", "~", "!", "binary ", "_binary "] := by decide +kernel

/-- rule `compare`, the alternatives of `condition`, `expression` and `is_suffix` are the ones the model's parser
implements (IN, ILIKE, EXISTS and DEFAULT are outside the fragment); no alternative has a `%prec` (factgen fails on one) -/
theorem fact_condition_rules :
    compareRules.map (·.1) = ["'='", "'<'", "'>'", "LE", "GE", "NE", "NULL_SAFE_EQUAL"] ∧
    conditionRules.map (fun r => (r.1, r.2.1)) =
      [("value_expression compare value_expression", "ComparisonExpr"),
       ("value_expression IN col_tuple", "ComparisonExpr"),
       ("value_expression NOT IN col_tuple", "ComparisonExpr"),
       ("value_expression LIKE value_expression like_escape_opt", "ComparisonExpr"),
       ("value_expression ILIKE value_expression like_escape_opt", "ComparisonExpr"),
       ("value_expression NOT LIKE value_expression like_escape_opt", "ComparisonExpr"),
       ("value_expression NOT ILIKE value_expression like_escape_opt", "ComparisonExpr"),
       ("value_expression REGEXP value_expression", "ComparisonExpr"),
       ("value_expression NOT REGEXP value_expression", "ComparisonExpr"),
       ("value_expression BETWEEN value_expression AND value_expression", "RangeCond"),
       ("value_expression NOT BETWEEN value_expression AND value_expression", "RangeCond"),
       ("EXISTS subquery", "ExistsExpr")] ∧
    expressionRules =
      [("condition", ""), ("expression AND expression", "AndExpr"), ("expression OR expression", "OrExpr"),
       ("NOT expression", "NotExpr"), ("expression IS is_suffix", "IsExpr"), ("value_expression", ""),
       ("DEFAULT default_opt", "Default")] ∧
    isSuffixRules.map (·.1) = ["NULL", "NOT NULL", "TRUE", "NOT TRUE", "FALSE", "NOT FALSE"] := by decide +kernel

def symsStr (ss : List Sym) : String := " ".intercalate (ss.map Sym.text)

/-- operator text of a constant of `ast.go` as the regenerated rule tables give it -/
def genText (c : String) : Option String :=
  match compareRules.find? (fun r => r.2.1 == c) with
  | some r => some r.2.2
  | none =>
    match conditionRules.find? (fun r => r.2.2.1 == c) with
    | some r => some r.2.2.2
    | none => (isSuffixRules.find? (fun r => r.2.1 == c)).map (·.2.2)

/-- the operator texts the model's printer writes are the constants of `ast.go` (`"not like"`, `"is not null"`, …) -/
theorem fact_operator_texts :
    CmpOp.all.all (fun o => genText o.const == some (symsStr o.syms)) = true ∧
    IsOp.all.all (fun o => genText o.const == some ("is " ++ symsStr o.syms)) = true ∧
    Sym.all.all (fun s => match s.cmpop with
      | some o => o.syms == [s]
      | none => true) = true := by decide +kernel

/-- **the printer's format strings**: blanks around infix operators, none inside parentheses, `ParenExpr` is the only
node that prints parentheses, a nested prefix operator is separated by a blank (`- -a`, never `--a`) -/
theorem fact_format_strings :
    formatStrings =
      [("AndExpr", ["%v and %v"]), ("OrExpr", ["%v or %v"]), ("NotExpr", ["not %v"]), ("ParenExpr", ["(%v)"]),
       ("ComparisonExpr", ["%v %s %v", " escape %v"]), ("RangeCond", ["%v %s %v and %v"]), ("IsExpr", ["%v %s"]),
       ("BinaryExpr", ["%v %s %v"]), ("UnaryExpr", ["%s %v", "%s%v"]), ("FuncExpr", ["%v.", "%s(%s%v)"]),
       ("Exprs", ["%s%v"]), ("NullVal", ["null"]), ("BoolVal", ["true", "false"])] := by decide +kernel

/-- a one-element parenthesised list is a `ParenExpr`; a generic call is `name(expression list)` -/
theorem fact_paren_func_rules : parenRule = true ∧ funcRule = true := by decide

/-- the `ValType` numbers of the model and the value types printed as they are (IntVal, FloatVal, HexNum; PgPlaceholder `$1` is outside the fragment) -/
theorem fact_val_types :
    [tyStr, tyInt, tyFloat, tyHexNum, tyHexVal, tyBitVal, tyPgEsc] = [0, 1, 2, 3, 4, 6, 7] ∧
    (List.range 10).filter rawTy = [1, 2, 3, 8] := by decide +kernel

/-- **Producible trees round-trip.** For every tree in the image of Acra's expression parser – children of an operator
node have the precedence level the grammar requires, or are leaves, calls or explicit `ParenExpr` nodes – the printed
form (Acra's `Format`: no parentheses of its own) is read back by the parser as exactly that tree: no operand,
operator, precedence relation or literal is lost, added or altered. -/
theorem expr_roundtrip (t : Expr) (h : Producible t) : parseExpr (tokens (format t)) = some t := by
  unfold parseExpr fuelFor
  exact roundtrip_fuel t h _ (by unfold tlen toks; omega)

/-- **Replacing values keeps a tree producible.** Substituting `SQLVal` leaves by other well-formed `SQLVal` leaves
(a non-`IntVal` never becoming an `IntVal`: the grammar folds the sign of an `IntVal` under unary `+`/`-`) preserves
producibility – the structure of the tree, which is all that producibility depends on besides the leaves, is untouched. -/
theorem producible_subst {σ : Nat → Bytes → Nat × Bytes} (hσ : SubstOk σ) (t : Expr) (h : Producible t) :
    Producible (subst σ t) := producible_subst_aux hσ t h

/-- **Same structure apart from exactly the substituted values**: the printed form of the substituted tree parses back
to the substituted tree. -/
theorem subst_roundtrip {σ : Nat → Bytes → Nat × Bytes} (hσ : SubstOk σ) (t : Expr) (h : Producible t) :
    parseExpr (tokens (format (subst σ t))) = some (subst σ t) :=
  expr_roundtrip _ (producible_subst hσ t h)

/-- **Nothing but the values changes in the text**: the printed form of the substituted tree is the printed form of the
original with exactly the literal lexemes replaced – every keyword, operator, identifier, parenthesis and blank stays. -/
theorem format_subst_exact (σ : Nat → Bytes → Nat × Bytes) (t : Expr) :
    format (subst σ t) = (format t).map (substLex σ) := format_subst σ t

/-- **Different producible trees never print alike**: the printer is injective on the image of the parser (so no two
statements with different precedence relations, operands or operators share a printed form). -/
theorem format_injective (t₁ t₂ : Expr) (h₁ : Producible t₁) (h₂ : Producible t₂)
    (h : tokens (format t₁) = tokens (format t₂)) : t₁ = t₂ := by
  have a := expr_roundtrip t₁ h₁
  rw [h, expr_roundtrip t₂ h₂] at a
  injection a with a
  exact a.symm

/-- **Everything the parser returns is producible** (for token lists as the tokenizer yields them: number tokens are
unsigned and not empty). -/
theorem parse_producible (ts : List Tok) (t : Expr) (hok : AllOk ts) (h : parseExpr ts = some t) : Producible t :=
  parseExprFuel_producible hok h

/-- Hence a parsed statement's expression, printed and parsed again, is the same tree – also after its values have been
replaced. This is the statement the round-trip oracle checks on the real parser. -/
theorem parse_print_parse (ts : List Tok) (t : Expr) (hok : AllOk ts) (h : parseExpr ts = some t)
    {σ : Nat → Bytes → Nat × Bytes} (hσ : SubstOk σ) :
    parseExpr (tokens (format t)) = some t ∧ parseExpr (tokens (format (subst σ t))) = some (subst σ t) :=
  ⟨expr_roundtrip t (parse_producible ts t hok h), subst_roundtrip hσ t (parse_producible ts t hok h)⟩

/-- **Exactly the producible trees round-trip.** For a tree whose `SQLVal` leaves are well-formed literals, the printed
form parses back to the tree if *and only if* the tree is producible: every operand of too low a level that is not
wrapped in a `ParenExpr`, and every `IntVal` directly under unary `+`/`-`, changes the statement that is read back. -/
theorem roundtrip_iff_producible (t : Expr) (hl : LeavesOk t) :
    parseExpr (tokens (format t)) = some t ↔ Producible t :=
  ⟨fun h => parse_producible _ t (allOk_toks t hl) h, expr_roundtrip t⟩

/-- **Nothing is lost between the text received and the text sent on** (expression fragment). Whatever token list
the parser accepts (tokens as the tokenizer yields them), the printed form of the tree it returns holds exactly the
value-carrying tokens of the input – every literal and every identifier, in the same order, nothing dropped,
duplicated or invented. Keywords, operators and parentheses are what the tree's node kinds record (`expr_roundtrip`). -/
theorem parse_keeps_lexemes (ts : List Tok) (t : Expr) (hok : AllOk ts) (h : parseExpr ts = some t) :
    lexemes (tokens (format t)) = lexemes ts :=
  parseExprFuel_keeps hok h

/-- non-vacuity: `a = -1 and f('x', b) is not null` keeps `a 1 f 'x' b`; the sign is an operator token -/
example :
    let ts : List Tok := [.id [97], .sym .eq, .sym .minus, .lit tyInt [49], .sym .and_, .id [102], .sym .lp, .lit tyStr [120],
      .sym .comma, .id [98], .sym .rp, .sym .is_, .sym .not_, .sym .null]
    (parseExpr ts).isSome = true ∧ lexemes ts = [.id [97], .lit tyInt [49], .id [102], .lit tyStr [120], .id [98]] := by
  decide +kernel

private def ca : Expr := .col [97]
private def cb : Expr := .col [98]
private def cc : Expr := .col [99]

/-- **A tree that is not producible does not round-trip**: `(a or b) and c` built *without* its `ParenExpr` – an
`OrExpr` directly under an `AndExpr` – is printed as `a or b and c` and read back as `a or (b and c)`, a different
statement. A rewrite of the tree must therefore keep the `ParenExpr` nodes the parser put there. -/
theorem nonproducible_counterexample :
    ¬ Producible (.and (.or ca cb) cc) ∧
    parseExpr (tokens (format (.and (.or ca cb) cc))) = some (.or ca (.and cb cc)) ∧
    parseExpr (tokens (format (.and (.or ca cb) cc))) ≠ some (.and (.or ca cb) cc) := by
  have h2 : parseExpr (tokens (format (.and (.or ca cb) cc))) = some (.or ca (.and cb cc)) := by rfl
  refine ⟨?_, h2, ?_⟩
  · intro h
    cases h with
    | and _ _ hl _ => exact absurd hl (by decide)
  · rw [h2]; intro h; injection h with h; cases h

/-- … whereas with the `ParenExpr` node the same expression is producible and is read back unchanged. -/
theorem paren_counterpart :
    Producible (.and (.paren (.or ca cb)) cc) ∧
    parseExpr (tokens (format (.and (.paren (.or ca cb)) cc))) = some (.and (.paren (.or ca cb)) cc) := by
  have hp : Producible (.and (.paren (.or ca cb)) cc) :=
    .and (.paren (.or .col .col (by decide) (by decide))) .col (by decide) (by decide)
  exact ⟨hp, expr_roundtrip _ hp⟩

/-- a substitution that satisfies `SubstOk`: every string value becomes the hex value `X'00'`, everything else stays -/
private def σEx : Nat → Bytes → Nat × Bytes := fun ty v => if ty = tyStr then (tyHexVal, [48, 48]) else (ty, v)

/-- non-vacuity of `SubstOk` -/
theorem substOk_example : SubstOk σEx := by
  constructor
  · intro ty v h
    unfold σEx
    by_cases hs : ty = tyStr
    · simp only [hs, if_true]; intro hr; exact absurd hr (by decide)
    · simp only [hs, if_false]; exact h
  · intro ty v h
    unfold σEx at h
    by_cases hs : ty = tyStr
    · simp only [hs, if_true] at h; exact absurd h (by decide)
    · simp only [hs, if_false] at h; exact h

/-- non-vacuity: `not a between -1 and f('x', b) * (c + 2) or ~d is not null` – every node kind, a signed literal, a call,
explicit parentheses – is producible, round-trips, and so does its substituted form -/
example :
    let t : Expr := .or (.not (.range false ca (.val tyInt [45, 49])
        (.bin .mult (.func [102] [.val tyStr [120], cb]) (.paren (.bin .plus cc (.val tyInt [50]))))))
      (.is .isNotNull (.un .tilda (.col [100])))
    Producible t ∧ parseExpr (tokens (format t)) = some t ∧
      parseExpr (tokens (format (subst σEx t))) = some (subst σEx t) := by
  intro t
  have hp : Producible t := by
    refine .or (.not (.range .col (.val (by decide)) (.bin (.func ?_) (.paren (.bin .col (.val (by decide)) (by decide)
      (by decide))) (by decide) (by decide)) (by decide) (by decide) (by decide)) (by decide))
      (.is (.un .col (by decide) (by decide)) (by decide)) (by decide) (by decide)
    intro a ha
    simp only [List.mem_cons, List.mem_nil_iff, or_false] at ha
    rcases ha with rfl | rfl
    · exact .val (by decide)
    · exact .col
  exact ⟨hp, expr_roundtrip t hp, subst_roundtrip substOk_example t hp⟩

end Expr

/-! ## Part 3: statement forms – no print path of a statement or clause node drops what the grammar can fill -/
section Forms
open AcraModel.Sql.Forms Generated.SqlForms

/-- the node kinds of data-manipulation statements exist in `ast.go` (types with an `iStatement` method) -/
theorem fact_dml_kinds_exist : ∀ k ∈ dmlKinds, k ∈ stmtKinds := by decide +kernel

/-- the clause, table and expression nodes of DML statements exist in `ast.go` and the path analysis of factgen
understands their `Format` methods -/
theorem fact_clause_kinds_analysed : ∀ k ∈ dmlClauseKinds, k ∈ clauseKinds := by decide +kernel

/-- **Every print path prints every field the grammar can fill on it** (regenerated tables). For every grammar
alternative of `sql.y` that builds a SELECT / UNION / parenthesised SELECT / INSERT / UPDATE / DELETE node or one of
their clause, table and expression nodes (`Limit`, `AliasedTableExpr`, `JoinTableExpr`, `ConvertType`, `CaseExpr` …)
and every print path of the node's `Format` method that a node built by the alternative can take, each field the
alternative may fill is printed on that path, or is a flag the path's own condition fixes (`Insert.Default` ⇒
`default values`, `Limit.Type` ⇒ the spelling), or the path is only taken when the field is empty, or is one of the
two documented by-design omissions (`exempt`). A `Format` that stops printing a clause on one of its paths (the
multi-table `DELETE … USING … RETURNING …` tail printing only `WHERE`), or a grammar alternative that starts filling a
field its print path ignores, makes this false. -/
theorem fact_format_prints_all_fields : tableOK = true := (of_checkedFor prods_paths_checked).1

/-- every grammar alternative of these nodes has a print path it is compatible with – `Format` prints something for
whatever the grammar builds -/
theorem fact_every_production_has_a_path : coveredFor prods paths = true := (of_checkedFor prods_paths_checked).2

/-- the regenerated list of omissions (fields a compatible alternative may fill that the path does not represent)
holds no DML node – what remains are the reduced forms of DDL / SHOW / PREPARE, outside the property -/
theorem fact_no_dml_omissions : (omissions prods paths).all (fun o => !strictKinds.contains o.1) = true :=
  omissions_not_strict fact_format_prints_all_fields

/-- **The grammar reads no literal it then drops** (outside DDL): every token that carries a lexeme – identifier,
number, string, placeholder – on the right-hand side of an alternative is used by the alternative's action. (The
pinned tree had `convert_type: VARCHAR ( INTEGRAL )` dropping the length: `cast(a as varchar(10))` was re-serialised
as `convert(a, varchar)` – repaired, repo-patches/70.) -/
theorem fact_grammar_keeps_literals : ∀ e ∈ unusedLiteralTokens, e.1 ∈ ddlRules := by decide +kernel

/-- the DELETE node has its two spellings as separate print paths, and both print RETURNING and WHERE -/
theorem fact_delete_paths :
    (paths.filter (·.kind == "Delete")).length ≥ 2 ∧
    (paths.filter (·.kind == "Delete")).all (fun π => π.printed.contains "Returning" && π.printed.contains "Where") = true := by
  decide +kernel

/-- **`Format` keeps the clauses** – lifted from the finite table to all statements of the model. Let `s` be any
DML statement or clause node (node kind + the set of its filled fields, of any size and in any order, + the constants
some of its fields hold) that some grammar alternative `p` of the regenerated table can build, and `π` the print path
`Format` takes for it. Then every filled field of `s` is kept on `π`: printed, or a flag fixed by the path – or it is
one of the two documented by-design omissions. No clause is lost by the choice of the print path. -/
theorem format_keeps_clauses (s : Stmt) (p : Prod) (π : Path) (hp : p ∈ prods) (hd : s.kind ∈ strictKinds)
    (hb : builtBy p s = true) (hf : formatPath s = some π) :
    ∀ f ∈ s.present, keeps π f = true ∨ exempt.contains (π.kind, f) = true :=
  have h := formatPath_spec hf
  keeps_of_tableOK fact_format_prints_all_fields hp h.1 hd hb h.2

/-- the same for *any* path whose conditions hold (the model leaves the dialect switch and opaque conditions open,
so several paths may apply) -/
theorem format_keeps_clauses_any_path (s : Stmt) (p : Prod) (π : Path) (hp : p ∈ prods) (hπ : π ∈ paths)
    (hd : s.kind ∈ strictKinds) (hb : builtBy p s = true) (ha : pathApplies π s = true) :
    ∀ f ∈ s.present, keeps π f = true ∨ exempt.contains (π.kind, f) = true :=
  keeps_of_tableOK fact_format_prints_all_fields hp hπ hd hb ha

/-- the print paths with RETURNING removed from the printed fields of the multi-table DELETE paths -/
private def seededPaths : List Path :=
  paths.map fun π => if π.kind == "Delete" && π.printed.contains "Targets" then
    { π with printed := π.printed.filter (· != "Returning") } else π

/-- **The check is not vacuous**: with RETURNING dropped from the multi-table DELETE paths the finite check fails,
and the model exhibits the statement: `DELETE FROM t USING u WHERE … RETURNING …` takes a path that no longer keeps
its RETURNING clause. -/
theorem seeded_change_counterexample :
    tableOKFor prods seededPaths = false ∧
    (let s : Stmt := ⟨"Delete", ["Targets", "TableExprs", "Where", "Returning"], []⟩
     (prods.any fun p => builtBy p s) = true ∧
     (seededPaths.any fun π => pathApplies π s && !keeps π "Returning") = true) := by decide +kernel

/-- non-vacuity of `format_keeps_clauses`: the multi-table DELETE with WHERE and RETURNING is built by a grammar
alternative of the table, `Format` takes the multi-table path, and that path prints all four clauses -/
example :
    let s : Stmt := ⟨"Delete", ["Targets", "TableExprs", "Where", "Returning"], []⟩
    (prods.any fun p => builtBy p s) = true ∧
    (formatPath s).map (·.idx) = some 1 ∧
    ((formatPath s).map fun π => s.present.all (keeps π)) = some true := by decide +kernel

/-- … an INSERT … DEFAULT VALUES takes the second path of `Insert.Format`, which keeps the `Default` flag -/
example :
    let s : Stmt := ⟨"Insert", ["Action", "Table", "Default"], [("Action", "InsertStr")]⟩
    (prods.any fun p => builtBy p s) = true ∧
    (formatPath s).map (·.idx) = some 1 ∧
    ((formatPath s).map fun π => s.present.all (keeps π)) = some true := by decide +kernel

/-- … and `LIMIT ALL OFFSET n` (a `Limit` with `Type = LimitTypeLimitAllAndOffset` and only `Offset` filled) takes
the fifth path of `Limit.Format`, which prints the offset and fixes the type -/
example :
    let s : Stmt := ⟨"Limit", ["Offset", "Type"], [("Type", "LimitTypeLimitAllAndOffset")]⟩
    (prods.any fun p => builtBy p s) = true ∧
    (formatPath s).map (·.idx) = some 4 ∧
    ((formatPath s).map fun π => s.present.all (keeps π)) = some true := by decide +kernel

end Forms

/-! ## Part 4: what the grammar actions keep of what the parser reads -/
section Grammar
open AcraModel.Sql.Grammar Generated.SqlGrammar

/-- **The pinned exemptions**: the only right-hand-side symbols with a semantic value (a lexeme-carrying token, or a
non-terminal with a `%type`) on alternatives reachable from SELECT / INSERT / UPDATE / DELETE whose value does not
flow into `$$` are the noise word FOR|FROM of `NEXT n VALUES FOR t` and the table qualifier of a column in an INSERT
column list (`Sql/Grammar.lean: exempt` gives the reasons) – and the model's own reading of the table agrees with the
extractor's list. An action that stops using `$5` (the ESCAPE operand of NOT ILIKE) or `$8` (ON DUPLICATE KEY UPDATE
after INSERT … SET; `len($8)` does not count – a length carries no content) adds an entry and breaks this. -/
theorem fact_grammar_exemptions :
    unusedSemantic = [("select_statement", 3, 6, "for_from"), ("ins_column_list", 2, 1, "column_id"),
      ("ins_column_list", 4, 3, "column_id")] ∧
    unusedOf alts = unusedSemantic ∧
    (unusedSemantic.map fun e => (e.1, e.2.1, e.2.2.1)) = exempt := by decide +kernel

/-- the finite check over the regenerated table: every lexeme-carrying token and every non-terminal with a semantic
value of every reachable alternative flows into `$$` or is exempt; non-terminals without a value derive keywords and
punctuation only (the list of such rules is closed under the grammar) -/
theorem fact_grammar_uses_every_operand : tableOK = true ∧ lexFreeClosed = true := by decide +kernel

/-- the table is the whole reachable grammar: the statement rules, the expression rules and the clause rules are in it -/
theorem fact_grammar_table_covers :
    (["select_statement", "base_select", "insert_statement", "update_statement", "delete_statement", "expression",
      "condition", "value_expression", "like_escape_opt", "on_dup_opt", "update_list", "limit_opt", "order_by_opt",
      "table_reference", "join_table", "subquery", "convert_type", "function_call_keyword"].all
        fun r => alts.any (·.rule == r)) = true ∧ 500 ≤ alts.length := by decide +kernel

/-- **The grammar uses every operand.** In every alternative of `sql.y` that is reachable from the DML statements,
every right-hand-side symbol that carries meaning – an identifier / literal / placeholder token, or a non-terminal
with a semantic value – flows into the value the action builds, unless it is one of the pinned exemptions. -/
theorem grammar_uses_every_operand (A : GAlt) (hA : A ∈ alts) (k : Nat) (s : GSym) (hs : A.rhs[k]? = some s)
    (hc : s.cls = .lex ∨ s.cls = .sem) :
    A.flow.contains (k + 1) = true ∨ exempt.contains (A.rule, A.idx, k + 1) = true := by
  have h := fact_grammar_uses_every_operand.1
  simp only [tableOK, tableOKFor, List.all_eq_true] at h
  have := symsOK_spec 1 A.rhs (h A hA) k s hs hc
  rwa [Nat.add_comm 1 k] at this

/-- **No derivation loses a lexeme.** For every derivation tree of the reachable grammar (any statement the parser
accepts, of any size) in which nothing with a lexeme stands at an exempt position, the lexemes kept in the semantic
value the actions build are exactly the identifier / literal / placeholder / comment lexemes of the text, in order.
(Model level: an action whose `$$` depends on `$n` keeps all of `$n`; the token-conservation oracle checks the real
parser and printer against that.) -/
theorem derivation_keeps_lexemes (d : Deriv) (hw : d.wf alts = true) (he : d.exemptEmpty exempt = true) :
    d.kept alts = d.read :=
  kept_eq_read fact_grammar_uses_every_operand.1 fact_grammar_uses_every_operand.2 d hw he

/-- **The generated parser is in step with the grammar.** `sql.go` is what the build compiles (`make sql.go` runs
goyacc on `sql.y`; nothing regenerates it at build time): for every production number the `case N:` block of its
action switch pops as many symbols as the alternative of `sql.y` has and mentions exactly the positions the action in
`sql.y` mentions. An edit of `sql.go` alone – or of `sql.y` alone – breaks this. -/
theorem fact_generated_parser_matches_grammar :
    sqlGoMismatches = [] ∧ 600 ≤ sqlGoCompared ∧ sqlGoCompared ≤ sqlGoProductions := by decide +kernel

private def veStr (s : Bytes) : Deriv :=
  .node "value_expression" 1 [.node "column_name_value_expr" 3 [.node "value" 1 [.tok "SINGLE_QUOTE_STRING" s]]]

/-- `a not ilike 'x' escape '!'` (operands as string tokens) as a derivation of rule `condition`, alternative 7 -/
private def notIlikeEscape : Deriv :=
  .node "condition" 7 [veStr [97], .tok "NOT" [], .tok "ILIKE" [], veStr [120],
    .node "like_escape_opt" 2 [.tok "ESCAPE" [], veStr [33]]]

/-- **The check is not vacuous**: with position 5 (the ESCAPE operand) taken out of the flow of the NOT ILIKE
alternative – what dropping `Escape: $5` from its action does – the finite check fails, and the model exhibits the
statement: the derivation of `… not ilike … escape '!'` reads three literals and keeps two. On the regenerated table
the same derivation keeps all three. -/
theorem seeded_grammar_counterexample :
    tableOKFor exempt (withoutFlow "condition" 7 5 alts) = false ∧
    notIlikeEscape.wf alts = true ∧ notIlikeEscape.exemptEmpty exempt = true ∧
    notIlikeEscape.read = [("SINGLE_QUOTE_STRING", [97]), ("SINGLE_QUOTE_STRING", [120]), ("SINGLE_QUOTE_STRING", [33])] ∧
    notIlikeEscape.kept alts = notIlikeEscape.read ∧
    notIlikeEscape.kept (withoutFlow "condition" 7 5 alts) =
      [("SINGLE_QUOTE_STRING", [97]), ("SINGLE_QUOTE_STRING", [120])] := by decide +kernel

end Grammar

/-! ## Part 5: the SELECT core -/
section SelectCore
open AcraModel.Sql.Expr AcraModel.Sql.Select

/-- **Well-formed SELECT statements round-trip.** For every statement of the modelled core –
`SELECT [DISTINCT] items FROM table references [WHERE] [GROUP BY] [HAVING] [ORDER BY] [LIMIT]`, items `*` or an expression
with an optional alias, table references with chains of inner / straight / left / right / natural joins with their ON
conditions, the three LIMIT spellings – whose expressions are producible (`Sel.Ok`: in the image of the parser), the
token sequence of the printed statement (`Select.Format` and the `Format` methods of its clause nodes) is read back as
exactly that statement: no clause, list element, alias, join, condition, direction or literal is lost, added, moved to
another clause or altered. (The join chain is kept as the flat list `JoinTableExpr.Format` prints; ORDER BY NULL /
rand(), which Acra prints without a direction, USING, sub-queries, hints, locks and comments are outside the core.) -/
theorem select_roundtrip (s : Sel) (h : s.Ok) : parseSel (stoks s) = some s := parseSel_stoks s h

/-- … in the executable form the harness uses (`C13.sel.ok` / `C13.sel.roundtrip`) -/
theorem select_roundtrip_checked (s : Sel) (h : s.okB = true) : parseSel (stoks s) = some s :=
  parseSel_stoks s (Sel.ok_of_okB h)

/-- **Different well-formed statements never print alike**: the printer is injective on the core. -/
theorem select_format_injective (s₁ s₂ : Sel) (h₁ : s₁.Ok) (h₂ : s₂.Ok) (h : stoks s₁ = stoks s₂) : s₁ = s₂ := by
  have a := select_roundtrip s₁ h₁
  rw [h, select_roundtrip s₂ h₂] at a
  injection a with a
  exact a.symm

/-- **Nothing is lost between the statement received and the statement sent on** (SELECT core). Whatever token sequence
the statement parser accepts (tokens as the tokenizer yields them), the printed form of the statement it returns holds
exactly the value-carrying tokens of the input – every literal, column, function and table name and alias, in the same
order – in whatever clause they stand. (The converse direction of `select_roundtrip`: that one starts from a tree, this
one from the text.) -/
theorem select_keeps_lexemes (ts : List STok) (s : Sel) (hok : AllOkS ts) (h : parseSel ts = some s) :
    lexS (stoks s) = lexS ts := parseSel_keeps hok h

private def exSel : Sel :=
  { distinct := true
    items := [.expr (.col [97]) (some [120]), .star, .expr (.func [102] [.col [98], .val tyInt [49]]) none]
    from_ := [⟨⟨[116], none⟩, [⟨.left, ⟨[117], some [118]⟩, some (.cmp .eq (.col [97]) (.col [98]))⟩, ⟨.natural, ⟨[119], none⟩, none⟩]⟩,
      ⟨⟨[122], some [121]⟩, []⟩]
    where_ := some (.and (.cmp .eq (.col [97]) (.val tyInt [49])) (.paren (.or (.col [98]) (.is .isNull (.col [99])))))
    groupBy := [.col [97], .bin .plus (.col [98]) (.val tyInt [49])]
    having := some (.cmp .gt (.func [99] [.col [97]]) (.val tyInt [50]))
    orderBy := [⟨.col [97], true⟩, ⟨.col [98], false⟩]
    limit := .countOffset (.val tyInt [53]) (.val tyInt [50]) }

/-- non-vacuity: `select distinct a as x, *, f(b, 1) from t left join u as v on a = b natural join w, z as y where a = 1
and (b or c is null) group by a, b + 1 having c(a) > 2 order by a desc, b asc limit 5 offset 2` is well-formed and
round-trips -/
example : exSel.okB = true ∧ parseSel (stoks exSel) = some exSel :=
  have h : exSel.okB = true := by decide +kernel
  ⟨h, select_roundtrip_checked exSel h⟩

private def badSel : Sel :=
  { distinct := false
    items := [.star]
    from_ := [⟨⟨[116], none⟩, [⟨.natural, ⟨[117], none⟩, some (.cmp .eq (.col [97]) (.col [98]))⟩]⟩]
    where_ := none
    groupBy := []
    having := none
    orderBy := []
    limit := .none }

/-- **A statement outside the image of the parser does not round-trip**: a NATURAL JOIN carrying an ON condition (a tree a
rewrite could build, the grammar never does) is printed `select * from t natural join u on a = b`, which the parser
rejects. -/
theorem select_not_ok_counterexample : badSel.okB = false ∧ parseSel (stoks badSel) = none := by decide +kernel

end SelectCore

end AcraModel.Props.C13
