import AcraModel.Sql.RedactLemmas
import AcraModel.Sql.ShapeLemmas
import AcraModel.Sql.LogModel
import AcraModel.Sql.LogSiteFacts
import AcraModel.Sql.ErrText
/-!
# C16 — literal values from statements never appear in logs nor in the redacted form

Helper lemmas: `Sql/{RedactLemmas,ShapeLemmas,LogSiteFacts}.lean`; models: `Sql/{Tree,Redact,Shape,LogModel,LogSites,ErrText}.lean`.

What is stated here, about the model of `RedactSQLQuery` / `Parser.HandleRawSQLQuery`
(`redact = maskLiterals ∘ Normalize` on generic trees whose tables are regenerated from the source):

* facts about the regenerated tables (`fact_*`): which `ValType`s are literals, that Acra's masking
  pass covers all of them, that both entry points run `Normalize` then `maskLiterals` and print the tree
  they redacted, which fields no `walkSubtree` visits, that log calls mention no variable holding raw
  or merely normalised statement text;
* `redact_no_literals` – no literal is left in the redacted tree;
* `redact_shape` – the redacted tree has the shape of the original;
* `fresh_names` – a generated placeholder name never collides with a bind variable already present
  (nor with an earlier generated one);
* `log_args_redacted`, `unparseable_never_logged` – in the censor/proxy logging model only redacted text or constants
  reach a log call;
* `error_without_value_hides_input`, `pg_error_*` – the logged text of a `strconv` error carries no value, that of a
  PostgreSQL syntax error no token.
-/
namespace AcraModel.Props.C16
open AcraModel AcraModel.Sql Generated.SqlLiterals

/-- The `ValType` constants, in the order the harness numbers them. -/
theorem fact_valTypes :
    valTypes = ["StrVal", "IntVal", "FloatVal", "HexNum", "HexVal", "ValArg", "BitVal", "PgEscapeString",
      "PgPlaceholder", "UnknownVal"] := rfl

/-- Every alternative of the grammar rule `value:` that builds an `SQLVal` from a token is classified
here as carrying literal text or as a placeholder – a new kind of value token forces a decision. -/
theorem fact_value_tokens_classified :
    ∀ r ∈ valueTokens, r.2 = [] ∨ r.1 ∈ literalTokens ∨ r.1 ∈ placeholderTokens ∨ r.1 = "value typecast" := by
  decide +kernel

/-- The literal `ValType`s are exactly these seven (all quoting forms of strings, all numeric forms). -/
theorem fact_literal_kinds :
    literalKindNames = ["StrVal", "HexVal", "BitVal", "IntVal", "FloatVal", "HexNum", "PgEscapeString"] := by decide +kernel

/-- **Every literal `ValType` is masked**: `maskLiterals` has a case for each literal kind the grammar
produces. (On the pinned tree there was no such pass and `sqlToBindvar` handled only
`StrVal/IntVal/FloatVal` – DESIGN §8 #7.) -/
theorem fact_literal_kinds_masked : ∀ k ∈ literalKindNames, k ∈ maskCases := by decide +kernel

/-- Placeholders are never "masked" again: only literal kinds are. -/
theorem fact_masked_only_literals : ∀ k ∈ maskCases, k ∈ literalKindNames := by decide +kernel

/-- What `Normalize` converts is a subset of the literal kinds, and its failing validator is limited to
the numeric bind types (the model's `Validator` is consulted for exactly these). -/
theorem fact_bindvar_cases :
    bindvarCases = [("StrVal", "VarBinary", true), ("IntVal", "Int64", true), ("FloatVal", "Float64", true)] := rfl

/-- Both entry points parse, run `Normalize` and then `maskLiterals` on the same statement and print that
statement afterwards (`HandleRawSQLQuery` prints it once before, for the normalised text). -/
theorem fact_redact_pipeline :
    redactPipeline =
      [("RedactSQLQuery", ["Parse", "Normalize(stmt)", "maskLiterals(stmt)", "String(stmt)"]),
       ("HandleRawSQLQuery", ["Parse", "Parse", "String(stmt)", "Normalize(stmt)", "maskLiterals(stmt)", "String(stmt)"])] := rfl

/-- `SQLVal.Format` has a case for every `ValType` (no statement can make it panic "unexpected"). -/
theorem fact_format_total : ∀ v ∈ valTypes, v ∈ formatCases.map (·.1) := by decide +kernel

/-- fields that may hold an `SQLVal` and that the owner's `walkSubtree` does not hand to `Walk` -/
def unwalkedHolders : List (String × String) :=
  nodes.flatMap fun r =>
    (r.2.2.1.filter fun f => f.2.2 && !r.2.2.2.contains f.1).map fun f => (r.1, f.1)

/-- **Traversal coverage.** The only fields that can hold a value node and are not visited are the ones
listed: DDL column/index options, type lengths, SHOW filters (known findings, see `known_findings.json`)
and the operand of a cast of NULL/DEFAULT (`SQLVal.unknown`, which the grammar never fills with a
literal). In particular every clause of SELECT/UNION/INSERT/UPDATE/DELETE/EXECUTE is visited.
(On the pinned tree the list also had Union.OrderBy/Limit, Insert.Returning, Update.From/Returning,
Delete.Targets/Returning and Execute.Values.) -/
theorem fact_walk_covers_children :
    unwalkedHolders =
      [("DDL", "TableSpec"), ("DDL", "PartitionSpec"),
       ("ColumnType", "Default"), ("ColumnType", "OnUpdate"), ("ColumnType", "Comment"), ("ColumnType", "Length"),
       ("ColumnType", "Scale"),
       ("IndexDefinition", "Columns"), ("IndexDefinition", "Options"),
       ("IndexColumn", "Length"), ("LengthScaleOption", "Length"), ("LengthScaleOption", "Scale"),
       ("IndexOption", "Value"),
       ("Show", "ShowTablesOpt"), ("ShowTablesOpt", "Filter"), ("ShowFilter", "Filter"),
       ("SQLVal", "unknown"),
       ("ConvertType", "Length"), ("ConvertType", "Scale")] := by decide +kernel

/-- strictly increasing list of numbers -/
def increasing : List Nat → Bool
  | a :: b :: r => a < b && increasing (b :: r)
  | _ => true

/-- **The model's traversal order is the code's.** Every `walkSubtree` of a struct type passes fields in
declaration order, each at most once – so visiting the children left to right (what `Sql.walk` does) is
the traversal of `Walk`, with the same order of generated names. (On the pinned tree `Delete` passed
`TableExprs` twice and `Execute` passed `Using` before `PreparedStatementName`.) -/
theorem fact_walk_field_order :
    (nodes.all fun r => r.2.1 != "struct" ||
      increasing (r.2.2.2.filterMap fun w => indexOf? w (r.2.2.1.map (·.1)))) = true := by decide +kernel

/-- identifiers that hold statement text which must not be printed: the raw statement, the merely
normalised statement, and parser input -/
def taintedIdents : List String :=
  ["sql", "query", "rawQuery", "sqlQuery", "normalizedQuery", "normalizedQ", "sqlStripped", "blob", "Query",
   "parsePacket", "data"]

/-- **Log call sites.** No logging call (nor `WithField/WithError` on a logger) in the anchored files –
AcraCensor and its handlers, the query writer, both proxies' packet loops, the parser – mentions a
variable that holds raw or normalised statement text. The only statement text that reaches a log call is
`queryWithHiddenValues`. (On the pinned tree `ParseWithDialect` logged `sql`.) -/
theorem fact_log_args_untainted :
    (logIdents.all fun r => r.2.2.all fun i => !taintedIdents.contains i) = true := by decide +kernel

/-- the functions whose log calls print statement text print the redacted one -/
theorem fact_log_statement_text :
    (logIdents.filter fun r => r.2.2.contains "queryWithHiddenValues").map (fun r => r.2.1) =
      ["AcraCensor.logAllowedQuery", "AcraCensor.logDeniedQuery", "PgProxy.handleQueryPacket",
       "Handler.ProxyClientConnection"] := by decide +kernel

/-! ## facts about every log call site on the query path (`Generated/LogSites.lean`) -/

section LogSites
open AcraModel.Generated.LogSites AcraModel.Sql.LogSites

/-- The walk covers both proxies, the query observers (encryptor, searchable filter, tokenizer, hmac), the response
processors, AcraCensor and its handlers, the parser, and the function of acra-server that ends a session. -/
theorem fact_walk_covers_query_path :
    (["decryptor/postgresql/pg_decryptor.go", "decryptor/postgresql/protocol.go", "decryptor/postgresql/prepared_statements.go",
      "decryptor/postgresql/data_encoder.go", "decryptor/mysql/response_proxy.go", "decryptor/mysql/prepared_statements.go",
      "decryptor/mysql/data_encoder.go", "decryptor/base/decryptionNotification.go",
      "encryptor/postgresql/queryDataEncryptor.go", "encryptor/postgresql/searchable_query_filter.go", "encryptor/postgresql/observer.go",
      "encryptor/mysql/queryDataEncryptor.go", "encryptor/mysql/searchable_query_filter.go", "encryptor/mysql/observer.go",
      "hmac/decryptor/postgresql/hashQuery.go", "hmac/decryptor/mysql/hashQuery.go", "hmac/dataEncryptor.go",
      "pseudonymization/postgresql_tokenize_query.go", "pseudonymization/mysql_tokenize_query.go", "pseudonymization/dataTokenizer.go",
      "masking/dataProcessor.go", "crypto/envelope_detector.go", "acra-censor/acra-censor_implementation.go",
      "acra-censor/handlers/deny_handler.go", "sqlparser/ast_methods.go", "cmd/acra-server/common/listener.go"].all
        fun f => walkedFiles.contains f) = true := by decide +kernel

/-- Every call site has constant text in its message: no site prints a message made of variables only (such a site
could print anything, and no captured entry could be told from it). -/
theorem fact_sites_not_opaque : (logSites.all fun s => !isOpaque s.2.2.2) = true := by decide +kernel

/-- **No tainted identifier reaches a log call.** In every function of the walked files, no argument of a printing
call nor of `WithField/WithFields/WithError` on a logger mentions a name under which the code holds statement text,
a literal, a bound value or a column value – except at the listed places, where the name holds a placeholder's own
text (`?`, `:v1`). Lengths (`len(x)`) are not values. -/
theorem fact_site_idents_untainted :
    (siteIdents.all fun r => r.2.2.all fun i =>
      !valueIdents.contains i || exemptions.any fun e => e.1 == r.1 && e.2.1 == r.2.1 && e.2.2.1 == i) = true := siteIdents_checked.1

/-- every exemption is in use (a stale one would hide a future leak under the same name) -/
theorem fact_exemptions_used :
    (exemptions.all fun e => siteIdents.any fun r => r.1 == e.1 && r.2.1 == e.2.1 && r.2.2.contains e.2.2.1) = true := siteIdents_checked.2.1

/-- The only statement text any function on the query path hands to a logger is `queryWithHiddenValues`, and these
are the functions that do. -/
theorem fact_statement_text_sites :
    (siteIdents.filter fun r => r.2.2.contains "queryWithHiddenValues").map (fun r => (r.1, r.2.1)) =
      [("acra-censor/acra-censor_implementation.go", "AcraCensor.logAllowedQuery"),
       ("acra-censor/acra-censor_implementation.go", "AcraCensor.logDeniedQuery"),
       ("decryptor/postgresql/pg_decryptor.go", "PgProxy.handleQueryPacket"),
       ("decryptor/mysql/response_proxy.go", "Handler.ProxyClientConnection")] := siteIdents_checked.2.2

/-- **Errors that wrap a value.** `strconv`'s errors quote their input. Every conversion on the query path whose
error can travel on (returned, logged, or used in a way the extractor does not recognise) converts configuration or
a placeholder's number – all conversions of statement literals, bound parameters and column values either only test
the error or pass it through `utils.ErrorWithoutValue`. (Before repo patch 81 the tokenizer and the MySQL/PostgreSQL
value encoders returned the raw error and a dozen call sites logged it.) -/
theorem fact_value_conversions_sanitized :
    (conversions.all fun c =>
      !escaping c.2.2.2.2 || nonValueConversions.any fun n => n.1 == c.1 && n.2.1 == c.2.1) = true := conversions_checked.1

/-- every entry of `nonValueConversions` is in use -/
theorem fact_non_value_conversions_used :
    (nonValueConversions.all fun n => conversions.any fun c => c.1 == n.1 && c.2.1 == n.2.1 && escaping c.2.2.2.2) = true := conversions_checked.2

/-- PostgreSQL's parser is called at one place only, `postgresql.ParseQuery`, which drops the `at or near "<token>"`
part of a syntax error (the token can be a literal). (Before repo patch 82: three direct calls, errors logged at
debug and – through the end of the session – at error level.) -/
theorem fact_pg_parse_sanitized : pgParseCalls = [("encryptor/postgresql/observer.go", "ParseQuery")] := rfl

/-- the matcher on examples: a formatted message fits its pattern, a constant pattern fits only itself, and statement
text fits neither -/
example : matchPieces ["Parsing error on query: ", ""] "Parsing error on query: " = true := by decide +kernel
example : matchPieces ["parsedQuery: ", ", queryWithHiddenValues: ", ""] "parsedQuery: *sqlparser.Select, queryWithHiddenValues: select 1" = true := by decide +kernel
example : matchPieces ["New query"] "New query" = true ∧ matchPieces ["New query"] "New query select 'x'" = false := by decide +kernel
example : matchPieces ["Parsing error on query: ", ""] "select a from t where b = 'x'" = false := by decide +kernel
example : levelOf "Debugf" = "debug" ∧ levelOf "Warningln" = "warning" ∧ levelOf "Printf" = "info" := by decide +kernel

end LogSites

theorem tableFacts : TableFacts where
  lit_masked := contains_of_all (by decide +kernel)
  valarg_not_lit := by decide +kernel
  valarg_dec := by decide +kernel
  listarg_leaf := by decide +kernel

/-- **No literal survives redaction.** For every statement tree whose literals sit where the traversal
goes (`covered`: what `fact_walk_covers_children` leaves open is checked by the harness on every parsed
statement) and whatever `sqltypes.NewValue` accepts, the tree printed by `RedactSQLQuery` /
`HandleRawSQLQuery` contains no literal of any kind, at any position. -/
theorem redact_no_literals (valid : Validator) (t : Tree) (h : covered t = true) :
    lits (redact valid t) = [] := by
  unfold redact maskLiterals normalize
  exact maskWalk_lits tableFacts _ _ _ (walk_covered tableFacts valid _ false t _ h)

/-- what the shape proofs use from the regenerated tables: only literal kinds are converted or masked -/
theorem shapeFacts : ShapeFacts where
  masked_lit := contains_of_all (by decide +kernel)
  converted_lit := contains_of_all (by decide +kernel)
  valarg_dec := by decide +kernel

/-- **Redaction keeps the statement's shape.** For every statement tree (covered or not) and whatever
`sqltypes.NewValue` accepts, the redacted tree and the original have the same shape: every node, field,
identifier, operator and keyword is unchanged, a placeholder stands exactly where a literal (or an older
placeholder) stood, and an IN list of values is still a list of values (`::name` or a tuple of placeholders). -/
theorem redact_shape (valid : Validator) (t : Tree) : shape (redact valid t) = shape t := by
  unfold redact maskLiterals normalize
  rw [(maskWalk_sameLook shapeFacts _ _ _).shape_eq, (walk_sameLook shapeFacts valid _ false t _).shape_eq]

/-- the same for `Normalize` alone, with any prefix -/
theorem normalize_shape (valid : Validator) (pfx : Bytes) (t : Tree) : shape (normalize valid pfx t) = shape t :=
  (walk_sameLook shapeFacts valid pfx false t _).shape_eq

/-- `Normalize` alone (the first pass, any prefix) never un-covers a statement: nothing it rewrites can
hide a literal from the masking pass. -/
theorem normalize_keeps_covered (valid : Validator) (pfx : Bytes) (t : Tree) (h : covered t = true) :
    covered (normalize valid pfx t) = true :=
  walk_covered tableFacts valid pfx false t _ h

/-- **Fresh names.** The name `newName` hands out is not reserved – neither a bind variable that was
already in the statement (`reserved` starts as `GetBindvars`) nor a name handed out before – and it is
reserved from then on. The loop always finds one within `|reserved| + 1` steps. -/
theorem fresh_names (pfx : Bytes) (s : St) :
    (newName pfx s).1 ∉ s.reserved ∧ (newName pfx s).2.reserved = (newName pfx s).1 :: s.reserved ∧
    ∃ c, s.counter ≤ c ∧ (newName pfx s).1 = nameOf pfx c := by
  have hf := newNameAux_fresh pfx s.reserved (s.reserved.length + 1) s.counter (exists_free pfx s.reserved s.counter)
  exact ⟨hf.1, rfl, _, hf.2.2, hf.2.1⟩

/-- distinct counters give distinct names (so two generated placeholders coincide only by dedup) -/
theorem names_injective (pfx : Bytes) (a b : Nat) (h : nameOf pfx a = nameOf pfx b) : a = b := nameOf_inj pfx h

open LogModel in
/-- **Only redacted text (or none) reaches a log call.** In the model of the query-logging path – the
proxies' debug block followed by `AcraCensor.HandleQuery` with any list of handlers, any handler decisions,
either parse-error policy and either level – every entry prints a constant message, or the redacted
statement; never the raw or the merely normalised statement. (The model is compared entry by entry with
the captured output of the real AcraCensor and handlers: op `C16.logtrace`.) -/
theorem log_args_redacted (c : Config) (p : Parse) :
    ∀ e ∈ (proxyQuery c p).1, e.payload = none ∨ e.payload = some .redacted := by
  intro e he
  rcases mem_proxyQueryAll (mem_proxyQuery he) with h | h | h | h
  · exact .inr h.1
  · exact .inl h
  · exact logAllowed_payload p e h
  · exact logDenied_payload p e h

open LogModel in
/-- **Unparseable statements never appear in log messages.** When `HandleRawSQLQuery` reports a syntax error
no entry on the path carries any statement text at all – whatever the handlers, the parse-error policy
(`ignore_parse_error`) and the level. (The operator's separate capture file, `parse_errors_log`, is not a log.) -/
theorem unparseable_never_logged (c : Config) :
    ∀ e ∈ (proxyQuery c .fail).1, e.payload = none := by
  intro e he
  rcases mem_proxyQueryAll (mem_proxyQuery he) with h | h | h | h
  · exact absurd rfl h.2
  · exact h
  · exact logAllowed_fail e h
  · exact logDenied_fail e h

/-! ## errors that reach log calls carry no value -/

open ErrText in
/-- **A conversion error says nothing about the value.** The text of `utils.ErrorWithoutValue(err)` for `strconv`'s
error depends on the function and the cause only – two inputs that fail the same way give the same text (the text of
the unrepaired error differs, see the example below). Compared with the real function on generated values: op `C16.numerr`. -/
theorem error_without_value_hides_input (f : String) (c : Cause) (v w : String) :
    withoutValue ⟨f, v, c⟩ = withoutValue ⟨f, w, c⟩ := rfl

open ErrText Generated.ErrText in
/-- `ParseQuery` cuts PostgreSQL's message at the FIRST ` at or near ` (`strings.Index`; with `strings.LastIndex` –
seeded change C16-4 – a token that itself contains the phrase keeps its beginning in the error), keeps what stands
before it, and builds the new error from that and the cursor position only; of the parser's error it reads nothing
but `Message` and `Cursorpos` -/
theorem fact_pg_sanitiser : pgCutSearch = "strings.Index" ∧ pgCutSeparator = " at or near " ∧ pgCutKeeps = "message[:i]" ∧
    pgErrorFormat = "%s at position %d" ∧ pgErrorArgs = ["message", "parseErr.Cursorpos"] ∧
    pgErrorFieldsUsed = ["Cursorpos", "Message"] := ⟨rfl, rfl, rfl, rfl, rfl, rfl⟩

open ErrText Generated.ErrText in
/-- **A PostgreSQL syntax error says nothing about the token next to it.** Whatever follows ` at or near ` in the
parser's message – the token, which can be a literal or the rest of an unterminated string, and may itself contain
` at or near `, quotes and line breaks – the text `ParseQuery` returns is the same. `pgError` is the function the code
computes (search function, separator and format regenerated). Compared with the real function on generated
statements and messages: ops `C16.pgerr`, `C16.pgsan`. -/
theorem pg_error_hides_token (kind tok tok' : List Char) (pos : Nat) :
    pgError (kind ++ atOrNear ++ tok) pos = pgError (kind ++ atOrNear ++ tok') pos := by
  unfold pgError atOrNear
  rw [fact_pg_sanitiser.1, fact_pg_sanitiser.2.1, fact_pg_sanitiser.2.2.2.1, pgErrorWith_std, pgErrorWith_std]
  unfold pgErrorStd
  rw [cut_append, cut_append " at or near ".toList kind tok']

open ErrText Generated.ErrText in
/-- **The sanitised message is a function of (kind, position) only.** For EVERY message of PostgreSQL's shape
`<kind> at or near <token>` – the token arbitrary: a string literal, the rest of an unterminated quoted or dollar-quoted
string, text that contains ` at or near ` again, quotes, line breaks – and every cursor position, `ParseQuery`'s error
is `<kind> at position <pos>`: no character of the token is in it. (`kind` is one of PostgreSQL's fixed texts – `syntax
error`, `unterminated quoted string` … – none of which contains the phrase: hypothesis `hk`, discharged for them in
`pg_kinds_clean`.) -/
theorem pg_error_sanitised_is_token_free (kind tok : List Char) (pos : Nat)
    (hk : occurs atOrNear (kind ++ atOrNear.dropLast) = false) :
    pgError (kind ++ atOrNear ++ tok) pos = kind ++ " at position ".toList ++ (toString pos).toList := by
  unfold pgError
  unfold atOrNear at hk ⊢
  rw [fact_pg_sanitiser.1, fact_pg_sanitiser.2.1, fact_pg_sanitiser.2.2.2.1, pgErrorWith_std]
  rw [fact_pg_sanitiser.2.1] at hk
  unfold pgErrorStd
  rw [cut_clean " at or near ".toList kind tok (by decide) hk]

/-- the message kinds of PostgreSQL's scanner and grammar that come with ` at or near "<token>"` -/
def pgKinds : List String :=
  ["syntax error", "unterminated quoted string", "unterminated dollar-quoted string", "unterminated quoted identifier",
   "unterminated /* comment", "unterminated bit string literal", "unterminated hexadecimal string literal",
   "zero-length delimited identifier", "trailing junk after numeric literal", "trailing junk after parameter",
   "invalid Unicode escape", "invalid Unicode escape value", "invalid Unicode surrogate pair", "operator too long", "parameter number too large",
   "invalid hexadecimal integer", "invalid octal integer", "invalid binary integer"]

open ErrText in
/-- none of these kinds hosts the start of an ` at or near ` -/
theorem pg_kinds_clean : ∀ k ∈ pgKinds, occurs atOrNear (k.toList ++ atOrNear.dropLast) = false := by decide +kernel

open ErrText in
/-- **Seeded change C16-4 as a theorem about the model.** With the cut at the LAST ` at or near ` the beginning of a
token that contains the phrase stays in the error text; with the first one it does not. -/
theorem last_index_cut_keeps_token_counterexample :
    pgErrorWith "strings.LastIndex" " at or near " "%s at position %d"
        "syntax error at or near \"'SECRET was seen at or near the gate'\"".toList 29 =
      "syntax error at or near \"'SECRET was seen at position 29".toList ∧
    pgErrorWith "strings.Index" " at or near " "%s at position %d"
        "syntax error at or near \"'SECRET was seen at or near the gate'\"".toList 29 =
      "syntax error at position 29".toList := by decide +kernel

open ErrText in
/-- `strconv`'s own text does tell the inputs apart – the repair is not vacuous -/
example : (NumError.text ⟨"ParseInt", "secret1", .syntax⟩ == NumError.text ⟨"ParseInt", "secret2", .syntax⟩) = false := by decide +kernel
open ErrText in
example : withoutValue ⟨"ParseInt", "secret1", .syntax⟩ = "strconv.ParseInt: invalid syntax" := by decide +kernel
open ErrText in
example : pgError "syntax error at or near \"'secret'\"".toList 27 = "syntax error at position 27".toList := by decide +kernel
open ErrText in
/-- `pg_error_sanitised_is_token_free` on an unterminated string whose rest contains the phrase, a quote and a line break -/
example : pgError ("unterminated quoted string".toList ++ atOrNear ++ "\"'Zq9 seen at or near \"the\" gate\nnext".toList) 31 =
    "unterminated quoted string at position 31".toList :=
  (pg_error_sanitised_is_token_free _ _ 31 (pg_kinds_clean "unterminated quoted string" (by decide +kernel))).trans
    (by decide +kernel)

/-- `select a from t where b = X'AB' union select c from u limit 7`-like tree: covered, with literals. -/
def exampleTree : Tree :=
  .node "Union" [.atom [], .node "ParenSelect" [.node "nil" []], .node "ParenSelect" [.node "nil" []],
    .node "OrderBy" [.node "Order" [mkSqlVal 4 [65, 66] [.atom [], .node "nil" []], .atom []]],
    .node "Limit" [.node "nil" [], mkSqlVal 1 [55] [.atom [], .node "nil" []], .atom [48]], .atom []]

example : covered exampleTree = true := by decide +kernel
example : lits exampleTree = [[65, 66], [55]] := by decide +kernel
example : lits (redact (fun _ _ => true) exampleTree) = [] := redact_no_literals _ _ (by decide +kernel)
example : shape (redact (fun _ _ => false) exampleTree) = shape exampleTree := redact_shape _ _
example : (shape exampleTree == exampleTree) = false := by decide +kernel

open LogModel in
/-- a configuration in which text is printed: debug level, a deny-by-table handler that blocks -/
example : (proxyQuery ⟨[.capture, .security .deny true], false, false, true⟩ (.ok false)).1 =
    [⟨.proxyNewQuery, some .redacted⟩, ⟨.handlerOwn, none⟩, ⟨.deniedShown, some .redacted⟩, ⟨.deniedBy, none⟩,
     ⟨.censorBlocked, none⟩] := by decide +kernel

end AcraModel.Props.C16
