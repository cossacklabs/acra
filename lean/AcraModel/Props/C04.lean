import AcraModel.Proxy.PipelineLemmas
import AcraModel.Proxy.PlacementLemmas
import AcraModel.Proxy.MySQLLemmas
import AcraModel.Envelope.SafeCompatSame
import AcraModel.Proxy.ToyColumn
import AcraModel.Proxy.LitCoderLemmas
import AcraModel.Proxy.SqlPrepared
import AcraModel.Generated.Wiring
import AcraModel.Generated.StmtForms
import AcraModel.Generated.PgCoder
/-!
# C04 — the SQL proxy stores only protected forms and restores originals on read

Models: `AcraModel/Proxy/{Placement,Pipeline,Session,MySQL,LitCoder,Pending,SqlPrepared}.lean`, helper lemmas in the
`Proxy/*Lemmas.lean` modules; the envelope facts come from C01 (`RoundTripHyps`, `onColumn_protect_embedded`) and
C03 (`onColumnCompat_decrypt_same`).

Statements about values are made for values that are not already protected (`matchKind … = false`,
`registryMatch … = false`): a plaintext that itself looks like a protected value is passed through
unwrapped by design (`C01.protect_passthrough`).
-/
namespace AcraModel.Props.C04
open AcraModel AcraModel.Envelope AcraModel.Proxy Generated AcraModel.Wire.LenEnc AcraModel.Typed

/-- In `proxyFactory.New` (PostgreSQL) the result-column subscribers run in the order the read chain of
the model composes them: the decoder first, the envelope detector in between, the encoder last; and the
detector's callbacks are the compatibility wrapper, then the poison detector, then the decrypt handler. -/
theorem fact_pg_read_chain_order :
    Wiring.pgSubscriberOrder.head? = some "decoderProcessor" ∧
    Wiring.pgSubscriberOrder.getLast? = some "encoderProcessor" ∧
    Wiring.pgSubscriberOrder.contains "containerDetector" = true ∧
    Wiring.pgCallbackOrder = ["wrapper", "poisonDetector", "decrypt"] :=
  ⟨rfl, rfl, by decide +kernel, rfl⟩

/-- The MySQL proxy wires the same callbacks in the same order, and its decoder / encoder processors
also bracket the envelope detector. -/
theorem fact_mysql_read_chain_order :
    Wiring.mysqlCallbackOrder = ["wrapper", "poisonDetector", "decrypt"] ∧
    Wiring.mysqlSubscriberOrder.getLast? = some "NewDataEncoderProcessor()" ∧
    Wiring.mysqlSubscriberOrder.contains "containerDetector" = true :=
  ⟨rfl, rfl, by decide +kernel⟩

/-- The order `readChainMy` composes: in the MySQL `proxyFactory.New` the decoder processor is subscribed
before the envelope detector and the encoder processor after it (the processors in between – tokenizer, HMAC –
are registered only when some column uses them and return encryption-only columns unchanged). -/
theorem fact_mysql_decoder_detector_encoder :
    Wiring.mysqlSubscriberOrder.idxOf "NewDataDecoderProcessor()" < Wiring.mysqlSubscriberOrder.idxOf "containerDetector" ∧
    Wiring.mysqlSubscriberOrder.idxOf "containerDetector" < Wiring.mysqlSubscriberOrder.idxOf "NewDataEncoderProcessor()" ∧
    Wiring.mysqlSubscriberOrder.idxOf "NewDataEncoderProcessor()" < Wiring.mysqlSubscriberOrder.length := by decide +kernel

/-- What the two query encryptors walk when they analyse an INSERT, as the model's `xfInsertStmt` / `xfInsertMy`
and `bindPlan` / `bindPlanMy` have it: the statement text goes through `encryptExpression` (VALUES) and then
`encryptUpdateExpressions` (the upsert assignments – PostgreSQL: over `OnConflictClause.TargetList`); the bound
parameters are mapped by `getInsertPlaceholders` (VALUES), then `updatePlaceholderMap` over the upsert
assignments, before `encryptValuesWithPlaceholders` runs. (Before the `fix:` commits the PostgreSQL facts had no
`encryptUpdateExpressions` and neither front end walked the assignments for parameters.) -/
theorem fact_upsert_walked :
    StmtForms.pgInsertQueryCalls = ["onReturning", "encryptExpression", "encryptUpdateExpressions"] ∧
    StmtForms.mysqlInsertQueryCalls = ["onReturning", "encryptExpression", "encryptUpdateExpressions"] ∧
    StmtForms.pgInsertQueryWalks.contains "insert.GetOnConflictClause().GetTargetList()" = true ∧
    StmtForms.pgInsertValuesWalks.contains "insert.GetOnConflictClause().GetTargetList()" = true ∧
    StmtForms.mysqlInsertValuesWalks.contains "insert.OnDup" = true ∧
    StmtForms.pgInsertValuesCalls = ["getInsertPlaceholders", "updatePlaceholderMap", "savePlaceholderSettingIntoClientSession", "encryptValuesWithPlaceholders"] ∧
    StmtForms.mysqlInsertValuesCalls = ["getInsertPlaceholders", "updatePlaceholderMap", "savePlaceholderSettingIntoClientSession", "encryptValuesWithPlaceholders"] :=
  ⟨rfl, rfl, by decide +kernel, by decide +kernel, by decide +kernel, rfl, rfl⟩

/-- The parameters of an UPDATE are mapped from exactly one list – the SET targets – in both front ends
(`updatePlaceholders` over `u.sets`). -/
theorem fact_update_values_walk :
    StmtForms.pgUpdateValuesWalks = ["update.TargetList"] ∧ StmtForms.mysqlUpdateValuesWalks = ["update.Exprs"] ∧
    StmtForms.pgUpdateValuesCalls = ["updatePlaceholderMap", "encryptValuesWithPlaceholders"] ∧
    StmtForms.mysqlUpdateValuesCalls = ["updatePlaceholderMap", "encryptValuesWithPlaceholders"] :=
  ⟨rfl, rfl, rfl, rfl⟩

/-- **Which slice travels next to the error.** Every return of `utils.DecodeEscaped`: next to BOTH errors (invalid
hex after `\x`, `ErrDecodeOctalString`) the function hands back its INPUT (`data`), never `nil` – the PostgreSQL
literal coder uses the slice returned next to `ErrDecodeOctalString` as the value to encrypt ("not an escaped
bytea: take the string as it is"). The model's `decodeEscapedGo` reads the returned variable from this table. -/
theorem fact_decodeEscaped_returns : PgCoder.decodeEscapedReturns = escReturnsExpected := rfl

/-- The string-literal branch of `PgQueryDBDataCoder.Decode`, statement by statement, as `LitCoder.pgDecodeSval`
has it: a setting with a data type other than bytea returns the literal's text; otherwise `DecodeEscaped`, an
error other than `ErrDecodeOctalString` is returned when it is a hex error, and – with no error or with
`ErrDecodeOctalString` – the slice `DecodeEscaped` returned (`binValue`) is the result. -/
theorem fact_pg_decode_sval :
    PgCoder.pgDecodeSval =
      ["assign typeID:=setting.GetDBDataTypeID()", "if typeID!=0&&typeID!=pgtype.ByteaOID", "return []byte(sval.GetSval()),nil", "end",
       "assign binValue,err:=utils.DecodeEscaped([]byte(sval.GetSval()))", "if err!=nil&&err!=utils.ErrDecodeOctalString",
       "if assign _,ok:=err.(hex.InvalidByteError); err==hex.ErrLength||ok", "return nil,err",
       "else if err==utils.ErrDecodeOctalString", "return nil,err", "end", "return []byte(sval.GetSval()),nil", "end",
       "return binValue,nil"] := rfl

/-- `UpdateExpressionValue` of both front ends, as `encCell` / `encCellMy` have it: decode (an error other than
`ErrDecodeOctalString` / unsupported expression is passed on – the rewrite of the statement is abandoned), run the
chain on the decoded value (an error is passed on), leave the literal alone when the chain returned the same
bytes, otherwise encode and replace. -/
theorem fact_update_expression_value :
    PgCoder.pgUpdateExpressionValue =
      ["if expr.GetSval()!=nil||expr.GetVal()!=nil||expr.GetFval()!=nil", "assign rawData,err:=coder.Decode(expr,setting)",
       "if err!=nil", "if err==utils.ErrDecodeOctalString||err==base.ErrUnsupportedExpression", "return ErrUpdateLeaveDataUnchanged", "end",
       "return err", "end", "assign newData,err:=updateFunc(ctx,rawData)", "if err!=nil", "return err", "end",
       "if len(newData)==len(rawData)&&bytes.Equal(newData,rawData)", "return ErrUpdateLeaveDataUnchanged", "end",
       "if assign err=coder.Encode(expr,newData,setting); err!=nil", "return err", "end", "end", "return nil"] ∧
    PgCoder.myUpdateLiteralKinds = "sqlparser.StrVal,sqlparser.HexVal,sqlparser.PgEscapeString,sqlparser.IntVal,sqlparser.HexNum" ∧
    PgCoder.myUpdateLiteralCase =
      ["assign rawData,err:=coder.Decode(val,setting)", "if err!=nil",
       "if err==utils.ErrDecodeOctalString||err==base.ErrUnsupportedExpression", "return ErrUpdateLeaveDataUnchanged", "end", "return err", "end",
       "assign newData,err:=updateFunc(ctx,rawData)", "if err!=nil", "return err", "end",
       "if len(newData)==len(rawData)&&bytes.Equal(newData,rawData)", "return ErrUpdateLeaveDataUnchanged", "end",
       "assign coded,err:=coder.Encode(expr,newData,setting)", "if err!=nil", "return err", "end", "assign val.Val=coded"] :=
  ⟨rfl, rfl, rfl⟩

/-- `mysql.DBDataCoder.Decode`, as `LitCoder.myDecode` has it: integer and string literals are returned as they
are, `X'…'` is hex-decoded (an error is returned for bad hex), `0x…` likewise after its prefix. -/
theorem fact_my_decode :
    PgCoder.myDecode =
      ["typeswitch assign val:=expr.(type)", "case *sqlparser.SQLVal", "switch val.Type", "case sqlparser.IntVal,sqlparser.StrVal",
       "return val.Val,nil", "case sqlparser.HexVal", "assign binValue:=make([]byte,hex.DecodedLen(len(val.Val)))",
       "assign _,err:=hex.Decode(binValue,val.Val)", "if err!=nil", "return nil,err", "end", "return binValue,nil",
       "case sqlparser.HexNum", "if !bytes.HasPrefix(val.Val,hexNumPrefix)", "return val.Val,nil", "end",
       "assign binValue:=make([]byte,hex.DecodedLen(len(val.Val)-2))", "assign _,err:=hex.Decode(binValue,val.Val[2:])",
       "if err!=nil", "return nil,err", "end", "return binValue,nil", "end", "end", "return nil,base.ErrUnsupportedExpression"] := rfl

/-- **rewrite_frame (INSERT).** Whatever the cell transformer does, the forwarded INSERT has the table,
column list and RETURNING list of the received one and the same number of rows; a row whose arity
differs from the column list is forwarded as received; in every other row each cell of a column WITHOUT
a setting is identical, each cell of a column WITH a setting is what the transformer returned for that
very cell with the column's own setting (`cellRel`), and cells beyond the column list are untouched.
A statement on a table without configuration entry is forwarded as received. -/
theorem rewrite_frame_insert {σ} (f : Xf σ) (sch : Schema) (i i' : Insert) (st st' : σ)
    (h : xfInsert f sch i st = some (i', st')) :
    i'.table = i.table ∧ i'.cols = i.cols ∧ i'.returning = i.returning ∧
    (sch.table i.table = none → i' = i) ∧
    (∀ t, sch.table i.table = some t → (insertColumns t i).isEmpty = false →
      rowsRel (rowFrame f t (insertColumns t i)) i.rows i'.rows) := by
  unfold xfInsert at h
  cases ht : sch.table i.table with
  | none => rw [ht] at h; cases h; exact ⟨rfl, rfl, rfl, fun _ => rfl, nofun⟩
  | some t =>
    rw [ht] at h
    dsimp only at h
    split at h
    · next he => cases h; exact ⟨rfl, rfl, rfl, nofun, fun _ e hne => by cases e; rw [he] at hne; cases hne⟩
    · obtain ⟨⟨rows, st1⟩, h1, h2⟩ := Option.map_eq_some_iff.mp h
      cases h2
      exact ⟨rfl, rfl, rfl, nofun, fun _ e _ => Option.some.inj e ▸ xfRows_frame h1⟩

/-- **rewrite_frame (UPDATE).** The forwarded UPDATE has the table, alias and RETURNING list of the received
one and the same SET columns in the same order; the value of a column without setting is identical, the
value of a column with a setting is what the transformer returned for it with that setting. -/
theorem rewrite_frame_update {σ} (f : Xf σ) (sch : Schema) (u u' : Update) (st st' : σ)
    (h : xfUpdate f sch u st = some (u', st')) :
    u'.table = u.table ∧ u'.alias = u.alias ∧ u'.returning = u.returning ∧
    (sch.table u.table = none → u' = u) ∧
    (∀ t, sch.table u.table = some t → setsRel f t u.sets u'.sets) := by
  unfold xfUpdate at h
  cases ht : sch.table u.table with
  | none => rw [ht] at h; cases h; exact ⟨rfl, rfl, rfl, fun _ => rfl, nofun⟩
  | some t =>
    rw [ht] at h
    obtain ⟨⟨sets, st1⟩, h1, h2⟩ := Option.map_eq_some_iff.mp h
    cases h2
    exact ⟨rfl, rfl, rfl, nofun, fun _ e => Option.some.inj e ▸ xfSets_rel h1⟩

/-- **uncovered_identity (statements).** A statement whose table has no configuration entry, or an entry
without protected columns, is forwarded exactly as received – for every cell transformer and state; so
is every statement that is neither INSERT nor UPDATE. -/
theorem uncovered_identity_stmt {σ} (f : Xf σ) (sch : Schema) (s : Stmt) (st : σ)
    (h : ∀ n, s.table = some n → ∀ t, sch.table n = some t → t.encrypted = []) :
    xfStmt f sch s st = (s, st) := by
  cases s with
  | select s => rfl
  | other n => rfl
  | insert i =>
    have hs : xfInsertStmt f sch i st = some (i, st) := by
      unfold xfInsertStmt xfInsert
      cases ht : sch.table i.table with
      | none => rfl
      | some t =>
        have he := h i.table rfl t ht
        simp only [xfRows_unconfigured f t he, xfSets_unconfigured f t he, Option.map_some, ite_self, Option.bind_some]
    simp only [xfStmt, hs]
  | update u =>
    have hs : xfUpdateStmt f sch u st = some (u, st) := by
      unfold xfUpdateStmt xfUpdate
      cases ht : sch.table u.table with
      | none => exact ite_self _
      | some t => simp only [xfSets_unconfigured f t (h u.table rfl t ht), Option.map_some, ite_self]
    simp only [xfStmt, hs]

/-- **uncovered_identity (parameters).** The Bind of a statement on a table without configuration entry is
forwarded exactly as received. -/
theorem uncovered_identity_bind (c : CryptoOps) (kv : KeyView) (sch : Schema) (s : Stmt) (params : List Param)
    (order : List Nat) (rnd : Bytes) (h : ∀ n, s.table = some n → sch.table n = none) :
    forwardBind c kv sch s params order rnd = .same := by
  rcases s with i | u | _ | _
  · simp [forwardBind, bindPlan, h i.table rfl]
  · simp [forwardBind, bindPlan, h u.table rfl]
  all_goals simp [forwardBind, bindPlan]

/-- **What the chain receives for a literal – for EVERY literal text.** `PgQueryDBDataCoder.Decode` of a string
literal `lit` of a protected column returns an error exactly when the column has no text data type and `lit` is
`\x` followed by invalid hex; in every other case it hands the chain a value `raw` that is either the literal's
text itself or its bytea decoding, and `raw` is empty only when the literal denotes the empty byte string (`''`,
or `'\x'`). In particular a text that is not valid bytea escape text – a line break, a tab, a control
character, a backslash not followed by a backslash or three octal digits, `C:\keys\master.pem` – reaches the
chain as it is, never as an empty value that the chain would skip. -/
theorem lit_value_total (s : ColSetting) (lit : Bytes) :
    (decodeLit s lit = none ↔ s.textTyped = false ∧ ∃ h, lit = 92 :: 120 :: h ∧ Wire.Bytea.hexDecode h = none) ∧
    (∀ raw, decodeLit s lit = some raw →
      (raw = lit ∨ Wire.Bytea.decodeEscaped lit = .ok raw) ∧
      (raw = [] → lit = [] ∨ (s.textTyped = false ∧ lit = [92, 120]))) :=
  ⟨pgDecodeSval_none_iff fact_decodeEscaped_returns s.textTyped lit,
   pgDecodeSval_some fact_decodeEscaped_returns s.textTyped lit⟩

/-- **What the MySQL chain receives for a literal.** String and integer literals reach the chain as their text,
`X'…'` as the decoded bytes (an error – statement forwarded as received – only for bad hex), and the value is
empty only for an empty literal (`''`, `X''`, `0x`). -/
theorem lit_value_total_my (k : MyLit) (v : Bytes) :
    (k = .str ∨ k = .int → myDecode k v = some v) ∧
    (k = .hexVal → myDecode k v = Wire.Bytea.hexDecode v) ∧
    (∀ raw, myDecode k v = some raw → raw = [] → v = [] ∨ (k = .hexNum ∧ v = hexNumPrefix)) :=
  myDecode_spec k v

/-- **write_never_plain (literal, its decoded value).** A string literal written into a protected column – whose decoded value
`raw` is not empty and not already protected – is replaced by the text encoding of exactly
`protect … raw`, a value different from `raw`; the random stream advances by what the envelope consumed.
Together with `rewrite_frame_insert` / `rewrite_frame_update`: every protected cell of the forwarded
statement is `encodeText (protect …)` of the client's cell and every other cell is identical. -/
theorem write_never_plain_value (c : CryptoOps) (kvW kvR : KeyView) (s : ColSetting) (b raw rnd p : Bytes)
    (hd : decodeLit s b = some raw) (hne : raw ≠ [])
    (h : RoundTripHyps c s.kind kvW kvR raw rnd p)
    (hnm : matchKind s.kind raw = false) (hnr : registryMatch raw = false)
    (hp : protect c kvW s.kind raw rnd = .ok p) (hpr : p ≠ raw) :
    encCell c kvW s (.lit b) rnd = some (.lit (encodeText s p), rnd.drop (rndUsed s.kind)) := by
  have hw := writeChain_eq_protect h hnm hnr hp
  simp [encCell, hd, hne, hw, hpr, chainUsed, passthrough, hnm, hnr]

/-- **write_never_plain (literal) – for every literal text.** Let `b` be ANY byte string standing as a string
literal in a protected column, other than the two shapes named by `lit_value_total`: `\x` + invalid hex in a
column without text type (the coder returns an error: see `fail_open_*`), and a literal that denotes the empty
byte string (nothing to protect). Then the coder hands the chain a NON-EMPTY value `raw` – the bytea decoding of
`b`, or `b` itself when `b` is not valid escape text – and, whenever the envelope can be built for `raw`, the
forwarded literal is the text encoding of exactly `protect … raw`, a value different from `raw`. -/
theorem write_never_plain (c : CryptoOps) (kvW kvR : KeyView) (s : ColSetting) (b rnd : Bytes)
    (hx : ¬ (s.textTyped = false ∧ ∃ h, b = 92 :: 120 :: h ∧ Wire.Bytea.hexDecode h = none))
    (he : b ≠ [] ∧ ¬ (s.textTyped = false ∧ b = [92, 120])) :
    ∃ raw, decodeLit s b = some raw ∧ raw ≠ [] ∧ (raw = b ∨ Wire.Bytea.decodeEscaped b = .ok raw) ∧
      ∀ p, RoundTripHyps c s.kind kvW kvR raw rnd p → matchKind s.kind raw = false → registryMatch raw = false →
        protect c kvW s.kind raw rnd = .ok p → p ≠ raw →
        encCell c kvW s (.lit b) rnd = some (.lit (encodeText s p), rnd.drop (rndUsed s.kind)) := by
  obtain ⟨hnone, hsome⟩ := lit_value_total s b
  cases hd : decodeLit s b with
  | none => exact absurd (hnone.1 hd) hx
  | some raw =>
    obtain ⟨hor, hemp⟩ := hsome raw hd
    have hne : raw ≠ [] := fun h => (hemp h).elim he.1 he.2
    exact ⟨raw, rfl, hne, hor, fun p => write_never_plain_value c kvW kvR s b raw rnd p hd hne⟩

/-- **Fail-open, stated as what the code does (1): which literals make the rewrite fail.** The transformer of a
protected literal fails (`none`) exactly when the coder returns an error (`\x` + invalid hex, no text type) or
the encryption chain fails on the non-empty decoded value (no usable key, …). -/
theorem fail_open_cell (c : CryptoOps) (kv : KeyView) (s : ColSetting) (b rnd : Bytes) :
    encCell c kv s (.lit b) rnd = none ↔
      decodeLit s b = none ∨ ∃ raw, decodeLit s b = some raw ∧ raw ≠ [] ∧ ∀ nd, writeChain c kv s raw rnd ≠ .ok nd := by
  cases hd : decodeLit s b with
  | none => simp [encCell, hd]
  | some raw =>
    cases raw with
    | nil => simp [encCell, hd]
    | cons x r =>
      cases hw : writeChain c kv s (x :: r) rnd <;> simp [encCell, hd, hw]
      split <;> simp

/-- **Fail-open, stated as what the code does (2): a failed rewrite forwards the statement as received.** When
the transformer fails on ANY protected cell of an INSERT / UPDATE, `OnQuery` returns the error, `handleQueryPacket`
only logs it and the statement goes to the database exactly as the client sent it – every protected literal in
it, also those the transformer had handled before the failing one, in clear.

The property's statement has no exception for this, so the inputs on which it happens on the unchanged tree –
confirmed through the real proxy, regression witnesses `corpusFailOpen` – are KNOWN FINDINGS, each with its own
decidable class: `plaintext-at-database:invalid-hex-literal` (the coder's error: `\x` + invalid hex as literal or
text parameter, `lit_value_total`), `plaintext-at-database:no-key-for-client` (the chain fails: no usable key),
and – statements the analysis never reaches, so no transformer runs at all –
`plaintext-at-database:multi-statement-query` (only the first statement of a simple Query is analysed) and
`plaintext-at-database:non-utf8-statement` (pg_query cannot read the text). A failing random source and syntax
newer than the embedded grammar stay documented assumptions (not reproduced as sessions). -/
theorem fail_open_statement {σ} (f : Xf σ) (sch : Schema) (st : σ) :
    (∀ i, xfInsertStmt f sch i st = none → xfStmt f sch (.insert i) st = (.insert i, st)) ∧
    (∀ u, xfUpdateStmt f sch u st = none → xfStmt f sch (.update u) st = (.update u, st)) :=
  ⟨fun i h => by simp [xfStmt, h], fun u h => by simp [xfStmt, h]⟩

/-- For columns that are not text-typed the forwarded literal is the hex bytea literal of the container. -/
theorem write_never_plain_hex (s : ColSetting) (p : Bytes) (h : s.dtype ≠ .str) : encodeText s p = pgHex p := by
  have : s.textTyped = false := by simpa [ColSetting.textTyped] using h
  simp [encodeText, this]

/-- **write_never_plain (bound parameter).** A text- or binary-format parameter bound to a protected column
is replaced by `protect …` of its decoded value (hex-encoded in text format, raw in binary format). -/
theorem write_never_plain_param (c : CryptoOps) (kvW kvR : KeyView) (s : ColSetting) (fmt : Fmt) (data raw rnd p : Bytes)
    (hd : getData fmt data = some raw) (hne : raw ≠ [])
    (h : RoundTripHyps c s.kind kvW kvR raw rnd p)
    (hnm : matchKind s.kind raw = false) (hnr : registryMatch raw = false)
    (hp : protect c kvW s.kind raw rnd = .ok p) :
    encParam c kvW s fmt data rnd = some (setData s fmt p) := by
  have hw := writeChain_eq_protect h hnm hnr hp
  simp [encParam, hd, hne, hw]

/-- **read_restores.** What the write chain stored for `raw` (the container `p`), sent back by the database
in text format or in binary format – for a typed column AND for a column without data type – comes out of
the read chain of a reader whose keys include the writer's key as a value the client reads as exactly `raw`.
(`raw ≠ p` holds whenever the AEAD adds bytes, `SealLen`.) In the binary format a column without data type
goes through the bytea text decoder first (`PgSQLDataDecoderProcessor`, `IsBinaryDataOperation`): on a
serialized container it fails with `ErrDecodeOctalString` (`decodeEscaped_protect`: the top byte of the
8-byte length field is a control character for containers below 2^61 bytes), so the detector receives
exactly the stored bytes. -/
theorem read_restores (c : CryptoOps) (kvW kvR : KeyView) (s : ColSetting) (fmt : Fmt) (raw rnd p : Bytes)
    (hne : raw ≠ [])
    (h : RoundTripHyps c s.kind kvW kvR raw rnd p)
    (hnm : matchKind s.kind raw = false) (hnr : registryMatch raw = false)
    (hp : protect c kvW s.kind raw rnd = .ok p) (hpr : raw ≠ p)
    (hf : fmt = .text ∨ s.dtype ≠ .none ∨ p.length < 2^61) :
    writeChain c kvW s raw rnd = .ok p ∧
    ∃ x, readChain c kvR (some s) fmt (dbOut fmt p) = .ok x ∧ clientValue s fmt x = some raw := by
  refine ⟨writeChain_eq_protect h hnm hnr hp, ?_⟩
  have hc := compat_protected h hnm hnr hp hpr
  obtain ⟨enc, hdec⟩ : ∃ enc, decodeCol (some s) fmt (dbOut fmt p) = some (p, enc) := by
    cases fmt with
    | text => exact ⟨_, decodeCol_pgHex _ p⟩
    | binary =>
      rcases hf with h | hdt | hl
      · cases h
      · exact ⟨_, decodeCol_typed_binary s p hdt⟩
      · exact ⟨_, decodeCol_octalErr _ _ (decodeEscaped_protect c kvW s.kind raw rnd p hnm hnr hp hl)⟩
  refine ⟨_, readChain_eq hdec hc, ?_⟩
  rw [bne_iff_ne.mpr hpr, encodeCol_decrypted s fmt enc hne]
  exact clientValue_encoded s fmt raw

/-- **read_restores, binary format without data type – what reaches the detector.** The decoder hands the
envelope detector exactly the stored container (no decoded copy, no remembered encoded value). -/
theorem binary_untyped_delivers_stored (c : CryptoOps) (kv : KeyView) (s : ColSetting) (raw rnd p : Bytes)
    (hnm : matchKind s.kind raw = false) (hnr : registryMatch raw = false)
    (hp : protect c kv s.kind raw rnd = .ok p) (hl : p.length < 2^61) :
    decodeCol (some s) .binary p = some (p, none) ∧ decodeCol none .binary p = some (p, none) := by
  have hesc := decodeEscaped_protect c kv s.kind raw rnd p hnm hnr hp hl
  exact ⟨decodeCol_octalErr _ _ hesc, decodeCol_octalErr _ _ hesc⟩

/-- **A reader without the keys gets the stored form.** If nothing inside the stored container `p` can be
processed with the reader's keys (the hypotheses of C03 `onColumnCompat_decrypt_same`), then what the read
chain delivers in text format is determined by `p` alone: the database's hex form of the container (for a
text-typed column: the container bytes) – never anything computed from the plaintext. -/
theorem keyless_gets_stored_form (c : CryptoOps) (kv : KeyView) (s : ColSetting) (p : Bytes) (hpe : p ≠ [])
    (h1 : ∀ i, i < p.length → startsWith containerTag (p.drop i) = true → ∀ m, process c kv (p.drop i) ≠ .ok m)
    (h2 : ∀ x id sx, x <:+: p → serialize x id = .ok sx → ∀ m, process c kv sx ≠ .ok m) :
    readChain c kv (some s) .text (pgHex p) = .ok (if s.dtype = .str then p else pgHex p) := by
  obtain ⟨hit, hc⟩ := onColumnCompat_decrypt_same c kv p h1 h2
  rw [readChain_eq (decodeCol_pgHex _ p) hc, bne_self_eq_false]
  obtain ⟨k, dt, re⟩ := s
  cases p with
  | nil => exact absurd rfl hpe
  | cons a r => cases dt <;> rfl

/-- **uncovered_identity (result columns).** A result column without setting whose value is not bytea hex
gone wrong (`decodeEscaped ≠ hexErr`, see the known finding `pg-uncovered-hex-lookalike`) and in whose
decoded form nothing can be processed with the reader's keys is delivered byte for byte, in either format. -/
theorem uncovered_identity_column (c : CryptoOps) (kv : KeyView) (fmt : Fmt) (d : Bytes)
    (hx : decodeEscaped d ≠ .hexErr)
    (h : ∀ d', (decodeEscaped d = .ok d' ∨ (decodeEscaped d = .octalErr ∧ d' = d)) →
      (∀ i, i < d'.length → startsWith containerTag (d'.drop i) = true → ∀ m, process c kv (d'.drop i) ≠ .ok m) ∧
      (∀ x id sx, x <:+: d' → serialize x id = .ok sx → ∀ m, process c kv sx ≠ .ok m)) :
    readChain c kv none fmt d = .ok d := by
  cases he : decodeEscaped d with
  | hexErr => exact absurd he hx
  | octalErr =>
    obtain ⟨h1, h2⟩ := h d (Or.inr ⟨he, rfl⟩)
    obtain ⟨hit, hc⟩ := onColumnCompat_decrypt_same c kv d h1 h2
    rw [readChain_eq (decodeCol_octalErr none fmt he) hc, bne_self_eq_false, encodeCol_none]
    rfl
  | ok d' =>
    obtain ⟨h1, h2⟩ := h d' (Or.inl he)
    obtain ⟨hit, hc⟩ := onColumnCompat_decrypt_same c kv d' h1 h2
    have hdec : decodeCol none fmt d = some (d', some d) := by rw [decodeCol_none, he]
    rw [readChain_eq hdec hc, bne_self_eq_false, encodeCol_none]
    rfl

/-- **rewrite_frame (upsert).** The forwarded `INSERT … ON CONFLICT … DO UPDATE SET` (PostgreSQL, after the
`fix:` commit) keeps table, column list and RETURNING; its assignments are the received ones in the same
order, the value of a column without setting identical, the value of a column with a setting what the
transformer returned for it with that setting – exactly as for the SET list of an UPDATE. -/
theorem rewrite_frame_upsert {σ} (f : Xf σ) (sch : Schema) (t : Table) (i i' : Insert) (st st' : σ)
    (ht : sch.table i.table = some t) (h : xfInsertStmt f sch i st = some (i', st')) :
    i'.table = i.table ∧ i'.cols = i.cols ∧ i'.returning = i.returning ∧ setsRel f t i.onDup i'.onDup := by
  simp only [xfInsertStmt, ht, Option.bind_eq_some_iff, Option.map_eq_some_iff] at h
  obtain ⟨⟨i1, st1⟩, hr, ⟨od, st2⟩, h1, h2⟩ := h
  cases h2
  obtain ⟨a, b, c⟩ : i1.table = i.table ∧ i1.cols = i.cols ∧ i1.returning = i.returning := by
    split at hr
    · cases hr; exact ⟨rfl, rfl, rfl⟩
    · exact let ⟨a, b, c, _⟩ := rewrite_frame_insert f sch i i1 st st1 hr; ⟨a, b, c⟩
  exact ⟨a, b, c, xfSets_rel h1⟩

/-- **INSERT … SELECT is never rewritten** (known finding `insert-select-plaintext`, stated as what the code
does): whatever the configuration and the transformer, the select list of an `INSERT … SELECT` is forwarded as
received and none of its placeholders is planned for transformation – in both front ends. A value written
into a protected column this way reaches the database in clear. -/
theorem insert_select_not_rewritten {σ} (f : Xf σ) (sch : Schema) (i : Insert) (st : σ) (hs : i.fromSelect = true) :
    (∀ i' st', xfInsertStmt f sch i st = some (i', st') → i'.rows = i.rows) ∧
    (∀ i' st', xfInsertMy f sch i st = some (i', st') → i'.rows = i.rows) ∧
    (i.onDup = [] → ∀ n, (bindPlan sch (.insert i) n = .untouched ∨ ∃ t, bindPlan sch (.insert i) n = planOf t [])) := by
  refine ⟨fun i' st' h => ?_, fun i' st' h => ?_, fun hod n => ?_⟩
  · unfold xfInsertStmt at h
    split at h
    · cases h; rfl
    · simp only [hs, if_true, Option.bind_some] at h
      obtain ⟨_, _, h2⟩ := Option.map_eq_some_iff.mp h
      cases h2; rfl
  · unfold xfInsertMy at h
    split at h
    · cases h; rfl
    · simp only [hs, Bool.or_true, if_true] at h
      obtain ⟨_, _, h2⟩ := Option.map_eq_some_iff.mp h
      cases h2; rfl
  · cases ht : sch.table i.table with
    | none => exact .inl (by simp [bindPlan, ht])
    | some t =>
      by_cases hc : (insertColumns t i).isEmpty = true
      · exact .inl (by simp [bindPlan, ht, hc])
      · exact .inr ⟨t, by simp [bindPlan, ht, hc, hs, hod, insertPlaceholdersRows, updatePlaceholders]⟩

/-- **The multi-column SET of PostgreSQL is never rewritten** (known finding `pg-update-multiassign-plaintext`):
`UPDATE … SET (a, b) = (x, y)` is forwarded with the values it came with and none of its placeholders is planned. -/
theorem update_multi_not_rewritten {σ} (f : Xf σ) (sch : Schema) (u : Update) (st : σ) (hm : u.multi = true) :
    xfUpdateStmt f sch u st = some (u, st) ∧
    ∀ n, (bindPlan sch (.update u) n = .untouched ∨ ∃ t, bindPlan sch (.update u) n = planOf t []) := by
  refine ⟨by simp [xfUpdateStmt, hm], fun n => ?_⟩
  cases ht : sch.table u.table with
  | none => exact .inl (by simp [bindPlan, ht])
  | some t => exact .inr ⟨t, by simp [bindPlan, ht, hm, updatePlaceholders]⟩

/-- **write_never_plain_my (literal).** In a MySQL statement a string / hex literal or a number written into a
protected column – not empty and not already protected – is replaced by a literal that denotes exactly
`protect … raw`, a value different from `raw` (`mysql.DBDataCoder.Encode` prints it as `X'…'` unless the bytes
are valid UTF-8). With `rewrite_frame_*` (the MySQL statement functions `xfInsertMy` / `xfUpdate` apply the
transformer through the same `xfRow` / `xfSets`): every protected cell of VALUES, SET and
ON DUPLICATE KEY UPDATE is such a literal. -/
theorem write_never_plain_my (c : CryptoOps) (kvW kvR : KeyView) (s : ColSetting) (raw rnd p : Bytes)
    (hne : raw ≠ [])
    (h : RoundTripHyps c s.kind kvW kvR raw rnd p)
    (hnm : matchKind s.kind raw = false) (hnr : registryMatch raw = false)
    (hp : protect c kvW s.kind raw rnd = .ok p) (hpr : p ≠ raw) :
    encCellMy c kvW s (.lit raw) rnd = some (.lit p, rnd.drop (rndUsed s.kind)) ∧
    encCellMy c kvW s (.num raw) rnd = some (.lit p, rnd.drop (rndUsed s.kind)) := by
  have hw := writeChain_eq_protect h hnm hnr hp
  constructor <;> simp [encCellMy, hne, hw, hpr, chainUsed, passthrough, hnm, hnr]

/-- **write_never_plain_my (bound parameter).** A COM_STMT_EXECUTE parameter the statement binds to a protected
column (VALUES, SET, or – after the `fix:` commit – ON DUPLICATE KEY UPDATE: `bindPlanMy`) is replaced by
`protect …` of its value; every other parameter value stays what it was. -/
theorem write_never_plain_my_param (c : CryptoOps) (kvW kvR : KeyView) (s : ColSetting) (m : List (Nat × ColSetting))
    (params : List (Option Bytes)) (i : Nat) (raw rnd p : Bytes)
    (hm : m.find? (·.1 == i) = some (i, s)) (hi : params[i]? = some (some raw)) (hne : raw ≠ [])
    (h : RoundTripHyps c s.kind kvW kvR raw rnd p)
    (hnm : matchKind s.kind raw = false) (hnr : registryMatch raw = false)
    (hp : protect c kvW s.kind raw rnd = .ok p) :
    bindLoop c kvW m (params.map fun v => (Fmt.binary, v)) [i] params rnd = some (params.set i (some p)) := by
  have hw := writeChain_eq_protect h hnm hnr hp
  have hi' : (params.map fun v => (Fmt.binary, v))[i]? = some (Fmt.binary, some raw) := by
    simp [List.getElem?_map, hi]
  simp [bindLoop, hm, hi', getData, hne, hw, setData, setAt]

/-- **read_restores_my.** What the write chain stored for `raw` (the container `p`), sent back by the MySQL
database in the text or in the binary protocol (BLOB / VARCHAR column, any `data_type` of the setting), comes
out of the MySQL read chain of a reader whose keys include the writer's key as the length-encoded string of
exactly `raw`: the client reads `raw`, whatever follows in the row. -/
theorem read_restores_my (c : CryptoOps) (kvW kvR : KeyView) (s : ColSetting) (fmt : Fmt) (raw rnd p : Bytes)
    (hne : raw ≠ []) (hl : raw.length < 2^64)
    (h : RoundTripHyps c s.kind kvW kvR raw rnd p)
    (hnm : matchKind s.kind raw = false) (hnr : registryMatch raw = false)
    (hp : protect c kvW s.kind raw rnd = .ok p) (hpr : raw ≠ p) :
    writeChain c kvW s raw rnd = .ok p ∧
    readChainMy c kvR (some s) fmt .str (dbOutMy p) = .ok (myLenEnc raw) ∧
    ∀ rest, clientValueMy fmt .str (myLenEnc raw ++ rest) = some raw := by
  refine ⟨writeChain_eq_protect h hnm hnr hp, ?_, fun rest => clientValueMy_lenenc fmt raw rest hl⟩
  have hc := compat_protected h hnm hnr hp hpr
  simp only [readChainMy, dbOutMy, decodeColMy_str, hc, encodeColMy_str]

/-- **A MySQL reader without the keys gets the stored form**: if nothing inside the stored container can be
processed with the reader's keys, the column is delivered as the length-encoded string of the container
itself – never anything computed from the plaintext. -/
theorem keyless_gets_stored_form_my (c : CryptoOps) (kv : KeyView) (s : Option ColSetting) (fmt : Fmt) (p : Bytes)
    (h1 : ∀ i, i < p.length → startsWith containerTag (p.drop i) = true → ∀ m, process c kv (p.drop i) ≠ .ok m)
    (h2 : ∀ x id sx, x <:+: p → serialize x id = .ok sx → ∀ m, process c kv sx ≠ .ok m) :
    readChainMy c kv s fmt .str p = .ok (myLenEnc p) := by
  obtain ⟨hit, hc⟩ := onColumnCompat_decrypt_same c kv p h1 h2
  simp only [readChainMy, decodeColMy_str, hc, encodeColMy_str]

/-- **uncovered_identity_my (statements and parameters).** A MySQL statement on a table without configuration
entry is forwarded exactly as received, and so are the parameters of its COM_STMT_EXECUTE. -/
theorem uncovered_identity_my_stmt (c : CryptoOps) (kv : KeyView) (sch : Schema) (s : Stmt) (rnd : Bytes)
    (params : List (Option Bytes)) (order : List Nat)
    (h : ∀ n, s.table = some n → sch.table n = none) :
    forwardStmtMy c kv sch s rnd = s ∧ forwardBindMy c kv sch s params order rnd = .same := by
  rcases s with i | u | _ | _
  · simp [forwardStmtMy, xfInsertMy, forwardBindMy, bindPlanMy, h i.table rfl]
  · simp [forwardStmtMy, xfUpdate, forwardBindMy, bindPlanMy, h u.table rfl]
  all_goals simp [forwardStmtMy, forwardBindMy, bindPlanMy]

/-- **uncovered_identity_my (result columns).** A result column without setting in which nothing can be
processed with the reader's keys is put back on the wire as it came: a length-encoded value as the
length-encoded string of the same bytes (text and binary protocol), a fixed-width integer of the binary
protocol – which travels through the chain as decimal text – as the same `k` bytes. -/
theorem uncovered_identity_my_column (c : CryptoOps) (kv : KeyView) (fmt : Fmt) (d : Bytes) (k : Nat)
    (hk : 1 ≤ k) (hd : d.length = k)
    (h : ∀ d', (d' = d ∨ d' = formatInt (leToInt d)) →
      (∀ i, i < d'.length → startsWith containerTag (d'.drop i) = true → ∀ m, process c kv (d'.drop i) ≠ .ok m) ∧
      (∀ x id sx, x <:+: d' → serialize x id = .ok sx → ∀ m, process c kv sx ≠ .ok m)) :
    readChainMy c kv none fmt .str d = .ok (myLenEnc d) ∧
    readChainMy c kv none .binary (.int k) d = .ok d := by
  constructor
  · obtain ⟨h1, h2⟩ := h d (Or.inl rfl)
    exact keyless_gets_stored_form_my c kv none fmt d h1 h2
  · obtain ⟨h1, h2⟩ := h (formatInt (leToInt d)) (Or.inr rfl)
    obtain ⟨hit, hc⟩ := onColumnCompat_decrypt_same c kv _ h1 h2
    obtain ⟨hdec, henc⟩ := int_detour k d hk hd
    rw [← hdec] at hc
    rw [readChainMy_eq hc, bne_self_eq_false, hdec, encodeColMy_none_binary _ _ (formatInt_ne_nil _), henc]

/-- **pending_pairs.** In every run of the joint system proxy + PostgreSQL-conforming database – any
interleaving of pipelined simple/extended-protocol requests, results, errors (after which the database
discards everything up to the next Sync) and ReadyForQuery – each DataRow is processed with the settings
of exactly the statement the database is answering. -/
theorem pending_pairs {α : Type} (evs : List (JEv α)) (j : Joint α) (obs : List (α × Option α))
    (h : jrun {} evs = some (j, obs)) : ∀ q x, (q, x) ∈ obs → x = some q :=
  (inv_run inv_init h).2

/-- **The queue drains.** Whenever the database has answered everything it received (and is not skipping),
the proxy's queue is empty: no entry outlives its statement (the defect repaired by the sync-point `fix:`). -/
theorem pending_drained {α : Type} (evs : List (JEv α)) (j : Joint α) (obs : List (α × Option α))
    (h : jrun {} evs = some (j, obs)) (hd : j.d = []) (hs : j.skipping = false) : j.p = [] := by
  obtain ⟨⟨⟨junk, _, hp, hj⟩, _⟩, _⟩ := inv_run inv_init h
  cases junk with
  | nil => rw [hp, hd]; rfl
  | cons a r => rcases hj nofun with h | h <;> simp [hs, hd] at h

/-- **Portal resolution.** After `Parse n s` and `Bind portal n b`, `Execute portal` queues exactly the
statement `s` with that Bind – the entry whose settings `pending_pairs` pairs with the result. -/
theorem execute_resolves {α β : Type} (st : PState α β) (n portal : Name) (s : α) (b : β) :
    ∃ st1 st2 st3, clStep st (.parse n s false) = some (st1, true) ∧
      clStep st1 (.bind portal n b) = some (st2, true) ∧
      clStep st2 (.execute portal) = some (st3, true) ∧
      st3.pending = st.pending ++ [.query (.extended s b)] := by
  simp only [clStep, Bool.false_eq_true, ↓reduceIte, Registry.addStatement, Registry.stmt, Registry.addCursor, Registry.portal,
    BEq.rfl, List.find?_cons_of_pos, Option.map_some, Option.some.injEq, Prod.mk.injEq, and_true, exists_and_left, exists_eq_left']

/-- A censored query (never forwarded) leaves queue and registry untouched (the defect repaired by the
`fix:` "do not remember a simple query as pending before AcraCensor has accepted it"). -/
theorem censored_not_pending {α β : Type} (st : PState α β) (s : α) :
    clStep st (.query s true) = some (st, false) := rfl

/-- **What the row handler looks at.** `PgProxy.handleQueryDataPacket` resolves the statement of a DataRow as
`rowResolve` has it – the pending query text is parsed; if it is an `EXECUTE` the statement registered under
that name is fetched from `proxy.registry` NOW; the settings are extracted from the result – and refers to nothing
of the proxy but its protocol state (the queue), the registry, the settings extractor and the per-column chain;
`PgProxy` has no field in which settings of an earlier row or statement could be kept. -/
theorem fact_row_resolution :
    PgCoder.pgRowResolution =
      ["assign sqlQuery:=pendingPacket.(queryPacket).GetSQLQuery()", "assign sqlOnQuery:=postgresql.NewOnQueryObjectFromQuery(sqlQuery)",
       "assign sqlStmt,err:=postgresql.ParseQuery(sqlQuery)", "if err!=nil", "return err", "end",
       "if len(sqlStmt.Stmts)>0&&sqlStmt.Stmts[0].Stmt.GetExecuteStmt()!=nil", "var executeQuery=sqlStmt.Stmts[0].Stmt.GetExecuteStmt()",
       "assign storedStatement,err:=proxy.registry.StatementByName(executeQuery.GetName())", "if err!=nil", "return err", "end",
       "assign sqlOnQuery=postgresql.NewOnQueryObjectFromStatement(storedStatement.Query())", "end",
       "assign encryptionSettings,err:=proxy.settingExtractor.GetEncryptorSettingsForQuery(sqlOnQuery)", "if err!=nil",
       "assign encryptionSettings=nil", "end"] ∧
    PgCoder.pgRowHandlerRefs = ["onColumnDecryption", "protocolState", "registry", "settingExtractor"] ∧
    PgCoder.pgProxyFields = ["session", "clientConnection", "dbConnection", "stopClient", "ClientStopResponse", "ctx",
      "queryObserverManager", "censor", "decryptionObserver", "protocolState", "setting", "clientIDObserverManager", "parser",
      "settingExtractor", "registry"] :=
  ⟨rfl, rfl, rfl⟩

/-- **How the SQL-level statements are registered**, as `sqlObserve` has it: `PREPARE` looks the name up first and
refuses (`ErrStatementAlreadyInRegistry`) when it is found, otherwise adds the statement and runs the inner
statement through the query observers; `EXECUTE` only looks the name up; `DEALLOCATE ALL` (empty name) deletes
the named statements, `DEALLOCATE n` looks the name up and deletes it. -/
theorem fact_sql_prepared_registry :
    PgCoder.sqlPrepareCalls = ["registry.StatementByName", "registry.AddStatement", "queryObserver.OnQuery"] ∧
    PgCoder.sqlPrepare.take 5 =
      ["var prepareQuery=parseResult.Stmts[0].Stmt.GetPrepareStmt()", "var preparedStatementName=prepareQuery.GetName()",
       "if assign _,err:=encryptor.registry.StatementByName(preparedStatementName); err==nil",
       "return nil,false,ErrStatementAlreadyInRegistry", "end"] ∧
    PgCoder.sqlExecuteCalls = ["registry.StatementByName", "queryObserver.OnBind"] ∧
    PgCoder.sqlDeallocate =
      ["var preparedStatementName=parseResult.Stmts[0].Stmt.GetDeallocateStmt().GetName()", "if preparedStatementName==\"\"",
       "return nil,false,encryptor.registry.DeleteNamedStatements()", "end",
       "if assign _,err:=encryptor.registry.StatementByName(preparedStatementName); err!=nil",
       "return nil,false,ErrStatementNotPresentInRegistry", "end",
       "return nil,false,encryptor.registry.DeleteStatement(preparedStatementName)"] :=
  ⟨rfl, rfl, rfl, rfl⟩

/-- **The observer on the registry is `regEff` on what the row handler can see of it.** After
`PreparedStatementsQuery.OnQuery` the name ↦ statement table the row handler reads (`StatementByName`) is: for
`PREPARE n AS s` – `n ↦ s` added unless `n` was bound (then nothing changes: no overwrite); for `DEALLOCATE n` –
`n` removed; for `DEALLOCATE ALL` – every named statement removed; unchanged otherwise. -/
theorem sql_observe_registry {α β : Type} (r : Registry α β) (c : SqlCmd α) :
    (sqlObserve r c).1.view = regEff r.view c := sqlObserve_view r c

/-- **Row processing is a function of (registry, pending statement) only.** The statement whose settings a DataRow
is processed with depends on nothing but the name ↦ statement table the registry shows and the entry at the front
of the queue – two proxy states that agree on these resolve every row alike, whatever rows or statements they
have processed before (the model has no memo; `fact_row_resolution` pins that the code has no place for one). -/
theorem row_resolution_local {α β : Type} (r r' : Registry α β) (e : Entry (SSrc α β)) (q q' : List (Entry (SSrc α β)))
    (h : r.view = r'.view) : rowResolve r (e :: q) = rowResolve r' (e :: q') := by
  rcases e with (c | _) | _
  · simp only [rowResolve, h]
  all_goals rfl

/-- **sql_prepare_pairs.** In every run of the joint system proxy + PostgreSQL-conforming database with SQL-level
prepared statements – `PREPARE` / `DEALLOCATE` sent when nothing is outstanding, `EXECUTE`, other statements and
extended-protocol requests pipelined in any way, errors, Sync, ReadyForQuery – each DataRow is processed with the
settings of exactly the statement the database is answering: for `EXECUTE n` the statement `n` is bound to AT THAT
MOMENT in the database (names deallocated and prepared again with another statement included). -/
theorem sql_prepare_pairs {α : Type} (evs : List (SJEv α)) (s : SJoint α) (obs : List (α × RowRes α))
    (h : sjrun {} evs = some (s, obs)) : ∀ st x, (st, x) ∈ obs → x = .stmt st :=
  (sinv_run sinv_init h).2

/-- **The two tables agree whenever nothing is outstanding**: at every quiescent point the proxy's registry shows
exactly the prepared statements the database has. -/
theorem sql_registry_in_step {α : Type} (evs : List (SJEv α)) (s : SJoint α) (obs : List (α × RowRes α))
    (h : sjrun {} evs = some (s, obs)) (hd : s.j.d = []) : s.preg = s.dreg := by
  rw [(sinv_run sinv_init h).1.reg, hd]
  rfl

/-- **Pipelining a re-definition behind an EXECUTE is outside the theorem** (why `sjstep` has the client rule):
the proxy resolves `EXECUTE q` when the ROW arrives. If the client sends `PREPARE q AS 1; EXECUTE q; DEALLOCATE q;
PREPARE q AS 2` without waiting, then at the moment the database – which has completed only the first PREPARE –
returns the rows of `EXECUTE q` (statement 1), the proxy's registry already binds `q` to statement 2. -/
theorem overtake_counterexample :
    let evs : List (SClEv Nat Nat) := [.query (.prepare "q" 1) false, .query (.execute "q") false,
      .query (.deallocate "q") false, .query (.prepare "q" 2) false]
    let st := evs.foldl (fun st ev => match sclStep st ev with | some (st', _) => st' | none => st) ({} : SState Nat Nat)
    -- queue after the first PREPARE has been answered (CommandComplete, ReadyForQuery)
    rowResolve st.reg (dbStep (dbStep st.pending .done) .ready) = .stmt 2 ∧
    resolveCmd (regEff (fun _ => (none : Option Nat)) (.prepare "q" 1)) (.execute "q") = .stmt 1 := by decide +kernel

/-- **A PREPARE the database rejects leaves the name bound in the proxy** (known finding
`sql-prepare-rejected-name-sticky`, why `sjstep` lets a PREPARE of a free name fail never): the statement is
registered when it is SENT. If the database rejects `PREPARE q AS 1` (unknown table …) and then accepts
`PREPARE q AS 2`, the proxy refuses the second one as "already stored" and processes the rows of `EXECUTE q`
(statement 2 in the database) with the settings of statement 1. -/
theorem rejected_prepare_counterexample :
    let evs : List (SClEv Nat Nat) := [.query (.prepare "q" 1) false, .query (.prepare "q" 2) false, .query (.execute "q") false]
    let st := evs.foldl (fun st ev => match sclStep st ev with | some (st', _) => st' | none => st) ({} : SState Nat Nat)
    -- the database: first PREPARE failed (table unchanged), second completed
    let dreg := regEff (fun _ => (none : Option Nat)) (.prepare "q" 2)
    rowResolve st.reg (st.pending.drop 4) = .stmt 1 ∧ resolveCmd dreg (.execute "q") = .stmt 2 := by decide

/-- `lit_value_total` / `write_never_plain` on a literal that is NOT bytea escape text – `C:\k` followed by a line
break: the hypotheses of `write_never_plain` hold for it, `DecodeEscaped` fails with `ErrDecodeOctalString`, and
the coder hands the chain the five bytes of the text itself (so the theorem's conclusion is about a real case). -/
example :
    let s : ColSetting := { kind := .block }
    let b : Bytes := [67, 58, 92, 107, 10]
    (¬ (s.textTyped = false ∧ ∃ h, b = 92 :: 120 :: h ∧ Wire.Bytea.hexDecode h = none)) ∧
    (b ≠ [] ∧ ¬ (s.textTyped = false ∧ b = [92, 120])) ∧
    Wire.Bytea.decodeEscaped b = .error .octal ∧ decodeLit s b = some b ∧
    (∀ (c : CryptoOps) (kvW kvR : KeyView) (rnd : Bytes), ∃ raw, decodeLit s b = some raw ∧ raw ≠ []) := by
  intro s b
  have hoct : Wire.Bytea.decodeEscaped b = .error .octal := by
    have : Wire.Bytea.decodeOctal b = none := by
      rw [Wire.Bytea.decodeOctal, Wire.Bytea.toRunes_ascii b (by decide)]; decide
    simp [Wire.Bytea.decodeEscaped, b, this]
  have hdl : decodeLit s b = some b := by
    rw [decodeLit, pgDecodeSval_eq fact_decodeEscaped_returns, hoct]; rfl
  exact ⟨by rintro ⟨_, h, hb, _⟩; simp [b] at hb, ⟨by decide, by decide⟩, hoct, hdl, fun _ _ _ _ => ⟨b, hdl, by decide⟩⟩

/-- the coder's only error: `\xZZ` in a column without text type – and the statement that carries it next to
another protected literal is forwarded as received (`fail_open_statement`), here on the statement level with the
real transformer: the first protected cell fails, nothing is rewritten. -/
example :
    let t : Table := { name := "t", columns := ["id", "a", "b"], encrypted := [("a", { kind := .block }), ("b", { kind := .block, dtype := .str })] }
    let st : Stmt := .insert { table := "t", cols := [], rows := [[.num [49], .lit [92, 120, 90, 90], .lit [83, 69, 67, 82, 69, 84]]] }
    decodeLit { kind := .block } [92, 120, 90, 90] = none ∧
    forwardStmt toyOps ⟨none, none, some [1, 2, 3], none⟩ [t] st [] = st := by
  intro t st
  have h : decodeLit { kind := .block } [92, 120, 90, 90] = none := by
    rw [decodeLit, pgDecodeSval_eq fact_decodeEscaped_returns]
    decide
  refine ⟨h, ?_⟩
  simp [forwardStmt, xfStmt, xfInsertStmt, xfInsert, Schema.table, t, st, insertColumns, xfRows, xfRow, Table.setting, encCell, h]

/-- `sql_prepare_pairs` on the run of the seeded change C04-6: `PREPARE q AS 1; EXECUTE q; DEALLOCATE q;
PREPARE q AS 2; EXECUTE q` – same query text `EXECUTE q` twice, nothing with rows in between: the first row is
processed with statement 1, the second with statement 2; then `DEALLOCATE ALL`, `PREPARE q AS 3`, `EXECUTE q`
pipelined with a plain statement. -/
example :
    (sjrun ({} : SJoint Nat)
      [.send (.query (.prepare "q" 1)), .send .sync, .done, .ready,
       .send (.query (.execute "q")), .send .sync, .row, .done, .ready,
       .send (.query (.deallocate "q")), .send .sync, .done, .ready,
       .send (.query (.prepare "q" 2)), .send .sync, .done, .ready,
       .send (.query (.execute "q")), .send .sync, .row, .row, .done, .ready,
       .send (.query .deallocateAll), .send .sync, .done, .ready,
       .send (.query (.prepare "q" 3)), .send .sync,
       .send (.query (.execute "q")), .send .sync, .send (.query (.plain 7)), .send .sync,
       .done, .ready, .row, .done, .ready, .row, .done, .ready]).map (·.2) =
      some [(1, .stmt 1), (2, .stmt 2), (2, .stmt 2), (3, .stmt 3), (7, .stmt 7)] := by decide +kernel

/-- the client rule of `sjstep` is a restriction: re-defining a name behind an unanswered EXECUTE is not a run -/
example :
    sjrun ({} : SJoint Nat)
      [.send (.query (.prepare "q" 1)), .send .sync, .done, .ready,
       .send (.query (.execute "q")), .send .sync, .send (.query (.deallocate "q"))] = none := by decide

/-- the same session on the proxy's own state machine (`sclStep`, the registry with portals and unique ids): the
DataRow of the second `EXECUTE q` is resolved to statement 2, and `PREPARE` of a bound name does not overwrite. -/
example :
    let run (evs : List (SClEv Nat Nat)) := evs.foldl (fun st ev => match sclStep st ev with | some (st', _) => st' | none => st) ({} : SState Nat Nat)
    let st := run [.query (.prepare "q" 1) false, .query (.execute "q") false, .query (.deallocate "q") false,
                   .query (.prepare "q" 2) false, .query (.execute "q") false]
    rowResolve st.reg (st.pending.drop 8) = .stmt 2 ∧
    (run [.query (.prepare "q" 1) false, .query (.prepare "q" 2) false]).reg.view "q" = some 1 := by decide +kernel


/-- `read_restores` / `write_never_plain` with concrete keys, the hash-based toy instance of the crypto
operations (which satisfies `SealLaws` and `SealLen`), an AcraBlock column and the literal `'\x0909'`. -/
example :
    let kvW : KeyView := ⟨none, none, some [1,2,3], none⟩
    let kvR : KeyView := ⟨none, none, some [4,5], some ([[4,5]] ++ [1,2,3] :: [[1,2,9]])⟩
    let s : ColSetting := { kind := .block }
    ∃ p, encCell toyOps kvW s (.lit [92, 120, 48, 57, 48, 57]) (List.replicate 56 5) = some (.lit (pgHex p), []) ∧
      p ≠ [9, 9] ∧
      ∃ x, readChain toyOps kvR (some s) .text (pgHex p) = .ok x ∧ clientValue s .text x = some [9, 9] := by
  intro kvW kvR s
  obtain ⟨p, hp, hne, hH⟩ := toy_block_roundTrip
  have hnm : matchKind .block [9,9] = false := by decide
  have hnr : registryMatch [9,9] = false := by decide
  have hdl : decodeLit s [92, 120, 48, 57, 48, 57] = some [9, 9] := by decide
  refine ⟨p, ?_, hne, ?_⟩
  · have := write_never_plain_value toyOps kvW kvR s _ [9,9] _ p hdl (by decide) hH hnm hnr hp hne
    rw [this, write_never_plain_hex s p (by decide)]
    rfl
  · exact (read_restores toyOps kvW kvR s .text [9,9] _ p (by decide) hH hnm hnr hp (fun h => hne h.symm) (Or.inl rfl)).2

/-- `write_never_plain_my` / `read_restores_my` with the same concrete keys and toy instance: the MySQL literal
`X'0909'` of an AcraBlock column is forwarded as a literal denoting a container `p ≠ 0909`, and the owner reads
`0909` back in the binary protocol. -/
example :
    let kvW : KeyView := ⟨none, none, some [1,2,3], none⟩
    let kvR : KeyView := ⟨none, none, some [4,5], some ([[4,5]] ++ [1,2,3] :: [[1,2,9]])⟩
    let s : ColSetting := { kind := .block }
    ∃ p, encCellMy toyOps kvW s (.lit [9, 9]) (List.replicate 56 5) = some (.lit p, []) ∧
      p ≠ [9, 9] ∧
      readChainMy toyOps kvR (some s) .binary .str p = .ok (myLenEnc [9, 9]) ∧
      clientValueMy .binary .str (myLenEnc [9, 9] ++ [1, 2, 3]) = some [9, 9] := by
  intro kvW kvR s
  obtain ⟨p, hp, hne, hH⟩ := toy_block_roundTrip
  have hnm : matchKind .block [9,9] = false := by decide
  have hnr : registryMatch [9,9] = false := by decide
  have hw := (write_never_plain_my toyOps kvW kvR s [9,9] _ p (by decide) hH hnm hnr hp hne).1
  have hr := read_restores_my toyOps kvW kvR s .binary [9,9] _ p (by decide) (by decide) hH hnm hnr hp (fun h => hne h.symm)
  exact ⟨p, by rw [hw]; rfl, hne, hr.2.1, hr.2.2 [1,2,3]⟩

/-- `uncovered_identity_my_column` on the id column of a binary-protocol row: the four bytes of the integer 7
travel through the chain as the text `7` and come back as the same four bytes. -/
example : readChainMy toyOps ⟨none, none, none, none⟩ none .binary (.int 4) [7, 0, 0, 0] = .ok [7, 0, 0, 0] := by decide

/-- `insert_select_not_rewritten` / `rewrite_frame_upsert` on concrete statements: the transformer reaches the
ON CONFLICT assignment of a protected column, and nothing of an `INSERT … SELECT`. -/
example :
    let t : Table := { name := "t", columns := ["id", "data"], encrypted := [("data", { kind := .block })] }
    let f : Xf Nat := fun _ _ n => some (.lit [1], n + 1)
    xfStmt f [t] (.insert { table := "t", cols := ["id"], rows := [[.num [49]]], onDup := [("data", .lit [65]), ("id", .num [50])] }) 0 =
      (.insert { table := "t", cols := ["id"], rows := [[.num [49]]], onDup := [("data", .lit [1]), ("id", .num [50])] }, 1) ∧
    xfStmt f [t] (.insert { table := "t", cols := ["id", "data"], rows := [[.num [49], .lit [65]]], fromSelect := true }) 0 =
      (.insert { table := "t", cols := ["id", "data"], rows := [[.num [49], .lit [65]]], fromSelect := true }, 0) := by
  intro t f
  exact ⟨rfl, rfl⟩

/-- `pending_pairs` on a run where the FIFO pairing is not trivial: two Executes and a Sync pipelined, the
first fails (the database discards the second), then a simple query whose row must be paired with the
query and not with the discarded Execute. -/
example :
    jrun ({} : Joint Nat) [.send (.query 1), .send (.query 2), .send .sync, .error, .ready,
        .send (.query 3), .send .sync, .row, .done, .ready] =
      some ({ p := [], d := [], skipping := false }, [(3, some 3)]) := by rfl

/-- `rewrite_frame_insert` / `uncovered_identity_stmt` on a two-column table with one protected column: the
transformer is applied to the protected cell only, the row of the wrong arity is left alone. -/
example :
    let t : Table := { name := "t", columns := ["id", "data"], encrypted := [("data", { kind := .block })] }
    let f : Xf Nat := fun _ _ n => some (.lit [1], n + 1)
    xfStmt f [t] (.insert { table := "t", cols := [], rows := [[.num [49], .lit [65]], [.num [50]]] }) 0 =
      (.insert { table := "t", cols := [], rows := [[.num [49], .lit [1]], [.num [50]]] }, 1) := by
  intro t f
  rfl

end AcraModel.Props.C04
