import AcraModel.KeystoreSec.PathLemmas
import AcraModel.Generated.KeystoreSec
import AcraModel.KeystoreSec.WriteLog
import AcraModel.Crypto.Box
import AcraModel.KeystoreSec.V1WriteLogLemmas
import AcraModel.KeystoreSec.V1NamesLemmas
import AcraModel.Generated.V1Export
import AcraModel.KeystoreSec.V1Methods
import AcraModel.KeystoreSec.Perms
import AcraModel.KeystoreSec.RingOpenLemmas
import AcraModel.KeystoreSec.DerRoundTrip
/-!
# C07 — keys at rest are encrypted, bound to their owner, tamper-evident and confined

The v2 key store first: confinement of the directory back end (`DirectoryBackend.osPath`, used by every
`Get/Put/Rename/RenameNX`), sealing and owner binding of what is written, tamper evidence of the signed rings;
then the v1 write path, the id-taking methods of v1, the permission discipline and the read-write open of a v2 ring.
-/
namespace AcraModel.Props.C07
open AcraModel AcraModel.KeystoreSec AcraModel.KeystoreSec.Path AcraModel.KeystoreSec.Export AcraModel.KeystoreSec.WriteLog

/-! ## facts the models need from the source (regenerated on every run) -/
open Generated.KeystoreSec in
/-- Every path-taking method of the directory back end maps its key path(s) through `osPath` before
touching the file system, and `osPath` judges the joined path by `filepath.Rel` to the root (the
repaired check the model `Path.osPath` follows). -/
theorem fact_backend_paths :
    osPathCalls = ["filepath.Join", "pathSeparators.Replace", "filepath.Rel", "strings.HasPrefix"] ∧
    backendGetCalls.head? = some "b.osPath" ∧ backendPutCalls.head? = some "b.osPath" ∧
    backendRenameCalls.take 2 = ["b.osPath", "b.osPath"] ∧ backendRenameNXCalls.take 2 = ["b.osPath", "b.osPath"] :=
  ⟨rfl, rfl, rfl, rfl, rfl⟩

open Generated.KeystoreSec in
/-- **Encrypt before write (v2).** In `addKeyData` the only value ever assigned to the stored
`PrivateKey` / `SymmetricKey` field is the result of `encryptPrivateKey` / `encryptSymmetricKey`
(the public key is stored as given), and those go through `KeyRing.encrypt` → `KeyStore.encrypt` →
`KeyEncryptor.Encrypt` with the context chain private/symmetric-key context → key-ring context →
key-store context. -/
theorem fact_v2_encrypt_before_write :
    addKeyDataAssigns = ["newData.PublicKey=data.PublicKey", "newData.PrivateKey=encryptedPrivateKey", "newData.SymmetricKey=encryptedSymmetricKey"] ∧
    addKeyDataEncrypted = ["encryptedPrivateKey=r.encryptPrivateKey()", "encryptedSymmetricKey=r.encryptSymmetricKey()"] ∧
    encryptPrivateKeyCalls = ["r.encrypt", "r.privateKeyContext"] ∧
    encryptSymmetricKeyCalls = ["r.encrypt", "r.symmetricKeyContext"] ∧
    ringEncryptCalls = ["r.store.encrypt", "r.keyRingContext"] ∧
    storeEncryptCalls = ["keystoreV1.NewEmptyKeyContext", "s.keyStoreContext", "s.encryptor.Encrypt"] :=
  ⟨rfl, rfl, rfl, rfl, rfl, rfl⟩

open Generated.KeystoreSec in
/-- **Encrypt before write (v1).** What `SaveKeyPairWithFilename` / `generateAndSaveSymmetricKey`
hand to `WritePrivateKey` is the output of `encryptor.Encrypt`; what reaches the cache is the output
of `cacheEncryptor.Encrypt` (or the public key). -/
theorem fact_v1_encrypt_before_write :
    v1SaveKeyPairPrivateArg = ["encryptedPrivate"] ∧
    v1SaveKeyPairAssigns = ["encryptedPrivate=store.encryptor.Encrypt()", "cacheEncryptedPrivate=store.cacheEncryptor.Encrypt()"] ∧
    v1SaveKeyPairCacheArgs = ["cacheEncryptedPrivate", "keypair.Public.Value"] ∧
    v1SaveSymmetricArg = ["encryptedSymKey"] ∧ v1SaveSymmetricAssigns = ["encryptedSymKey=store.encryptor.Encrypt()"] ∧
    v1LoadKeyAndCacheAddArg = ["cacheEncrypted"] ∧ v1LoadKeyAndCacheAssigns = ["cacheEncrypted=store.cacheEncryptor.Encrypt()"] :=
  ⟨rfl, rfl, rfl, rfl, rfl, rfl, rfl⟩

/-- **Join-and-check containment.** For an absolute root and any relative path `p` (any bytes),
`containedJoin` either refuses `p` or returns a cleaned absolute path whose components are the root's
components followed by ordinary components only – lexically inside the root. This is the check shared
by the v2 directory back end (`osPath`) and the v1 bundle import (`isInsideFolder`). -/
theorem containedJoin_contained (root p q : Bytes) (hroot : root.head? = some slash)
    (h : containedJoin root p = .ok q) :
    ∃ rest, q = render ⟨true, (cleanP root).comps ++ rest⟩ ∧ ∀ c ∈ rest, GoodComp c := by
  have hne : root ≠ [] := fun e => by rw [e] at hroot; cases hroot
  have hfull : (root ++ slash :: p).head? = some slash := by
    cases root with
    | nil => exact absurd rfl hne
    | cons x r => exact hroot
  obtain ⟨hrooted, hgood⟩ := cleanP_good hfull
  rw [containedJoin, joinP, if_neg (fun e => hne e.1), if_neg hne] at h
  dsimp only at h
  -- accepted: the relative path exists and does not start with `..`, so the joined path extends the root
  cases hr : relP (cleanP root) (cleanP (root ++ slash :: p)) with
  | none => rw [hr] at h; cases h
  | some r =>
    rw [hr] at h
    dsimp only at h
    by_cases hesc : escapes (joinSlash r) = true
    · rw [if_pos hesc] at h; cases h
    · rw [if_neg hesc] at h
      obtain ⟨rest, hrest⟩ := relP_contained hrooted hr (Bool.not_eq_true _ ▸ hesc)
      refine ⟨rest, ?_, fun c hc => hgood c (hrest ▸ List.mem_append_right _ hc)⟩
      rw [← hrest, ← hrooted]
      exact (Out.ok.inj h).symm

/-- **Confinement.** For an absolute keystore root, whatever key path the directory back end is
given (any bytes: `..`, `/`, `\`, empty and dot components), `osPath` either rejects it or returns a
cleaned absolute OS path whose components are the root's components followed by ordinary components
only (no `..`, no `.`, no empty component, no separator inside) – lexically inside the root. -/
theorem osPath_contained (root p q : Bytes) (hroot : root.head? = some slash)
    (h : osPath root p = .ok q) :
    ∃ rest, q = render ⟨true, (cleanP root).comps ++ rest⟩ ∧ ∀ c ∈ rest, GoodComp c :=
  containedJoin_contained root (replaceSeps p) q hroot h

/-- **Confinement of the v1 bundle import.** Whatever name a key carries inside an export bundle
(`KeyBackuper.Import` takes the names from the bundle, and a bundle is sealed under keys that travel
with it), the key is either refused – and the whole bundle with it, before anything is written – or
written to a cleaned path made of the key folder's components followed by ordinary components. -/
theorem v1_import_contained (root name q : Bytes) (hroot : root.head? = some slash)
    (h : importPath root name = .ok q) :
    ∃ rest, q = render ⟨true, (cleanP root).comps ++ rest⟩ ∧ ∀ c ∈ rest, GoodComp c :=
  containedJoin_contained root name q hroot h

open Generated.V1Methods in
/-- `KeyBackuper.Import` checks every key name of the bundle against both key folders
(`isInsideFolder` – `filepath.Rel` of the joined path must not start with `..`, the check `containedJoin`
models) before the first storage call. -/
theorem fact_v1_import_checks_names :
    v1ImportCalls.take 3 = ["isInsideFolder", "isInsideFolder", "store.storage.MkdirAll"] ∧
    (v1ImportCalls.drop 2).all (· != "isInsideFolder") = true ∧
    v1IsInsideFolderBody = ["relPath, err := filepath.Rel(folder, filepath.Join(folder, name))", "return err == nil && relPath != \"..\" && !strings.HasPrefix(relPath, \"..\"+string(filepath.Separator))"] :=
  ⟨rfl, by decide +kernel, rfl⟩

/-- **The pinned import escaped** (repaired by `repo-patches/52`): a bundle whose key is named `../escaped.pub` was written
next to the key folder (and a public key is written as it comes – attacker-chosen bytes at an
attacker-chosen place); the repaired import refuses the bundle. -/
theorem v1_import_pinned_counterexample :
    importPathPinned (ofStr "/tmp/ks/root") (ofStr "../escaped.pub") = ofStr "/tmp/ks/escaped.pub" ∧
    importPath (ofStr "/tmp/ks/root") (ofStr "../escaped.pub") = .err ∧
    importPath (ofStr "/tmp/ks/root") (ofStr "client_a_storage.pub") = .ok (ofStr "/tmp/ks/root/client_a_storage.pub") := by
  decide +kernel

/-- **The pinned tree escapes** (DESIGN §8 #5): on the code as pinned, `osPath` accepts `../escaped`
and maps it to a sibling of the keystore root. Witness replayed against the real back end by the
regression corpus of the harness (`C07.put` with the pre-repair expectation). -/
theorem osPathPinned_counterexample :
    osPathPinned (ofStr "/tmp/ks/root") (ofStr "../escaped") = .ok (ofStr "/tmp/ks/escaped") := by
  decide +kernel

/-- the repaired function rejects the witness -/
theorem osPath_rejects_witness :
    osPath (ofStr "/tmp/ks/root") (ofStr "../escaped") = .err := by
  decide +kernel

/-- non-vacuity: an ordinary nested key path is accepted and lands below the root -/
example : osPath (ofStr "/tmp/ks/root") (ofStr "client/a\\b/../storage.keyring")
    = .ok (ofStr "/tmp/ks/root/client/a/storage.keyring") := by decide +kernel

/-- **Every write is sealed (v2).** Whatever ring the key store writes (`ringFile`), each key-data
item inside the signed ring is sealed w.r.t. the plaintext it came from: the public key as given,
the private / symmetric part absent or `enc master (context of this ring, seqnum and purpose)
secret nonce` – the secret itself is never what is stored (structural "never in clear", DESIGN §4.3). -/
theorem writes_are_sealed (c : CryptoOps) (ν : Nonces) (master : Bytes) (x r : Ring)
    (h : storedRing c ν master x = some r) :
    r.purpose = x.purpose ∧ r.current = x.current ∧
    ∀ k' ∈ r.keys, ∃ k ∈ x.keys, k'.seq = k.seq ∧ k'.state = k.state ∧
      ∀ e ∈ k'.data, ∃ d ∈ k.data, SealedData c master x.purpose k.seq d e := by
  obtain ⟨ks, hk, rfl⟩ := Option.map_eq_some_iff.mp h
  refine ⟨rfl, rfl, fun k' hk' => ?_⟩
  obtain ⟨k, hkm, hfk⟩ := mapM_mem _ _ _ hk k' hk'
  obtain ⟨ds, hd, rfl⟩ := Option.map_eq_some_iff.mp hfk
  refine ⟨k, hkm, rfl, rfl, fun e he => ?_⟩
  obtain ⟨d, hdm, hfd⟩ := mapM_mem _ _ _ hd e he
  exact ⟨d, hdm, addKeyData_sealed c ν master x.purpose k.seq d e hfd⟩

/-- a sealed value is never the secret itself (length law of the AEAD) -/
theorem sealed_ne_secret (c : CryptoOps) (hlen : SealLen c) (k x m n ct : Bytes) (h : c.enc k x m n = some ct) : ct ≠ m :=
  sealed_ne hlen h

/-- **Bound to owner and purpose.** A stored secret opens only under the very master key and the
very context (ring path, sequence number, private/symmetric purpose) it was sealed with: under any
other key or any other context bytes decryption fails – a key item copied into another ring, another
slot or another purpose does not load. (Key commitment + authenticity of the AEAD.) -/
theorem bound_to_owner (c : CryptoOps) (hl : SealLaws c) (hc : SealCommit c) (k x m n ct k' x' : Bytes)
    (h : c.enc k x m n = some ct) (hne : k' ≠ k ∨ x' ≠ x) : c.dec k' x' ct = none :=
  dec_other hl hc h hne

/-- In every ring the private-key and the symmetric-key context of slot 1 differ, and the private-key contexts of
slots 1 and 2 differ: two instances of the purpose and slot swaps inside a ring that `bound_to_owner` rules out.
(Sequence numbers other than 1 and 2 are not covered by this statement.) -/
theorem contexts_differ (p : Bytes) :
    privCtx p 1 ≠ symCtx p 1 ∧ privCtx p 1 ≠ privCtx p 2 := by
  -- after the common prefix `AKSv2 keystore: key ring <p>: ` the two sides are different constants
  constructor <;> intro h <;> simp only [privCtx, symCtx, ksCtx, ringCtx, List.append_assoc] at h <;>
    exact absurd (List.append_cancel_left (List.append_cancel_left (List.append_cancel_left h))) (by decide)

/-- **Ring tamper detection.** If a container carrying the signatures of an honestly signed ring
verifies under the key store's signature key for ring path `p'`, then its signed span is byte for
byte the honest payload and `p'` is the path it was signed for: any change of any byte of the signed
span (sequence numbers, states, validity, key data, current marker, time stamp), and any copy of the
file to another ring path, is rejected when the ring is read. (Collision freedom of the HMAC.) -/
theorem ring_tamper (c : CryptoOps) (hi : HashInj c) (key p raw p' raw' : Bytes)
    (h : Notary.verify c key (sigCtx p') ⟨raw', (Notary.sign c key (sigCtx p) raw).sigs⟩ = true)
    (hlen : raw'.length = raw.length ∨ p' = p) : raw' = raw ∧ p' = p :=
  signed_string_inj (Notary.verify_forces c hi _ _ _ _ _ _ h).2 hlen

/-- signatures that are not the honest one are rejected: with the honest payload and path, every
known-algorithm signature in the set must equal the HMAC, and at least one must be present -/
theorem ring_signature_needed (c : CryptoOps) (key ctx raw : Bytes) (sigs : List Notary.Sig)
    (h : Notary.verify c key ctx ⟨raw, sigs⟩ = true) :
    (∃ s ∈ sigs, s.oid = Notary.sha256OID) ∧
    ∀ s ∈ sigs, s.oid = Notary.sha256OID → s.sig = Notary.signBytes c key ctx raw := by
  simp only [Notary.verify, Bool.and_eq_true, Bool.not_eq_true', List.all_eq_true, List.mem_filter, decide_eq_true_eq, beq_iff_eq, and_imp] at h
  refine ⟨?_, fun s hs ho => h.2 s hs ho⟩
  obtain ⟨s, hs⟩ := List.exists_mem_of_ne_nil _ (List.isEmpty_eq_false_iff.mp h.1)
  exact ⟨s, (List.mem_filter.mp hs).1, of_decide_eq_true (List.mem_filter.mp hs).2⟩

/-! # The v1 key store write path (`WritePrivateKey` / `WriteKeyFile`)

Model `KeystoreSec/V1WriteLog.lean`; tied by the op `C07.v1.write` (every byte string the real key
store hands to `Storage.WriteFile` is recomputed by the model) and `C07.v1.load`. -/
section V1
open AcraModel.KeystoreSec.V1 AcraModel.KeystoreSec.V1WriteLog
open AcraModel.CrossClient (KeyContext keyContextBytes keyEncrypt keyDecrypt)


open Generated.V1Export in
/-- Every per-client writer of the v1 key store starts by refusing ids `keystore.ValidateID` rejects
(three of them by `repo-patches/50`), and `ValidateID` is the length window 5…256 plus the byte classes
`a-z A-Z 0-9` and `ValidChars = "_- "` that `V1.validateID` models. -/
theorem fact_v1_writers_validate :
    v1WriterGenerateDataEncryptionKeysFirst = "if !keystore.ValidateID(id) { return keystore.ErrInvalidClientID }" ∧
    v1WriterSaveDataEncryptionKeysFirst = "if !keystore.ValidateID(id) { return keystore.ErrInvalidClientID }" ∧
    v1WriterGenerateClientIDSymmetricKeyFirst = "if !keystore.ValidateID(id) { return keystore.ErrInvalidClientID }" ∧
    v1WriterGenerateHmacKeyFirst = "if !keystore.ValidateID(id) { return keystore.ErrInvalidClientID }" ∧
    validateIDBody = ["if len(clientID) < MinClientIDLength || len(clientID) > MaxClientIDLength { return false }", "for _, c := range string(clientID) { if (c < 'a' || c > 'z') && (c < 'A' || c > 'Z') && (c < '0' || c > '9') && !strings.ContainsRune(ValidChars, c) { return false } }", "return true"] ∧
    cValidChars = "_- " ∧ minClientIDLength = cMinClientIDLength ∧ maxClientIDLength = cMaxClientIDLength ∧
    (cValidChars.toList.map fun ch => validChar (UInt8.ofNat ch.toNat)) = [true, true, true] := by
  refine ⟨by rfl, by rfl, by rfl, by rfl, by rfl, by rfl, by rfl, by rfl, by decide⟩

/-- **Every v1 write is sealed.** Whatever key-producing operation the v1 key store performs
(storage key pair generated or saved, storage symmetric key, HMAC key, audit-log key, poison key
pair, poison symmetric key – first time or rotation), its write log consists of exactly one private
write, to the operation's file, of `enc master (bytes of the operation's key context) secret nonce`,
followed – for key pairs – by one public write of the public key to `<file>.pub`. The secret never
reaches `Storage.WriteFile` otherwise; with the length law the private write is not the secret. -/
theorem v1_writes_are_sealed (c : CryptoOps) (master nonce : Bytes) (op : Op) (ws : List Write)
    (h : writes c master nonce op = some ws) :
    ∃ ct, c.enc master (keyContextBytes op.ctx) op.secret nonce = some ct ∧
      ws = ⟨op.file, ct, true⟩ :: (match op.public with | some pub => [⟨op.file ++ sPub, pub, false⟩] | none => []) ∧
      (∀ w ∈ ws, w.priv = true → w.data = ct) ∧
      (SealLen c → ct ≠ op.secret) := by
  obtain ⟨_, ct, he, rfl⟩ := writes_some h
  refine ⟨ct, he, rfl, ?_, fun hlen => sealed_ne_secret c hlen _ _ _ _ _ he⟩
  intro w hw hp
  rcases mem_log hw with rfl | ⟨pub, _, rfl⟩
  · rfl
  · cases hp

/-- **Bound to the owner (v1).** The private write of an operation opens only under the master key
and the context bytes it was sealed with: loading it the way a getter for any other key context does
– another client id, the poison or audit-log context, another master key – fails. -/
theorem v1_bound_to_owner (c : CryptoOps) (hl : SealLaws c) (hc : SealCommit c) (master nonce : Bytes) (op : Op)
    (ws : List Write) (h : writes c master nonce op = some ws) (w : Write) (hw : w ∈ ws) (hp : w.priv = true)
    (master' : Bytes) (kc' : KeyContext) (hne : master' ≠ master ∨ keyContextBytes kc' ≠ keyContextBytes op.ctx) :
    load c master' kc' w.data = none := by
  obtain ⟨ct, he, _, hall, _⟩ := v1_writes_are_sealed c master nonce op ws h
  rw [hall w hw hp]
  exact bound_to_owner c hl hc _ _ _ _ _ master' (keyContextBytes kc') he hne

/-- the context of a per-client operation is the client id: two different owners never share one -/
theorem v1_client_context (op : Op) (id : Bytes) (h : op.clientId = some id) : keyContextBytes op.ctx = id := by
  cases op <;> simp [Op.clientId] at h <;> subst h <;> rfl

/-- the contexts of the key store's own keys (poison pair, poison symmetric, audit log) are fixed
strings no valid client id equals (they contain `.` or are the log key name – `secure_log_key` *is* a
valid client id: a client of that name shares the audit-log key's context) -/
theorem v1_global_contexts (id : Bytes) (hv : validateID id = true) :
    id ≠ keyContextBytes (Op.ctx (.genPoisonPair [] [])) ∧ id ≠ keyContextBytes (Op.ctx (.genPoisonSym [])) := by
  constructor <;> (intro e; have := validateID_chars hv 46 (by rw [e]; decide); revert this; decide)

/-- **The purpose is not bound (known finding `v1-purpose-not-bound`).** Storage symmetric key and
HMAC key of one client are sealed under the same context – the client id: the file of one loads as
the other. -/
theorem v1_purpose_not_bound_counterexample (c : CryptoOps) (hl : SealLaws c) (master nonce id key : Bytes) (ws : List Write)
    (h : writes c master nonce (.genHmacKey id key) = some ws) :
    ∃ w ∈ ws, load c master (Op.ctx (.genSymKey id [])) w.data = some key := by
  obtain ⟨ct, he, hws, _, _⟩ := v1_writes_are_sealed c master nonce _ ws h
  refine ⟨⟨hmacName id, ct, true⟩, by rw [hws]; simp [Op.file], ?_⟩
  exact hl.dec_enc _ _ _ _ _ he

/-- **Confinement of the v1 writers.** Every path in the write log of every operation consists of
ordinary components only (no `..`, no `.`, no empty component, no separator inside a component):
relative to the key folder it stays inside it, lexically. Per-client operations get there because
they refuse every client id `keystore.ValidateID` does not accept (letters, digits, `_`, `-`, space;
5 … 256 bytes); the key store's own names are `secure_log_key` and `.poison_key/poison_key[_sym|.pub]`. -/
theorem v1_paths_contained (c : CryptoOps) (master nonce : Bytes) (op : Op) (ws : List Write)
    (h : writes c master nonce op = some ws) :
    ∀ w ∈ ws, ∀ comp ∈ Path.splitSlash w.path, GoodComp comp := by
  obtain ⟨hrej, ct, _, rfl⟩ := writes_some h
  intro w hw
  rcases mem_log hw with rfl | ⟨pub, _, rfl⟩
  · exact Op.file_good op hrej _ (List.mem_cons_self ..)
  · exact Op.file_good op hrej _ (List.mem_cons_of_mem _ (List.mem_cons_self ..))

/-- **The pinned tree escaped** (repaired by `repo-patches/50`). On the pinned tree only
`GenerateDataEncryptionKeys` validated: `GenerateClientIDSymmetricKey("../escaped")` wrote to `../escaped_storage_sym`, a path
whose first component is `..`. The repaired writer refuses the id. -/
theorem v1_writer_pinned_counterexample :
    (writesPinned boxOps [1] (List.replicate 12 0) (.genSymKey (Path.ofStr "../escaped") [7])).map (fun ws => ws.map (·.path)) =
      some [Path.ofStr "../escaped_storage_sym"] ∧
    Path.splitSlash (Path.ofStr "../escaped_storage_sym") = [Path.dd, Path.ofStr "escaped_storage_sym"] ∧
    writes boxOps [1] (List.replicate 12 0) (.genSymKey (Path.ofStr "../escaped") [7]) = none := by
  decide +kernel

/-- non-vacuity: a valid client gets its files written under the Box instance -/
example : (writes boxOps [1] (List.replicate 12 0) (.genDataKeys (Path.ofStr "client_a") [7] [8])).isSome = true := by decide +kernel

end V1

/-! # Every id-taking method of the v1 key store is confined (readers and destroyers included)

Model `KeystoreSec/V1Methods.lean`; tied by the regenerated method table and the op `C07.v1.access`
(a recording `filesystem.Storage` under the real key store: every path handed to
`Stat/Exists/ReadFile/ReadDir/Remove/MkdirAll/TempFile/WriteFile/Link/Rename`). -/
section V1Methods
open AcraModel.KeystoreSec.V1 AcraModel.KeystoreSec.V1Methods

open Generated.V1Methods in
/-- The exported methods of `KeyStore` / `TranslatorFileSystemKeyStore` that turn a caller-supplied
`[]byte` into a file name are exactly the 23 methods of the model, in source order, and **every one of
them** begins with `if !keystore.ValidateID(id) { return …, keystore.ErrInvalidClientID }` (the writers
by `repo-patches/50`, the readers and destroyers by `repo-patches/51-fix-v1-readers-destroyers-validate-client-id`). The name functions are the seven of
`filenames.go` / `key_names.go`; the only other exported methods with a `[]byte` parameter take key
*data*; the exported methods taking file names as strings are the package's plumbing (they are handed
names built by the methods above or the key store's fixed names). A new id-taking method, or a guard
that disappears, changes this table. -/
theorem fact_v1_id_methods :
    v1IdMethods.map (·.1) = Method.all.map Method.goName ∧
    (v1IdMethods.all fun r => r.2.1) = true ∧
    v1NameFunctions = ["GetServerDecryptionKeyFilename", "getClientIDSymmetricKeyName", "getConnectorKeyFilename", "getHmacKeyFilename", "getPublicKeyFilename", "getServerKeyFilename", "getTranslatorKeyFilename"] ∧
    v1OtherByteMethods = ["KeyStore.WritePrivateKey", "KeyStore.WritePublicKey", "KeyStore.WriteKeyFile", "KeyStore.Add"] ∧
    v1PathMethods = ["KeyStore.SaveKeyPairWithFilename(filename)", "KeyStore.WritePrivateKey(filename)", "KeyStore.WritePublicKey(filename)", "KeyStore.ReadKeyFile(filename)", "KeyStore.WriteKeyFile(filename)", "KeyStore.GetPrivateKeyFilePath(filename)", "KeyStore.GetPublicKeyFilePath(filename)", "KeyStore.GetHistoricalPrivateKeyFilenames(filename)", "KeyStore.Add(keyID)", "KeyStore.Get(keyID)"] :=
  ⟨rfl, rfl, rfl, rfl, rfl⟩

/-- every method of the model is guarded in the regenerated table -/
theorem fact_v1_all_methods_validate : ∀ m : Method, m.validates = true := by
  intro m
  have hm : m ∈ Method.all := by cases m <;> decide
  exact validatesIn_of_all (fact_v1_id_methods.1 ▸ List.mem_map_of_mem hm) fact_v1_id_methods.2.1

/-- **Confinement of every id-taking method of the v1 key store.** Whatever client id a generator,
getter, "get all" reader, destroyer or rotated-key destroyer of the key store – or the translator key
store's `CheckIfPrivateKeyExists` / `GetPrivateKey` – is given: either the call is refused before the
storage is touched, or every path it hands to the storage (to read, list, stat, create, link, rename
or remove) consists of ordinary components only – no `..`, no `.`, no empty component, no separator
inside a component – relative to the key folder: lexically inside it. (`e`: names a directory listing,
`TempFile` and the clock contribute; they are ordinary components / separator-free / time stamps.) -/
theorem v1_all_methods_contained (m : Method) (id : Bytes) (e : Env) (he : e.WellFormed) (ps : List Bytes)
    (h : access m id e = some ps) :
    ∀ p ∈ ps, ∀ comp ∈ Path.splitSlash p, GoodComp comp := by
  obtain ⟨hv, rfl⟩ := access_some (fact_v1_all_methods_validate m) h
  exact touched_good hv he m

/-- an invalid id is refused by every method before anything is touched -/
theorem v1_invalid_id_refused (m : Method) (id : Bytes) (e : Env) (h : validateID id = false) : access m id e = none := by
  unfold access accessWith
  have hm : validatesIn Generated.V1Methods.v1IdMethods m = true := fact_v1_all_methods_validate m
  simp [hm, h]

/-- **The readers and destroyers escaped on the pinned tree** (known finding
`v1-unvalidated-client-id-escapes`; repaired by `repo-patches/51-fix-v1-readers-destroyers-validate-client-id`):
with the guard table of the tree with `repo-patches/50` only, `DestroyClientIDSymmetricKey("../../victim")` handed `../../victim_storage_sym` – a path
whose first two components are `..` – to `Storage.Remove`, and `GetClientIDSymmetricKey("../escaped")`
read `../escaped_storage_sym`. With the regenerated table both calls are refused. -/
theorem v1_readers_pinned_counterexample :
    let e : Env := ⟨false, [], [], [], [], [], [], 2⟩
    accessWith pinnedTable .destroyClientIDSymmetricKey (Path.ofStr "../../victim") e = some [Path.ofStr "../../victim_storage_sym"] ∧
    Path.splitSlash (Path.ofStr "../../victim_storage_sym") = [Path.dd, Path.dd, Path.ofStr "victim_storage_sym"] ∧
    accessWith pinnedTable .getClientIDSymmetricKey (Path.ofStr "../escaped") e = some [Path.ofStr "../escaped_storage_sym"] ∧
    access .destroyClientIDSymmetricKey (Path.ofStr "../../victim") e = none ∧
    access .getClientIDSymmetricKey (Path.ofStr "../escaped") e = none := by
  decide +kernel

/-- non-vacuity: a valid client's "read all" touches the file, its history directory and the rotated keys -/
example : access .getClientIDSymmetricKeys (Path.ofStr "client_a")
    ⟨true, [Path.ofStr "2024-01-02T03:04:05.6"], [], [], [], Path.ofStr "2024-01-02T03:04:05", Path.ofStr "2024-01-02T03:04:05", 2⟩ =
    some [Path.ofStr "client_a_storage_sym.old", Path.ofStr "client_a_storage_sym", Path.ofStr "client_a_storage_sym.old/2024-01-02T03:04:05.6"] := by decide +kernel

end V1Methods

/-! # Permission discipline

Model `KeystoreSec/Perms.lean`; tied by the regenerated call table / constants and the ops `C07.perm.*`
(real key stores of both formats under real umasks; every one of the 512 directory / file modes). -/
section Perms
open AcraModel.KeystoreSec.Perms AcraModel.KeystoreSec.V1WriteLog AcraModel.KeystoreSec.V1
open AcraModel.CrossClient (keyContextBytes)

open Generated.KeyPerms in
/-- The permission constants are 0600 / 0644 / 0700 in both formats; the checks on existing key
directories and key files are the ones `Perms.v1OpenAccepts / v2OpenAccepts / v1LoadAccepts` model;
`FileStorage.TempFile` creates (0600) and then `Chmod`s to the requested mode; a history `Copy` keeps
the source's mode; `Import` starts from the public mode and switches to the private one for private keys. -/
theorem fact_perm_constants :
    v1PrivateFileMode = 0o600 ∧ v1PublicFileMode = 0o644 ∧ v1KeyDirMode = 0o700 ∧
    v2KeyFilePerm = 0o600 ∧ v2VersionPerm = 0o644 ∧ v2KeyDirPerm = 0o700 ∧
    v1OpenPermConds = ["runtime.GOOS == \"linux\" && fi.Mode().Perm().String() != expectedPermission"] ∧
    expectedPermission = "-rwx------" ∧
    v1LoadPrivateKeyPermConds = ["runtime.GOOS == \"linux\" && fi.Mode().Perm() > PrivateFileMode"] ∧
    v2CreatePermConds = ["fi.Mode().Perm() != keyDirPerm"] ∧ v2OpenPermConds = ["fi.Mode().Perm() != keyDirPerm"] ∧
    v1TempFileCalls = ["ioutil.TempFile", "tmp.Chmod"] ∧
    v1CopyPerm = ["perm := fi.Mode() & os.ModePerm"] ∧
    v1ImportFilePermission = ["filePermission := publicFileMode", "filePermission = PrivateFileMode"] :=
  ⟨rfl, rfl, rfl, rfl, rfl, rfl, rfl, by decide, rfl, rfl, rfl, rfl, rfl, rfl⟩

/-- mode of a write of the v1 write log: `WritePrivateKey` / `WritePublicKey` -/
def writeMode (w : Write) : Nat := if w.priv then Generated.KeyPerms.v1PrivateFileMode else Generated.KeyPerms.v1PublicFileMode

/-- **Permission discipline.**
(1) *Call table (regenerated):* every call in `keystore/filesystem` and the v2 directory back end that
creates a file or directory is classified; every directory is created with 0700; every file with a
constant mode gets 0600 – or 0644 inside `WritePublicKey` / `createVersionFile` only; the `mode`
parameter of `WriteKeyFile` is fed by `WritePrivateKey` (0600), `WritePublicKey` (0644) and direct calls
with `PrivateFileMode`; no call creates, reads or resolves a symbolic link.
(2) *Write log:* in every operation of the v1 key store the write that carries the sealed secret is a
0600 write; the only 0644 write carries the public key.
(3) *Under every umask* what is created at a site holding key material (v1 key folder, `.poison_key`,
history directories, private key files; v2 directories and ring files) has no group / other bit, and
a created directory / file never has a bit its constant lacks. -/
theorem perm_discipline :
    disciplined Generated.KeyPerms.permCalls = true ∧
    noSymlinkCalls Generated.KeyPerms.permCalls = true ∧
    (∀ (c : CryptoOps) (master nonce : Bytes) (op : Op) (ws : List Write), writes c master nonce op = some ws →
      ∃ ct, c.enc master (keyContextBytes op.ctx) op.secret nonce = some ct ∧
        ∀ w ∈ ws, (w.data = ct → w.path = op.file → writeMode w = 0o600) ∧ (writeMode w ≠ 0o600 → some w.data = op.public)) ∧
    (∀ (s : Site) (umask : Nat), s.holdsKeys = true → ownerOnly (effectiveAt s umask) = true) ∧
    (∀ (umask i : Nat), (effectiveAt .v2Version umask).testBit i = true → (0o644 : Nat).testBit i = true) := by
  refine ⟨by decide +kernel, by decide +kernel, ?_, ?_, ?_⟩
  · intro c master nonce op ws h
    obtain ⟨_, ct, he, rfl⟩ := writes_some h
    refine ⟨ct, he, fun w hw => ?_⟩
    rcases mem_log hw with rfl | ⟨pub, hpub, rfl⟩
    · exact ⟨fun _ _ => rfl, fun hne => absurd rfl hne⟩
    · -- `<file>.pub` is not `<file>`
      exact ⟨fun _ hp => absurd (List.append_right_eq_self.mp hp) (by decide), fun _ => hpub.symm⟩
  · intro s umask hs
    -- the four sites that hold keys remain: `v1Dir`, `v1Private` (chmod, no umask), `v2Dir`, `v2File`
    cases s <;> simp only [Site.holdsKeys, Bool.false_eq_true] at hs
    · exact created_ownerOnly _ _ (by decide)
    · show ownerOnly (chmodded Generated.KeyPerms.v1PrivateFileMode) = true
      decide
    · exact created_ownerOnly _ _ (by decide)
    · exact created_ownerOnly _ _ (by decide)
  · intro umask i h
    exact created_sub _ _ _ h

/-- the permission string of 9 bits is `-rwx------` exactly for 0700: the expected string is that of 0700,
and the string determines the bits -/
theorem perm_string_key : ∀ k, k < 512 → ((permString k == expectedPermission) = true ↔ k = 0o700) := by
  intro k hk
  have he : expectedPermission = permString 0o700 := by decide
  rw [beq_iff_eq, he]
  exact ⟨permString_inj hk (by decide), fun h => h ▸ rfl⟩

/-- **The checks on what already exists.** A v1 key store opens over an existing private key folder
iff its permission bits are exactly 0700; the v2 directory back end creates / opens over an existing
root iff its permission bits are exactly 0700 – in particular every directory with a group or other
bit is refused by both. -/
theorem open_perm_check (m : Nat) :
    (v1OpenAccepts m = true ↔ m &&& 0o777 = 0o700) ∧ (v2OpenAccepts m = true ↔ m &&& 0o777 = 0o700) ∧
    (m &&& 0o077 ≠ 0 → v1OpenAccepts m = false ∧ v2OpenAccepts m = false) := by
  have hlt : m &&& 0o777 < 512 := Nat.lt_of_le_of_lt Nat.and_le_right (by decide)
  have h1 : v1OpenAccepts m = true ↔ m &&& 0o777 = 0o700 := perm_string_key _ hlt
  have h2 : v2OpenAccepts m = true ↔ m &&& 0o777 = 0o700 := beq_iff_eq
  refine ⟨h1, h2, fun hgo => ?_⟩
  -- 0700 has no group / other bit
  have hne : m &&& 0o777 ≠ 0o700 := fun e => hgo <| by
    rw [show m &&& 0o077 = (m &&& 0o777) &&& 0o077 by rw [Nat.and_assoc]; rfl, e]; rfl
  exact ⟨Bool.eq_false_iff.mpr (mt h1.mp hne), Bool.eq_false_iff.mpr (mt h2.mp hne)⟩

/-- **`loadPrivateKey`'s check is a numeric comparison** (modelled as it is): a private key file is
refused iff its permission bits, read as a number, exceed 0600. Every file the owner can read and write
that has any further bit is refused (`0640`, `0604`, `0700` …) – but a file *without* owner write
permission passes whatever its group / other bits: `0444` (world readable) is accepted. The key store
never creates such a file (`perm_discipline`); a file system somebody else changed is outside the
property's attacker model (trusted base), so this is recorded, not reported. -/
theorem v1_load_perm_check (m : Nat) (uid0 : Bool) :
    (v1LoadAccepts m uid0 = true → m &&& 0o777 ≤ 0o600) ∧
    (v1LoadAccepts 0o600 uid0 = true) ∧
    (∀ k, k < 512 → k &&& 0o600 = 0o600 → k ≠ 0o600 → v1LoadAccepts k uid0 = false) ∧
    v1LoadAccepts 0o444 uid0 = true ∧ v1LoadAccepts 0o640 uid0 = false := by
  refine ⟨?_, by cases uid0 <;> decide +kernel⟩
  intro h
  unfold v1LoadAccepts at h
  simp only [Bool.and_eq_true, Bool.not_eq_true', decide_eq_false_iff_not] at h
  have := h.1
  unfold permMask at this
  have hc : Generated.KeyPerms.v1PrivateFileMode = 0o600 := by decide
  omega

end Perms

/-! # The read-write open of a v2 key ring never overwrites what it cannot load

Model `KeystoreSec/{DerParse,RingOpen,RingOpenLemmas}.lean` (`openKeyRing` / `OpenKeyRingRW`, `readKeyRing`,
`writeKeyRing`, `importKeyRing`, the table of read-write entry points of the v2 `ServerKeyStore`); the guard
of the create branch is the regenerated `Generated.RingOpen.openCreateGuard`. Tied by the ops `C07.rwopen`,
`C07.rwentry`, `C07.rwimport` (real key stores over an in-memory / directory back end whose files are read
directly before and after every call). -/
section RingOpen
open AcraModel.KeystoreSec.RingOpen AcraModel.KeystoreSec.DerParse

/-- **The create guard of `openKeyRing` is "the ring does not exist" and nothing else.** Evaluated from
the regenerated guard (operator and error value as they stand in the source) for every error a ring load
can end with: an empty ring is pushed exactly for `backend.ErrNotExist` – not for a signature mismatch,
a missing signature, an unparsable file, a wrong content type / version, an invalid path or an I/O error. -/
theorem fact_open_ring_creates_iff_not_exist : ∀ e : LoadErr, createsOn e = true ↔ e = .notExist := by
  intro e; cases e <;> decide

open Generated.RingOpen in
/-- The statements of `openKeyRing`, `pullRingUpdates`, `verifyKeyRing`, `Notary.Verify`, `writeKeyRing`,
`readKeyRing` the model follows (log statements dropped): exclusive lock first, unlock deferred (its
error replaces only a nil result); after the pull the error branch is the guard followed by `return err`;
the guarded branch is `return s.pushNewRingState(ring)`; every step of the pull returns its error; the
signature context is built from the ring's own path; the notary checks the signatures over the raw
payload bytes of the file; content type and version are checked after the signature; only the error of
`UnmarshalKeyRing` is merely logged; a write-back returns the error of its pull before anything is pushed. -/
theorem fact_open_ring_shape :
    openBeforePull = ["err = s.fs.Lock()", "if err != nil { return err }",
      "defer func() { err2 := s.fs.Unlock(); if err2 != nil { if err == nil { err = err2 } } }"] ∧
    openCreateBranch = ["return s.pushNewRingState(ring)"] ∧ openErrorReturn = "return err" ∧ openAfterPull = ["return nil"] ∧
    pullSteps = ["s.fetchASNring:return", "s.verifyKeyRing:return", "ring.loadASN1:return"] ∧
    pullVerifyArgs = ["ring.path"] ∧ pullFetchArgs = ["ring.path"] ∧
    verifySteps = ["s.notary.Verify:return", "asn1.UnmarshalKeyRing:log-only"] ∧
    verifyContextCalls = ["s.keyRingSignatureContext"] ∧ verifyContextArg = ["path"] ∧ verifyNotaryArgs = ["data", "context"] ∧
    verifyChecks = ["err != nil => return nil, nil, err",
      "verified.Payload.ContentType != asn1.TypeKeyRing => return nil, nil, errIncorrectContentType",
      "verified.Payload.Version != asn1.KeyRingVersion2 => return nil, nil, errUnsupportedVersion", "err != nil => "] ∧
    notaryVerifySteps = ["asn1.UnmarshalVerifiedContainer:return", "s.verifySignatures:return"] ∧
    notaryVerifySigArgs = ["decoded.Signatures", "decoded.Payload.RawContent", "context"] ∧
    writeSteps = ["s.pullRingUpdates:return", "ring.applyPendingTX:return", "s.pushNewRingState:return"] ∧
    readSteps = ["s.pullRingUpdates:return"] ∧
    backendErrors = ["ErrNotExist", "ErrExist", "ErrInvalidPath"] ∧
    Generated.KeystoreSec.pushASNringCalls = ["s.fs.Put", "s.fs.Rename"] ∧ Generated.KeystoreSec.pushASNringPutPath = ["newPath"] ∧
    Generated.KeystoreSec.fetchASNringCalls = ["s.fs.Get"] ∧ Generated.KeystoreSec.pushNewRingStateCalls = ["s.signKeyRing", "s.pushASNring"] :=
  ⟨rfl, rfl, rfl, rfl, rfl, rfl, rfl, rfl, rfl, rfl, rfl, rfl, rfl, rfl, rfl, rfl, rfl, rfl, rfl, rfl, rfl⟩

open Generated.RingOpen in
/-- Inside the file-system key store only `pushASNring` calls `Backend.Put` / `Rename`, only
`pushNewRingState` calls it, and `pushNewRingState` is reached from `openKeyRing` (the guarded branch) and
`writeKeyRing` (after a successful pull) only; `openKeyRing` is called by `OpenKeyRingRW` and
`importKeyRing`. Nothing uses `RenameNX`. -/
theorem fact_ring_push_callers :
    pushCallers = ["KeyStore.OpenKeyRingRW>s.openKeyRing", "KeyStore.importKeyRing>s.openKeyRing",
      "KeyStore.openKeyRing>s.pushNewRingState", "KeyStore.pushASNring>s.fs.Put", "KeyStore.pushASNring>s.fs.Rename",
      "KeyStore.pushNewRingState>s.pushASNring", "KeyStore.writeKeyRing>s.pushNewRingState"] := rfl

open Generated.RingOpen in
/-- `importKeyRing` reads the ring first and goes on to `openKeyRing` only in the `backendAPI.ErrNotExist`
case of its `switch err`; the default case returns the error. -/
theorem fact_import_opens_iff_not_exist :
    (∀ e : LoadErr, importOpensOn e = true ↔ e = .notExist) ∧
    importSwitchCases = ["nil", "ErrNotExist", "default"] ∧ importDefaultCase = ["return err"] := by
  refine ⟨?_, rfl, rfl⟩
  intro e; cases e <;> decide

open Generated.RingOpen in
/-- **The read-write entry points of the v2 `ServerKeyStore`.** The functions of `keystore/v2/keystore`
that call `OpenKeyRingRW` are exactly these 26 methods (sorted by name: generators, savers, destroyers, rotated-key
destroyers, the four poison-key getters, the five importers reached from `ImportKeyFileV1`), **every one of
them** opens its ring as its first action and returns the error of the open, and the ring path is one of
the six path expressions of the store. A new read-write method, or one that does something before the
open / swallows its error, changes this table. -/
theorem fact_rw_entry_points :
    rwEntryPoints.map (·.2.1) = ["ServerKeyStore.DestroyClientIDEncryptionKeyPair", "ServerKeyStore.DestroyClientIDSymmetricKey",
      "ServerKeyStore.DestroyHmacSecretKey", "ServerKeyStore.DestroyPoisonKeyPair", "ServerKeyStore.DestroyPoisonSymmetricKey",
      "ServerKeyStore.DestroyRotatedClientIDEncryptionKeyPair", "ServerKeyStore.DestroyRotatedClientIDSymmetricKey",
      "ServerKeyStore.DestroyRotatedHmacSecretKey", "ServerKeyStore.DestroyRotatedPoisonKeyPair", "ServerKeyStore.DestroyRotatedPoisonSymmetricKey",
      "ServerKeyStore.GenerateClientIDSymmetricKey", "ServerKeyStore.GenerateDataEncryptionKeys", "ServerKeyStore.GenerateHmacKey",
      "ServerKeyStore.GenerateLogKey", "ServerKeyStore.GeneratePoisonKeyPair", "ServerKeyStore.GeneratePoisonSymmetricKey",
      "ServerKeyStore.GetPoisonKeyPair", "ServerKeyStore.GetPoisonPrivateKeys", "ServerKeyStore.GetPoisonSymmetricKey",
      "ServerKeyStore.GetPoisonSymmetricKeys", "ServerKeyStore.SaveDataEncryptionKeys", "ServerKeyStore.importClientIDSymmetricKey",
      "ServerKeyStore.importHmacKey", "ServerKeyStore.importLogKey", "ServerKeyStore.importPoisonRecordSymmetricKey",
      "ServerKeyStore.savePoisonKeyPair"] ∧
    (rwEntryPoints.all fun r => r.2.2.2 == "open-first-return-err") = true ∧
    (rwEntryPoints.all fun r => ["auditLogSymmetricKeyPath", "poisonKeyPath", "poisonSymmetricKeyPath", "s.clientHMACKeyPath(clientID)",
      "s.clientStorageSymmetricKeyPath(clientID)", "s.clientStorageKeyPairPath(clientID)"].contains r.2.2.1) = true ∧
    rwInternalCallers = ["ServerKeyStore.ImportKeyFileV1>importClientIDSymmetricKey", "ServerKeyStore.ImportKeyFileV1>importHmacKey",
      "ServerKeyStore.ImportKeyFileV1>importLogKey", "ServerKeyStore.ImportKeyFileV1>importPoisonRecordSymmetricKey",
      "ServerKeyStore.ImportKeyFileV1>savePoisonKeyPair"] :=
  ⟨rfl, by decide +kernel, by decide +kernel, rfl⟩

/-- the temporary `<ring>.keyring.new` is not the ring file (the suffix `.new` is not empty) -/
theorem fact_new_suffix : newSuffix ≠ [] := by decide

/-- **A read-write open that cannot load what is stored fails and preserves it** – for every state of
the back end, every ring path, every error: when the pull ends with anything but "the ring does not
exist" (bad signature, signature made for another path, no known signature, unparsable bytes, wrong
content type / version, invalid path, unreadable file), `OpenKeyRingRW` returns an error, the back end is
exactly as before, and neither `Put` nor `Rename` is called. -/
theorem rw_open_error_preserves (c : CryptoOps) (sigKey : Bytes) (time : Int) (b : Backend) (path : Bytes) (e : LoadErr)
    (hp : pull c sigKey b path = .error e) (hne : e ≠ .notExist) :
    let r := openKeyRing c sigKey time b path
    r.out.isErr = true ∧ r.backend = b ∧ ∀ call ∈ r.trace, call.isWrite = false := by
  have := openKeyRing_no_create c sigKey time b path e hp
    (Bool.eq_false_iff.mpr (mt (fact_open_ring_creates_iff_not_exist e).mp hne))
  exact ⟨this.2.1, this.1, this.2.2⟩

/-- **Tamper evidence survives the read-write open.** Whatever byte string `d` is stored at a ring's
path: if it does not load there – it does not parse as a signed container, a known signature does not
match the payload bytes under *this path's* context, there is no known signature, or type / version are
wrong – then `OpenKeyRingRW` returns an error AND the stored bytes (and everything else in the back end)
are identical afterwards; no `Put`, no `Rename`. The evidence of the tampering and the keys inside are
not replaced by a fresh empty ring. -/
theorem rw_open_tampered_fails_and_preserves (c : CryptoOps) (sigKey : Bytes) (time : Int) (b : Backend) (path d : Bytes) (e : LoadErr)
    (hstored : b.get (ringFile path) = .ok d) (hbad : loadBytes c sigKey path d = .error e) :
    let r := openKeyRing c sigKey time b path
    r.out.isErr = true ∧ r.backend = b ∧ r.backend.files (ringFile path) = some d ∧ ∀ call ∈ r.trace, call.isWrite = false := by
  obtain ⟨hp, hne⟩ := pull_of_bad hstored hbad
  have := rw_open_error_preserves c sigKey time b path e hp hne
  exact ⟨this.1, this.2.1, (congrArg (·.files (ringFile path)) this.2.1).trans (get_ok_files b _ d hstored), this.2.2⟩

/-- **Only a missing ring is created.** If `OpenKeyRingRW` calls `Put` or `Rename`, changes the back
end in any way, or reports a creation, then nothing was stored at the ring's path (`Get` answered
`ErrNotExist`). And a reported creation leaves exactly: the signed empty ring for this path (purpose =
path, no keys, no current key, signed under this path's context) at the ring's path, no temporary,
every other path untouched; the calls were `Lock, Get, Put(<ring>.keyring.new), Rename, Unlock` in this
order – check and creation under one exclusive lock. -/
theorem rw_open_creates_only_missing (c : CryptoOps) (sigKey : Bytes) (time : Int) (b : Backend) (path : Bytes) :
    let r := openKeyRing c sigKey time b path
    (((∃ call ∈ r.trace, call.isWrite = true) ∨ r.backend ≠ b ∨ r.out = .created) → b.get (ringFile path) = .error .notExist) ∧
    (r.out = .created →
      r.backend.files (ringFile path) = some (signedFile c sigKey path time (emptyRing path)) ∧
      r.backend.files (newFile path) = none ∧
      (∀ q, q ≠ ringFile path → q ≠ newFile path → r.backend.files q = b.files q) ∧
      r.trace = [.lock, .get (ringFile path), .put (newFile path) (signedFile c sigKey path time (emptyRing path)),
        .rename (newFile path) (ringFile path), .unlock]) := by
  refine ⟨?_, ?_⟩
  · intro h
    obtain ⟨e, hp, hg⟩ := openKeyRing_write_only_on_guard c sigKey time b path h
    have := (fact_open_ring_creates_iff_not_exist e).mp hg
    subst this
    exact pull_notExist c sigKey b path hp
  · intro h
    exact openKeyRing_created c sigKey time b path fact_new_suffix h

/-- the empty ring a creation writes verifies under its own path's context (it is an honest ring) -/
theorem rw_open_created_ring_is_signed (c : CryptoOps) (sigKey path : Bytes) (time : Int) :
    Notary.verify c sigKey (sigCtx path) (Notary.sign c sigKey (sigCtx path) (ringPayload time (emptyRing path))) = true :=
  Notary.verify_sign c sigKey _ _

/-- **Every read-write entry point of the v2 key store preserves tamper evidence.** For every row of the
regenerated table of methods that open a ring read-write (generators, savers, destroyers, poison-key
getters, importers), whatever the method goes on to do after a successful open (`rest`, arbitrary): if
what is stored at the method's ring path does not load, the method returns an error and the back end –
the tampered file included – is exactly as before. -/
theorem rw_entry_points_preserve_tamper_evidence (row : String × String × String × String)
    (hrow : row ∈ Generated.RingOpen.rwEntryPoints)
    (c : CryptoOps) (sigKey : Bytes) (time : Int) (b : Backend) (path d : Bytes) (e : LoadErr)
    (rest : Backend → OpenOut → Done) (other : Backend → Done)
    (hstored : b.get (ringFile path) = .ok d) (hbad : loadBytes c sigKey path d = .error e) :
    (runEntry row.2.2.2 c sigKey time b path rest other).failed = true ∧
    (runEntry row.2.2.2 c sigKey time b path rest other).backend = b ∧
    (runEntry row.2.2.2 c sigKey time b path rest other).backend.files (ringFile path) = some d := by
  have hshape : row.2.2.2 = "open-first-return-err" :=
    beq_iff_eq.mp (List.all_eq_true.mp fact_rw_entry_points.2.1 row hrow)
  have ht := rw_open_tampered_fails_and_preserves c sigKey time b path d e hstored hbad
  rw [runEntry_of_err hshape c sigKey time b path rest other ht.1]
  exact ⟨rfl, ht.2.1, ht.2.2.1⟩

/-- **A write-back over a ring that does not load** (`AddKey`, `SetCurrent`, `SetState`, `DestroyKey`,
`importASN1` on a handle whose file was changed after the open): error, back end untouched – and a
write-back never creates, not even when the ring has disappeared. -/
theorem rw_write_back_preserves (c : CryptoOps) (sigKey : Bytes) (time : Int) (b : Backend) (path : Bytes)
    (apply : Bytes → Option Export.Ring) (e : LoadErr) (hp : pull c sigKey b path = .error e) :
    let r := writeKeyRing c sigKey time b path apply
    r.out.isErr = true ∧ r.backend = b ∧ ∀ call ∈ r.trace, call.isWrite = false := by
  have := writeKeyRing_no_load c sigKey time b path apply e hp
  exact ⟨this.2.1, this.1, this.2.2⟩

/-- **Bundle import over a ring that does not load** (`ImportKeyRings` → `importKeyRing`): the ring is
read first; a ring that is there but does not load makes the import fail with the back end untouched –
whatever the conflict delegate would decide and whatever the import would write. -/
theorem rw_import_preserves (c : CryptoOps) (sigKey : Bytes) (time : Int) (b : Backend) (path d : Bytes) (e : LoadErr)
    (onExisting : Backend → Bytes → Done) (k : Backend → Done)
    (hstored : b.get (ringFile path) = .ok d) (hbad : loadBytes c sigKey path d = .error e) :
    (RingOpen.importKeyRing c sigKey time b path onExisting k).failed = true ∧
    (RingOpen.importKeyRing c sigKey time b path onExisting k).backend = b := by
  obtain ⟨hp, hne⟩ := pull_of_bad hstored hbad
  exact importKeyRing_no_load c sigKey time b path e onExisting k hp
    (Bool.eq_false_iff.mpr (mt (fact_import_opens_iff_not_exist.1 e).mp hne))
    (Bool.eq_false_iff.mpr (mt (fact_import_opens_iff_not_exist.1 .lock).mp (by decide)))

/-- **A modified or copied ring does not load** (the link to `ring_tamper`): let the bytes stored at
ring path `path` parse as a container that carries the signatures an honest key store made for payload
`raw` at ring path `p₀`. If the payload bytes now differ from `raw` (same length: any changed byte of the
signed span), or the file sits at another path than it was signed for (`path ≠ p₀`: alice's ring copied
to bob's path), the load fails with a signature error. (Collision freedom of the HMAC.) -/
theorem tampered_or_copied_ring_does_not_load (c : CryptoOps) (hi : HashInj c) (sigKey path p₀ raw d : Bytes) (p : Parsed)
    (hparse : parseContainer d = some p) (hsigs : p.sigs = (Notary.sign c sigKey (sigCtx p₀) raw).sigs)
    (hlen : p.raw.length = raw.length ∨ path = p₀) (hne : p.raw ≠ raw ∨ path ≠ p₀) :
    loadBytes c sigKey path d = .error .signature := by
  unfold loadBytes
  simp only [hparse]
  cases hv : verifySignatures c sigKey (sigCtx path) p.container with
  | ok u =>
    have hver : Notary.verify c sigKey (sigCtx path) ⟨p.raw, (Notary.sign c sigKey (sigCtx p₀) raw).sigs⟩ = true := by
      have := (verifySignatures_ok_iff c sigKey (sigCtx path) p.container).mp hv
      simpa [Parsed.container, hsigs] using this
    have := ring_tamper c hi sigKey p₀ raw path p.raw hver hlen
    rcases hne with h | h
    · exact absurd this.1 h
    · exact absurd this.2 h
  | error e =>
    -- the only known signature is the honest one: it is a mismatch, not a missing signature
    simp only
    unfold verifySignatures at hv
    simp only [Parsed.container, hsigs, Notary.sign] at hv
    simp only [List.filter_cons, decide_true, if_true, List.filter_nil, List.any_cons, List.any_nil, Bool.or_false,
      List.isEmpty_cons, Bool.false_eq_true, if_false] at hv
    split at hv
    · cases hv; rfl
    · cases hv

/-- **Alice's ring at Bob's path is preserved and reported.** Alice's honestly written ring file copied
to Bob's ring path (`bob ≠ alice`) does not load there – the signature context is the path – so every
read-write open of Bob's ring returns an error and leaves the copied file, and the whole back end, as it
is: Bob does not silently get a fresh ring, and the evidence stays. The same for a ring whose signed span
was modified in place. -/
theorem copied_ring_preserved_and_reported (c : CryptoOps) (hi : HashInj c) (sigKey alice bob raw d : Bytes) (p : Parsed)
    (time : Int) (b : Backend)
    (hparse : parseContainer d = some p) (hraw : p.raw = raw) (hsigs : p.sigs = (Notary.sign c sigKey (sigCtx alice) raw).sigs)
    (hne : bob ≠ alice) (hstored : b.get (ringFile bob) = .ok d) :
    let r := openKeyRing c sigKey time b bob
    r.out.isErr = true ∧ r.backend = b ∧ r.backend.files (ringFile bob) = some d ∧ ∀ call ∈ r.trace, call.isWrite = false :=
  rw_open_tampered_fails_and_preserves c sigKey time b bob d .signature hstored
    (tampered_or_copied_ring_does_not_load c hi sigKey bob alice raw d p hparse hsigs (Or.inl (by rw [hraw])) (Or.inr hne))

/-- **An untouched ring loads, and the read-write open leaves it alone.** The file `signKeyRing` wrote for
ring path `path` (any ring `r`, any time stamp; sizes in the range Go's reader accepts) passes the pull at
`path`: `OpenKeyRingRW` hands out the ring's data, changes nothing and writes nothing. (Together with
the theorems above: rings that load are kept as they are, rings that do not load are kept as they are and
reported, only missing rings are created.) -/
theorem honest_ring_file_loads (c : CryptoOps) (sigKey path : Bytes) (time t' : Int) (r : Export.Ring) (b : Backend)
    (hr : (Der.derRing r).length < 8388608)
    (hsig : (Notary.signBytes c sigKey (sigCtx path) (ringPayload time r)).length < 16777216)
    (hstored : b.get (ringFile path) = .ok (signedFile c sigKey path time r)) :
    pull c sigKey b path = .ok (Der.derRing r) ∧
    (openKeyRing c sigKey t' b path).backend = b ∧
    (∀ call ∈ (openKeyRing c sigKey t' b path).trace, call.isWrite = false) ∧
    (b.lockFails = false → b.unlockFails = false → (openKeyRing c sigKey t' b path).out = .loaded (Der.derRing r)) := by
  have hp : pull c sigKey b path = .ok (Der.derRing r) := by
    rw [pull_of_get c sigKey b path _ hstored]
    exact loadBytes_signedFile c sigKey path time r hr hsig
  have hl := openKeyRing_loaded c sigKey t' b path _ hp
  refine ⟨hp, hl.1, hl.2.1, ?_⟩
  intro h1 h2
  unfold openKeyRing
  simp [h1, hp, withUnlock, h2]

/-- **Alice's honestly written ring file at Bob's path** (the statement of `copied_ring_preserved_and_reported`
for the very bytes the key store wrote): the file `signKeyRing` made for ring path `alice`, stored at ring
path `bob ≠ alice`, does not load there; every read-write open of `bob` fails and leaves the file and the
whole back end as they are. -/
theorem honest_ring_at_foreign_path_preserved_and_reported (c : CryptoOps) (hi : HashInj c) (sigKey alice bob : Bytes)
    (time t' : Int) (r : Export.Ring) (b : Backend)
    (hr : (Der.derRing r).length < 8388608)
    (hsig : (Notary.signBytes c sigKey (sigCtx alice) (ringPayload time r)).length < 16777216)
    (hne : bob ≠ alice) (hstored : b.get (ringFile bob) = .ok (signedFile c sigKey alice time r)) :
    let res := openKeyRing c sigKey t' b bob
    res.out.isErr = true ∧ res.backend = b ∧ res.backend.files (ringFile bob) = some (signedFile c sigKey alice time r) ∧
    ∀ call ∈ res.trace, call.isWrite = false :=
  copied_ring_preserved_and_reported c hi sigKey alice bob (ringPayload time r) _ _ t' b
    (parse_signedFile c sigKey alice time r hr hsig) rfl rfl hne hstored

/-- the size hypotheses of `honest_ring_file_loads` are satisfiable (Box instance, the empty ring of path `p`) -/
example : (Der.derRing (emptyRing (ofStr "p"))).length < 8388608 ∧
    (Notary.signBytes boxOps [7] (sigCtx (ofStr "p")) (ringPayload 0 (emptyRing (ofStr "p")))).length < 16777216 := by
  refine ⟨by decide, ?_⟩
  obtain ⟨pc, hpc, hlen, _⟩ := parsePayload_ring 0 (emptyRing (ofStr "p")) (by decide)
  rw [hpc]
  have h0 : (Der.derRing (emptyRing (ofStr "p"))).length < 100 := by decide
  have h1 := tlv_length_le 0x30 pc (by omega)
  have h2 : (sigCtx (ofStr "p")).length = 37 := by decide
  show (Box.esc [7] ++ (sigCtx (ofStr "p") ++ (ofStr ": " ++ Der.tlv 0x30 pc))).length < 16777216
  have h3 : (Box.esc [7]).length ≤ 8 := by decide
  have h4 : (ofStr ": ").length = 2 := by decide
  simp only [List.length_append]
  omega

/-- **Modes on the creation path of a ring.** In the directory back end the only creating calls of `Put`
are `MkdirAll(…, keyDirPerm)` for the ring's directories and `OpenFile(O_CREATE|O_EXCL, keyFilePerm)` for the
file – this is how `<ring>.keyring.new` comes into being – and `Rename` / `RenameNX` contain no creating or
mode-changing call (the ring file IS the temporary, renamed: it never passes through another mode). Under
every umask the temporary, hence the ring file, and the directories have no group / other bit. (Regenerated
call table; the kernel's `perm & ~umask` is the POSIX contract, checked by the stream `rwopen-modes`.) -/
theorem rw_open_created_file_modes :
    ((Generated.KeyPerms.permCalls.filter fun r => r.2.1 == "DirectoryBackend.Put").map fun r => (r.2.2.1, r.2.2.2)) =
      [("os.MkdirAll", "keyDirPerm"), ("os.OpenFile", "keyFilePerm")] ∧
    (Generated.KeyPerms.permCalls.filter fun r => r.2.1 == "DirectoryBackend.Rename" || r.2.1 == "DirectoryBackend.RenameNX" ||
      r.2.1 == "DirectoryBackend.doRenameNX") = [] ∧
    (∀ umask, Perms.ownerOnly (Perms.effectiveAt .v2File umask) = true ∧ Perms.ownerOnly (Perms.effectiveAt .v2Dir umask) = true) := by
  refine ⟨by decide +kernel, by decide +kernel, fun umask => ⟨Perms.created_ownerOnly _ _ (by decide), Perms.created_ownerOnly _ _ (by decide)⟩⟩

/-- What the adversary can put into the signature fields of a file: anything but a fresh valid MAC.
Whenever a signature value in `sigs` IS the HMAC, under the key store's signature key, of some
`context ‖ ": " ‖ data`, it is one the key store itself made – for one of the (ring path, payload) pairs of
`honest`. (Unforgeability of the HMAC, as a hypothesis about the file.) -/
def NoForgery (c : CryptoOps) (sigKey : Bytes) (honest : List (Bytes × Bytes)) (sigs : List Notary.Sig) : Prop :=
  ∀ s ∈ sigs, ∀ ctx x, s.sig = Notary.signBytes c sigKey ctx x →
    ∃ h ∈ honest, s.sig = Notary.signBytes c sigKey (sigCtx h.1) h.2

/-- **What a ring file that loads can contain** (tamper evidence of the *content*, whatever is done to the
file as a whole – any number of changed, inserted or appended bytes, any DER framing Go's reader accepts).
If the bytes stored at ring path `path` parse and load, and the adversary could not forge a MAC
(`NoForgery`), then the data element handed to the key ring is the one inside the payload found in the file,
and that payload – every byte of it: content type, version, time stamp, purpose, all keys with their states,
validity and sealed key data, the current-key marker – was signed by the key store itself; it is, byte for
byte, a payload the key store signed **for this very path** whenever the lengths agree or the paths do (the
`context ‖ ": " ‖ payload` string is otherwise only known to agree as a whole – same caveat as `ring_tamper`).
What is *not* covered by the signature are bytes outside the payload that carry no ring content: `der_outside_span_counterexample`. -/
theorem ring_file_content_tamper_evident (c : CryptoOps) (hi : HashInj c) (sigKey path d data : Bytes)
    (honest : List (Bytes × Bytes)) (p : Parsed) (hparse : parseContainer d = some p)
    (hnf : NoForgery c sigKey honest p.sigs) (hload : loadBytes c sigKey path d = .ok data) :
    data = p.payload.data ∧
    ∃ h ∈ honest, path ++ (ofStr ": " ++ p.raw) = h.1 ++ (ofStr ": " ++ h.2) ∧
      ((p.raw.length = h.2.length ∨ path = h.1) → path = h.1 ∧ p.raw = h.2) := by
  obtain ⟨hver, hdata⟩ := loadBytes_ok hparse hload
  refine ⟨hdata, ?_⟩
  -- a known signature is present and is the HMAC over this path's context and the payload: it is an honest one
  obtain ⟨⟨s, hs, hoid⟩, hall⟩ := ring_signature_needed c sigKey (sigCtx path) p.raw p.sigs hver
  have hsig := hall s hs hoid
  obtain ⟨h, hh, heq⟩ := hnf s hs _ _ hsig
  rw [hsig] at heq
  have h2 := (hi.hmac_inj _ _ _ _ heq).2
  refine ⟨h, hh, ?_, fun hlen => (signed_string_inj h2 hlen).symm⟩
  simp only [sigCtx, ksCtx, List.append_assoc] at h2
  exact List.append_cancel_left (List.append_cancel_left h2)

/-- a minimal payload: `SEQUENCE { INTEGER 1 (key ring), INTEGER 2 (version), UTCTime, NULL }` -/
def demoRaw : Bytes := [0x30, 0x0b, 0x02, 0x01, 0x01, 0x02, 0x01, 0x02, 0x17, 0x01, 0x5a, 0x05, 0x00]
def demoSig : Notary.Sig := ⟨Notary.sha256OID, Notary.signBytes boxOps [7] (sigCtx (ofStr "p")) demoRaw⟩
def demoSigEl (extra : Bytes) : Bytes := Der.tlv 0x30 (Der.derOID demoSig.oid ++ Der.derOctets demoSig.sig ++ extra)
def demoFile (sigEls : List Bytes) (tail : Bytes) : Bytes := Der.tlv 0x30 (demoRaw ++ Der.tlv 0x31 sigEls.flatten ++ tail)

/-- **The ring file is malleable outside the signed span – in bytes that carry no content** (recorded, not
a finding: the property quantifies over single-byte modifications, all of which are refused – enumeration
`tamper` – and the key ring a reader gets is unaffected, `ring_file_content_tamper_evident`). Go's
`encoding/asn1` ignores bytes after the last field of a `SEQUENCE` it reads into a struct, and the notary skips
signatures of unknown algorithms "for future compatibility". For an honestly signed container (first line:
the demo file IS `derContainer (sign …)`, and it loads), these modified files load as well, with the same
data: two bytes appended inside the outer `SEQUENCE` after the signature set; two bytes appended inside the
signature element; a second signature of an unknown algorithm after / before the real one. The same file at
another path fails with a signature error; with only an unknown-algorithm signature it fails with "no
signature". Replayed against the real reader by the stream `framing` (ops `C07.roopen` / `C07.rwopen`). -/
theorem der_outside_span_counterexample :
    demoFile [demoSigEl []] [] = Der.derContainer (Notary.sign boxOps [7] (sigCtx (ofStr "p")) demoRaw) ∧
    loadBytes boxOps [7] (ofStr "p") (demoFile [demoSigEl []] []) = .ok [5, 0] ∧
    loadBytes boxOps [7] (ofStr "p") (demoFile [demoSigEl []] [0xde, 0xad]) = .ok [5, 0] ∧
    loadBytes boxOps [7] (ofStr "p") (demoFile [demoSigEl [5, 0]] []) = .ok [5, 0] ∧
    loadBytes boxOps [7] (ofStr "p") (demoFile [demoSigEl [], Der.derSig [1, 2, 3] [9]] []) = .ok [5, 0] ∧
    loadBytes boxOps [7] (ofStr "p") (demoFile [Der.derSig [1, 2, 3] [9], demoSigEl []] []) = .ok [5, 0] ∧
    loadBytes boxOps [7] (ofStr "q") (demoFile [demoSigEl []] []) = .error .signature ∧
    loadBytes boxOps [7] (ofStr "p") (demoFile [Der.derSig [1, 2, 3] [9]] []) = .error .noSignature := by
  decide +kernel


/-- `NoForgery` is satisfiable by a file that carries the honest signature (non-vacuity) -/
example : NoForgery boxOps [7] [(ofStr "p", demoRaw)] [demoSig] := by
  intro s hs ctx x _
  refine ⟨(ofStr "p", demoRaw), List.mem_singleton.mpr rfl, ?_⟩
  rw [List.mem_singleton.mp hs]
  rfl

/-! non-vacuity: a back end whose ring file was replaced by garbage, opened under the Box instance -/

/-- a back end with `<path>.keyring ↦ d` and nothing else -/
def oneFile (path d : Bytes) : Backend :=
  ⟨fun q => if q = ringFile path then some d else none, fun _ => true, fun _ => false, false, false⟩

example : (oneFile (ofStr "client/bob/hmac-sym") [0x30, 0x03, 0x02, 0x01, 0x01]).get (ringFile (ofStr "client/bob/hmac-sym")) = .ok [0x30, 0x03, 0x02, 0x01, 0x01] ∧
    loadBytes boxOps [7] (ofStr "client/bob/hmac-sym") [0x30, 0x03, 0x02, 0x01, 0x01] = .error .parse ∧
    loadBytes boxOps [7] (ofStr "client/bob/hmac-sym") [] = .error .parse ∧
    (openKeyRing boxOps [7] 0 (oneFile (ofStr "client/bob/hmac-sym") [0x30, 0x03, 0x02, 0x01, 0x01]) (ofStr "client/bob/hmac-sym")).out = .err .parse := by
  decide +kernel

/-- a missing ring is created (the create branch is reachable) -/
example : (openKeyRing boxOps [7] 0 ⟨fun _ => none, fun _ => true, fun _ => false, false, false⟩ (ofStr "poison-record")).out = .created := by
  decide +kernel

end RingOpen

example : SealLaws boxOps ∧ SealCommit boxOps ∧ HashInj boxOps := ⟨Box.sealLaws, Box.sealCommit, Box.hashInj⟩

/-- a ring with one symmetric key is storable under the Box instance: `writes_are_sealed` has instances -/
example : (storedRing boxOps (fun _ _ => List.replicate 12 0) [1] ⟨ofStr "r", [⟨1, 1, 0, 10, [⟨fmtSym, [], [], [7]⟩]⟩], 1⟩).isSome = true := by
  decide +kernel

end AcraModel.Props.C07
