import AcraModel.Censor.Chain
import AcraModel.Censor.Session
import AcraModel.Censor.Match
import AcraModel.Censor.MatchGeneralise
import AcraModel.Censor.MatchTable
import AcraModel.Censor.MatchSound
import AcraModel.Censor.MatchIdent
/-!
# C05 — a statement rejected by the SQL firewall never reaches the database

Property theorems only (models and helper lemmas: `AcraModel/Censor/`).
`fact_*` theorems pin what the models take from the current source (`Generated/CensorTable.lean`).
-/
namespace AcraModel.Props.C05
open AcraModel AcraModel.Censor AcraModel.Censor.Session Generated.CensorTable

/-- `HandleQuery`'s loop: capture handlers never decide; `query_ignore` sees the raw text **and the parsed
statement** and stops with "allow"; every other handler gets the normalised text and the parse tree, an error
denies, `continueHandling = false` allows; falling off the end allows. -/
theorem fact_hq_loop :
    hqLoop = [("QueryCaptureHandler", "queryWithHiddenValues,parsedQuery", "continue"),
              ("QueryIgnoreHandler", "rawQuery,parsedQuery", "stop:return nil;continue"),
              ("default", "normalizedQuery,parsedQuery", "call"),
              ("default", "err != nil", "return err"),
              ("default", "!continueHandling", "return nil")]
    ∧ hqFallThrough = "return nil" := ⟨rfl, rfl⟩

/-- `HandleQuery`'s prologue: inactive censor returns nil; a syntax error is returned unless `ignoreParseError`. -/
theorem fact_hq_prologue : hqInactiveGuard = true ∧ hqParseError = "ignore:continue;else:return err" := ⟨rfl, rfl⟩

/-- **One ordered loop.** `HandleQuery` walks `acraCensor.handlers` in exactly ONE loop, a `for _, handler := range` (front to
back = configuration order), and nothing outside that loop – in particular no earlier pass over the handlers – looks at
the kind of a handler: each handler is consulted at its own position (`runChain` is that loop). A separate first pass
over one handler kind (e.g. all `query_ignore` handlers before the deny/allow rules) makes this fact fail. -/
theorem fact_hq_single_ordered_loop :
    hqHandlerLoops = 1 ∧ hqLoopOrder = ["range:_,handler"] ∧ hqKindTestsOutsideLoop = [] := ⟨rfl, rfl, rfl⟩

/-- Allow handler: unparsed ⇒ continue; queries, then tables (second component: all tables whitelisted), then
patterns; a hit stops with "allow". -/
theorem fact_allow_check :
    allowCheck = [("nil-parsed", "", "return true, nil"),
      ("len(handler.queries) != 0", "common.CheckExactQueriesMatch(normalizedQuery,handler.queries)#0", "return false, nil"),
      ("len(handler.tables) != 0", "common.CheckTableNamesMatch(parsedQuery,handler.tables)#1", "return false, nil"),
      ("len(handler.patterns) != 0", "common.CheckPatternsMatching(handler.patterns,parsedQuery)#0", "return false, nil"),
      ("end", "", "return true, nil")] := rfl

/-- Deny handler: same order, first component of the table check (at least one table blacklisted), a hit returns an error. -/
theorem fact_deny_check :
    denyCheck = [("nil-parsed", "", "return true, nil"),
      ("len(handler.queries) != 0", "common.CheckExactQueriesMatch(normalizedQuery,handler.queries)#0", "return false, common.ErrDenyByQueryError"),
      ("len(handler.tables) != 0", "common.CheckTableNamesMatch(parsedQuery,handler.tables)#0", "return false, common.ErrDenyByTableError"),
      ("len(handler.patterns) != 0", "common.CheckPatternsMatching(handler.patterns,parsedQuery)#0", "return false, common.ErrDenyByPatternError"),
      ("end", "", "return true, nil")] := rfl

/-- PostgreSQL: the statement is remembered as pending only **after** the censor let it through
(`Session.stepQuery … addFirst = false`); a censor error makes `handleQueryPacket` report "censored". -/
theorem fact_pg_add_after_censor :
    addAfterCensor pgSimpleQueryCalls = true ∧ pgAddGuardedByCensor = true
    ∧ pgCensorCall = "censorErr != nil => return true, nil" := by decide +kernel

/-- PostgreSQL loop: a censored packet is answered with ErrorResponse + ReadyForQuery and the loop continues
*before* `sendPacket`. -/
theorem fact_pg_loop :
    pgLoopCalls = ["ReadClientPacket", "handleClientPacket", "sendClientError", "sendPacket"]
    ∧ pgCensoredBranch = "sendClientError;continue" ∧ pgClientErrorWrites = ["errorMessage", "ReadyForQuery"] := ⟨rfl, rfl, rfl⟩

/-- MySQL: the censor is asked first; a denied statement gets an error packet and the loop continues before any
response handler is installed or anything is written to the database. -/
theorem fact_mysql :
    mysqlQueryCalls = ["HandleQuery", "sendClientError", "OnQuery", "setQueryHandler", "SetPendingParse", "setQueryHandler"]
    ∧ mysqlDeniedBranch = "err != nil:sendClientError;continue" := ⟨rfl, rfl⟩

/-- Every field-by-field comparator of `matching_logic.go` ends in `return true`, compares each part of the query
with the *same* part of the pattern and stops with false only when they differ. (On the pinned tree this failed
for `handleInsertStatement` (`return false`), `areEqualIntervalExpr`, `areEqualConvertType` (inverted tests) and
`areEqualCaseExpr` (`query.Else` against `pattern.Expr`).) -/
theorem fact_comparators_ok : comparators.all Match.comparatorOk = true := Match.evaluated_comparatorsOk

/-- **Every comparator compares the pattern with the query.** For every comparison of every field-by-field comparator
and every plain case of every type switch of the current `matching_logic.go`, the two operands are `(query.X, pattern.X)`:
the *same* selector `X` applied to the two *different* trees – never `(query.X, query.X)`, `(pattern.X, pattern.X)` or
`(query.X, pattern.Y)`. (`Match.operandPairs` lists the pairs.) This is what lets the lock-step walk of
`match_sound_on_identifiers` speak about "the same position" of statement and pattern. -/
theorem fact_comparators_compare_pattern_with_query : Match.tablePairsOk = true := Match.evaluated_tablePairsOk

/-- The functions with placeholder logic are exactly the ones the model writes by hand. -/
theorem fact_irregular :
    irregular = ["handleStreamStatement", "areEqualSelectExprs", "areEqualInsertRows", "areEqualTableExpr",
      "areEqualSimpleTableExpr", "areEqualSelectExpr", "areEqualExpr", "areEqualSQLVal", "areEqualColIdent",
      "areEqualSelectStatement", "areEqualSubquery", "areEqualValTuple"] := rfl

/-- Every DML statement kind is dispatched to its handler. -/
theorem fact_dispatch :
    (["Select", "Union", "Insert", "Update", "Delete"].map fun k => patternDispatch.lookup k)
      = [some "handleSelectStatement", some "handleUnionStatement", some "handleInsertStatement",
         some "handleUpdateStatement", some "handleDeleteStatement"] := by decide +kernel

/-- The two regenerated descriptions of the parse-tree types agree: `fieldTypes` lists exactly the fields of `structFields`, in the same order. -/
theorem fact_field_tables_agree : fieldTypes.map (fun e => (e.1, e.2.map (·.1))) = structFields := by decide +kernel

/-- **The comparator table of the current source is well typed** (`Censor/MatchTyping.lean: fnTyped`): every
field-by-field comparator compares a part of the query with the same part of the pattern, applies `strings.EqualFold`
to strings only and `reflect.DeepEqual` / `!=` / `bytes.Equal` only to parts that cannot hold a placeholder, recognises
the whole-statement placeholder of its own kind by a shortcut, understands `%%WHERE%%` exactly in `Select.Where`, and ends
in `return true` – except the ten handlers of the statement kinds that are compared with `reflect.DeepEqual` as a whole
(SET, DDL, SHOW, USE, BEGIN …: patterns for these support no placeholders). -/
theorem fact_table_typed :
    (Match.compiled.map (·.1)).filter (fun fn => !Match.okRegular fn) =
      ["handleSetStatement", "handleDBDDLStatement", "handleDDLStatement", "handleShowStatement", "handleUseStatement",
       "handleBeginStatement", "handleCommitStatement", "handleRollbackStatement", "handleOtherReadStatement",
       "handleOtherAdminStatement"] := Match.evaluated_tableTyped

/-- Every function that switches on the pattern's type is well typed: each plain case hands the node (or a field of it)
to a function that accepts it; the hand-written cases are exactly the ones the model writes out. -/
theorem fact_switches_typed : Match.switchFns.all Match.switchTyped = true := Match.evaluated_switchesTyped

/-- The five DML statement kinds are dispatched to well-typed comparators that accept exactly that kind. -/
theorem fact_dml_dispatch : dmlKinds.all (fun k =>
    match patternDispatch.lookup k with
    | some h => Match.okRegular h && (Match.domOf h).kinds == [k] && Match.rankOf h == 2 && !Match.kindChanging k
    | none => false) = true := Match.evaluated_dmlDispatch

variable {A P : Type}

/-- **First decisive handler wins.** If every handler in front of `d` passes the statement on and `d` decides,
the chain's result is `d`'s decision – whatever follows. -/
theorem first_decisive_wins (sem : Sem A P) (s : Stmt A) (pre post : List (Handler P)) (d : Handler P) (v : Verdict)
    (hpre : ∀ x ∈ pre, x.check sem s = .next) (hd : (d.check sem s).toVerdict? = some v) :
    runChain sem s (pre ++ d :: post) = v :=
  runChain_decisive sem s pre post d v hpre hd

/-- **A matching deny rule denies.** A parsed statement that hits a deny handler's rules – by its normalised text,
by a table `CheckTableNamesMatch` reports, or by a pattern – is denied, provided no handler in front of it decides. -/
theorem deny_match_denies (sem : Sem A P) (cfg : Cfg P) (s : Stmt A) (p : Parsed A) (pre post : List (Handler P)) (r : Rules P)
    (hcfg : cfg.handlers = pre ++ .deny r :: post) (hp : s.parsed = some p)
    (hpre : ∀ x ∈ pre, x.check sem s = .next)
    (hit : r.queries.contains p.norm = true ∨ (sem.tables p.ast r.tables).1 = true ∧ r.tables ≠ []
            ∨ r.patterns.any (sem.pat p.ast) = true) :
    handleQuery sem cfg s = .deny := by
  have hact : cfg.active = true := by simp [Cfg.active, hcfg]
  unfold handleQuery
  simp only [hact, hp, Bool.not_true, Option.isNone_some, Bool.false_and, hcfg]
  exact runChain_decisive sem s pre post (.deny r) .deny hpre
    (by simp [Handler.check, hp, rulesHit_of (pick := (·.1)) hit, Step.toVerdict?])

/-- **Not admitted in front of a deny-all ⇒ denied.** If no handler in front of a `denyall` stops with "allow"
(no allow rule admits the statement, no ignore entry, no allow-all), the statement is denied. -/
theorem allow_then_denyAll (sem : Sem A P) (cfg : Cfg P) (s : Stmt A) (pre post : List (Handler P))
    (hcfg : cfg.handlers = pre ++ .denyAll :: post) (hpre : ∀ x ∈ pre, x.check sem s ≠ .allow) :
    handleQuery sem cfg s = .deny := by
  have hact : cfg.active = true := by simp [Cfg.active, hcfg]
  unfold handleQuery
  simp only [hact, Bool.not_true, hcfg, Bool.false_eq_true, if_false]
  split
  · rfl
  · exact runChain_no_allow_then_deny sem s pre post hpre

/-- **Unparseable statements are rejected unless tolerated** – for every censor that is switched on (at least one
handler or a parse-error log). A censor without any handler and without a parse-error log does not look at
statements at all (`HandleQuery`'s first `if`; see `inactive_allows`): that is "no firewall configured", not a
tolerated parse error, and is the only configuration excluded here. -/
theorem unparsed_denied (sem : Sem A P) (cfg : Cfg P) (s : Stmt A)
    (hact : cfg.active = true) (hs : s.parsed = none) (hip : cfg.ignoreParseError = false) :
    handleQuery sem cfg s = .deny := by
  simp [handleQuery, hact, hs, hip]

/-- the excluded corner, stated openly: an inactive censor allows everything -/
theorem inactive_allows (sem : Sem A P) (cfg : Cfg P) (s : Stmt A) (h : cfg.active = false) :
    handleQuery sem cfg s = .allow := by
  simp [handleQuery, h]

/-- With `ignore_parse_error` an unparseable statement runs through the chain, where allow/deny rule handlers pass it
on; so a `denyall` behind handlers that do not allow it still denies it. -/
theorem unparsed_tolerated_runs_chain (sem : Sem A P) (cfg : Cfg P) (s : Stmt A)
    (hact : cfg.active = true) (hip : cfg.ignoreParseError = true) :
    handleQuery sem cfg s = runChain sem s cfg.handlers := by
  simp [handleQuery, hact, hip]

/-- **The verdict depends on the normal form only.** Two texts the parser maps to the same (normalised text, parse
tree) – spellings differing in keyword case, whitespace, a trailing semicolon or margin comments – get the same
verdict, provided each `query_ignore` list contains both raw texts or neither (after the repair the handler also
looks the normalised text up, so listing a statement in any spelling ignores all its spellings). -/
theorem verdict_depends_on_normal_form (sem : Sem A P) (cfg : Cfg P) (s₁ s₂ : Stmt A) (hp : s₁.parsed = s₂.parsed)
    (hi : ∀ qs, Handler.ignore qs ∈ cfg.handlers → qs.contains s₁.raw = qs.contains s₂.raw) :
    handleQuery sem cfg s₁ = handleQuery sem cfg s₂ := by
  unfold handleQuery
  rw [hp, runChain_raw_irrelevant sem s₁ s₂ hp cfg.handlers hi]

/-- Without `query_ignore` handlers the raw text is irrelevant altogether. -/
theorem verdict_spelling_invariant (sem : Sem A P) (cfg : Cfg P) (s₁ s₂ : Stmt A) (hp : s₁.parsed = s₂.parsed)
    (hno : ∀ qs, Handler.ignore qs ∉ cfg.handlers) :
    handleQuery sem cfg s₁ = handleQuery sem cfg s₂ :=
  verdict_depends_on_normal_form sem cfg s₁ s₂ hp (fun qs h => absurd h (hno qs))

/-- **Deny by table, top level** (`_partial`: the extra hypothesis is exactly the complement of the known finding's
input class `table-rule-nested`): a SELECT that has a table of a deny handler's list as a plain member of its
top-level FROM list is denied, provided nothing in front of that handler decides. -/
theorem deny_table_denies_partial (cfg : Cfg Tree) (s : Stmt Tree) (p : Parsed Tree) (pre post : List (Handler Tree)) (r : Rules Tree)
    (pat : Tree → Tree → Bool) (x : Tree)
    (hcfg : cfg.handlers = pre ++ .deny r :: post) (hp : s.parsed = some p)
    (hpre : ∀ h ∈ pre, h.check ⟨tablesMatch, pat⟩ s = .next)
    (hk : p.ast.kind = "Select") (hx : x ∈ ((p.ast.field "From").getD Tree.nil).kids)
    (hxk : x.kind = "AliasedTableExpr") (he : ((x.field "Expr").getD Tree.nil).kind = "TableName")
    (hin : r.tables.contains (tableNameStr ((x.field "Expr").getD Tree.nil)) = true) :
    handleQuery ⟨tablesMatch, pat⟩ cfg s = .deny := by
  apply deny_match_denies ⟨tablesMatch, pat⟩ cfg s p pre post r hcfg hp hpre
  refine Or.inr (Or.inl ⟨tablesMatch_top_level p.ast x r.tables hk hx hxk he hin, ?_⟩)
  intro hnil
  simp [hnil] at hin

/-- The full statement ("by a table it reads from") fails on the current code: a table read through a sub-select is
not reported (`select id from pub where id in (select id from secret)` against the table rule `secret`) – known
finding `table-rule-nested`, replayed on the real `CheckTableNamesMatch` by the regression corpus. -/
theorem deny_table_nested_counterexample :
    let sub := Match.selectOf [Match.aliased (Match.cName "id")] [Match.aliasedTable "secret"] Tree.nil
    let wh := Match.whereOf (.node "ComparisonExpr" [Match.lf "in", Match.cName "id", .node "Subquery" [sub], Tree.nil])
    let stmt := Match.selectOf [Match.aliased (Match.cName "id")] [Match.aliasedTable "pub"] wh
    tablesMatch stmt ["secret"] = (false, false) ∧ tablesMatch sub ["secret"] = (true, true) := by
  decide +kernel

/-- **All comparisons succeed ⇒ the handler returns true** – for every field-by-field comparator of the current
source (`comparators`, regenerated): if no step of its body stops with false on `(q, p)`, the function returns
true. The final `return` being `true` comes from `fact_comparators_ok`; this is what failed for INSERT patterns. -/
theorem handler_true_when_all_comparisons_succeed (fuel : Nat) (fn : String) (q p : Tree) (fin : Bool) (steps : List Match.Row)
    (hs : Match.specialFns.contains fn = false) (hl : comparators.lookup fn = some (fin, steps))
    (hall : Match.noFalse (Match.evalFn fuel)
        (fun e x => e == "isWherePattern" && !x.isNil && Match.foldEq (Match.fld x "Type") (Match.fld Match.wherePattern "Type")
          && Match.evalFn fuel "areEqualExpr" (Match.fld x "Expr") (Match.fld Match.wherePattern "Expr"))
        q p (steps.length + 1) steps = true) :
    Match.evalFn (fuel + 1) fn q p = true := by
  rw [Match.evalFn_regular fuel fn q p fin steps hs hl]
  apply Match.runSteps_of_noFalse _ _ _ _ _ _ _ hall
  have := List.all_eq_true.mp fact_comparators_ok _ (Match.lookup_mem fn (fin, steps) comparators hl)
  simp only [Match.comparatorOk, Bool.and_eq_true] at this
  exact this.1

/-- `%%VALUE%%` matches any literal, `%%LIST_OF_VALUES%%` too, `%%COLUMN%%` any identifier, `(%%SUBQUERY%%)` any
sub-select: generalising such a position of a pattern never turns a successful comparison into a failing one. -/
theorem placeholders_match_everything (fuel : Nat) (q : Tree) :
    Match.evalFn (fuel + 1) "areEqualSQLVal" q Match.valuePattern = true
    ∧ Match.evalFn (fuel + 1) "areEqualSQLVal" q Match.listOfValuesPattern = true
    ∧ Match.evalFn (fuel + 1) "areEqualColIdent" q Match.columnPattern = true
    ∧ Match.evalFn (fuel + 1) "areEqualSubquery" q (.node "Subquery" [Match.subqueryPattern]) = true :=
  ⟨Match.value_matches fuel q, Match.listOfValues_matches fuel q, Match.column_matches fuel q, Match.subquery_matches fuel q⟩

/-- `match_generalise` (a pattern obtained from a statement by generalising any subset of its positions matches the
statement), proved in its two local halves: congruence for **every** regular node kind of the current source (if no
comparison of the body fails the handler returns true – resting on the regenerated `fact_comparators_ok`) and the
placeholder cases (a generalised literal / identifier / sub-select is accepted whatever the statement has there).
The closed statement is checked on the real matcher and on the model for every generated statement × subset of ≤ 6
positions (oracle `pattern-self-mismatch`). The closed statement is `match_generalise` below (the induction over
well-typed parse trees that chains the two halves). -/
theorem match_generalise_partial (fuel : Nat) :
    (∀ fn fin steps q p, Match.specialFns.contains fn = false → comparators.lookup fn = some (fin, steps) →
      Match.noFalse (Match.evalFn fuel)
        (fun e x => e == "isWherePattern" && !x.isNil && Match.foldEq (Match.fld x "Type") (Match.fld Match.wherePattern "Type")
          && Match.evalFn fuel "areEqualExpr" (Match.fld x "Expr") (Match.fld Match.wherePattern "Expr"))
        q p (steps.length + 1) steps = true →
      Match.evalFn (fuel + 1) fn q p = true)
    ∧ (∀ q, Match.evalFn (fuel + 1) "areEqualSQLVal" q Match.valuePattern = true
          ∧ Match.evalFn (fuel + 1) "areEqualSQLVal" q Match.listOfValuesPattern = true
          ∧ Match.evalFn (fuel + 1) "areEqualColIdent" q Match.columnPattern = true
          ∧ Match.evalFn (fuel + 1) "areEqualSubquery" q (.node "Subquery" [Match.subqueryPattern]) = true) :=
  ⟨fun fn fin steps q p hs hl hall => handler_true_when_all_comparisons_succeed fuel fn q p fin steps hs hl hall,
   fun q => placeholders_match_everything fuel q⟩

/-- **`match_generalise`.** For every statement tree `t` that is well typed (`wellTypedM`: w.r.t. the regenerated Go
types of `sqlparser/ast.go` – `structFields`/`fieldTypes`/`namedTypes`/`interfaces` – and holding in every compared
position a value the comparator called on it has a case for) and is a DML statement (SELECT, UNION, INSERT, UPDATE,
DELETE), and for every generalisation `σ` – any set of its literals (and function calls) replaced by `%%VALUE%%`, tails of
tuples by `%%LIST_OF_VALUES%%`, identifiers by `%%COLUMN%%`, sub-selects by `(%%SUBQUERY%%)`, WHERE clauses of SELECTs by
`%%WHERE%%`, select lists by `*`, whole SELECT/UNION/INSERT/UPDATE/DELETE statements by `%%SELECT%%`/… – the pattern
`generalise t σ` matches `t`: `checkSinglePatternMatch` returns true. Proved by induction over the depth of well-typed
trees; the per-node-kind step is generic over the regenerated comparator table (`fact_table_typed`,
`fact_switches_typed`, `fact_comparators_ok`). The harness checks `wellTypedM` on every tree the reflection dump of the
real parser produces and compares `generalise` with the same generalisation carried out on the real parse tree. -/
theorem match_generalise (t : Tree) (σ : Sigma) (hwt : wellTypedM t = true) (hdml : dmlKinds.contains t.kind = true) :
    matchT (generalise t σ) t = true :=
  Match.matchT_of_isGen hwt hdml (Match.isGen_generalise t σ)

/-- The relational form: *every* pattern in the relation "is a generalisation of" matches – not only those `generalise`
produces (e.g. a `%%WHERE%%` where the statement has no WHERE clause at all). -/
theorem match_generalise_rel (t p : Tree) (hwt : wellTypedM t = true) (hdml : dmlKinds.contains t.kind = true)
    (hg : isGen true false p t = true) : matchT p t = true :=
  Match.matchT_of_isGen hwt hdml hg

/-- The one case of a type switch the typing judgement excludes (`Match.excludedCases`): `areEqualInsertRows`, case
`*ParenSelect`, hands the inner statement to `handleSelectStatement`, which accepts a `*Select` only. A parenthesised UNION
as INSERT rows would therefore not even match itself – but the grammar (`insert_data`) drops the parentheses, no parse
tree contains this shape (checked on every dumped tree), the case is dead code. -/
theorem insertRows_parenSelect_counterexample :
    let sel (n : String) := Match.selectDual (Match.sqlVal "1" (strBytes n))
    let u : Tree := .node "Union" [Match.lf "union", sel "1", sel "2", .node "OrderBy" [], Tree.nil, Match.lf ""]
    let ins : Tree := .node "Insert" [Match.lf "insert", .node "Comments" [], Match.lf "", Match.tName "t1", Match.lf "false",
      .node "Partitions" [], .node "Columns" [], .node "ParenSelect" [u], .node "OnDup" [], .node "Returning" []]
    wellTyped ins = true ∧ Match.acc ins = false ∧ matchT ins ins = false := Match.evaluated_insertParenSelect

/-- `match_sound_on_literals` ("a pattern without placeholders matches only statements equal to it up to what the
comparators ignore"), proved in its local halves – for **every** comparator of the regenerated table and the two leaf
comparators:

1. a field-by-field comparator that returns `true` either ran through with *every* comparison passing and ends in
   `return true`, or was stopped with `true` by one of exactly three kinds of step: the nil guard (both sides nil), a
   whole-statement shortcut (`p` *is* `%%SELECT%%`/`%%UNION%%`/…), the `%%WHERE%%` escape (`isWherePattern(p.Where)`);
2. `areEqualSQLVal` on a pattern that is neither `%%VALUE%%` nor `%%LIST_OF_VALUES%%` means same literal type and bytes;
   `areEqualColIdent` on a pattern that is not `%%COLUMN%%` means the same name up to ASCII letter case.

What the comparators do **not** look at (so a literal pattern also matches statements differing there): letter case of
keywords/operators/identifiers (`strings.EqualFold`, `ColIdent.Equal`); table identifiers up to `CompliantName`
(`compliant_name_counterexample`, known finding `pattern-table-compliant-name`); `SQLVal.CastType`, `Limit.Type`
(`limit 1, 2` = `limit 2 offset 1`), `Insert.Default`, quoting flags of identifiers; a select list consisting of a lone `*`
matches every select list (by design). On the pinned tree they also ignored RETURNING, `UPDATE … FROM` and `UNION` vs
`UNION ALL` – an allow-rule bypass (`insert into t1 (a) values (%%VALUE%%)` matched `… returning (select password from
users limit 1)`), repaired (`fix:` 46; `returning_is_compared`).
(1) and (2) are not chained into a structural relation between `p` and `t`: that induction over well-typed trees needs
the converse of `cstep_good` for every step shape and the list of fields each comparator reads as a regenerated fact. -/
theorem match_sound_on_literals_partial (fuel : Nat) :
    (∀ fn fin steps q p, Match.specialFns.contains fn = false → Match.compiled.lookup fn = some (fin, steps) →
      Match.evalFn (fuel + 1) fn q p = true →
      steps.any (Match.cstepRetTrue (Match.evalFn fuel) (Match.escEval (Match.evalFn fuel)) q p) = true
      ∨ (fin = true ∧ steps.all (Match.cstepPasses (Match.evalFn fuel) (Match.escEval (Match.evalFn fuel)) q p) = true))
    ∧ (∀ call esc q p i a, (Match.atomAt call esc q p i a).isRetTrue = true →
        (a = .nilboth ∧ q.isNil = true ∧ p.isNil = true)
        ∨ (∃ o ph x c, a = .shortcut o ph ∧ Match.selO i q p o = some x ∧ Match.placeholderStmt ph = some c ∧ (x == c) = true)
        ∨ (∃ e ea c a' b x, a = .cmpEsc e ea c a' b ∧ Match.selO i q p ea = some x ∧ esc e x = true))
    ∧ (∀ q p, Match.evalFn (fuel + 1) "areEqualSQLVal" q p = true → Match.isValuePattern p = false →
        Match.isListOfValuesPattern p = false →
        (Match.fld q "Type").leafBytes = (Match.fld p "Type").leafBytes ∧ (Match.fld q "Val").leafBytes = (Match.fld p "Val").leafBytes)
    ∧ (∀ q p, Match.evalFn (fuel + 1) "areEqualColIdent" q p = true → Match.isColumnPattern p = false →
        lowerBytes (Match.fld q "val").leafBytes = lowerBytes (Match.fld p "val").leafBytes) :=
  ⟨fun fn fin steps q p hs hl h => by
      rw [Match.evalFn_compiled fuel fn q p fin steps hs hl] at h
      exact Match.runC_true_inv _ _ q p fin steps h,
   fun call esc q p i a h => Match.atom_retTrue_kinds call esc q p i a h,
   fun q p h hv hl => Match.sqlVal_sound fuel q p h hv hl,
   fun q p h hc => Match.colIdent_sound fuel q p h hc⟩

/-- **`match_sound_on_identifiers`.** When a pattern `p` matches a statement `t`, then for every call the matcher makes on
its way down – `Match.compared t p`, the lock-step walk: each entry is `(fuel, callee, x, y)` with `x` a part of the
statement and `y` **the same part of the pattern**; the walk stops only below a placeholder escape (`%%SELECT%%`-style
whole-statement placeholder, `(%%SUBQUERY%%)`, `%%WHERE%%`, a lone `*` select list, nil = nil) –

* every **table identifier** reached (`areEqualTableIdent`: the name *and every qualifier component* of a table name in
  FROM / INSERT INTO / UPDATE / DELETE / JOIN, of the qualifier of a column name – `table.column`, `schema.table.column` –
  and of `t.*` / `s.t.*`) is equal in statement and pattern up to ASCII letter case and `CompliantName()`;
* every **column identifier** reached (`areEqualColIdent`) is `%%COLUMN%%` in the pattern or equal up to letter case.

So a pattern that spells out `app.users` does not match `vault.users`, `users` or `other.users`, and `app.users.id`
does not match `vault.users.id`. Proved over the regenerated comparator table: it needs
`fact_comparators_compare_pattern_with_query` (each comparator hands `(query.X, pattern.X)` to its callee) and the
regenerated body of `areEqualTableIdent`; a comparator comparing `query.Qualifier` with `query.Qualifier` breaks both. -/
theorem match_sound_on_identifiers (t p : Tree) (h : matchT p t = true) :
    ∀ e ∈ Match.compared t p,
      (e.2.1 = "areEqualTableIdent" → Match.identEq e.2.2.1 e.2.2.2 = true)
      ∧ (e.2.1 = "areEqualColIdent" → Match.isColumnPattern e.2.2.2 = true
          ∨ lowerBytes (Match.fld e.2.2.1 "val").leafBytes = lowerBytes (Match.fld e.2.2.2 "val").leafBytes) := by
  intro ⟨f, fn, x, y⟩ he
  have call := Match.compared_call fact_comparators_compare_pattern_with_query h he
  dsimp only
  constructor
  · rintro rfl
    obtain ⟨f', hs⟩ := call (by decide)
    exact Match.tableIdent_sound f' x y hs
  · rintro rfl
    obtain ⟨f', hs⟩ := call (by decide)
    cases hc : Match.isColumnPattern y with
    | true => exact Or.inl rfl
    | false => exact Or.inr (Match.colIdent_sound f' x y hs hc)

/-- **`match_sound_on_literals`, in walk form.** Under the same hypothesis every *literal* the walk reaches
(`areEqualSQLVal`) is `%%VALUE%%` / `%%LIST_OF_VALUES%%` in the pattern or has the same type and the same bytes in the
statement; every keyword / operator / flag compared with `strings.EqualFold` is equal up to letter case; every part
compared with `reflect.DeepEqual` / `bytes.Equal` / `!=` is identical. With `match_sound_on_identifiers` this is the
converse of `match_generalise` for everything the matcher reaches.
The closed structural statement (`p` relates to `t` position by position over the *whole* tree) would also need that
the walk reaches every position of the pattern outside placeholders – i.e. per node kind, the list of fields no
comparator reads (`SQLVal.CastType`, `Limit.Type`, `Insert.Default`, quoting flags, the lone-`*` select list;
listed in `match_sound_on_literals_partial`) as a regenerated fact. -/
theorem match_sound_on_literals_reached (t p : Tree) (h : matchT p t = true) :
    ∀ e ∈ Match.compared t p,
      (e.2.1 = "areEqualSQLVal" → Match.isValuePattern e.2.2.2 = true ∨ Match.isListOfValuesPattern e.2.2.2 = true
          ∨ ((Match.fld e.2.2.1 "Type").leafBytes = (Match.fld e.2.2.2 "Type").leafBytes
              ∧ (Match.fld e.2.2.1 "Val").leafBytes = (Match.fld e.2.2.2 "Val").leafBytes))
      ∧ (e.2.1 = "strings.EqualFold" → Match.foldEq e.2.2.1 e.2.2.2 = true)
      ∧ (e.2.1 = "reflect.DeepEqual" ∨ e.2.1 = "bytes.Equal" → e.2.2.1 = e.2.2.2) := by
  intro ⟨f, fn, x, y⟩ he
  have hs := Match.compared_sound fact_comparators_compare_pattern_with_query h _ he
  dsimp only at hs ⊢
  refine ⟨?_, ?_, ?_⟩
  · rintro rfl
    obtain ⟨f', hs⟩ := Match.compared_call fact_comparators_compare_pattern_with_query h he (by decide)
    cases hv : Match.isValuePattern y with
    | true => exact Or.inl rfl
    | false =>
      cases hl : Match.isListOfValuesPattern y with
      | true => exact Or.inr (Or.inl rfl)
      | false => exact Or.inr (Or.inr (Match.sqlVal_sound f' x y hs hv hl))
  · intro hfn
    subst hfn
    simpa [Match.opCmp] using hs
  · intro hfn
    have hb : (x == y) = true := by
      rcases hfn with hfn | hfn <;> subst hfn <;> simpa [Match.opCmp] using hs
    exact Tree.eq_of_beq x y hb

/-- The seeded shape, decided on concrete trees: the pattern `select name from app.users where id = %%VALUE%%` matches
`… from app.users where id = 7` and does **not** match the same statement on `vault.users` or on unqualified `users`; the
lock-step walk of the second pair contains the table identifier that differs. -/
theorem qualifier_is_compared :
    let tbl (schema : String) : Tree := .node "AliasedTableExpr"
      [.node "TableName" [Match.tIdent "users", Match.tIdent schema], .node "Partitions" [], Match.tIdent "", Tree.nil]
    let stmt (schema : String) (v : Tree) : Tree :=
      Match.selectOf [Match.aliased (Match.cName "name")] [tbl schema] (Match.whereOf (Match.cmpEq (Match.cName "id") v))
    let pat := stmt "app" Match.valuePattern
    let seven := Match.sqlVal "1" (strBytes "7")
    matchT pat (stmt "app" seven) = true ∧ matchT pat (stmt "vault" seven) = false ∧ matchT pat (stmt "" seven) = false
    ∧ (Match.compared (stmt "vault" seven) pat).any
        (fun e => e.2.1 == "areEqualTableIdent" && !Match.identEq e.2.2.1 e.2.2.2) = true := Match.evaluated_qualifier

/-- A literal pattern matches a statement on a *different table*: table identifiers are compared after
`CompliantName()` (every character that is not a letter, `_`, `@` or a non-leading digit becomes `_`), so the pattern
`select a from a_b` matches ``select a from `a-b` `` – known finding `pattern-table-compliant-name`, replayed on the real
matcher by the regression corpus. -/
theorem compliant_name_counterexample :
    let stmt (tbl : String) := Match.selectOf [Match.aliased (Match.cName "a")] [Match.aliasedTable tbl] Tree.nil
    matchT (stmt "a_b") (stmt "a-b") = true ∧ (stmt "a_b" == stmt "a-b") = false := Match.evaluated_compliantName

/-- The RETURNING clause is compared: an INSERT pattern without RETURNING does not match the same INSERT with one
(on the pinned tree it did – `Insert.Returning` was read by no comparator; repaired by `fix:` 46). -/
theorem returning_is_compared :
    let ins (ret : List Tree) : Tree := .node "Insert" [Match.lf "insert", .node "Comments" [], Match.lf "", Match.tName "t1", Match.lf "false",
      .node "Partitions" [], .node "Columns" [Match.cIdent "a"],
      .node "Values" [.node "ValTuple" [Match.sqlVal "1" (strBytes "1")]], .node "OnDup" [], .node "Returning" ret]
    matchT (ins []) (ins [Match.aliased (Match.cName "a")]) = false ∧ matchT (ins []) (ins []) = true := Match.evaluated_returning

/-- **A denied statement is never forwarded** (and each gets exactly one error + ready): for every interleaving of
statements and database completions, from every state, the database-side trace is exactly the allowed statements in
order – independently of when the proxy remembers the statement. -/
theorem denied_not_forwarded (denied : String → Bool) (addFirst : Bool) (st : St) (evs : List Ev) :
    forwarded (run denied addFirst st evs).2 = allowedOf denied evs
    ∧ clientErrors (run denied addFirst st evs).2 = deniedCount denied evs :=
  ⟨forwarded_run denied addFirst st evs, clientErrors_run denied addFirst st evs⟩

/-- **The session stays aligned.** With the statement remembered only after the censor accepted it
(`fact_pg_add_after_censor`), for every event list in which the database answers only statements it received: the
pending queue is always "allowed statements not yet answered" and the k-th database response is processed with the
k-th *allowed* statement – never with a rejected one. -/
theorem queue_aligned (denied : String → Bool) (evs : List Ev) (hwf : wellFormed denied 0 evs = true) :
    (run denied false ⟨[]⟩ evs).1.pending = (allowedOf denied evs).drop (doneCount evs)
    ∧ pairedWith (run denied false ⟨[]⟩ evs).2 = ((allowedOf denied evs).take (doneCount evs)).map some := by
  have := aligned_run denied ⟨[]⟩ evs (by simpa using hwf)
  simpa using this

/-- MySQL: the database-side trace of a session is exactly its allowed statements (`fact_mysql`: censor first, `continue` after the error packet). -/
theorem mysql_denied_not_forwarded (denied : String → Bool) (qs : List String) :
    forwarded (myRun denied qs) = qs.filter (fun q => !denied q) :=
  forwarded_myRun denied qs

/-- The order matters: remembering the statement *before* asking the censor (the pinned tree before the repair)
pairs the next response with the rejected statement. -/
theorem queue_misaligned_counterexample :
    pairedWith (run (fun q => q == "denied") true ⟨[]⟩ [.query "denied", .query "ok", .dbDone]).2 = [some "denied"]
    ∧ pairedWith (run (fun q => q == "denied") false ⟨[]⟩ [.query "denied", .query "ok", .dbDone]).2 = [some "ok"] := by
  decide

/-- **End to end**: a statement the chain denies (for whatever reason) is not in the database-side trace of any session
containing it, in either order of remembering the statement and asking the censor. -/
theorem denied_statement_never_reaches_database (sem : Sem A P) (cfg : Cfg P) (parse : String → Stmt A)
    (st : St) (evs : List Ev) (q : String) (hq : handleQuery sem cfg (parse q) = .deny) :
    q ∉ forwarded (run (fun x => handleQuery sem cfg (parse x) == .deny) true st evs).2
    ∧ q ∉ forwarded (run (fun x => handleQuery sem cfg (parse x) == .deny) false st evs).2 := by
  constructor <;> rw [forwarded_run] <;> exact not_mem_allowedOf _ (by simp [hq]) evs

/-- a configuration and a statement satisfying the hypotheses of `deny_match_denies` (deny by table behind an allow rule that does not apply) -/
example :
    let sem : Sem Unit Unit := ⟨fun _ ts => (ts.contains "secret", false), fun _ _ => false⟩
    let cfg : Cfg Unit := ⟨false, false, [.allow ⟨["select 1"], [], []⟩, .capture, .deny ⟨[], ["secret"], []⟩, .allowAll]⟩
    let s : Stmt Unit := ⟨"SELECT * FROM secret", some ⟨"select * from secret", ()⟩⟩
    handleQuery sem cfg s = .deny ∧ handleQuery sem cfg ⟨"select 1", some ⟨"select 1", ()⟩⟩ = .allow := by decide

/-- `allow_then_denyAll` and `unparsed_denied` are not vacuous -/
example :
    let sem : Sem Unit Unit := ⟨fun _ _ => (false, false), fun _ _ => false⟩
    let cfg : Cfg Unit := ⟨false, false, [.allow ⟨["select 1"], [], []⟩, .denyAll]⟩
    handleQuery sem cfg ⟨"select 2", some ⟨"select 2", ()⟩⟩ = .deny
    ∧ handleQuery sem cfg ⟨"selec", none⟩ = .deny
    ∧ handleQuery sem { cfg with ignoreParseError := true, handlers := [.allow ⟨["select 1"], [], []⟩] } ⟨"selec", none⟩ = .allow := by decide

/-- `queue_aligned`'s hypothesis is satisfiable by a session with denied and allowed statements and completions -/
example : wellFormed (fun q => q == "d") 0 [.query "a", .query "d", .dbDone, .query "b", .query "d", .dbDone] = true := by decide

/-- `match_generalise` is not vacuous: `select 7 from dual` is a well-typed DML tree, generalising its literal gives a
different tree, which matches. -/
example :
    let t := Match.selectDual (Match.sqlVal "1" (strBytes "7"))
    wellTypedM t = true ∧ dmlKinds.contains t.kind = true ∧ (generalise t [(7, .value)] == t) = false :=
  Match.evaluated_typedSelect

end AcraModel.Props.C05
