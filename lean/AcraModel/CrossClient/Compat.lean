import AcraModel.CrossClient.Reveal
import AcraModel.Envelope.SafeCompatSame
/-
The column processors under a reader whose callbacks answer "unchanged" everywhere: the container scan
(`EnvelopeDetector.OnColumn`) and the backward-compatibility wrapper (`OldContainerDetectorWrapper.OnColumn`,
which after the container scan looks for bare AcraStructs and bare AcraBlocks, wraps each into a container
and offers it to the same callbacks) hand the column back as it was.
-/
namespace AcraModel.CrossClient
open AcraModel AcraModel.Envelope Generated

theorem scan_all_same (cbs : List Callback) (buf : Bytes)
    (h : ∀ i, i ≤ buf.length → ∀ cont adv, extractContainer (buf.drop i) = .ok (adv, cont) → ∀ cb, cb ∈ cbs → cb cont = .same) :
    ∃ hit, scan cbs buf = .ok buf hit :=
  scan_same cbs buf fun i hi _ adv cont he => runCallbacks_all_same cont cbs (h i (Nat.le_of_lt hi) cont adv he)

theorem onColumn_all_same (cbs : List Callback) (buf : Bytes)
    (h : ∀ i, i ≤ buf.length → ∀ cont adv, extractContainer (buf.drop i) = .ok (adv, cont) → ∀ cb, cb ∈ cbs → cb cont = .same) :
    ∃ hit, onColumn cbs buf = .ok buf hit :=
  onColumn_skip cbs buf fun i hi _ adv cont he => runCallbacks_all_same cont cbs (h i (Nat.le_of_lt hi) cont adv he)

theorem scan_unreadable {c : CryptoOps} {kv : KeyView} :
    ∀ (n : Nat) (buf : Bytes), buf.length ≤ n →
      (∀ i, i ≤ buf.length → ∀ cont adv, extractContainer (buf.drop i) = .ok (adv, cont) → ∀ m, process c kv cont ≠ .ok m) →
      scan [decryptCallback c kv] buf ≠ .fatal ∧
      ∀ out hit, scan [decryptCallback c kv] buf = .ok out hit → out = buf := by
  intro _ buf _ h
  obtain ⟨hit, e⟩ := scan_all_same [decryptCallback c kv] buf fun i hi cont adv he =>
    List.forall_mem_singleton.mpr (decryptCallback_same (h i hi cont adv he))
  rw [e]
  exact ⟨nofun, fun _ _ ho => (ScanOut.ok.inj ho).1.symm⟩

theorem onColumnCompat_all_same (cbs : List Callback) (buf : Bytes)
    (hcont : ∀ i, i ≤ buf.length → ∀ cont adv, extractContainer (buf.drop i) = .ok (adv, cont) → ∀ cb, cb ∈ cbs → cb cont = .same)
    (hbare : ∀ i l id s, serialize ((buf.drop i).take l) id = .ok s → ∀ cb, cb ∈ cbs → cb s = .same) :
    ∃ hit, onColumnCompat cbs buf = .ok buf hit := by
  refine onColumnCompat_skip cbs buf
    (fun i hi _ adv cont he => runCallbacks_all_same cont cbs (hcont i (Nat.le_of_lt hi) cont adv he)) ?_
  rintro id x ⟨p, q, rfl⟩ hne
  refine onBare_same _ _ _ hne fun s hs cb hcb => ?_
  rcases List.mem_cons.mp hcb with rfl | hcb
  · rfl
  · refine hbare p.length x.length id s ?_ cb hcb
    simpa using hs

end AcraModel.CrossClient
