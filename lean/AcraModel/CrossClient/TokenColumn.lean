import AcraModel.CrossClient.Token
import AcraModel.Generated.TokenColumn
/-
C02: tokenized columns behind the SQL proxies – WHICH client id reaches the tokenizer.

Write path (INSERT / UPDATE values, bound parameters, search literals):
  `encryptor/{postgresql,mysql}/queryDataEncryptor.go` `encryptWithColumnSettings`,
  `decryptor/mysql/prepared_statement_sql_observer.go`, `pseudonymization/{postgresql,mysql}_tokenize_query.go`:
      clientID := columnSetting.ClientID()
      if len(clientID) > 0 { … } else { clientID = accessContext.GetClientID() }
      … .EncryptWithClientID(clientID, data, columnSetting)
  the chain of data encryptors hands its `clientID` parameter on unchanged until
  `pseudonymization/queryDataEncryptor.go` `TokenEncryptor.EncryptWithClientID(clientID, data, setting)`:
      if setting.IsTokenized() { tokenContext := common.TokenContext{ClientID: clientID}
                                 return e.tokenizer.Tokenize(data, tokenContext, setting) }
      return data, nil
  `DataTokenizer.Tokenize`: `AnonymizeConsistently` when `setting.IsConsistentTokenization()`, else `Anonymize`.

Read path (every column of every data row):
  `pseudonymization/data_encoder.go` `TokenProcessor.OnColumn(ctx, data)`:
      accessContext := base.AccessContextFromContext(ctx)
      columnSetting, ok := encryptor.EncryptionSettingFromContext(ctx)
      if ok && columnSetting.IsTokenized() {
          tokenContext := common.TokenContext{ClientID: accessContext.GetClientID(), …}
          return p.tokenizer.Detokenize(data, tokenContext, columnSetting) }      -- error → error
      return ctx, data, nil

Which expression each site passes is NOT written down here: it is read from `Generated.TokenColumn`
(regenerated from the Go source on every run) and interpreted by `idSourceOf` / `chooseId`.

Values are modelled by their text form (what travels in SQL): for the integer token types the harness uses
canonical decimal text only, for which text ↔ `encodeToBytes` is one-to-one (the typed conversions are C10's).
-/
namespace AcraModel.CrossClient
open AcraModel Generated

/-- a column of the encryptor config as far as tokenization is concerned -/
structure ColSetting where
  /-- `client_id:` of the column – `ClientID()`; empty when the config names none -/
  clientId : Bytes
  /-- `IsTokenized()` -/
  tokenized : Bool
  /-- `IsConsistentTokenization()` -/
  consistent : Bool
  /-- `GetTokenType()` (numeric code) -/
  ty : Nat
deriving DecidableEq, Repr

/-- what a site passes as client id -/
inductive IdSource where
  /-- `accessContext.GetClientID()` – the identity of the session -/
  | session
  /-- `columnSetting.ClientID()` – the client id the column is configured with, whatever it is -/
  | column
  /-- the column's client id when it is not empty, otherwise the session's -/
  | columnOrSession
  /-- the function's own client id parameter, handed on unchanged -/
  | param
  | unknown
deriving DecidableEq, Repr

def isSessionExpr (e : String) : Bool := e == "accessContext.GetClientID()"
def isColumnExpr (e : String) : Bool := e == "columnSetting.ClientID()" || e == "setting.ClientID()"

/-- reading of a row of `Generated.TokenColumn`: the (condition, expression) definitions of the value a site passes -/
def idSourceOf (defs : List (String × String)) : IdSource :=
  match defs with
  | [(c, e)] =>
    if c == "param" then .param
    else if c == "init" then (if isSessionExpr e then .session else if isColumnExpr e then .column else .unknown)
    else .unknown
  | [(c1, e1), (c2, e2)] =>
    if c1 == "init" && c2 == "if-empty" && isColumnExpr e1 && isSessionExpr e2 then .columnOrSession else .unknown
  | _ => .unknown

/-- the client id a site ends up with, given the session's identity, the column setting and (for a
pass-through site) its own parameter -/
def chooseId (src : IdSource) (session : Bytes) (col : ColSetting) (param : Bytes) : Bytes :=
  match src with
  | .session => session
  | .column => col.clientId
  | .columnOrSession => if col.clientId.length > 0 then col.clientId else session
  | .param => param
  | .unknown => session

/-- **The owner of a value written through the proxy**: the client the column is configured for, or – when
the column names none – the client of the writing session. (A session of B writing into a column configured
with `client_id: A` writes A-owned data, by design.) -/
def ownerOf (session : Bytes) (col : ColSetting) : Bytes :=
  if col.clientId.length > 0 then col.clientId else session

theorem chooseId_columnOrSession (session : Bytes) (col : ColSetting) (p : Bytes) :
    chooseId .columnOrSession session col p = ownerOf session col := rfl

/-- `Anonymize` (non-consistent tokenization): `generateNewValue` only -/
def anonymize (c : CryptoOps) (st : TokStore) (id v : Bytes) (ty : Nat) (cands : List Bytes) : Out (TokStore × Bytes) :=
  match generateNew c st id v ty loopLimit cands with
  | none => .err
  | some r => .ok r

/-- what `TokenEncryptor.EncryptWithClientID` puts into the token context (`Generated.TokenColumn.encryptorContextClientID`) -/
def encryptorSource : IdSource := idSourceOf TokenColumn.encryptorContextClientID

/-- `TokenEncryptor.EncryptWithClientID(clientID, data, setting)` (there is no session in sight: the function
has no context parameter) followed by `DataTokenizer.Tokenize` -/
def tokenEncrypt (c : CryptoOps) (st : TokStore) (clientID : Bytes) (col : ColSetting) (v : Bytes) (cands : List Bytes) :
    Out (TokStore × Bytes) :=
  if col.tokenized then
    let id := chooseId encryptorSource [] col clientID
    if col.consistent then tokenize c st id v col.ty cands else anonymize c st id v col.ty cands
  else .ok (st, v)

/-- a proxy-side write site (`encryptWithColumnSettings` and its siblings) whose first argument to
`EncryptWithClientID` is described by `src` -/
def proxyWrite (c : CryptoOps) (src : IdSource) (st : TokStore) (session : Bytes) (col : ColSetting) (v : Bytes) (cands : List Bytes) :
    Out (TokStore × Bytes) :=
  tokenEncrypt c st (chooseId src session col []) col v cands

/-- the rows of `Generated.TokenColumn.writeCallSites` that CHOOSE an id (do not just hand their parameter on) -/
def choosingWriteSites : List (String × String × List (String × String)) :=
  TokenColumn.writeCallSites.filter fun r => idSourceOf r.2.2 != .param

/-- the source the PostgreSQL / MySQL statement encryptors use (looked up in the regenerated table by file) -/
def writeSourceOf (file : String) : IdSource :=
  match TokenColumn.writeCallSites.find? (fun r => r.1 == file) with
  | some r => idSourceOf r.2.2
  | none => .unknown

def pgWriteSite : String := "encryptor/postgresql/queryDataEncryptor.go:QueryDataEncryptor.encryptWithColumnSettings"
def myWriteSite : String := "encryptor/mysql/queryDataEncryptor.go:QueryDataEncryptor.encryptWithColumnSettings"

/-- what `TokenProcessor.OnColumn` puts into the token context (`Generated.TokenColumn.readContextClientID`) -/
def readSource : IdSource := idSourceOf TokenColumn.readContextClientID

/-- `TokenProcessor.OnColumn` with the identity source `src`; `col = none`: the context carries no column setting -/
def onColumnTokenWith (c : CryptoOps) (src : IdSource) (st : TokStore) (session : Bytes) (col : Option ColSetting) (data : Bytes) : Out Bytes :=
  match col with
  | some cs => if cs.tokenized then detokenize c st (chooseId src session cs []) data cs.ty else .ok data
  | none => .ok data

/-- `TokenProcessor.OnColumn` with the identity source the source code reads (`readSource`) -/
def onColumnToken (c : CryptoOps) (st : TokStore) (session : Bytes) (col : Option ColSetting) (data : Bytes) : Out Bytes :=
  onColumnTokenWith c readSource st session col data

/-- one value written through a proxy session -/
structure ColOp where
  session : Bytes
  col : ColSetting
  v : Bytes
  cands : List Bytes

/-- run a history of writes through write sites with source `src` (failed writes leave the storage as it was) -/
def runCol (c : CryptoOps) (src : IdSource) : TokStore → List ColOp → TokStore
  | st, [] => st
  | st, op :: ops =>
    match proxyWrite c src st op.session op.col op.v op.cands with
    | .ok (st', _) => runCol c src st' ops
    | _ => runCol c src st ops

theorem anonymize_ownedBy {c : CryptoOps} {P : Bytes → Bytes → Prop} {st st' : TokStore} {id v tok : Bytes} {ty : Nat}
    {cands : List Bytes} (hinv : OwnedBy P st) (hp : P (aggCtx c id) v)
    (h : anonymize c st id v ty cands = .ok (st', tok)) : OwnedBy P st' := by
  unfold anonymize at h
  split at h
  · cases h
  · next r hg =>
    cases h
    obtain ⟨key, rfl⟩ := generateNew_mem hg
    exact hinv.cons _ (by rintro _ _ ⟨⟩; exact hp)

/-- `TokenEncryptor` hands its parameter to the tokenizer (given the regenerated fact) -/
theorem tokenEncrypt_ownedBy {c : CryptoOps} (hsrc : encryptorSource = .param) {P : Bytes → Bytes → Prop} {st st' : TokStore}
    {id v tok : Bytes} {col : ColSetting} {cands : List Bytes} (hinv : OwnedBy P st)
    (hp : col.tokenized = true → P (aggCtx c id) v) (h : tokenEncrypt c st id col v cands = .ok (st', tok)) : OwnedBy P st' := by
  unfold tokenEncrypt at h
  rw [hsrc] at h
  split at h
  · next ht =>
    split at h
    · exact tokenize_ownedBy hinv (hp ht) h
    · exact anonymize_ownedBy hinv (hp ht) h
  · cases h
    exact hinv

theorem runCol_ownedBy {c : CryptoOps} (hsrc : encryptorSource = .param) {src : IdSource} {P : Bytes → Bytes → Prop} :
    ∀ (ops : List ColOp) {st : TokStore},
      (∀ op, op ∈ ops → op.col.tokenized = true → P (aggCtx c (chooseId src op.session op.col [])) op.v) →
      OwnedBy P st → OwnedBy P (runCol c src st ops)
  | [], _, _, h => h
  | op :: ops, st, hP, h => by
    have ih := fun st' => runCol_ownedBy (c := c) hsrc ops (st := st') fun o ho => hP o (List.mem_cons_of_mem _ ho)
    unfold runCol
    cases ht : proxyWrite c src st op.session op.col op.v op.cands with
    | ok r => exact ih r.1 (tokenEncrypt_ownedBy hsrc h (hP op List.mem_cons_self) ht)
    | err => exact ih st h
    | panic => exact ih st h

end AcraModel.CrossClient
