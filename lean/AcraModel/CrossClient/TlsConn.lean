import AcraModel.CrossClient.TlsIdentity
import AcraModel.Generated.TlsConnState
/-
C02: WHICH certificate of a finished TLS handshake becomes the identity of the connection.

`network/tls_wrapper.go`:
  ServerHandshake (gRPC transport credentials of AcraTranslator):
      if len(State.VerifiedChains) == 0 || len(State.VerifiedChains[0]) == 0 { return …, ErrNoPeerCertificate }
      certificate := State.VerifiedChains[0][0]
      clientID, err := wrapper.clientIDExtractor.ExtractClientID(certificate)
  GetClientIDFromTLSConn (WrapServer – AcraServer and the HTTP API –, GetClientIDFromConnection on a bare tls.Conn):
      same guard, same choice;  return getClientIDFromCertificate(certificate, extractor)
  getClientIDFromCertificate: ValidateClientsAuthenticationCertificate(certificate) – refuses CA certificates and
      certificates without an authentication key usage –, then extractor.ExtractClientID(certificate)

A `tls.ConnectionState` offers two certificate lists. `PeerCertificates` is everything the peer SENT: its own
certificate first, then whatever it chose to append (intermediates, or anything else – only the first one is
covered by the handshake signature). `VerifiedChains` are the chains crypto/x509 built from the first peer
certificate to a trusted root. Which list and index each site uses, and the guards in front, are NOT written
down here: they are read from `Generated.TlsConnState` and interpreted by `certChoiceOf` / `siteCert`.
-/
namespace AcraModel.CrossClient
open AcraModel Generated

/-- a certificate of a handshake as far as Acra looks at it: subject / serial number (identity) and the two
things `ValidateClientsAuthenticationCertificate` checks -/
structure ConnCert where
  cert : Cert
  /-- `certificate.IsCA` -/
  isCA : Bool
  /-- `KeyUsage&DigitalSignature == 1` or `ExtKeyUsageClientAuth ∈ ExtKeyUsage` -/
  authUsage : Bool
deriving DecidableEq, Repr

/-- the two certificate lists of `tls.ConnectionState` -/
structure TlsState where
  /-- `PeerCertificates`: what the peer sent, in the order it sent it -/
  peer : List ConnCert
  /-- `VerifiedChains` -/
  chains : List (List ConnCert)
deriving DecidableEq, Repr

/-- which element a site takes -/
inductive CertChoice where
  /-- `VerifiedChains[i][j]` -/
  | verified (i j : Nat)
  /-- `PeerCertificates[k]` -/
  | peerAt (k : Nat)
  /-- `PeerCertificates[len(PeerCertificates)-1-k]` -/
  | peerFromEnd (k : Nat)
  /-- the function's own certificate parameter -/
  | param
  | unknown
deriving DecidableEq, Repr

/-- reading of the "where the certificate comes from" column of `Generated.TlsConnState.identityCertSites` -/
def certChoiceOf (origin : List String) : CertChoice :=
  match origin with
  | [s] =>
    if s == "VerifiedChains[0][0]" then .verified 0 0
    else if s == "PeerCertificates[0]" then .peerAt 0
    else if s == "PeerCertificates[len(PeerCertificates)-1]" then .peerFromEnd 0
    else if s == "param:certificate" then .param
    else .unknown
  | _ => .unknown

/-- Go indexing: out of range panics -/
def pickCert (ch : CertChoice) (s : TlsState) : Out ConnCert :=
  match ch with
  | .verified i j =>
    match s.chains[i]? with
    | none => .panic
    | some c => match c[j]? with | none => .panic | some x => .ok x
  | .peerAt k => match s.peer[k]? with | none => .panic | some x => .ok x
  | .peerFromEnd k =>
    if s.peer.length < k + 1 then .panic
    else match s.peer[s.peer.length - 1 - k]? with | none => .panic | some x => .ok x
  | .param => .err
  | .unknown => .err

/-- one disjunct of a guard; an expression the model does not know never fires (conservative for panics) -/
def atomEval (a : String) (s : TlsState) : Out Bool :=
  if a == "len(VerifiedChains)==0" then .ok s.chains.isEmpty
  else if a == "len(VerifiedChains[0])==0" then (match s.chains with | [] => .panic | c :: _ => .ok c.isEmpty)
  else if a == "len(PeerCertificates)==0" then .ok s.peer.isEmpty
  else .ok false

/-- `a₁ || a₂ || …` with Go's short-circuit evaluation -/
def guardFires : List String → TlsState → Out Bool
  | [], _ => .ok false
  | a :: r, s =>
    match atomEval a s with
    | .ok true => .ok true
    | .ok false => guardFires r s
    | .err => .err
    | .panic => .panic

/-- the guards of a site in order: `.ok true` = some guard returned the error -/
def guardsFire : List (List String) → TlsState → Out Bool
  | [], _ => .ok false
  | g :: r, s =>
    match guardFires g s with
    | .ok true => .ok true
    | .ok false => guardsFire r s
    | .err => .err
    | .panic => .panic

/-- one row of `Generated.TlsConnState.identityCertSites` -/
structure CertSite where
  fn : String
  callee : String
  origin : List String
  guards : List (List String)
deriving DecidableEq

def certSites : List CertSite := TlsConnState.identityCertSites.map fun r => ⟨r.1, r.2.1, r.2.2.1, r.2.2.2⟩

/-- the certificate a site hands to its identity sink: an error when a guard fires -/
def siteCert (site : CertSite) (s : TlsState) : Out ConnCert :=
  match guardsFire site.guards s with
  | .ok true => .err
  | .ok false => pickCert (certChoiceOf site.origin) s
  | .err => .err
  | .panic => .panic

/-- `ValidateClientsAuthenticationCertificate` -/
def validateCert (c : ConnCert) : Bool := !c.isCA && c.authUsage

/-- does `getClientIDFromCertificate` validate before it extracts? (`Generated.TlsConnState.certificateFunctions`) -/
def helperValidates : Bool :=
  match TlsConnState.certificateFunctions.find? (·.1 == "network/tls_wrapper.go:getClientIDFromCertificate") with
  | some r => r.2 == ["ValidateClientsAuthenticationCertificate#0", "extractor.ExtractClientID#0"]
  | none => false

/-- the sink a site calls, on the certificate it chose -/
def sinkRun (callee : String) (e : Extractor) (c : ConnCert) : Out Bytes :=
  if callee == "getClientIDFromCertificate" then
    (if helperValidates && !validateCert c then .err else extractClientID e.hash e.mode (some c.cert))
  else extractClientID e.hash e.mode (some c.cert)

/-- **the client id a connection gets at a site** -/
def siteIdentity (site : CertSite) (e : Extractor) (s : TlsState) : Out Bytes :=
  match siteCert site s with
  | .ok c => sinkRun site.callee e c
  | .err => .err
  | .panic => .panic

def siteOfFunction (fn : String) : Option CertSite := certSites.find? (·.fn == fn)
/-- the two entry points: the gRPC transport credentials, and everything that starts from a `*tls.Conn` -/
def grpcSiteName : String := "network/tls_wrapper.go:TLSConnectionWrapper.ServerHandshake"
def connSiteName : String := "network/tls_wrapper.go:GetClientIDFromTLSConn"

/-- the sites that start from a ConnectionState (the others hand a parameter on) -/
def stateSites : List CertSite := certSites.filter fun st => certChoiceOf st.origin != .param

/-- After a successful server-side handshake with `RequireAndVerifyClientCert`: the peer sent at least its own
certificate, at least one chain was verified, and every verified chain starts at the first certificate the peer
sent (`crypto/tls` builds the chains with `opts.Intermediates` = the REST of what the peer sent and verifies
`certs[0]`). This is the documented contract of the standard library, a hypothesis here; the harness checks it
on every real handshake it performs. -/
structure Handshaken (s : TlsState) : Prop where
  chains_ne : s.chains ≠ []
  leaf : ∀ ch, ch ∈ s.chains → ch.head? = s.peer.head? ∧ ch ≠ []

/-- the client's own certificate: the first one it sent -/
def leafOf (s : TlsState) : Option ConnCert := s.peer.head?

/-- the site of the gRPC transport credentials / of everything that starts from a `*tls.Conn` -/
def grpcSite : CertSite := (siteOfFunction grpcSiteName).getD ⟨"", "", [], []⟩
def connSite : CertSite := (siteOfFunction connSiteName).getD ⟨"", "", [], []⟩

theorem sinkRun_ok {callee : String} {e : Extractor} {c : ConnCert} {id : Bytes} (h : sinkRun callee e c = .ok id) :
    extractClientID e.hash e.mode (some c.cert) = .ok id := by
  unfold sinkRun at h
  split at h
  · split at h
    · cases h
    · exact h
  · exact h

theorem sinkRun_ne_panic (callee : String) (e : Extractor) (c : ConnCert) : sinkRun callee e c ≠ .panic := by
  unfold sinkRun
  split
  · split
    · nofun
    · exact extractClientID_never_panics _ _ _
  · exact extractClientID_never_panics _ _ _

/-- a site that starts from the connection state is not the one site the table allows to take a parameter -/
theorem stateSites_of_fact {P Q : CertSite → Prop} (hfact : ∀ st ∈ certSites, P st ∨ (certChoiceOf st.origin = .param ∧ Q st))
    {st : CertSite} (h : st ∈ stateSites) : P st := by
  obtain ⟨hm, hnp⟩ := List.mem_filter.mp h
  exact (hfact st hm).resolve_right fun hp => by simp [hp.1] at hnp

/-- behind the guards `len(VerifiedChains) == 0 || len(VerifiedChains[0]) == 0` the element `VerifiedChains[0][0]`
exists: the indexing is safe for EVERY state -/
theorem siteCert_verified {st : CertSite} (ho : certChoiceOf st.origin = .verified 0 0)
    (hg : st.guards = [["len(VerifiedChains)==0", "len(VerifiedChains[0])==0"]]) (s : TlsState) :
    siteCert st s = match s.chains with | (x :: _) :: _ => .ok x | _ => .err := by
  unfold siteCert
  rw [hg, ho]
  rcases hc : s.chains with _ | ⟨_ | ⟨x, xs⟩, rest⟩ <;> simp [guardsFire, guardFires, atomEval, hc, pickCert]

theorem siteCert_verified_ne_panic {st : CertSite} (ho : certChoiceOf st.origin = .verified 0 0)
    (hg : st.guards = [["len(VerifiedChains)==0", "len(VerifiedChains[0])==0"]]) (s : TlsState) : siteCert st s ≠ .panic := by
  rw [siteCert_verified ho hg]
  split <;> nofun

theorem siteCert_verified_leaf {st : CertSite} (ho : certChoiceOf st.origin = .verified 0 0)
    (hg : st.guards = [["len(VerifiedChains)==0", "len(VerifiedChains[0])==0"]])
    {s : TlsState} (h : Handshaken s) {l : ConnCert} (hl : leafOf s = some l) : siteCert st s = .ok l := by
  rw [siteCert_verified ho hg]
  cases hc : s.chains with
  | nil => exact absurd hc h.chains_ne
  | cons ch rest =>
    have := h.leaf ch (by rw [hc]; exact List.mem_cons_self)
    cases ch with
    | nil => exact absurd rfl this.2
    | cons x xs => exact congrArg Out.ok (Option.some.inj (this.1.trans hl))

end AcraModel.CrossClient
