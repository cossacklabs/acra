import AcraModel.CrossClient.Context
/-
C02: de-tokenization under another identity (minimal model; the full tokenizer model is C10's).

`pseudonymization/tokenizer.go`: a token record lives in the token storage under
  (AggregateTokenContextToBytes(context), "t." ‖ generateDataID(token, context, type))
where both digests hash the client id of the *caller*. `Deanonymize` computes the id from the token it is
given and the caller's context; when the storage has nothing there it returns the token as it came
("Token not found, return as is"). `AnonymizeConsistently` first looks for "h." ‖ generateDataID(value, …).
The record value is the protobuf `TokenValue{value, type}`; protobuf encoding/decoding is modelled as the
identity on `(value, type)`. Zones (`AdditionalContext`) are not supported by AcraTranslator any more
(`ErrZoneIDAdditionalDataNotSupported`), the model covers the client branch.
-/
namespace AcraModel.CrossClient
open AcraModel Generated

/-- content of a storage entry: a `TokenValue` record (under a "t." key) or raw token bytes (under an "h." key) -/
inductive TokData where
  | value (v : Bytes) (ty : Nat)
  | raw (b : Bytes)
deriving DecidableEq, Repr

structure TokEntry where
  ctx : Bytes
  key : Bytes
  data : TokData
deriving DecidableEq, Repr

abbrev TokStore := List TokEntry

/-- `common.AggregateTokenContextToBytes` (client branch) -/
def aggCtx (c : CryptoOps) (id : Bytes) : Bytes := c.sha256 (bytesOfNats IdentityCtx.tokenContextClientTag ++ id)

/-- `pseudoanonymizer.generateDataID` (client branch) -/
def dataId (c : CryptoOps) (data id : Bytes) (ty : Nat) : Bytes :=
  c.sha256 (bytesOfNats IdentityCtx.tokenDataIDDelim ++ data ++ bytesOfNats IdentityCtx.tokenDataIDClientTag ++ id
    ++ bytesOfNats IdentityCtx.tokenDataIDDelim ++ decimal ty)

def tokKey (c : CryptoOps) (tok id : Bytes) (ty : Nat) : Bytes := bytesOfNats IdentityCtx.tokenKeyPrefix ++ dataId c tok id ty
def hashKey (c : CryptoOps) (v id : Bytes) (ty : Nat) : Bytes := bytesOfNats IdentityCtx.tokenHashKeyPrefix ++ dataId c v id ty

/-- `TokenStorage.Get` -/
def TokStore.get (st : TokStore) (cx key : Bytes) : Option TokData :=
  (st.find? (fun e => e.ctx == cx && e.key == key)).map (·.data)

/-- `TokenStorage.Save`: `none` = `ErrTokenExists` -/
def TokStore.save (st : TokStore) (cx key : Bytes) (d : TokData) : Option TokStore :=
  if (st.get cx key).isSome then none else some (⟨cx, key, d⟩ :: st)

/-- `generateNewValue`: try the candidates the random generator draws, at most `fuel` (= 10) of them -/
def generateNew (c : CryptoOps) (st : TokStore) (id v : Bytes) (ty : Nat) : Nat → List Bytes → Option (TokStore × Bytes)
  | 0, _ => none
  | _, [] => none
  | fuel + 1, cand :: rest =>
    match st.save (aggCtx c id) (tokKey c cand id ty) (.value v ty) with
    | some st' => some (st', cand)
    | none => generateNew c st id v ty fuel rest

/-- `defaultDataGenerationLoopLimit` -/
def loopLimit : Nat := 10

/-- `AnonymizeConsistently` for byte-like token types, run under identity `id`; `cands` are the values
the random generator draws. Returns the new storage and the token. -/
def tokenize (c : CryptoOps) (st : TokStore) (id v : Bytes) (ty : Nat) (cands : List Bytes) : Out (TokStore × Bytes) :=
  match st.get (aggCtx c id) (hashKey c v id ty) with
  | some (.raw t) => .ok (st, t)
  | some (.value _ _) => .err
  | none =>
    match generateNew c st id v ty loopLimit cands with
    | none => .err
    | some (st', tok) =>
      match st'.save (aggCtx c id) (hashKey c v id ty) (.raw tok) with
      | none => .err
      | some st'' => .ok (st'', tok)

/-- `Deanonymize` run under identity `id` -/
def detokenize (c : CryptoOps) (st : TokStore) (id tok : Bytes) (ty : Nat) : Out Bytes :=
  match st.get (aggCtx c id) (tokKey c tok id ty) with
  | none => .ok tok
  | some (.raw _) => .err
  | some (.value v ty') => if ty' ≠ ty then .err else .ok v

/-- one tokenization request of a history -/
structure TokOp where
  id : Bytes
  v : Bytes
  ty : Nat
  cands : List Bytes

/-- run a history of tokenization requests (failed requests leave the storage as it was) -/
def runTok (c : CryptoOps) : TokStore → List TokOp → TokStore
  | st, [] => st
  | st, op :: ops =>
    match tokenize c st op.id op.v op.ty op.cands with
    | .ok (st', _) => runTok c st' ops
    | _ => runTok c st ops

/-- every `TokenValue` record of the storage satisfies `P` (of its context digest and its value) -/
def OwnedBy (P : Bytes → Bytes → Prop) (st : TokStore) : Prop :=
  ∀ e, e ∈ st → ∀ v ty, e.data = .value v ty → P e.ctx v

theorem OwnedBy.nil {P : Bytes → Bytes → Prop} : OwnedBy P [] := fun _ he => nomatch he

theorem OwnedBy.cons {P : Bytes → Bytes → Prop} {st : TokStore} (h : OwnedBy P st) (e : TokEntry)
    (he : ∀ v ty, e.data = .value v ty → P e.ctx v) : OwnedBy P (e :: st) := by
  intro e' he' v ty hd
  rcases List.mem_cons.mp he' with rfl | he'
  · exact he v ty hd
  · exact h e' he' v ty hd

theorem TokStore.get_mem {st : TokStore} {cx key : Bytes} {d : TokData} (h : st.get cx key = some d) :
    ∃ e, e ∈ st ∧ e.ctx = cx ∧ e.data = d := by
  obtain ⟨e, he, hd⟩ := Option.map_eq_some_iff.mp h
  have hp := List.find?_some he
  simp only [Bool.and_eq_true, beq_iff_eq] at hp
  exact ⟨e, List.mem_of_find?_eq_some he, hp.1, hd⟩

theorem save_mem {st st' : TokStore} {cx key : Bytes} {d : TokData} (h : st.save cx key d = some st') :
    st' = ⟨cx, key, d⟩ :: st := by
  unfold TokStore.save at h
  split at h
  · cases h
  · cases h; rfl

theorem generateNew_mem {c : CryptoOps} {st st' : TokStore} {id v tok : Bytes} {ty : Nat} :
    ∀ {fuel : Nat} {cands : List Bytes}, generateNew c st id v ty fuel cands = some (st', tok) →
      ∃ key, st' = ⟨aggCtx c id, key, .value v ty⟩ :: st
  | 0, _, h => by simp [generateNew] at h
  | _ + 1, [], h => by simp [generateNew] at h
  | fuel + 1, cand :: rest, h => by
    unfold generateNew at h
    split at h
    · next st1 hs =>
      cases h
      exact ⟨_, save_mem hs⟩
    · exact generateNew_mem h

theorem tokenize_ownedBy {c : CryptoOps} {P : Bytes → Bytes → Prop} {st st' : TokStore} {id v tok : Bytes} {ty : Nat}
    {cands : List Bytes} (hinv : OwnedBy P st) (hp : P (aggCtx c id) v)
    (h : tokenize c st id v ty cands = .ok (st', tok)) : OwnedBy P st' := by
  unfold tokenize at h
  split at h
  · cases h
    exact hinv
  · cases h
  · split at h
    · cases h
    · next st1 tok1 hg =>
      split at h
      · cases h
      · next st2 hs =>
        cases h
        obtain ⟨key, rfl⟩ := generateNew_mem hg
        rw [save_mem hs]
        exact (hinv.cons _ (by rintro _ _ ⟨⟩; exact hp)).cons _ nofun

theorem detokenize_ownedBy {c : CryptoOps} {P : Bytes → Bytes → Prop} {st : TokStore} (hinv : OwnedBy P st)
    {id tok r : Bytes} {ty : Nat} (h : detokenize c st id tok ty = .ok r) : r = tok ∨ P (aggCtx c id) r := by
  unfold detokenize at h
  split at h
  · cases h
    exact Or.inl rfl
  · cases h
  · next v ty' hg =>
    split at h <;> cases h
    obtain ⟨e, he, hctx, hd⟩ := TokStore.get_mem hg
    exact Or.inr (hctx ▸ hinv e he r ty' hd)

theorem runTok_ownedBy {c : CryptoOps} {P : Bytes → Bytes → Prop} : ∀ (ops : List TokOp) {st : TokStore},
    (∀ op, op ∈ ops → P (aggCtx c op.id) op.v) → OwnedBy P st → OwnedBy P (runTok c st ops)
  | [], _, _, h => h
  | op :: ops, st, hP, h => by
    have ih := fun st' => runTok_ownedBy (c := c) ops (st := st') fun o ho => hP o (List.mem_cons_of_mem _ ho)
    unfold runTok
    cases ht : tokenize c st op.id op.v op.ty op.cands with
    | ok r => exact ih r.1 (tokenize_ownedBy h (hP op List.mem_cons_self) ht)
    | err => exact ih st h
    | panic => exact ih st h

end AcraModel.CrossClient
