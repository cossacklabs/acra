import AcraModel.Envelope.SafeStruct
/-
C02: revealing under another identity.

Acra looks keys up by the client id carried in the access context (`crypto/acrablock.go`
`AcraBlockHandler.Decrypt`: `GetClientIDSymmetricKeys(accessContext.GetClientID())`, `crypto/acrastruct.go`
`AcraStructHandler.Decrypt`: `GetServerDecryptionPrivateKeys(accessContext.GetClientID())`). The model of
the key store is therefore a function from client ids to key views, and "running under identity `b`"
is running the C01 models with the key view of `b`.

The statements here are deliberately *layout free*: every parsing step of the decoders is independent of
the keys, so a run under `b` walks through exactly the same bytes as a run under `a`; the two differ
only in the key loops. If `a`'s run succeeds, `b`'s run can neither panic nor succeed unless one of
`b`'s keys opens the very same wrapped key – which key separation excludes.
-/
namespace AcraModel.CrossClient
open AcraModel AcraModel.Envelope

/-- the key store as the decoders see it: client id ↦ what the store hands out for it -/
abbrev Store := Bytes → KeyView

/-- `RegistryHandler.Process` with the access context of `id` -/
def revealAs (c : CryptoOps) (ks : Store) (id data : Bytes) : Out Bytes := reveal c (ks id) data

/-- `DecryptWithHandler` (AcraTranslator `Decrypt` / `DecryptSym`) with the access context of `id` -/
def decryptAs (c : CryptoOps) (ks : Store) (id : Bytes) (k : Kind) (data : Bytes) : Out Bytes :=
  decryptWithHandler c (ks id) k data

/-- the transparent column path (`EnvelopeDetector.OnColumn` with the decrypt callback) for `id` -/
def columnAs (c : CryptoOps) (ks : Store) (id data : Bytes) : ScanOut :=
  onColumn [decryptCallback c (ks id)] data

/-- … behind the backward-compatibility wrapper -/
def columnCompatAs (c : CryptoOps) (ks : Store) (id data : Bytes) : ScanOut :=
  onColumnCompat [decryptCallback c (ks id)] data

/-- Commitment of the asymmetric wrap to the recipient: a wrapped key opens under at most one private
key (for a fixed peer public key). Idealisation in the style of `SealCommit`; satisfied by `Box`
(`boxMsgCommit` in `CrossClient/Box45.lean`), not provable for a hash/DH based instance. -/
structure MsgCommit (c : CryptoOps) : Prop where
  unwrap_inj : ∀ a b p ct m m', c.unwrap a p ct = some m → c.unwrap b p ct = some m' → a = b

/-- key lists of two identities with nothing in common -/
def Disjoint (xs ys : List Bytes) : Prop := ∀ k, k ∈ xs → k ∈ ys → False

def optList (o : Option (List Bytes)) : List Bytes := o.getD []

/-- Key separation between two key views, in the form the decoders need it:
* no symmetric storage key of one is a symmetric storage key of the other;
* whatever a private key of the first unwraps, no private key of the second unwraps
  ("B's private keys do not open A's wrapped keys"). -/
structure KeysSeparate (c : CryptoOps) (a b : KeyView) : Prop where
  syms : Disjoint (optList a.syms) (optList b.syms)
  privs : ∀ ka, ka ∈ optList a.privs → ∀ kb, kb ∈ optList b.privs → ∀ p ct m,
    c.unwrap ka p ct = some m → c.unwrap kb p ct = none

theorem keysSeparate_of_disjoint {c : CryptoOps} (hc : MsgCommit c) {a b : KeyView}
    (hs : Disjoint (optList a.syms) (optList b.syms)) (hp : Disjoint (optList a.privs) (optList b.privs)) :
    KeysSeparate c a b where
  syms := hs
  privs := by
    intro ka hka kb hkb p ct m h
    cases h' : c.unwrap kb p ct with
    | none => rfl
    | some m' =>
      have := hc.unwrap_inj ka kb p ct m m' h h'
      subst this
      exact (hp ka hka hkb).elim

theorem findDek_none {c : CryptoOps} {ctx encKey kid : Bytes} :
    ∀ {keys : List Bytes}, (∀ k, k ∈ keys → c.dec k ctx encKey = none) →
      findDek c true ctx encKey kid keys = .ok none
  | [], _ => by simp [findDek]
  | k :: ks, h => by
    unfold findDek
    have hk := h k List.mem_cons_self
    have ih := findDek_none (c := c) (ctx := ctx) (encKey := encKey) (kid := kid) (keys := ks)
      (fun k' hk' => h k' (List.mem_cons_of_mem _ hk'))
    split
    · simp [hk, ih]
    · exact ih

theorem dec_same_key {c : CryptoOps} (hl : SealLaws c) (hc : SealCommit c) {k k' x ct m m' : Bytes}
    (h : c.dec k x ct = some m) (h' : c.dec k' x ct = some m') : k = k' := by
  obtain ⟨n, _, hn⟩ := hl.enc_of_dec k x ct m h
  obtain ⟨n', _, hn'⟩ := hl.enc_of_dec k' x ct m' h'
  exact (hc.enc_inj k x m n k' x m' n' ct hn hn').1

theorem decryptBlock_cross {c : CryptoOps} (hl : SealLaws c) (hc : SealCommit c) {ka kb : List Bytes}
    {ctx b m : Bytes} (ha : decryptBlock c ka ctx b = .ok m) (hd : Disjoint ka kb) :
    decryptBlock c kb ctx b = .err := by
  rw [decryptBlock_eq] at ha ⊢
  split at ha
  · cases ha
  split at ha
  · cases ha
  rename_i h1 h2
  obtain ⟨r, hf, ht⟩ := Out.bind_eq_ok ha
  cases r with
  | none => cases ht
  | some dek =>
    obtain ⟨hkb, k, hk, _, hdk⟩ := findDek_some hf
    rw [if_neg h1, if_neg h2, hkb, findDek_none]
    · rfl
    · intro k' hk'
      cases hd' : c.dec k' ctx (blockEncKey b) with
      | none => rfl
      | some d' => exact (hd k hk (dec_same_key hl hc hdk hd' ▸ hk')).elim

theorem decryptStruct_cross {c : CryptoOps} {ka kb ctx data m : Bytes}
    (ha : decryptStruct c ka ctx data = .ok m)
    (hsep : ∀ p ct s, c.unwrap ka p ct = some s → c.unwrap kb p ct = none) :
    decryptStruct c kb ctx data = .err := by
  cases hv : validateStruct data with
  | err => unfold decryptStruct at ha; rw [hv] at ha; cases ha
  | panic => unfold decryptStruct at ha; rw [hv] at ha; cases ha
  | ok u =>
    rw [decryptStruct_eq c _ ctx data hv] at ha ⊢
    cases hu : c.unwrap ka ((data.drop 8).take 45) ((data.drop 53).take 84) with
    | none => rw [hu] at ha; cases ha
    | some s => rw [hsep _ _ s hu]

theorem decryptStructRotated_cross {c : CryptoOps} {ctx data m : Bytes} :
    ∀ {ka kb : List Bytes}, decryptStructRotated c ctx data ka = .ok m →
      (∀ x, x ∈ ka → ∀ y, y ∈ kb → ∀ p ct s, c.unwrap x p ct = some s → c.unwrap y p ct = none) →
      decryptStructRotated c ctx data kb = .err
  | ka, [], _, _ => rfl
  | ka, y :: ys, ha, hsep => by
    obtain ⟨k, hk, hkok⟩ := decryptStructRotated_ok ha
    unfold decryptStructRotated
    rw [decryptStruct_cross (kb := y) hkok (hsep k hk y List.mem_cons_self)]
    exact decryptStructRotated_cross ha (fun x' hx' y' hy' => hsep x' hx' y' (List.mem_cons_of_mem _ hy'))

theorem decryptKind_cross {c : CryptoOps} (hl : SealLaws c) (hc : SealCommit c) {a b : KeyView}
    (hsep : KeysSeparate c a b) {k : Kind} {internal m : Bytes}
    (ha : decryptKind c a k internal = .ok m) : decryptKind c b k internal = .err := by
  have mem : ∀ {o : Option (List Bytes)} {l : List Bytes} {x : Bytes}, o = some l → x ∈ l → x ∈ optList o := by
    rintro _ _ _ rfl h
    exact h
  cases k with
  | struct =>
    simp only [decryptKind] at ha ⊢
    cases hv : validateStruct internal <;> rw [hv] at ha <;> try cases ha
    cases hpa : a.privs <;> rw [hpa] at ha <;> try cases ha
    cases hpb : b.privs
    · rfl
    · exact decryptStructRotated_cross ha fun x hx y hy => hsep.privs x (mem hpa hx) y (mem hpb hy)
  | block =>
    simp only [decryptKind] at ha ⊢
    cases he : extractBlock internal <;> rw [he] at ha <;> try cases ha
    dsimp only at ha ⊢
    split at ha
    · cases ha
    · next hn =>
      rw [if_neg hn]
      cases hsa : a.syms <;> rw [hsa] at ha <;> try cases ha
      cases hsb : b.syms
      · rfl
      · exact decryptBlock_cross hl hc ha fun k hk hk' => hsep.syms k (mem hsa hk) (mem hsb hk')

theorem decryptWithHandler_cross {c : CryptoOps} (hl : SealLaws c) (hc : SealCommit c) {a b : KeyView}
    (hsep : KeysSeparate c a b) {k : Kind} {data m : Bytes}
    (ha : decryptWithHandler c a k data = .ok m) : decryptWithHandler c b k data = .err := by
  unfold decryptWithHandler at ha ⊢
  cases hd : deserialize data <;> rw [hd] at ha <;> try cases ha
  simp only [Out.bind_ok] at ha ⊢
  split at ha
  · cases ha
  · next hm =>
    rw [if_neg hm]
    exact decryptKind_cross hl hc hsep ha

theorem process_cross {c : CryptoOps} (hl : SealLaws c) (hc : SealCommit c) {a b : KeyView}
    (hsep : KeysSeparate c a b) {data m : Bytes}
    (ha : process c a data = .ok m) : process c b data = .err := by
  unfold process at ha ⊢
  cases hg : getEnvelopeID data <;> rw [hg] at ha <;> try cases ha
  simp only [Out.bind_ok] at ha ⊢
  cases hk : kindOfId _ <;> rw [hk] at ha <;> try cases ha
  exact decryptWithHandler_cross hl hc hsep ha

theorem decryptCallback_same {c : CryptoOps} {kv : KeyView} {container : Bytes}
    (h : ∀ m, process c kv container ≠ .ok m) : decryptCallback c kv container = .same := by
  unfold decryptCallback
  cases hp : process c kv container with
  | ok d => exact absurd hp (h d)
  | err => rfl
  | panic => rfl

theorem decryptCallback_cross_same {c : CryptoOps} (hl : SealLaws c) (hc : SealCommit c) {kvA kvB : KeyView}
    (hsep : KeysSeparate c kvA kvB) {s : Bytes}
    (h : (∃ m, process c kvA s = .ok m) ∨ (∀ m, process c kvB s ≠ .ok m)) : decryptCallback c kvB s = .same := by
  apply decryptCallback_same
  intro m
  rcases h with ⟨m', hm'⟩ | hno
  · rw [process_cross hl hc hsep hm']
    nofun
  · exact hno m

end AcraModel.CrossClient
