import AcraModel.CrossClient.Hash
import AcraModel.Generated.TlsRpc
/-
C02: the identity comes from the connection, not from the request.

`cmd/acra-translator/grpc_api/tls_service.go`: `TLSDecryptServiceWrapper` wraps the gRPC service when
AcraTranslator takes client ids from TLS certificates. Every method is
  clientID, err := getClientID(ctx, extractor); if err != nil { return nil, err }
  request.ClientId = clientID; return wrapper.decryptor.<Same>(ctx, request)
The table `Generated.TlsRpc.tlsRpcs` says, for every RPC of the wrapped services, whether the method has
this shape (regenerated from the source on every run). The model below *interprets* that table: a row
that does not override forwards the request as it came.
-/
namespace AcraModel.CrossClient
open AcraModel Generated

/-- a request as far as identity is concerned: the client id field and everything else -/
structure Request where
  clientId : Bytes
  payload : Bytes
deriving DecidableEq, Repr

/-- what `getClientID(ctx, extractor)` yields: the identity the TLS layer attached to the connection, or an error -/
abbrev ConnId := Option Bytes

/-- one row of `Generated.TlsRpc.tlsRpcs` -/
structure RpcRow where
  name : String
  defined : Bool
  overrides : Bool
  forwards : String

def rowOf (t : String × Bool × Bool × String) : RpcRow := ⟨t.1, t.2.1, t.2.2.1, t.2.2.2⟩

def rpcTable : List RpcRow := TlsRpc.tlsRpcs.map rowOf

/-- a wrapper method as the table describes it: not declared → the embedded `Unimplemented…Server`
answers with an error and nothing is forwarded; declared and overriding → the id of the connection
replaces the request's; declared but not overriding → the request goes through as it came -/
def wrapperMethod {R : Type} (row : RpcRow) (svc : Request → R) (onErr : R) (conn : ConnId) (req : Request) : R :=
  if !row.defined then onErr
  else if row.overrides then
    match conn with
    | none => onErr
    | some id => svc { req with clientId := id }
  else svc req

/-- the id the wrapped service sees (if it is reached at all) -/
def forwardedId (row : RpcRow) (conn : ConnId) (req : Request) : Option Bytes :=
  wrapperMethod row (fun r => some r.clientId) none conn req

theorem wrapperMethod_overriding {R : Type} (row : RpcRow) (h : row.defined = false ∨ row.overrides = true)
    (svc : Request → R) (e : R) (conn : ConnId) (p x y : Bytes) :
    wrapperMethod row svc e conn ⟨x, p⟩ = wrapperMethod row svc e conn ⟨y, p⟩ := by
  unfold wrapperMethod
  rcases h with h | h
  · simp [h]
  · cases conn <;> simp [h]

theorem wrapperMethod_conn {R : Type} {row : RpcRow} (hd : row.defined = true) (ho : row.overrides = true)
    (svc : Request → R) (e : R) (id : Bytes) (req : Request) :
    wrapperMethod row svc e (some id) req = svc { req with clientId := id } := by
  unfold wrapperMethod
  rw [hd, ho]
  rfl

theorem wrapperMethod_noconn {R : Type} {row : RpcRow} (hd : row.defined = true) (ho : row.overrides = true)
    (svc : Request → R) (e : R) (req : Request) : wrapperMethod row svc e none req = e := by
  unfold wrapperMethod
  rw [hd, ho]
  rfl

end AcraModel.CrossClient
