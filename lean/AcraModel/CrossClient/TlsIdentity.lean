import AcraModel.CrossClient.Context
import AcraModel.CrossClient.Sha512
import AcraModel.Generated.TlsIdentity
/-
C02: which identity a TLS connection gets.

`network/tls_authentication.go`: AcraServer and AcraTranslator create ONE `tlsClientIDExtractor` at start-up
(`idExtractor` chosen by `--tls_identifier_extractor_type`, `idConverter = HexIdentifierConverter{sha512.New}`)
and ask it for the client id of the peer certificate on every new TLS connection (gRPC:
`TLSConnectionWrapper.ServerHandshake`; HTTP / AcraServer: `GetClientIDFromTLSConn`):

  ExtractClientID(certificate):
    identifier, err := extractor.idExtractor.GetCertificateIdentifier(certificate)   -- err → return nil, err
    clientID, err  := extractor.idConverter.Convert(identifier)                      -- err → return nil, err
    return clientID, nil

  DistinguishedNameExtractor: nil certificate → error; id := []byte(certificate.Subject.String()); empty → error
  SerialNumberExtractor:      nil certificate → error; nil SerialNumber → error; certificate.SerialNumber.Bytes()
  HexIdentifierConverter.Convert(identifier) = lower-case hex of newHash()(identifier)          (128 characters)

`certificate.Subject.String()` is `pkix.Name.String()` of the Go standard library: the standard attributes in
the order SERIALNUMBER, CN, OU, O, POSTALCODE, STREET, L, ST, C (reverse of `ToRDNSequence`), RDNs joined by
`,`, the values of a multi-valued attribute joined by `+`, each printed as `<short name>=<escaped value>`.
The model covers names made of these standard attributes with string values (what `x509.CreateCertificate`
produces from a `pkix.Name` without `ExtraNames`; non-standard attributes are outside the model).
`big.Int.Bytes()` is the minimal big-endian encoding of the absolute value (zero → empty).

The tables `rdnPrinted` (field order and `<short name>=` bytes) and the shape facts about the extractor come
from `Generated.TlsIdentity`, regenerated from /repo and from GOROOT on every run.
-/
namespace AcraModel.CrossClient
open AcraModel Generated

/-- `pkix.Name` restricted to its standard attributes; values are UTF-8 byte strings -/
structure Name where
  country : List Bytes
  province : List Bytes
  locality : List Bytes
  street : List Bytes
  postalCode : List Bytes
  org : List Bytes
  orgUnit : List Bytes
  commonName : Bytes
  serialNumber : Bytes
deriving DecidableEq, Repr

/-- the two fields of an `x509.Certificate` the identifier extractors read (`fact_identifier_extractors` in `Props/C02.lean`):
`Subject` and `SerialNumber` (non-negative: Go's parser rejects negative serial numbers) -/
structure Cert where
  subject : Name
  serial : Nat
deriving DecidableEq, Repr

/-! ### `pkix.RDNSequence.String` -/

/-- does the byte `c` at byte index `k` of a value of `len` bytes get a backslash
(`Generated.TlsIdentity.rdnEscapeCases`: `, + " \ < > ;` always, a space at either end, `#` in front) -/
def escapes (len k : Nat) (c : UInt8) : Bool :=
  c == 44 || c == 43 || c == 34 || c == 92 || c == 60 || c == 62 || c == 59 ||
  (c == 32 && (k == 0 || k + 1 == len)) || (c == 35 && k == 0)

def escapeFrom (len : Nat) : Nat → Bytes → Bytes
  | _, [] => []
  | k, c :: cs => (if escapes len k c then [92, c] else [c]) ++ escapeFrom len (k + 1) cs

/-- the escaped form of one attribute value -/
def escapeValue (v : Bytes) : Bytes := escapeFrom v.length 0 v

/-- `sep.join parts` -/
def joinSep (sep : Bytes) : List Bytes → Bytes
  | [] => []
  | [x] => x
  | x :: y :: r => x ++ sep ++ joinSep sep (y :: r)

/-- the values `ToRDNSequence` takes for a field of `Generated.TlsIdentity.rdnPrinted`; the single-valued
fields only when non-empty (`rdnSingleNonEmpty`) -/
def fieldValues (n : Name) (field : String) : List Bytes :=
  if field = "Country" then n.country
  else if field = "Province" then n.province
  else if field = "Locality" then n.locality
  else if field = "StreetAddress" then n.street
  else if field = "PostalCode" then n.postalCode
  else if field = "Organization" then n.org
  else if field = "OrganizationalUnit" then n.orgUnit
  else if field = "CommonName" then (if n.commonName.isEmpty then [] else [n.commonName])
  else if field = "SerialNumber" then (if n.serialNumber.isEmpty then [] else [n.serialNumber])
  else []

/-- one RDN: `TAG=v1+TAG=v2…` (`appendRDNs` makes one multi-valued RDN per field; none for an empty list) -/
def rdnString (tag : Bytes) (vals : List Bytes) : Option Bytes :=
  if vals.isEmpty then none else some (joinSep [43] (vals.map fun v => tag ++ escapeValue v))

/-- `pkix.Name.String()` over a table of (field, tag) in print order -/
def dnStringOf (table : List (String × List Nat)) (n : Name) : Bytes :=
  joinSep [44] (table.filterMap fun ft => rdnString (bytesOfNats ft.2) (fieldValues n ft.1))

/-- `certificate.Subject.String()` -/
def dnString (n : Name) : Bytes := dnStringOf TlsIdentity.rdnPrinted n

/-! ### `big.Int.Bytes` -/

def natLEAux : Nat → Nat → Bytes
  | 0, _ => []
  | f + 1, n => if n = 0 then [] else UInt8.ofNat (n % 256) :: natLEAux f (n / 256)

/-- minimal big-endian bytes of a natural number (zero → empty) -/
def natBE (n : Nat) : Bytes := (natLEAux n n).reverse

theorem leVal_natLEAux (f n : Nat) (h : n ≤ f) : leVal (natLEAux f n) = n := by
  induction f generalizing n with
  | zero =>
    have : n = 0 := by omega
    subst this; rfl
  | succ f ih =>
    unfold natLEAux
    by_cases h0 : n = 0
    · subst h0; rfl
    · rw [if_neg h0]
      simp only [leVal]
      have hb : (UInt8.ofNat (n % 256)).toNat = n % 256 := by
        rw [UInt8.toNat_ofNat', Nat.mod_eq_of_lt (Nat.mod_lt _ (by decide))]
      rw [hb, ih (n / 256) (by omega)]
      exact Nat.mod_add_div n 256

theorem natBE_injective {n m : Nat} (h : natBE n = natBE m) : n = m := by
  have := congrArg leVal (List.reverse_inj.mp h)
  rwa [leVal_natLEAux n n (Nat.le_refl _), leVal_natLEAux m m (Nat.le_refl _)] at this

/-! ### `hex.Encode` -/

def hexNat (d : Nat) : Nat := if d < 10 then 48 + d else 87 + d

/-- lower-case hexadecimal text of a byte string (`encoding/hex.Encode`) -/
def hexLower : Bytes → Bytes
  | [] => []
  | x :: xs => UInt8.ofNat (hexNat (x.toNat / 16)) :: UInt8.ofNat (hexNat (x.toNat % 16)) :: hexLower xs

theorem hexNat_injective {d e : Nat} (h : hexNat d = hexNat e) : d = e := by
  unfold hexNat at h
  split at h <;> split at h <;> omega

theorem hexNat_lt {d : Nat} (h : d < 16) : hexNat d < 256 := by
  unfold hexNat
  split <;> omega

theorem hexNat_inj {d e : Nat} (hd : d < 16) (he : e < 16) (h : UInt8.ofNat (hexNat d) = UInt8.ofNat (hexNat e)) : d = e := by
  have := congrArg UInt8.toNat h
  rw [UInt8.toNat_ofNat', UInt8.toNat_ofNat', Nat.mod_eq_of_lt (hexNat_lt hd), Nat.mod_eq_of_lt (hexNat_lt he)] at this
  exact hexNat_injective this

theorem hexLower_injective : ∀ {a b : Bytes}, hexLower a = hexLower b → a = b
  | [], [], _ => rfl
  | [], _ :: _, h => by simp [hexLower] at h
  | _ :: _, [], h => by simp [hexLower] at h
  | x :: xs, y :: ys, h => by
    simp only [hexLower, List.cons.injEq] at h
    obtain ⟨h1, h2, h3⟩ := h
    have hdiv : ∀ z : UInt8, z.toNat / 16 < 16 := fun z => Nat.div_lt_of_lt_mul (z.toNat_lt : z.toNat < 16 * 16)
    have e1 := hexNat_inj (hdiv x) (hdiv y) h1
    have e2 := hexNat_inj (Nat.mod_lt _ (by decide)) (Nat.mod_lt _ (by decide)) h2
    have : x.toNat = y.toNat := by rw [← Nat.div_add_mod x.toNat 16, e1, e2, Nat.div_add_mod]
    rw [UInt8.toNat_inj.mp this, hexLower_injective h3]

theorem hexLower_length (a : Bytes) : (hexLower a).length = 2 * a.length := by
  induction a with
  | nil => rfl
  | cons x xs ih => simp only [hexLower, List.length_cons, ih]; omega

/-- `--tls_identifier_extractor_type` (`Generated.TlsIdentity.extractorByType`) -/
inductive IdMode where
  | distinguishedName
  | serialNumber
deriving DecidableEq, Repr

/-- `CertificateIdentifierExtractor.GetCertificateIdentifier`; `none` is a nil certificate -/
def certIdentifier : IdMode → Option Cert → Out Bytes
  | _, none => .err
  | .distinguishedName, some c =>
    let id := dnString c.subject
    if id.isEmpty then .err else .ok id
  | .serialNumber, some c => .ok (natBE c.serial)

/-- `HexIdentifierConverter.Convert` with hash function `h` -/
def convert (h : Bytes → Bytes) (identifier : Bytes) : Bytes := hexLower (h identifier)

/-- the long-lived extractor object: its two components (`Generated.TlsIdentity.extractorFields`); nothing else
can be remembered between two calls -/
structure Extractor where
  mode : IdMode
  hash : Bytes → Bytes

/-- `tlsClientIDExtractor.ExtractClientID` as a pure function of the certificate -/
def extractClientID (h : Bytes → Bytes) (m : IdMode) (c : Option Cert) : Out Bytes :=
  match certIdentifier m c with
  | .ok identifier => .ok (convert h identifier)
  | .err => .err
  | .panic => .panic

/-- one call on the extractor object: the object after the call and the result. The method has a pointer
receiver, so it could change the object; `extractReceiverUses` shows it only calls its two components, whose
types have no fields (`identifierExtractorShape`) or only the hash constructor (`converterFields`) and value
receivers – the object comes back as it was. -/
def Extractor.extract (e : Extractor) (c : Option Cert) : Extractor × Out Bytes :=
  (e, extractClientID e.hash e.mode c)

/-- a sequence of connections handled by one extractor: the results in order -/
def Extractor.run (e : Extractor) : List (Option Cert) → List (Out Bytes)
  | [] => []
  | c :: cs => let (e', r) := e.extract c; r :: e'.run cs

theorem Extractor.run_eq_map (e : Extractor) (cs : List (Option Cert)) :
    e.run cs = cs.map (extractClientID e.hash e.mode) := by
  induction cs with
  | nil => rfl
  | cons c cs ih => simp only [Extractor.run, Extractor.extract, List.map_cons, ih]

/-- no collision of `h` among the listed identifiers (an explicit, finite hypothesis) -/
def NoColl (h : Bytes → Bytes) (ids : List Bytes) : Prop :=
  ∀ x ∈ ids, ∀ y ∈ ids, h x = h y → x = y

theorem extractClientID_ok {h : Bytes → Bytes} {m : IdMode} {c : Option Cert} {id : Bytes}
    (hx : extractClientID h m c = .ok id) : ∃ ident, certIdentifier m c = .ok ident ∧ id = convert h ident := by
  unfold extractClientID at hx
  cases hc : certIdentifier m c <;> rw [hc] at hx <;> cases hx
  exact ⟨_, rfl, rfl⟩

theorem certIdentifier_ne_panic (m : IdMode) (c : Option Cert) : certIdentifier m c ≠ .panic := by
  unfold certIdentifier
  split
  · nofun
  · dsimp only
    split <;> nofun
  · nofun

theorem extractClientID_never_panics (h : Bytes → Bytes) (m : IdMode) (c : Option Cert) : extractClientID h m c ≠ .panic := by
  unfold extractClientID
  cases hc : certIdentifier m c with
  | ok i => nofun
  | err => nofun
  | panic => exact absurd hc (certIdentifier_ne_panic m c)

/-- the client id is 2·|h(identifier)| characters of `0-9a-f` – for SHA-512 the 128 characters that pass
`keystore.ValidateID` -/
theorem convert_length (h : Bytes → Bytes) (identifier : Bytes) : (convert h identifier).length = 2 * (h identifier).length :=
  hexLower_length _

/-- the executable instance: SHA-512 -/
def sha512Extractor (m : IdMode) : Extractor := ⟨m, Sha512.sha512⟩

end AcraModel.CrossClient
