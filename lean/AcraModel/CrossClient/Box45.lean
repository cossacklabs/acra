import AcraModel.CrossClient.Reveal
import AcraModel.Crypto.Box
/-
The hypotheses of the C02 theorems are jointly satisfiable. `MsgCommit` holds for the transparent-box instance
(with `Box.sealLaws`, `Box.sealCommit`, `Box.msgLaws`).

`box45`: the transparent box with key containers of 45 bytes and wrapped keys of 84 bytes, so that the
fixed-size AcraStruct layout can be exercised. Secure Cell is Box's; the wrap is "recipient's public
key ‖ 32-byte message ‖ 7 bytes of the nonce". It satisfies `SealLaws`, `SealCommit` and `MsgCommit`;
it exists only for the non-vacuity examples of C02 (an instance in which AcraStructs can actually be
created and revealed).
-/
namespace AcraModel.CrossClient
open AcraModel

theorem Box.unwrap_some {b q ct m : Bytes} (h : Box.unwrap b q ct = some m) :
    ∃ a p n, Box.unesc ct = some (a, Box.esc p ++ (Box.esc n ++ m)) ∧ Box.validPriv b = true ∧ p = Box.pubOf b := by
  unfold Box.unwrap at h
  cases h1 : Box.unesc ct with
  | none => simp [h1] at h
  | some p1 =>
    obtain ⟨a, r1⟩ := p1
    cases h2 : Box.unesc r1 with
    | none => simp [h1, h2] at h
    | some p2 =>
      obtain ⟨p, r2⟩ := p2
      cases h3 : Box.unesc r2 with
      | none => simp [h1, h2, h3] at h
      | some p3 =>
        obtain ⟨n, m'⟩ := p3
        simp only [h1, h2, h3] at h
        split at h
        · next hcnd =>
          cases h
          refine ⟨a, p, n, ?_, hcnd.2.1, hcnd.2.2.1⟩
          rw [Box.esc_of_unesc _ _ _ h2, Box.esc_of_unesc _ _ _ h3]
        · cases h

theorem boxMsgCommit : MsgCommit boxOps where
  unwrap_inj := by
    intro a b p ct m m' ha hb
    obtain ⟨a1, p1, n1, h1, hva, hp1⟩ := Box.unwrap_some (b := a) ha
    obtain ⟨a2, p2, n2, h2, hvb, hp2⟩ := Box.unwrap_some (b := b) hb
    rw [h1] at h2
    simp only [Option.some.injEq, Prod.mk.injEq] at h2
    obtain ⟨_, hrest⟩ := h2
    obtain ⟨hpp, _⟩ := Box.esc_inj _ _ _ _ hrest
    exact Box.pubOf_inj a b hva hvb (by rw [← hp1, ← hp2, hpp])

namespace B45
def validPriv (a : Bytes) : Bool := a.length == 45 && a.head? == some 0
def pubOf (a : Bytes) : Bytes := if a.head? = some 0 then 1 :: a.tail else []
def privOfSeed (d : Bytes) : Bytes := 0 :: (d.take 32 ++ List.replicate (44 - (d.take 32).length) 0)
def wrap (a p m n : Bytes) : Option Bytes :=
  if validPriv a = true ∧ p.length = 45 ∧ m.length = 32 ∧ n.length = nonceLen then some (p ++ m ++ n.take 7) else none
def unwrap (b _q ct : Bytes) : Option Bytes :=
  if validPriv b = true ∧ ct.length = 84 ∧ ct.take 45 = pubOf b then some ((ct.drop 45).take 32) else none
end B45

def box45 : CryptoOps :=
  { boxOps with
    wrap := B45.wrap, unwrap := B45.unwrap, pubOf := B45.pubOf, validPriv := B45.validPriv, privOfSeed := B45.privOfSeed }

theorem box45_sealLaws : SealLaws box45 where
  dec_enc := Box.sealLaws.dec_enc
  enc_of_dec := Box.sealLaws.enc_of_dec
  enc_none := Box.sealLaws.enc_none

theorem box45_sealCommit : SealCommit box45 where
  enc_inj := Box.sealCommit.enc_inj

theorem B45.pubOf_inj {a b : Bytes} (ha : B45.validPriv a = true) (hb : B45.validPriv b = true)
    (h : B45.pubOf a = B45.pubOf b) : a = b := by
  simp only [B45.validPriv, Bool.and_eq_true, beq_iff_eq] at ha hb
  cases a with
  | nil => simp at ha
  | cons x xs =>
    cases b with
    | nil => simp at hb
    | cons y ys =>
      have hx : x = 0 := by simpa using ha.2
      have hy : y = 0 := by simpa using hb.2
      subst hx hy
      simpa [B45.pubOf] using h

theorem box45_msgCommit : MsgCommit box45 where
  unwrap_inj := by
    intro a b p ct m m' ha hb
    simp only [box45, B45.unwrap] at ha hb
    split at ha
    · next hca =>
      split at hb
      · next hcb => exact B45.pubOf_inj hca.1 hcb.1 (hca.2.2.symm.trans hcb.2.2)
      · cases hb
    · cases ha

end AcraModel.CrossClient
