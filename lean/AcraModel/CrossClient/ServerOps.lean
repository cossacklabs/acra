import AcraModel.CrossClient.TlsServer
import AcraModel.CrossClient.Token
import AcraModel.CrossClient.Keys
/-
C02: the remaining entry points of AcraTranslator as functions of the connection identity – the
non-decrypt RPCs of the gRPC server (Tokenize / Detokenize, the four Encrypt RPCs, GenerateQueryHash) and the
HTTP API.

gRPC: `serverCall` (`TlsServer.lean`) already says what reaches the service for any RPC; here it is evaluated for
a connection with an identity: on a server built with `UseConnectionClientID`, for every registered RPC whose
wrapper method is declared and overriding (regenerated tables), the service runs with the connection's id in the
request, whatever the request named.

HTTP (`cmd/acra-translator/http_api/service.go`): every handler computes
    connection := network.GetConnectionFromHTTPContext(ctx.Request.Context())
    connectionClientID, ok := network.GetClientIDFromConnection(connection, extractor);  if !ok { connectionClientID = nil }
and hands `connectionClientID` to the translator service; a request body carries no client id the handler reads.
`Generated.TlsRpc.httpOps` lists every call of the translator service by a handler with the flag "the client id
argument comes only from the connection (or is nil)". A row without the flag is modelled as taking the id from
the request (an attacker-chosen value).
-/
namespace AcraModel.CrossClient
open AcraModel AcraModel.Envelope Generated

/-- the RPC is served: a registration serves it and the wrapper table has its row -/
def Served (rpc : String) : Prop := (regOf rpc).isSome = true ∧ (rpcTable.find? (·.name == rpc)).isSome = true

instance (rpc : String) : Decidable (Served rpc) := by unfold Served; infer_instance

theorem serverCall_conn {R : Type}
    (hreg : ∀ r ∈ registrations, r.holds = "tls")
    (hdecl : ∀ r ∈ rpcTable, r.defined = true) (hov : ∀ r ∈ rpcTable, r.overrides = true)
    {rpc : String} (hs : Served rpc) (svc : Request → R) (e : R) (id x p : Bytes) :
    serverCall true rpc svc e (some id) ⟨x, p⟩ = svc ⟨id, p⟩ := by
  obtain ⟨reg, hr⟩ := Option.isSome_iff_exists.mp hs.1
  obtain ⟨row, hw⟩ := Option.isSome_iff_exists.mp hs.2
  have hm := List.mem_of_find?_eq_some hw
  rw [serverCall_eq_wrapper hreg hr hw, wrapperMethod_conn (hdecl row hm) (hov row hm)]

theorem serverCall_noconn {R : Type}
    (hreg : ∀ r ∈ registrations, r.holds = "tls")
    (hdecl : ∀ r ∈ rpcTable, r.defined = true) (hov : ∀ r ∈ rpcTable, r.overrides = true)
    (rpc : String) (svc : Request → R) (e : R) (req : Request) :
    serverCall true rpc svc e none req = e := by
  rcases serverCall_cases hreg rpc with h | ⟨row, hm, h⟩
  · exact h svc e none req
  · rw [h, wrapperMethod_noconn (hdecl row hm) (hov row hm)]

/-! ### the services behind the non-decrypt RPCs (`cmd/acra-translator/grpc_api/service.go` → `common/service.go`) -/

/-- `Tokenize` (consistent tokenization of a bytes value under the request's client id) against a token storage -/
def svcTokenize (c : CryptoOps) (st : TokStore) (ty : Nat) (cands : List Bytes) (r : Request) : Out (TokStore × Bytes) :=
  tokenize c st r.clientId r.payload ty cands

/-- `Detokenize` -/
def svcDetokenize (c : CryptoOps) (st : TokStore) (ty : Nat) (r : Request) : Out Bytes :=
  detokenize c st r.clientId r.payload ty

/-- `Encrypt` / `EncryptSym` (kind `.struct` / `.block`): protect under the keys of the request's client id -/
def svcEncrypt (c : CryptoOps) (ks : Store) (k : Kind) (rnd : Bytes) (r : Request) : Out Bytes :=
  protect c (ks r.clientId) k r.payload rnd

/-- `GenerateQueryHash`: the blind index under the HMAC key of the request's client id -/
def svcQueryHash (c : CryptoOps) (hs : HmacStore) (r : Request) : Out Bytes :=
  match hs r.clientId with
  | some key => .ok (generateHash c key r.payload)
  | none => .err

/-- one tokenization request arriving at the server: the identity of its connection, the id it names, the value -/
structure SrvTokOp where
  conn : Bytes
  forged : Bytes
  v : Bytes
  ty : Nat
  cands : List Bytes

/-- a history of Tokenize requests served by `rpc` -/
def runSrvTok (c : CryptoOps) (rpc : String) : TokStore → List SrvTokOp → TokStore
  | st, [] => st
  | st, op :: ops =>
    match serverCall true rpc (svcTokenize c st op.ty op.cands) .err (some op.conn) ⟨op.forged, op.v⟩ with
    | .ok (st', _) => runSrvTok c rpc st' ops
    | _ => runSrvTok c rpc st ops

/-- what the storage sees: the same history with the CONNECTION as the identity of every request -/
def asTokOps (ops : List SrvTokOp) : List TokOp := ops.map fun o => ⟨o.conn, o.v, o.ty, o.cands⟩

theorem runSrvTok_eq
    (hreg : ∀ r ∈ registrations, r.holds = "tls")
    (hdecl : ∀ r ∈ rpcTable, r.defined = true) (hov : ∀ r ∈ rpcTable, r.overrides = true)
    {c : CryptoOps} {rpc : String} (hs : Served rpc) :
    ∀ (ops : List SrvTokOp) (st : TokStore), runSrvTok c rpc st ops = runTok c st (asTokOps ops)
  | [], st => rfl
  | op :: ops, st => by
    unfold runSrvTok
    rw [serverCall_conn hreg hdecl hov hs]
    simp only [asTokOps, List.map_cons, runTok, svcTokenize]
    cases tokenize c st op.conn op.v op.ty op.cands with
    | ok r => exact runSrvTok_eq hreg hdecl hov hs ops r.1
    | err => exact runSrvTok_eq hreg hdecl hov hs ops st
    | panic => exact runSrvTok_eq hreg hdecl hov hs ops st

/-- one row of `Generated.TlsRpc.httpOps` -/
structure HttpRow where
  handler : String
  op : String
  fromConn : Bool

def httpTable : List HttpRow := TlsRpc.httpOps.map fun t => ⟨t.1, t.2.1, t.2.2⟩

/-- an HTTP handler as the table describes it: `bodyId` is whatever client id an attacker smuggles into the request -/
def httpHandler {R : Type} (row : HttpRow) (svc : Request → R) (conn : ConnId) (bodyId body : Bytes) : R :=
  if row.fromConn then svc ⟨conn.getD [], body⟩ else svc ⟨bodyId, body⟩

theorem httpHandler_conn {R : Type} (h : ∀ r ∈ TlsRpc.httpOps, r.2.2 = true) {row : HttpRow} (hrow : row ∈ httpTable)
    (svc : Request → R) (conn : ConnId) (bodyId body : Bytes) :
    httpHandler row svc conn bodyId body = svc ⟨conn.getD [], body⟩ := by
  obtain ⟨t, ht, rfl⟩ := List.mem_map.mp hrow
  unfold httpHandler
  rw [if_pos (h t ht)]

end AcraModel.CrossClient
