import AcraModel.CrossClient.Reveal
import AcraModel.Generated.IdentityCtx
/-
C02: the blind index (searchable encryption) under another identity.

`hmac/hash.go`: a search hash is one byte naming the hash function (`_sha256 = 255/2 = 127`) followed by
HMAC-SHA256(key of the client, plaintext). `HashData.IsEqual(data, keyID, store)` loads the HMAC key of
`keyID` and compares. The searchable translator operations (`cmd/acra-translator/common/service.go`
`DecryptSearchable`, `DecryptSymSearchable`) split `hash ‖ container`, decrypt the container under the
caller's identity and then verify the hash under the caller's identity.
-/
namespace AcraModel.CrossClient
open AcraModel AcraModel.Envelope

/-- `funcNumber` of SHA-256 in `hmac/hash.go` (`255/2 + iota`), regenerated from the source -/
def hashFuncByte : UInt8 := UInt8.ofNat Generated.IdentityCtx.hashFuncSha256
/-- `sha256.Size` -/
def hashSize : Nat := 32

/-- `hmac.GenerateHMAC` -/
def generateHash (c : CryptoOps) (key data : Bytes) : Bytes := hashFuncByte :: c.hmac key data

/-- `hmac.ExtractHashAndData`: (hash part incl. the function byte, rest) -/
def extractHashAndData (container : Bytes) : Option (Bytes × Bytes) :=
  match container with
  | [] => none
  | f :: rest =>
    if f ≠ hashFuncByte then none
    else if rest.length < hashSize then none
    else some (container.take (hashSize + 1), container.drop (hashSize + 1))

/-- `HashData.IsEqual(data, keyID, store)`; `hkey` is what `GetHMACSecretKey(keyID)` gave (`none` = error) -/
def hashIsEqual (c : CryptoOps) (hashPart data : Bytes) (hkey : Option Bytes) : Bool :=
  match hkey with
  | none => false
  | some k => hashPart.drop 1 == c.hmac k data

/-- the HMAC key store: client id ↦ current HMAC key -/
abbrev HmacStore := Bytes → Option Bytes

/-- the blind-index check run under identity `id` -/
def hashVerifyAs (c : CryptoOps) (hs : HmacStore) (id hashPart data : Bytes) : Bool :=
  hashIsEqual c hashPart data (hs id)

/-- outcome of a searchable decrypt: error with nothing, error handing the input back, or the value -/
inductive SearchOut where
  | ok (m : Bytes)
  | errBack (data : Bytes)   -- `return data, ErrDecryptionFailed`: the caller's input comes back with the error
  | err
  | panic
deriving DecidableEq, Repr

/-- `dataToDecrypt := data; if hash != nil { dataToDecrypt = append(hash, data...) }` -/
def prependHash (hash : Option Bytes) (data : Bytes) : Bytes :=
  match hash with
  | none => data
  | some h => h ++ data

/-- `TranslatorService.DecryptSearchable` / `DecryptSymSearchable` for the identity whose key view is
`kv` and whose HMAC key is `hkey`. `hash = none` models a nil `hash` argument (hash already prepended).
The poison check that runs on failures is modelled in C15 and does not change the result here when it
finds nothing; a poison alarm turns `errBack` into `err`. -/
def decryptSearchable (c : CryptoOps) (kv : KeyView) (hkey : Option Bytes) (k : Kind) (data : Bytes) (hash : Option Bytes) : SearchOut :=
  match extractHashAndData (prependHash hash data) with
  | none => .err
  | some (hashPart, container) =>
    match decryptWithHandler c kv k container with
    | .panic => .panic
    | .err => .errBack data
    | .ok m => if hashIsEqual c hashPart m hkey then .ok m else .err

theorem hashIsEqual_generate {c : CryptoOps} (key data d' k' : Bytes) :
    hashIsEqual c (generateHash c key data) d' (some k') = true ↔ c.hmac k' d' = c.hmac key data := by
  simp only [hashIsEqual, generateHash, List.drop_succ_cons, List.drop_zero, beq_iff_eq]
  exact eq_comm

theorem extract_generate {c : CryptoOps} (hl : HashLen c) (key data rest : Bytes) :
    extractHashAndData (generateHash c key data ++ rest) = some (generateHash c key data, rest) := by
  have h32 := hl.hmac_len key data
  simp only [generateHash, List.cons_append, extractHashAndData]
  rw [if_neg (by simp), if_neg (by simp [hashSize, h32])]
  simp [hashSize, List.take_left' h32, List.drop_left' h32]

theorem decryptSearchable_cross {c : CryptoOps} (hl : SealLaws c) (hc : SealCommit c) {a b : KeyView}
    (hsep : KeysSeparate c a b) {ha hb : Option Bytes} {k : Kind} {data m : Bytes} {hash : Option Bytes}
    (hown : decryptSearchable c a ha k data hash = .ok m) :
    decryptSearchable c b hb k data hash = .errBack data := by
  unfold decryptSearchable at hown ⊢
  cases he : extractHashAndData (prependHash hash data) <;> rw [he] at hown <;> try cases hown
  dsimp only at hown ⊢
  cases hd : decryptWithHandler c a k _ <;> rw [hd] at hown <;> try cases hown
  rw [decryptWithHandler_cross hl hc hsep hd]

end AcraModel.CrossClient
