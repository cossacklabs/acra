import AcraModel.CrossClient.Reveal
/-
C02: different clients get different keys, for arbitrary key histories.

Both key store formats generate every key from fresh `crypto/rand` output (`keys.New(TypeEC)`,
`keystore.GenerateSymmetricKey`) and file it under a name derived from the client id; nothing is ever
copied from one identity to another. A history of generations / rotations is therefore a list of
`(client id, key)` entries, newest first; the key view of a client is the sub-list with its id.
The assumption about the random generator – it does not produce the same key twice – is the
hypothesis `Fresh`.
-/
namespace AcraModel.CrossClient
open AcraModel AcraModel.Envelope

/-- one generated key: who it was generated for and the key -/
structure KeyEntry where
  owner : Bytes
  key : Bytes
deriving DecidableEq, Repr

/-- the generation history of one key class, newest first -/
abbrev History := List KeyEntry

/-- keys of `id`, newest first (what `GetClientIDSymmetricKeys` / `GetServerDecryptionPrivateKeys` return) -/
def keysOf (h : History) (id : Bytes) : List Bytes := (h.filter (·.owner == id)).map (·.key)

/-- the random generator never repeated itself -/
def Fresh (h : History) : Prop := (h.map (·.key)).Nodup

theorem mem_keysOf {h : History} {id k : Bytes} : k ∈ keysOf h id ↔ ⟨id, k⟩ ∈ h := by
  simp only [keysOf, List.mem_map, List.mem_filter, beq_iff_eq]
  constructor
  · rintro ⟨⟨_, _⟩, ⟨he, rfl⟩, rfl⟩
    exact he
  · exact fun he => ⟨_, ⟨he, rfl⟩, rfl⟩

theorem owner_unique : ∀ {h : History}, Fresh h → ∀ {a b k : Bytes}, ⟨a, k⟩ ∈ h → ⟨b, k⟩ ∈ h → a = b
  | [], _, _, _, _, ha, _ => nomatch ha
  | e :: es, hf, a, b, k, ha, hb => by
    rw [Fresh, List.map_cons, List.nodup_cons] at hf
    -- the key of the head entry does not occur further down
    have hnot : ∀ {x : Bytes}, e = ⟨x, k⟩ → ∀ {y : Bytes}, ⟨y, k⟩ ∉ es := fun he _ hy =>
      hf.1 (List.mem_map.mpr ⟨_, hy, by rw [he]⟩)
    rcases List.mem_cons.mp ha with ha | ha <;> rcases List.mem_cons.mp hb with hb | hb
    · exact congrArg KeyEntry.owner (ha.trans hb.symm)
    · exact absurd hb (hnot ha.symm)
    · exact absurd ha (hnot hb.symm)
    · exact owner_unique (h := es) hf.2 ha hb

theorem keysOf_disjoint {h : History} (hf : Fresh h) {a b : Bytes} (hab : a ≠ b) :
    Disjoint (keysOf h a) (keysOf h b) := by
  intro k hka hkb
  exact hab (owner_unique hf (mem_keysOf.mp hka) (mem_keysOf.mp hkb))

/-- the key store both histories induce -/
def storeOf (c : CryptoOps) (pairs syms : History) : Store := fun id =>
  { pub := ((keysOf pairs id).head?).map c.pubOf
    privs := some (keysOf pairs id)
    sym := (keysOf syms id).head?
    syms := some (keysOf syms id) }

theorem storeOf_separate {c : CryptoOps} (hm : MsgCommit c) {pairs syms : History}
    (hp : Fresh pairs) (hs : Fresh syms) {a b : Bytes} (hab : a ≠ b) :
    KeysSeparate c (storeOf c pairs syms a) (storeOf c pairs syms b) :=
  keysSeparate_of_disjoint hm (by simpa [storeOf, optList] using keysOf_disjoint hs hab)
    (by simpa [storeOf, optList] using keysOf_disjoint hp hab)

end AcraModel.CrossClient
