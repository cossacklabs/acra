import AcraModel.Crypto.Ops
import AcraModel.Generated.IdentityCtx
/-
C02: how stored keys are bound to their owner.

v1 (`keystore/keystore.go`, `keystore/filesystem/server_keystore.go`): every secret key file is the key
sealed under the master key with the bytes of its `KeyContext` as associated context.
`GetKeyContextFromContext` returns the client id if there is one, else the free-form context, else
nothing – the *purpose* never reaches the cipher. File names are `<id>_storage`, `<id>_storage_sym`,
`<id>_hmac`.

v2 (`keystore/v2/keystore/filesystem/{keyRing,key,keyStore}.go`): a key inside a key ring is sealed
under the master key with context `"AKSv2 keystore: key ring <path>: private key <seqnum>"` (or
`symmetric key <seqnum>`); the ring file as a whole carries an HMAC over
`"AKSv2 keystore: key ring signature: <path>" ‖ ": " ‖ payload`. Ring paths are
`client/<id>/storage`, `client/<id>/storage-sym`, `client/<id>/hmac-sym`.

All literal byte strings come from `Generated.IdentityCtx` (regenerated from the Go source).
-/
namespace AcraModel.CrossClient
open AcraModel Generated

def bytesOfNats (l : List Nat) : Bytes := l.map UInt8.ofNat

/-- `keystore.KeyContext` (nil slices are `none`) -/
structure KeyContext where
  clientID : Option Bytes
  context : Option Bytes
  purpose : String
deriving DecidableEq, Repr

/-- `keystore.NewClientIDKeyContext` -/
def newClientIDKeyContext (purpose : String) (id : Bytes) : KeyContext := ⟨some id, none, purpose⟩
/-- `keystore.NewKeyContext` -/
def newKeyContext (purpose : String) (ctx : Bytes) : KeyContext := ⟨none, some ctx, purpose⟩
/-- `keystore.NewEmptyKeyContext` -/
def newEmptyKeyContext (ctx : Bytes) : KeyContext := ⟨none, some ctx, ""⟩

/-- `keystore.GetKeyContextFromContext`; a nil result is the empty context for Secure Cell -/
def keyContextBytes (kc : KeyContext) : Bytes :=
  match kc.clientID with
  | some id => id
  | none =>
    match kc.context with
    | some x => x
    | none => []

/-- `SCellKeyEncryptor.Encrypt` -/
def keyEncrypt (c : CryptoOps) (master : Bytes) (kc : KeyContext) (key nonce : Bytes) : Option Bytes :=
  c.enc master (keyContextBytes kc) key nonce
/-- `SCellKeyEncryptor.Decrypt` -/
def keyDecrypt (c : CryptoOps) (master : Bytes) (kc : KeyContext) (blob : Bytes) : Option Bytes :=
  c.dec master (keyContextBytes kc) blob

/-- the per-client secret keys of the v1 store -/
inductive V1Purpose | storagePrivate | storageSym | searchHmac
deriving DecidableEq, Repr

def V1Purpose.name : V1Purpose → String
  | .storagePrivate => "private_storage"
  | .storageSym => "storage_sym_key"
  | .searchHmac => "search_hmac"

/-- file name of a per-client secret key (`GetServerDecryptionKeyFilename`, `getClientIDSymmetricKeyName`,
`getHmacKeyFilename`) -/
def v1FileName (p : V1Purpose) (id : Bytes) : Bytes :=
  match p with
  | .storagePrivate => id ++ bytesOfNats IdentityCtx.v1StorageSuffix
  | .storageSym => id ++ bytesOfNats IdentityCtx.v1StorageSuffix ++ bytesOfNats IdentityCtx.v1SymSuffix
  | .searchHmac => id ++ bytesOfNats IdentityCtx.v1HmacSuffix

/-- the key context every accessor of a per-client key builds (`NewClientIDKeyContext(purpose, id)`) -/
def v1Context (p : V1Purpose) (id : Bytes) : KeyContext := newClientIDKeyContext p.name id

/-- a directory of key files -/
abbrev Files := List (Bytes × Bytes)

def Files.get (fs : Files) (name : Bytes) : Option Bytes := (fs.find? (·.1 == name)).map (·.2)
/-- write / overwrite a file -/
def Files.put (fs : Files) (name data : Bytes) : Files := (name, data) :: fs.filter (·.1 != name)
/-- copy a file to another name (what an attacker with write access to the key directory, or a buggy
backup/restore, would do); a missing source leaves the directory unchanged -/
def Files.copy (fs : Files) (src dst : Bytes) : Files :=
  match fs.get src with
  | some d => fs.put dst d
  | none => fs

/-- store a freshly generated key for `(p, id)` (`generateAndSaveSymmetricKey`, `GenerateHmacKey`, `SaveKeyPairWithFilename`) -/
def v1Save (c : CryptoOps) (master : Bytes) (fs : Files) (p : V1Purpose) (id key nonce : Bytes) : Option Files :=
  (keyEncrypt c master (v1Context p id) key nonce).map (fs.put (v1FileName p id))

/-- load the current key of `(p, id)` (`loadKeyAndCache`) -/
def v1Load (c : CryptoOps) (master : Bytes) (fs : Files) (p : V1Purpose) (id : Bytes) : Option Bytes :=
  match fs.get (v1FileName p id) with
  | none => none
  | some blob => keyDecrypt c master (v1Context p id) blob

/-- decimal rendering of a sequence number (`%d`), structurally recursive on a fuel bound so that the
kernel can evaluate it -/
def decimalFuel : Nat → Nat → Bytes
  | 0, _ => []
  | f + 1, n => if n < 10 then [UInt8.ofNat (48 + n)] else decimalFuel f (n / 10) ++ [UInt8.ofNat (48 + n % 10)]

def decimal (n : Nat) : Bytes := decimalFuel (n + 1) n

inductive V2Kind | privateKey | symmetricKey
deriving DecidableEq, Repr

/-- `KeyRing.privateKeyContext` / `symmetricKeyContext` -/
def v2KindContext (k : V2Kind) (seqnum : Nat) : Bytes :=
  match k with
  | .privateKey => bytesOfNats IdentityCtx.v2PrivateKeyFormat ++ decimal seqnum
  | .symmetricKey => bytesOfNats IdentityCtx.v2SymmetricKeyFormat ++ decimal seqnum

/-- `KeyRing.keyRingContext` -/
def v2KeyRingContext (path ctx : Bytes) : Bytes :=
  bytesOfNats IdentityCtx.v2KeyRingContextLit0 ++ path ++ bytesOfNats IdentityCtx.v2KeyRingContextLit1 ++ ctx

/-- `KeyStore.keyStoreContext` -/
def v2KeyStoreContext (ctx : Bytes) : Bytes := bytesOfNats IdentityCtx.v2KeyStoreContextLit0 ++ ctx

/-- the associated context a key of a ring is sealed with (`KeyRing.encrypt` → `KeyStore.encrypt`) -/
def v2KeyContext (path : Bytes) (k : V2Kind) (seqnum : Nat) : KeyContext :=
  newEmptyKeyContext (v2KeyStoreContext (v2KeyRingContext path (v2KindContext k seqnum)))

/-- `KeyStore.keyRingSignatureContext` -/
def v2SignatureContext (path : Bytes) : Bytes :=
  v2KeyStoreContext (bytesOfNats IdentityCtx.v2RingSignatureContextLit0 ++ path)

/-- `SignSha256.Sign(data, context)` -/
def v2Sign (c : CryptoOps) (sigKey path payload : Bytes) : Bytes :=
  c.hmac sigKey (v2SignatureContext path ++ bytesOfNats IdentityCtx.v2SignatureSeparator ++ payload)

/-- the per-client key rings -/
inductive V2Ring | storage | storageSym | hmacSym
deriving DecidableEq, Repr

def slash : UInt8 := 47

/-- `clientStorageKeyPairPath` / `clientStorageSymmetricKeyPath` / `clientHMACKeyPath` for ids on which
`filepath.Join` has nothing to clean (no `/`, not `.`/`..`, non-empty) -/
def v2RingPath (r : V2Ring) (id : Bytes) : Bytes :=
  bytesOfNats IdentityCtx.v2ClientPrefix ++ [slash] ++ id ++ [slash] ++
    bytesOfNats (match r with
      | .storage => IdentityCtx.v2StorageSuffix
      | .storageSym => IdentityCtx.v2StorageSymSuffix
      | .hmacSym => IdentityCtx.v2HmacSuffix)

/-- seal / unseal a key of a ring -/
def v2KeyEncrypt (c : CryptoOps) (master path : Bytes) (k : V2Kind) (seqnum : Nat) (key nonce : Bytes) : Option Bytes :=
  keyEncrypt c master (v2KeyContext path k seqnum) key nonce
def v2KeyDecrypt (c : CryptoOps) (master path : Bytes) (k : V2Kind) (seqnum : Nat) (blob : Bytes) : Option Bytes :=
  keyDecrypt c master (v2KeyContext path k seqnum) blob

theorem keyDecrypt_other {c : CryptoOps} (hl : SealLaws c) (hc : SealCommit c) {master key nonce blob : Bytes}
    {kc kc' : KeyContext} (h : keyEncrypt c master kc key nonce = some blob)
    (hne : keyContextBytes kc ≠ keyContextBytes kc') : keyDecrypt c master kc' blob = none := by
  unfold keyEncrypt at h
  unfold keyDecrypt
  cases hd : c.dec master (keyContextBytes kc') blob with
  | none => rfl
  | some k' =>
    obtain ⟨n', _, hn'⟩ := hl.enc_of_dec _ _ _ _ hd
    exact absurd (hc.enc_inj _ _ _ _ _ _ _ _ _ h hn').2.1 hne

theorem Files.get_put_same (fs : Files) (name data : Bytes) : (fs.put name data).get name = some data := by
  simp [Files.get, Files.put]

theorem Files.get_copy_dst (fs : Files) (src dst d : Bytes) (h : fs.get src = some d) :
    (fs.copy src dst).get dst = some d := by
  simp [Files.copy, h, Files.get_put_same]

def undecimal (b : Bytes) : Nat := b.foldl (fun acc d => 10 * acc + (d.toNat - 48)) 0

theorem undecimal_decimalFuel : ∀ (f n : Nat), n < f → undecimal (decimalFuel f n) = n
  | 0, n, h => by omega
  | f + 1, n, h => by
    unfold decimalFuel
    split
    · next h10 =>
      simp only [undecimal, List.foldl_cons, List.foldl_nil, digit_toNat h10, Nat.add_sub_cancel_left]
      omega
    · have ih := undecimal_decimalFuel f (n / 10) (by omega)
      simp only [undecimal, List.foldl_append, List.foldl_cons, List.foldl_nil] at ih ⊢
      rw [ih, digit_toNat (Nat.mod_lt n (by decide)), Nat.add_sub_cancel_left]
      omega

theorem undecimal_decimal (n : Nat) : undecimal (decimal n) = n :=
  undecimal_decimalFuel (n + 1) n (by omega)

theorem decimal_inj {n m : Nat} (h : decimal n = decimal m) : n = m := by
  have := congrArg undecimal h
  simpa [undecimal_decimal] using this

theorem split_at_sep (c : UInt8) : ∀ (p p' r r' : Bytes), c ∉ p → c ∉ p' →
    p ++ c :: r = p' ++ c :: r' → p = p' ∧ r = r'
  | [], [], r, r', _, _, h => by simpa using h
  | [], y :: ys, r, r', _, h2, h => by
    simp only [List.nil_append, List.cons_append, List.cons.injEq] at h
    exact absurd (h.1 ▸ List.mem_cons_self) h2
  | x :: xs, [], r, r', h1, _, h => by
    simp only [List.nil_append, List.cons_append, List.cons.injEq] at h
    exact absurd (h.1 ▸ List.mem_cons_self) h1
  | x :: xs, y :: ys, r, r', h1, h2, h => by
    simp only [List.cons_append, List.cons.injEq] at h
    obtain ⟨hxy, ht⟩ := h
    have := split_at_sep c xs ys r r' (fun hm => h1 (List.mem_cons_of_mem _ hm)) (fun hm => h2 (List.mem_cons_of_mem _ hm)) ht
    exact ⟨by rw [hxy, this.1], this.2⟩

/-- the two key kinds start with different bytes (`p`, `s`); the sequence number follows in decimal -/
theorem v2KindContext_inj {k k' : V2Kind} {n n' : Nat} (h : v2KindContext k n = v2KindContext k' n') : k = k' ∧ n = n' := by
  cases k <;> cases k'
  case privateKey.privateKey | symmetricKey.symmetricKey => exact ⟨rfl, decimal_inj (List.append_cancel_left h)⟩
  all_goals
    exact absurd (congrArg List.head? h)
      (by simp [v2KindContext, bytesOfNats, IdentityCtx.v2PrivateKeyFormat, IdentityCtx.v2SymmetricKeyFormat])

/-- what `v1FileName` appends to the client id -/
def v1Suffix : V1Purpose → Bytes
  | .storagePrivate => bytesOfNats IdentityCtx.v1StorageSuffix
  | .storageSym => bytesOfNats IdentityCtx.v1StorageSuffix ++ bytesOfNats IdentityCtx.v1SymSuffix
  | .searchHmac => bytesOfNats IdentityCtx.v1HmacSuffix

theorem v1FileName_eq (p : V1Purpose) (id : Bytes) : v1FileName p id = id ++ v1Suffix p := by
  cases p <;> simp only [v1FileName, v1Suffix, List.append_assoc]

/-- the three suffixes end in different bytes (`e`, `m`, `c`) -/
theorem v1Suffix_getLast?_inj {p p' : V1Purpose} (h : (v1Suffix p).getLast? = (v1Suffix p').getLast?) : p = p' := by
  revert h
  cases p <;> cases p' <;> decide

theorem v1FileName_getLast? (p : V1Purpose) (id : Bytes) : (v1FileName p id).getLast? = (v1Suffix p).getLast? := by
  rw [v1FileName_eq, List.getLast?_append]
  cases p <;> rfl

end AcraModel.CrossClient
