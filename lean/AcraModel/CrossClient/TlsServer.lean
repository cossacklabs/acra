import AcraModel.CrossClient.Tls
import AcraModel.CrossClient.TlsIdentity
/-
C02: what AcraTranslator's gRPC server registers.

`cmd/acra-translator/grpc_api/factory.go` `NewServer`: builds the plain gRPC service
(`NewTranslatorService`), replaces it by `NewTLSDecryptServiceWrapper(plain, data.TLSClientIDExtractor)` when
`data.UseConnectionClientID` is set, and hands the result to the six `Register<Service>Server` calls. A
request for an RPC reaches the implementation that was registered for the service the RPC belongs to
(`api_grpc.pb.go`). `Generated.TlsIdentity.serverRegistrations` lists, for every registration, which variable
it passes and what that variable holds at that point (`"tls"`: the wrapper when the flag is set; `"plain"`:
the bare service in both cases; anything else: unknown); `serviceRpcs` lists the RPCs of every service.
The model interprets the two tables: an RPC of a service registered with anything but `"tls"` is served by
the bare service, i.e. with the client id named in the request.
-/
namespace AcraModel.CrossClient
open AcraModel Generated

/-- one `Register<Service>Server(grpcServer, x)` call of `NewServer` -/
structure Registration where
  service : String
  arg : String
  holds : String

def registrations : List Registration := TlsIdentity.serverRegistrations.map fun t => ⟨t.1, t.2.1, t.2.2⟩

def rpcsOf (service : String) : List String :=
  match TlsIdentity.serviceRpcs.find? (·.1 == service) with
  | some s => s.2
  | none => []

/-- the registration that serves an RPC (gRPC dispatches on `/<package>.<Service>/<Method>`) -/
def regOf (rpc : String) : Option Registration := registrations.find? fun r => (rpcsOf r.service).contains rpc

/-- an RPC as served by what was registered: the TLS wrapper's method when the registration holds the
wrapper and the server was built with `UseConnectionClientID`, the bare service otherwise -/
def serverMethod {R : Type} (useConn : Bool) (reg : Registration) (row : RpcRow) (svc : Request → R) (onErr : R)
    (conn : ConnId) (req : Request) : R :=
  if reg.holds = "tls" ∧ useConn = true then wrapperMethod row svc onErr conn req else svc req

/-- a request for `rpc` arriving at the server `NewServer` returns; an RPC no registration serves is answered
with an error (gRPC `Unimplemented`) -/
def serverCall {R : Type} (useConn : Bool) (rpc : String) (svc : Request → R) (onErr : R) (conn : ConnId) (req : Request) : R :=
  match regOf rpc, rpcTable.find? (·.name == rpc) with
  | some reg, some row => serverMethod useConn reg row svc onErr conn req
  | _, _ => onErr

/-- with every registration wrapped, the server is the wrapper: whatever reaches the service carries the
connection's id -/
theorem serverCall_eq_wrapper {R : Type} (hreg : ∀ r ∈ registrations, r.holds = "tls")
    {rpc : String} {reg : Registration} {row : RpcRow} (hr : regOf rpc = some reg) (hw : rpcTable.find? (·.name == rpc) = some row)
    (svc : Request → R) (e : R) (conn : ConnId) (req : Request) :
    serverCall true rpc svc e conn req = wrapperMethod row svc e conn req := by
  unfold serverCall
  rw [hr, hw]
  simp only []
  unfold serverMethod
  rw [if_pos ⟨hreg reg (List.mem_of_find?_eq_some hr), rfl⟩]

theorem serverCall_cases (hreg : ∀ r ∈ registrations, r.holds = "tls") (rpc : String) :
    (∀ {R : Type} (svc : Request → R) (e : R) (conn : ConnId) (req : Request), serverCall true rpc svc e conn req = e) ∨
    ∃ row ∈ rpcTable, ∀ {R : Type} (svc : Request → R) (e : R) (conn : ConnId) (req : Request),
      serverCall true rpc svc e conn req = wrapperMethod row svc e conn req := by
  cases hr : regOf rpc with
  | none => exact Or.inl fun svc e conn req => by unfold serverCall; rw [hr]
  | some reg =>
    cases hw : rpcTable.find? (·.name == rpc) with
    | none => exact Or.inl fun svc e conn req => by unfold serverCall; rw [hr, hw]
    | some row => exact Or.inr ⟨row, List.mem_of_find?_eq_some hw, fun svc e conn req => serverCall_eq_wrapper hreg hr hw svc e conn req⟩

theorem serverCall_overriding {R : Type}
    (hreg : ∀ r ∈ registrations, r.holds = "tls")
    (hrow : ∀ r ∈ rpcTable, r.defined = false ∨ r.overrides = true)
    (rpc : String) (svc : Request → R) (e : R) (conn : ConnId) (p x y : Bytes) :
    serverCall true rpc svc e conn ⟨x, p⟩ = serverCall true rpc svc e conn ⟨y, p⟩ := by
  rcases serverCall_cases hreg rpc with h | ⟨row, hm, h⟩
  · rw [h, h]
  · rw [h, h]
    exact wrapperMethod_overriding row (hrow row hm) svc e conn p x y

end AcraModel.CrossClient
