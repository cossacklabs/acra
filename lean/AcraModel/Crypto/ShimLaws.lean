import AcraModel.Crypto.Shim
/-
Proofs that the `Shim` instance of `CryptoOps` (the algorithm of the pure-Go Themis stand-in)
satisfies `SealLaws`, `SealLen`, `MsgLaws`, `MsgLen` and `KeygenLaws` for an ARBITRARY hash function
`H : Bytes → Bytes`. Nothing is assumed about `H`: authenticity (`enc_of_dec`, `wrap_of_unwrap`)
holds because `dec`/`unwrap` recompute the tag from the decrypted message, so any accepted byte
string is literally `enc key ctx msg iv` for the 12-byte `iv` it carries. Both envelopes are instances
of one layout (`frame` / `unframe`: header, nonce, tag, key stream), about which this is proved once.
-/
namespace AcraModel.Shim
variable (H : Bytes → Bytes)

theorem xor_cancel (a b : UInt8) : (a ^^^ b) ^^^ b = a := by
  rw [UInt8.xor_assoc, UInt8.xor_self, UInt8.xor_zero]

theorem zipXor_invol : ∀ (m s : Bytes), s.length = m.length →
    List.zipWith (· ^^^ ·) (List.zipWith (· ^^^ ·) m s) s = m
  | [], _, _ => by simp
  | a :: m, [], h => by simp at h
  | a :: m, b :: s, h => by
    simp only [List.length_cons, Nat.add_right_cancel_iff] at h
    simp [xor_cancel, zipXor_invol m s h]

@[simp] theorem xorWith_length (blk m : Bytes) : (xorWith blk m).length = m.length := by
  simp [xorWith]

theorem xorWith_invol (blk m : Bytes) : xorWith blk (xorWith blk m) = m := by
  unfold xorWith
  simp only [List.length_zipWith, fixLen_length, Nat.min_self]
  exact zipXor_invol m _ (by simp)

theorem xorStream_nil (k iv : Bytes) (c : Nat) : xorStream H k iv c [] = [] := by
  rw [xorStream]; simp

theorem xorStream_length (k iv : Bytes) (c : Nat) (m : Bytes) : (xorStream H k iv c m).length = m.length := by
  suffices ∀ n c m, m.length = n → (xorStream H k iv c m).length = m.length from this _ c m rfl
  intro n
  induction n using Nat.strongRecOn with
  | _ n ih =>
    intro c m hn
    rw [xorStream]
    split
    · next h => simp [h]
    · next h =>
      have hpos : 0 < m.length := List.length_pos_iff.mpr h
      rw [List.length_append, xorWith_length, ih (m.drop 32).length (by simp [List.length_drop]; omega) (c+1) _ rfl]
      simp [List.length_take, List.length_drop]; omega

theorem xorStream_invol (k iv : Bytes) (c : Nat) (m : Bytes) : xorStream H k iv c (xorStream H k iv c m) = m := by
  suffices ∀ n c m, m.length = n → xorStream H k iv c (xorStream H k iv c m) = m from this _ c m rfl
  intro n
  induction n using Nat.strongRecOn with
  | _ n ih =>
    intro c m hn
    by_cases h : m = []
    · subst h; simp [xorStream_nil]
    · have hpos : 0 < m.length := List.length_pos_iff.mpr h
      rw [xorStream.eq_1 H k iv c m, dif_neg h]
      generalize hblk : fixLen 32 (H (k ++ iv ++ leBytes 4 c)) = blk
      have hne : xorWith blk (m.take 32) ++ xorStream H k iv (c+1) (m.drop 32) ≠ [] := by
        intro hc
        have := congrArg List.length hc
        rw [List.length_append, xorWith_length, List.length_take] at this
        simp only [List.length_nil] at this
        omega
      rw [xorStream, dif_neg hne, hblk]
      have hlen1 : (xorWith blk (m.take 32)).length = min 32 m.length := by simp [List.length_take]
      have htake : (xorWith blk (m.take 32) ++ xorStream H k iv (c+1) (m.drop 32)).take 32 = xorWith blk (m.take 32) := by
        by_cases h32 : 32 ≤ m.length
        · rw [List.take_append_of_le_length (by omega)]
          exact List.take_of_length_le (by omega)
        · have : m.drop 32 = [] := List.drop_eq_nil_of_le (by omega)
          rw [this, xorStream_nil, List.append_nil]
          exact List.take_of_length_le (by omega)
      have hdrop : (xorWith blk (m.take 32) ++ xorStream H k iv (c+1) (m.drop 32)).drop 32 = xorStream H k iv (c+1) (m.drop 32) := by
        by_cases h32 : 32 ≤ m.length
        · have : (xorWith blk (m.take 32)).length = 32 := by omega
          rw [List.drop_append_of_le_length (by omega), List.drop_of_length_le (by omega)]
          simp
        · have : m.drop 32 = [] := List.drop_eq_nil_of_le (by omega)
          rw [this, xorStream_nil, List.append_nil]
          exact List.drop_eq_nil_of_le (by omega)
      rw [htake, hdrop, xorWith_invol, ih (m.drop 32).length (by simp [List.length_drop]; omega) (c+1) _ rfl]
      exact List.take_append_drop 32 m

theorem split4 (a b c d : Bytes) (p q r pq pqr : Nat) (ha : a.length = p) (hb : b.length = q)
    (hc : c.length = r) (hpq : pq = p + q) (hpqr : pqr = p + q + r) :
    (a ++ b ++ c ++ d).take p = a ∧ ((a ++ b ++ c ++ d).drop p).take q = b ∧
    ((a ++ b ++ c ++ d).drop pq).take r = c ∧ (a ++ b ++ c ++ d).drop pqr = d := by
  subst ha hb hc hpq hpqr
  refine ⟨?_, ?_, ?_, ?_⟩
  · simp [List.append_assoc]
  · simp [List.append_assoc]
  · rw [show a ++ b ++ c ++ d = (a ++ b) ++ (c ++ d) by simp [List.append_assoc]]
    rw [List.drop_append_of_le_length (by simp), List.drop_of_length_le (by simp)]
    simp
  · rw [show a ++ b ++ c ++ d = (a ++ b ++ c) ++ d by simp [List.append_assoc]]
    rw [List.drop_append_of_le_length (by simp only [List.length_append]; omega),
      List.drop_of_length_le (by simp only [List.length_append]; omega)]
    simp

theorem join4 (data : Bytes) (p q r pq pqr : Nat) (hpq : pq = p + q) (hpqr : pqr = p + q + r) :
    data.take p ++ (data.drop p).take q ++ (data.drop pq).take r ++ data.drop pqr = data := by
  subst hpq hpqr
  rw [← List.drop_drop, ← List.drop_drop, ← List.drop_drop, List.append_assoc, List.append_assoc,
    List.take_append_drop, List.take_append_drop, List.take_append_drop]

@[simp] theorem cellHeader_length (n : Nat) : (cellHeader n).length = 16 := by
  simp [cellHeader, cellMagic]

@[simp] theorem cellTag_length (k x h i m : Bytes) : (cellTag H k x h i m).length = 16 := by
  simp [cellTag]

/-- The layout both envelopes share: a header (of the message length), the 12-byte nonce, a tag over
header, nonce and clear message, then the message under the key stream. -/
def frame (hdr : Nat → Bytes) (tag : Bytes → Bytes → Bytes → Bytes) (k msg nonce : Bytes) : Bytes :=
  hdr msg.length ++ nonce ++ tag (hdr msg.length) nonce msg ++ xorStream H k nonce 0 msg

/-- Opening a frame with a `p`-byte header and an `r`-byte tag: the tag is recomputed from the
decrypted message. -/
def unframe (p r : Nat) (hdr : Nat → Bytes) (tag : Bytes → Bytes → Bytes → Bytes) (k data : Bytes) : Option Bytes :=
  if data.take p ≠ hdr (data.drop (p + 12 + r)).length ∨ maxMsgLen ≤ (data.drop (p + 12 + r)).length then none else
    if tag (data.take p) ((data.drop p).take 12) (xorStream H k ((data.drop p).take 12) 0 (data.drop (p + 12 + r)))
        = (data.drop (p + 12)).take r then
      some (xorStream H k ((data.drop p).take 12) 0 (data.drop (p + 12 + r)))
    else none

section Frame
variable {p r : Nat} {hdr : Nat → Bytes} {tag : Bytes → Bytes → Bytes → Bytes}
  (hp : ∀ n, (hdr n).length = p) (hr : ∀ h i m, (tag h i m).length = r)
include hp hr

theorem frame_length (k msg : Bytes) {nonce : Bytes} (hn : nonce.length = 12) :
    (frame H hdr tag k msg nonce).length = p + 12 + r + msg.length := by
  simp only [frame, List.length_append, hp, hr, hn, xorStream_length]

theorem unframe_frame (k : Bytes) {msg nonce : Bytes} (hn : nonce.length = 12) (hlt : msg.length < maxMsgLen) :
    unframe H p r hdr tag k (frame H hdr tag k msg nonce) = some msg := by
  obtain ⟨h1, h2, h3, h4⟩ := split4 (hdr msg.length) nonce (tag (hdr msg.length) nonce msg)
    (xorStream H k nonce 0 msg) p 12 r (p + 12) (p + 12 + r) (hp _) hn (hr _ _ _) rfl rfl
  simp only [unframe, frame, h1, h2, h3, h4, xorStream_length, xorStream_invol]
  rw [if_neg (by simp; exact hlt)]
  exact if_pos trivial

omit hp hr in
/-- any accepted byte string is literally the frame of the message it opens to, for the nonce it carries -/
theorem frame_of_unframe (k : Bytes) {data m : Bytes} (hlen : p + 12 + r < data.length)
    (h : unframe H p r hdr tag k data = some m) :
    ∃ n, n.length = 12 ∧ m ≠ [] ∧ m.length < maxMsgLen ∧ frame H hdr tag k m n = data := by
  unfold unframe at h
  split at h
  · cases h
  · next hc =>
    simp only [not_or, Decidable.not_not, Nat.not_le] at hc
    obtain ⟨hhdr, hlt⟩ := hc
    split at h
    · next htag =>
      cases h
      have hml := xorStream_length H k ((data.drop p).take 12) 0 (data.drop (p + 12 + r))
      refine ⟨(data.drop p).take 12, ?_, ?_, ?_, ?_⟩
      · rw [List.length_take, List.length_drop]; omega
      · intro h0; rw [h0, List.length_drop, List.length_nil] at hml; omega
      · rw [hml]; exact hlt
      · unfold frame
        rw [hml, ← hhdr, htag, xorStream_invol]
        exact join4 data p 12 r (p + 12) (p + 12 + r) rfl rfl
    · cases h

end Frame

theorem enc_eq (key ctx msg nonce : Bytes) : enc H key ctx msg nonce =
    if key = [] ∨ msg = [] ∨ nonce.length ≠ nonceLen ∨ maxMsgLen ≤ msg.length then none else
      some (frame H cellHeader (cellTag H (H key) ctx) (H key) msg nonce) := rfl

theorem dec_eq (key ctx data : Bytes) : dec H key ctx data =
    if key = [] ∨ data.length ≤ sealOverhead then none else
      unframe H 16 16 cellHeader (cellTag H (H key) ctx) (H key) data := rfl

theorem sealLen : SealLen (Shim.ops H) where
  enc_len := by
    intro k x m n ct h
    simp only [ops, enc_eq] at h
    split at h
    · cases h
    · next hc =>
      cases h
      simp only [not_or, Decidable.not_not] at hc
      rw [frame_length H cellHeader_length (cellTag_length H (H k) x) _ _ hc.2.2.1, sealOverhead]
      omega

theorem sealLaws : SealLaws (Shim.ops H) where
  dec_enc := by
    intro k x m n ct h
    simp only [ops, enc_eq] at h
    split at h
    · cases h
    · next hc =>
      cases h
      simp only [not_or, Decidable.not_not, Nat.not_le] at hc
      obtain ⟨hk, hm, hn, hlt⟩ := hc
      have hl := frame_length H cellHeader_length (cellTag_length H (H k) x) (H k) m hn
      simp only [ops, dec_eq]
      rw [if_neg (by rw [hl, sealOverhead]; simp only [hk, false_or]; have := List.length_pos_iff.mpr hm; omega)]
      exact unframe_frame H cellHeader_length (cellTag_length H (H k) x) (H k) hn hlt
  enc_of_dec := by
    intro k x ct m h
    simp only [ops, dec_eq] at h
    split at h
    · cases h
    · next hc =>
      simp only [not_or, Nat.not_le, sealOverhead] at hc
      obtain ⟨n, hn, hm, hlt, hf⟩ := frame_of_unframe H (H k) hc.2 h
      refine ⟨n, hn, ?_⟩
      simp only [ops, enc_eq]
      rw [if_neg (by simp only [not_or, Decidable.not_not, Nat.not_le]; exact ⟨hc.1, hm, hn, hlt⟩), hf]
  enc_none := by
    intro k x m n
    simp only [ops, enc]
    split
    · next hc => simp; rcases hc with h | h | h | h <;> simp [h]
    · next hc => simp; simp only [not_or] at hc; exact ⟨hc.2.1, hc.1, Decidable.not_not.mp hc.2.2.1, by omega⟩

theorem powMod_eq (m : Nat) : ∀ (e b : Nat), powMod b e m = b ^ e % m := by
  intro e
  induction e using Nat.strongRecOn with
  | _ e ih =>
    intro b
    rw [powMod]
    split
    · next h => subst h; simp
    · next h =>
      have ih' := ih (e / 2) (by omega) (b * b % m)
      simp only [ih']
      rw [← Nat.pow_mod]
      have hsq : (b * b) ^ (e / 2) = b ^ (2 * (e / 2)) := by
        rw [Nat.pow_mul, Nat.pow_two]
      split
      · next hodd =>
        have he : e = 2 * (e / 2) + 1 := by omega
        rw [Nat.mul_mod, Nat.mod_mod, ← Nat.mul_mod, hsq]
        conv => rhs; rw [he, Nat.pow_succ, Nat.mul_comm]
      · next heven =>
        have he : e = 2 * (e / 2) := by omega
        rw [hsq, ← he]

theorem dh_comm (a b : Nat) : powMod (powMod 2 a dhP) b dhP = powMod (powMod 2 b dhP) a dhP := by
  simp only [powMod_eq]
  rw [← Nat.pow_mod, ← Nat.pow_mod, ← Nat.pow_mul, ← Nat.pow_mul, Nat.mul_comm]

theorem dhP_pos : 0 < dhP := by unfold dhP; omega
theorem dhP_lt : dhP < 256 ^ 32 := by unfold dhP; omega

theorem powMod_lt (b e : Nat) : powMod b e dhP < 256 ^ 32 := by
  rw [powMod_eq]
  exact Nat.lt_trans (Nat.mod_lt _ dhP_pos) dhP_lt

@[simp] theorem keyCheck_length (tag body : Bytes) : (keyCheck H tag body).length = 4 := by
  simp [keyCheck, List.length_take]

theorem pack_length (tag body : Bytes) (ht : tag.length = 4) :
    (pack H tag body).length = 12 + body.length := by
  simp [pack, ht]; omega

theorem unpack_pack (tag body : Bytes) (ht : tag.length = 4) (hb : body.length = 33) :
    unpack H tag (pack H tag body) = some body := by
  obtain ⟨h1, h2, h3, h4⟩ := split4 tag (beBytes 4 (12 + body.length)) (keyCheck H tag body) body
    4 4 4 8 12 ht (by simp) (by simp) rfl rfl
  unfold unpack
  have hl := pack_length H tag body ht
  unfold pack at hl ⊢
  rw [h1, h2, h3, h4, hl, hb]
  simp

theorem privExp_privOfSeed (d : Bytes) (hd : d.length = 32) :
    privExp H (privOfSeed H d) = some (beVal d) := by
  simp [privExp, privOfSeed, unpack_pack H privTag (0 :: d) rfl (by simp [hd])]

theorem pubElem_pubOfExp (d : Nat) : pubElem H (pubOfExp H d) = some (powMod 2 d dhP) := by
  simp [pubElem, pubOfExp, unpack_pack H pubTag (2 :: beBytes 32 (powMod 2 d dhP)) rfl (by simp),
    beVal_beBytes_of_lt 32 _ (powMod_lt 2 d)]

theorem pubOf_eq {a : Bytes} {d : Nat} (h : privExp H a = some d) : pubOf H a = pubOfExp H d := by
  simp [pubOf, h]

theorem shared_pubOf {a b : Bytes} {da db : Nat} (ha : privExp H a = some da)
    (hb : privExp H b = some db) :
    shared H a (pubOf H b) = some (H (beBytes 32 (powMod (powMod 2 db dhP) da dhP))) := by
  simp [shared, ha, pubOf_eq H hb, pubElem_pubOfExp]

theorem shared_comm {a b : Bytes} {da db : Nat} (ha : privExp H a = some da)
    (hb : privExp H b = some db) : shared H a (pubOf H b) = shared H b (pubOf H a) := by
  rw [shared_pubOf H ha hb, shared_pubOf H hb ha, dh_comm]

theorem keygenLaws : KeygenLaws (Shim.ops H) where
  valid_seed := by
    intro d hd
    simp [ops, privExp_privOfSeed H d hd]

@[simp] theorem msgHeader_length (n : Nat) : (msgHeader n).length = 8 := by
  simp [msgHeader, msgMagic]

@[simp] theorem msgTag_length (k h i m : Bytes) : (msgTag H k h i m).length = 32 := by
  simp [msgTag]

theorem pubOfExp_length (d : Nat) : (pubOfExp H d).length = 45 := by
  rw [pubOfExp, pack_length H _ _ rfl]; simp

theorem exists_privExp {a : Bytes} (h : (Shim.ops H).validPriv a = true) : ∃ d, privExp H a = some d := by
  simp only [ops] at h
  exact Option.isSome_iff_exists.mp h

theorem wrap_eq (priv pub msg nonce : Bytes) : wrap H priv pub msg nonce =
    if msg = [] ∨ nonce.length ≠ nonceLen ∨ maxMsgLen ≤ msg.length then none else
      match shared H priv pub with
      | none => none
      | some k => some (frame H msgHeader (msgTag H k) k msg nonce) := rfl

theorem unwrap_eq (priv pub data : Bytes) : unwrap H priv pub data =
    if data.length ≤ wrapOverhead then none else
      match shared H priv pub with
      | none => none
      | some k => unframe H 8 32 msgHeader (msgTag H k) k data := rfl

theorem msgLen : MsgLen (Shim.ops H) where
  wrap_len := by
    intro a p m n ct h
    simp only [ops, wrap_eq] at h
    split at h
    · cases h
    · next hc =>
      simp only [not_or, Decidable.not_not] at hc
      split at h
      · cases h
      · next k _ =>
        cases h
        rw [frame_length H msgHeader_length (msgTag_length H k) _ _ hc.2.1, wrapOverhead]
        omega
  pub_len := by
    intro a ha
    obtain ⟨d, hd⟩ := exists_privExp H ha
    simp only [ops, pubOf_eq H hd, pubOfExp_length, keyContainerLen]

/-- correctness of the envelope for a fixed shared key -/
theorem unwrap_wrap_aux {a p b q : Bytes} {k : Bytes} (h1 : shared H a p = some k)
    (h2 : shared H b q = some k) (m n ct : Bytes) (h : wrap H a p m n = some ct) :
    unwrap H b q ct = some m := by
  simp only [wrap_eq, h1] at h
  split at h
  · cases h
  · next hc =>
    cases h
    simp only [not_or, Decidable.not_not, Nat.not_le] at hc
    obtain ⟨hm, hn, hlt⟩ := hc
    have hl := frame_length H msgHeader_length (msgTag_length H k) k m hn
    simp only [unwrap_eq, h2]
    rw [if_neg (by rw [hl, wrapOverhead]; have := List.length_pos_iff.mpr hm; omega)]
    exact unframe_frame H msgHeader_length (msgTag_length H k) k hn hlt

/-- authenticity of the envelope for a fixed shared key -/
theorem wrap_of_unwrap_aux {a p b q : Bytes} {k : Bytes} (h1 : shared H a p = some k)
    (h2 : shared H b q = some k) (ct m : Bytes) (h : unwrap H b q ct = some m) :
    ∃ n, n.length = nonceLen ∧ wrap H a p m n = some ct := by
  simp only [unwrap_eq, h2] at h
  split at h
  · cases h
  · next hlen =>
    simp only [Nat.not_le, wrapOverhead] at hlen
    obtain ⟨n, hn, hm, hlt, hf⟩ := frame_of_unframe H k hlen h
    refine ⟨n, hn, ?_⟩
    simp only [wrap_eq, h1]
    rw [if_neg (by simp only [not_or, Decidable.not_not, Nat.not_le]; exact ⟨hm, hn, hlt⟩), hf]

theorem msgLaws : MsgLaws (Shim.ops H) where
  unwrap_wrap := by
    intro a b m n ct ha hb h
    obtain ⟨da, hda⟩ := exists_privExp H ha
    obtain ⟨db, hdb⟩ := exists_privExp H hb
    exact unwrap_wrap_aux H (shared_pubOf H hda hdb)
      ((shared_comm H hda hdb).symm.trans (shared_pubOf H hda hdb)) m n ct h
  wrap_of_unwrap := by
    intro a b ct m ha hb h
    obtain ⟨da, hda⟩ := exists_privExp H ha
    obtain ⟨db, hdb⟩ := exists_privExp H hb
    exact wrap_of_unwrap_aux H (shared_pubOf H hda hdb)
      ((shared_comm H hda hdb).symm.trans (shared_pubOf H hda hdb)) ct m h
  wrap_none := by
    intro a b m n ha hb
    obtain ⟨da, hda⟩ := exists_privExp H ha
    obtain ⟨db, hdb⟩ := exists_privExp H hb
    simp only [ops, wrap, shared_pubOf H hda hdb]
    split
    · next hc => simp; exact hc
    · next hc => simp; simp only [not_or] at hc; exact ⟨hc.1, Decidable.not_not.mp hc.2.1, by omega⟩

end AcraModel.Shim

namespace AcraModel
open Shim

/-! corollaries for the executable instance (`H := SHA-256`; only `hmac` differs from `Shim.ops`) -/

/-- the laws do not mention `hmac`: they survive its replacement (stated for a variable `c`, where the
projections of the updated structure reduce at once) -/
theorem MsgLaws.with_hmac {c : CryptoOps} (h : MsgLaws c) (f : Bytes → Bytes → Bytes) : MsgLaws { c with hmac := f } :=
  ⟨h.1, h.2, h.3⟩
theorem KeygenLaws.with_hmac {c : CryptoOps} (h : KeygenLaws c) (f : Bytes → Bytes → Bytes) :
    KeygenLaws { c with hmac := f } := ⟨h.1⟩

theorem shim_sealLaws : SealLaws shimOps := ⟨(sealLaws Sha256.sha256).1, (sealLaws Sha256.sha256).2, (sealLaws Sha256.sha256).3⟩
theorem shim_sealLen : SealLen shimOps := ⟨(sealLen Sha256.sha256).1⟩
theorem shim_msgLaws : MsgLaws shimOps := (msgLaws Sha256.sha256).with_hmac _
theorem shim_msgLen : MsgLen shimOps := ⟨(msgLen Sha256.sha256).1, (msgLen Sha256.sha256).2⟩
theorem shim_keygenLaws : KeygenLaws shimOps := (keygenLaws Sha256.sha256).with_hmac _

end AcraModel
