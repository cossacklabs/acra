import AcraModel.Basic.Bytes
/-
The cryptographic operations Acra obtains from Themis and Go's standard library, as a record of
functions, and the *laws* theorems may assume about them. No axioms: every assumption is an explicit
hypothesis (`SealLaws c`, `MsgLaws c`, `HashLen c`, `HashInj c`) of the theorem that needs it.
-/
namespace AcraModel

/-- length of the nonce both stand-in primitives draw from `crypto/rand` -/
def nonceLen : Nat := 12
/-- bytes added by Secure Cell seal (Themis and the stand-in): 44 -/
def sealOverhead : Nat := 44
/-- bytes added by Secure Message wrap: 52 (a 32-byte key becomes 84 bytes) -/
def wrapOverhead : Nat := 52
/-- messages of 2^32 bytes or more cannot be sealed or wrapped (32-bit length field; Themis has the
same limit) -/
def maxMsgLen : Nat := 2^32
/-- length of an EC key container (public or private) -/
def keyContainerLen : Nat := 45

structure CryptoOps where
  /-- Secure Cell seal: `enc key ctx msg nonce` -/
  enc : Bytes → Bytes → Bytes → Bytes → Option Bytes
  /-- Secure Cell unseal: `dec key ctx ct` -/
  dec : Bytes → Bytes → Bytes → Option Bytes
  /-- Secure Message wrap: `wrap priv peerPub msg nonce` -/
  wrap : Bytes → Bytes → Bytes → Bytes → Option Bytes
  /-- Secure Message unwrap: `unwrap priv peerPub ct` -/
  unwrap : Bytes → Bytes → Bytes → Option Bytes
  /-- public key container of a private key container -/
  pubOf : Bytes → Bytes
  /-- is this a well-formed private key container -/
  validPriv : Bytes → Bool
  /-- key-pair generation: private key container from 32 random bytes (`keys.New`) -/
  privOfSeed : Bytes → Bytes
  hmac : Bytes → Bytes → Bytes
  sha256 : Bytes → Bytes

/-- Laws of the symmetric AEAD (Secure Cell, seal mode). `dec_enc` is correctness, `enc_of_dec` is
ideal authenticity (everything accepted was produced by `enc` for that key, context and message). -/
structure SealLaws (c : CryptoOps) : Prop where
  dec_enc : ∀ k x m n ct, c.enc k x m n = some ct → c.dec k x ct = some m
  enc_of_dec : ∀ k x ct m, c.dec k x ct = some m → ∃ n, n.length = nonceLen ∧ c.enc k x m n = some ct
  enc_none : ∀ k x m n, c.enc k x m n = none ↔ (m = [] ∨ k = [] ∨ n.length ≠ nonceLen ∨ maxMsgLen ≤ m.length)

/-- Length law: sealing adds exactly 44 bytes. NEVER assume together with `SealCommit`: a function
cannot both add a constant number of bytes and be injective in keys and contexts of unbounded
length (the two idealisations are jointly unsatisfiable; a theorem assuming both would be vacuous). -/
structure SealLen (c : CryptoOps) : Prop where
  enc_len : ∀ k x m n ct, c.enc k x m n = some ct → ct.length = m.length + sealOverhead

/-- Commitment: a ciphertext determines key, context and message (idealisation; satisfied by the
`Box` instance, not provable for a hash-based instance). See the warning at `SealLen`. -/
structure SealCommit (c : CryptoOps) : Prop where
  enc_inj : ∀ k x m n k' x' m' n' ct, c.enc k x m n = some ct → c.enc k' x' m' n' = some ct →
    k = k' ∧ x = x' ∧ m = m'

/-- Laws of the asymmetric envelope (Secure Message in encrypt mode). -/
structure MsgLaws (c : CryptoOps) : Prop where
  unwrap_wrap : ∀ a b m n ct, c.validPriv a = true → c.validPriv b = true →
    c.wrap a (c.pubOf b) m n = some ct → c.unwrap b (c.pubOf a) ct = some m
  wrap_of_unwrap : ∀ a b ct m, c.validPriv a = true → c.validPriv b = true →
    c.unwrap b (c.pubOf a) ct = some m → ∃ n, n.length = nonceLen ∧ c.wrap a (c.pubOf b) m n = some ct
  wrap_none : ∀ a b m n, c.validPriv a = true → c.validPriv b = true →
    (c.wrap a (c.pubOf b) m n = none ↔ (m = [] ∨ n.length ≠ nonceLen ∨ maxMsgLen ≤ m.length))

structure MsgLen (c : CryptoOps) : Prop where
  wrap_len : ∀ a p m n ct, c.wrap a p m n = some ct → ct.length = m.length + wrapOverhead
  pub_len : ∀ a, c.validPriv a = true → (c.pubOf a).length = keyContainerLen

/-- Key generation yields valid private keys. -/
structure KeygenLaws (c : CryptoOps) : Prop where
  valid_seed : ∀ d, d.length = 32 → c.validPriv (c.privOfSeed d) = true

/-- Output length of the hashes. NEVER assume together with `HashInj` (pigeonhole: jointly
unsatisfiable). Statements that need both the 32-byte layout and collision freedom take the latter
as a hypothesis about the *finite* set of values at hand (e.g. `Searchable.NoColl c k S`). -/
structure HashLen (c : CryptoOps) : Prop where
  hmac_len : ∀ k m, (c.hmac k m).length = 32
  sha_len : ∀ m, (c.sha256 m).length = 32

/-- Idealised collision freedom (satisfied by `Box`). See the warning at `HashLen`. -/
structure HashInj (c : CryptoOps) : Prop where
  hmac_inj : ∀ k m k' m', c.hmac k m = c.hmac k' m' → k = k' ∧ m = m'
  sha_inj : ∀ m m', c.sha256 m = c.sha256 m' → m = m'

end AcraModel
