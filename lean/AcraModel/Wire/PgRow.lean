import AcraModel.Wire.PgMsg
/-
PostgreSQL DataRow: model of `parseColumns`, `ColumnData.{ReadLength,readData,SetData,Length}`,
`updateDataFromColumns` (packet_handler.go) and of the column loop of `handleQueryDataPacket`
(pg_decryptor.go), plus the specification codec `encodeRow`/`decodeRow`.
-/
namespace AcraModel.Wire.Pg
open AcraModel

/-- `ColumnData` -/
structure Col where
  lenBuf : Bytes      -- LengthBuf [4]byte
  data : Bytes
  isNull : Bool
  changed : Bool
deriving Repr, DecidableEq

/-- the length marker of NULL read as `uint32` (`int32(length) == NullColumnValue`) -/
def nullLen : Nat := (Generated.Wire.pgNullColumnValue % (2^32 : Int)).toNat

/-- `ColumnData.Length` -/
def Col.length (c : Col) : Nat := if c.isNull then 0 else beVal c.lenBuf

/-- `ColumnData.SetData` -/
def Col.setData (c : Col) (d : Bytes) : Col :=
  { c with changed := true, data := d, lenBuf := beBytes 4 (d.length % 2^32) }

/-- `GetParameterFormatByIndex`: `ok true` = binary, `ok false` = text -/
def formatByIndex (i : Nat) (fmts : List Nat) : Out Bool :=
  match fmts with
  | [] => .ok false
  | _ =>
    let f? : Option Nat := if fmts.length = 1 then fmts.head? else fmts[i]?
    match f? with
    | none => .err
    | some f =>
      if f = Generated.Wire.pgBindFormatText then .ok false
      else if f = Generated.Wire.pgBindFormatBinary then .ok true
      else .err

/-- compiled form of `formatByIndex` (no `fmts.length` per call); the theorems are about `formatByIndex`
(`formatByIndex_eq_fast`) -/
def formatByIndexFast (i : Nat) (fmts : List Nat) : Out Bool :=
  let code (f : Nat) : Out Bool :=
    if f = Generated.Wire.pgBindFormatText then .ok false
    else if f = Generated.Wire.pgBindFormatBinary then .ok true
    else .err
  match fmts with
  | [] => .ok false
  | [f] => code f
  | _ :: _ :: _ =>
    match fmts[i]? with
    | none => .err
    | some f => code f

@[csimp] theorem formatByIndex_eq_fast : @formatByIndex = @formatByIndexFast := by
  funext i fmts
  match fmts with
  | [] => rfl
  | [f] => simp [formatByIndex, formatByIndexFast]
  | a :: b :: r =>
    simp only [formatByIndex, formatByIndexFast, List.length_cons]
    rw [if_neg (by omega)]

/-- one iteration of the loop in `parseColumns`: `ReadLength`, format lookup, `readData` -/
def readCol (i : Nat) (fmts : List Nat) (s : Bytes) : Out (Col × Bytes) := do
  let (lb, rest) ← readN s 4
  let _ ← formatByIndex i fmts
  let length := beVal lb
  if length = nullLen then pure (⟨lb, [], true, false⟩, rest)
  else if length = 0 then pure (⟨lb, [], false, false⟩, rest)
  else do
    let (d, rest') ← readN rest length
    pure (⟨lb, d, false, false⟩, rest')

def readCols (fmts : List Nat) : Nat → Nat → Bytes → Out (List Col)
  | 0, _, _ => .ok []
  | n+1, i, s => do
    let (c, rest) ← readCol i fmts s
    let cs ← readCols fmts n (i+1) rest
    pure (c :: cs)

/-- `parseColumns` on the body of a packet: a body without room for the column count is rejected
(`ErrPacketTruncated`, after the `fix:`); a column that declares more bytes than the body holds fails in
`readCol`. Returns the column count and the columns. -/
def parseColumns (body : Bytes) (fmts : List Nat) : Out (Nat × List Col) :=
  if body.length < 2 then .err else
  let cnt := beVal (body.take 2)
  if cnt = 0 then .ok (0, [])
  else do
    let cs ← readCols fmts cnt 0 (body.drop 2)
    pure (cnt, cs)

/-- `updateDataFromColumns`: new (length buffer, body) when a column changed, otherwise unchanged -/
def updateDataFromColumns (p : Packet) (cnt : Nat) (cols : List Col) : Packet :=
  if cols.any (·.changed) then
    let body := beBytes 2 (cnt % 2^16) ++ cols.flatMap (fun c => c.lenBuf ++ c.data)
    let newLen := cnt * 4 + 2 + (cols.map Col.length).sum
    { p with body := body, lenBuf := packetLength newLen }
  else p

/-- the column loop of `handleQueryDataPacket`: NULL columns are skipped, every other column is
handed to the subscribers (`f i data`, which may fail) and replaced by the result -/
def processCols (f : Nat → Bytes → Out Bytes) : Nat → List Col → Out (List Col)
  | _, [] => .ok []
  | i, c :: cs =>
    if c.isNull then do
      let r ← processCols f (i+1) cs
      pure (c :: r)
    else do
      let d ← f i c.data
      let r ← processCols f (i+1) cs
      pure (c.setData d :: r)

/-- `BindPacket.GetResultFormats`: every declared result format must be text or binary -/
def checkFormats (fmts : List Nat) : Out Unit :=
  (List.range fmts.length).foldl (fun acc i => do let _ ← acc; let _ ← formatByIndex i fmts; pure ()) (.ok ())

/-- DataRow part of `handleQueryDataPacket`: result formats, parse, transform, rebuild -/
def rewriteRow (f : Nat → Bytes → Out Bytes) (fmts : List Nat) (p : Packet) : Out Packet := do
  checkFormats fmts
  let (cnt, cols) ← parseColumns p.body fmts
  if cnt = 0 then pure p else do
    let cols' ← processCols f 0 cols
    pure (updateDataFromColumns p cnt cols')

/-! ### specification codec -/

abbrev Row := List (Option Bytes)

def encodeCol : Option Bytes → Bytes
  | none => beBytes 4 (2^32 - 1)
  | some b => beBytes 4 b.length ++ b

/-- body of a DataRow message -/
def encodeRow (r : Row) : Bytes := beBytes 2 r.length ++ r.flatMap encodeCol

def decodeCols : Nat → Bytes → Option (Row × Bytes)
  | 0, s => some ([], s)
  | n+1, s =>
    if s.length < 4 then none else
    let l := beVal (s.take 4)
    let s1 := s.drop 4
    if l = 2^32 - 1 then
      (decodeCols n s1).map fun (r, rest) => (none :: r, rest)
    else if s1.length < l then none
    else (decodeCols n (s1.drop l)).map fun (r, rest) => (some (s1.take l) :: r, rest)

/-- specification decoder of a DataRow body: every byte must be consumed -/
def decodeRow (b : Bytes) : Option Row :=
  if b.length < 2 then none else
  match decodeCols (beVal (b.take 2)) (b.drop 2) with
  | some (r, []) => some r
  | _ => none

/-- the transformation a row undergoes, column by column (NULL stays NULL) -/
def mapRow (f : Nat → Bytes → Bytes) : Nat → Row → Row
  | _, [] => []
  | i, none :: r => none :: mapRow f (i+1) r
  | i, some b :: r => some (f i b) :: mapRow f (i+1) r

end AcraModel.Wire.Pg
