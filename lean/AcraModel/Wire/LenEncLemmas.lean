import AcraModel.Wire.LenEnc
import AcraModel.Wire.OutLemmas
/-! Arithmetic of the length-encoded codec: the or-of-shifts a reader computes is the little-endian value. -/
namespace AcraModel.Wire.LenEnc
open AcraModel

theorem lor_shift (a b k : Nat) (h : a < 2 ^ k) : a ||| (b <<< k) = a + b * 2 ^ k := by
  rw [Nat.or_comm, ← Nat.shiftLeft_add_eq_or_of_lt h, Nat.shiftLeft_eq]; omega

theorem ofNat_toNat_mod (m : Nat) : (UInt8.ofNat (m % 256)).toNat = m % 256 := by
  simp [UInt8.toNat_ofNat']

theorem goIndex_cons_zero (x : UInt8) (r : Bytes) : goIndex (x :: r) 0 = .ok x := rfl
theorem goIndex_cons_succ (x : UInt8) (r : Bytes) (i : Nat) : goIndex (x :: r) (i+1) = goIndex r i := by
  simp [goIndex]

/-- consecutive (index, shift) pairs: `(i, sh), (i+1, sh+8), …` (`k` of them) -/
def pairsFrom : Nat → Nat → Nat → List (Nat × Nat)
  | _, _, 0 => []
  | i, sh, k+1 => (i, sh) :: pairsFrom (i+1) (sh+8) k

theorem or_step (x z k : Nat) (hx : x < 256) (hk : k + 8 ≤ 64) :
    (x <<< k) % 2^64 ||| (z * 2^(k+8)) = x * 2^k + z * 2^(k+8) := by
  have h1 : x <<< k = x * 2^k := Nat.shiftLeft_eq x k
  have h2 : x * 2^k < 2^(k+8) := by
    rw [Nat.pow_add, Nat.mul_comm]
    exact Nat.mul_lt_mul_of_pos_left hx (Nat.pow_pos (by decide))
  have h3 : 2^(k+8) ≤ 2^64 := Nat.pow_le_pow_right (by decide) hk
  rw [h1, Nat.mod_eq_of_lt (by omega), Nat.or_comm, ← Nat.shiftLeft_eq z (k+8),
    ← Nat.shiftLeft_add_eq_or_of_lt h2]
  omega

/-- reading `k` consecutive little-endian bytes by OR-ing shifted bytes gives their `leVal` -/
theorem orVal_pairsFrom (data : Bytes) (k i sh : Nat) (hi : i + k ≤ data.length) (hs : sh + 8 * k ≤ 64) :
    orVal data (pairsFrom i sh k) = .ok (leVal ((data.drop i).take k) * 2^sh) := by
  induction k generalizing i sh with
  | zero => simp [pairsFrom, orVal, leVal]
  | succ k ih =>
    have hlt : i < data.length := by omega
    obtain ⟨x, hx⟩ := goIndex_ne_panic_of_lt data i hlt
    have hd : data.drop i = x :: data.drop (i+1) := by
      unfold goIndex at hx
      rw [List.getElem?_eq_getElem hlt] at hx
      cases hx
      exact List.drop_eq_getElem_cons hlt
    simp only [pairsFrom, orVal, hx, Out.bind_ok]
    rw [ih (i+1) (sh+8) (by omega) (by omega)]
    simp only [Out.bind_ok, Out.pure_eq, hd, List.take_succ_cons, leVal]
    congr 1
    have hx8 := x.toNat_lt
    rw [show sh + 8 = sh + 8 from rfl, or_step x.toNat _ sh (by omega) (by omega)]
    rw [Nat.pow_add]
    simp only [Nat.add_mul]
    rw [Nat.mul_assoc, Nat.mul_comm (2^sh) (2^8)]
    simp [Nat.mul_assoc, Nat.mul_comm]

/-- the bytes `PutLengthEncodedInt` writes for shifts `0, 8, …` are the little-endian bytes -/
theorem map_shifts_eq_leBytes (n k : Nat) (sh : Nat) :
    ((List.range k).map (fun j => sh + 8 * j)).map (fun s => UInt8.ofNat ((n >>> s) % 256)) = leBytes k (n >>> sh) := by
  induction k generalizing sh with
  | zero => simp [leBytes]
  | succ k ih =>
    rw [List.range_succ_eq_map]
    simp only [List.map_cons, List.map_map, leBytes, Nat.mul_zero, Nat.add_zero]
    congr 1
    have := ih (sh + 8)
    simp only [List.map_map] at this
    rw [show (n >>> sh) / 256 = n >>> (sh + 8) by rw [Nat.shiftRight_add]; simp [Nat.shiftRight_eq_div_pow]]
    rw [← this]
    apply List.map_congr_left
    intro j _
    simp only [Function.comp]
    congr 3
    omega

end AcraModel.Wire.LenEnc
