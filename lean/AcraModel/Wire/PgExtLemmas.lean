import AcraModel.Wire.PgBind
import AcraModel.Wire.PgLemmas
/-!
Lemmas about the PostgreSQL extended-protocol models (`PgParse.lean`, `PgBind.lean`): the handlers
read what the specification codec writes, marshal it back byte-identically, and a rewritten
Parse/Bind packet is the specification encoding of the rewritten message.
-/
namespace AcraModel.Wire.Pg
open AcraModel

/-- a byte string without zero bytes (a C string body) -/
def NoZero (s : Bytes) : Prop := ∀ c ∈ s, c.toNat ≠ 0

theorem NoZero.tail {c : UInt8} {s : Bytes} (h : NoZero (c :: s)) : NoZero s :=
  fun x hx => h x (List.mem_cons_of_mem _ hx)

theorem drop_append_cons (s : Bytes) (x : UInt8) (r : Bytes) : (s ++ x :: r).drop (s.length + 1) = r := by
  rw [List.append_cons]; exact List.drop_left' (by simp)

/-- the three leading fields of `a ++ b ++ c ++ d` as Go slices, and what is left behind them -/
theorem slices4 (a b c d : Bytes) {p1 p2 p3 : Nat} (h1 : p1 = a.length) (h2 : p2 = p1 + b.length) (h3 : p3 = p2 + c.length) :
    goSlice (a ++ (b ++ (c ++ d))) 0 p1 = .ok a ∧ goSlice (a ++ (b ++ (c ++ d))) p1 p2 = .ok b ∧
    goSlice (a ++ (b ++ (c ++ d))) p2 p3 = .ok c ∧ (a ++ (b ++ (c ++ d))).drop p3 = d := by
  subst h1 h2 h3
  refine ⟨goSlice_prefix a _, ?_, ?_, ?_⟩
  · rw [← List.append_assoc]; exact goSlice_append_mid a b _
  · rw [← List.append_assoc, ← List.append_assoc, ← List.length_append]; exact goSlice_append_mid (a ++ b) c d
  · rw [← List.append_assoc, ← List.append_assoc, ← List.length_append, ← List.length_append]; exact List.drop_left' rfl

theorem flatten_beBytes_length (k : Nat) (l : List Nat) : ((l.map (beBytes k)).flatten).length = k * l.length := by
  induction l with
  | nil => rfl
  | cons o os ih =>
    rw [List.map_cons, List.flatten_cons, List.length_append, beBytes_length, ih, List.length_cons, Nat.mul_succ, Nat.add_comm]

theorem chkSlice_eq_of_goSlice_ok {b : Bytes} {lo hi : Nat} {x : Bytes}
    (h : goSlice b lo hi = .ok x) : chkSlice b lo hi = .ok x := by
  unfold chkSlice
  rw [h]

/-- `bytes.Index` finds the terminator of a C string -/
theorem indexZero_append (s r : Bytes) (h : NoZero s) : indexZero (s ++ 0 :: r) = some s.length := by
  induction s with
  | nil => rfl
  | cons c s ih =>
    have hc : c.toNat ≠ 0 := h c List.mem_cons_self
    rw [List.cons_append]
    unfold indexZero
    rw [if_neg hc, ih h.tail]
    rfl

theorem wrapSigned64_of_lt (n : Nat) (h : n < 2 ^ 63) : wrapSigned 64 (n : Int) = n := by
  unfold wrapSigned
  have h1 : (n : Int) % ((2 ^ 64 : Nat) : Int) = n := Int.emod_eq_of_lt (by omega) (by omega)
  dsimp only
  rw [h1, if_pos (by omega)]

theorem goConv_int (v : Int) : goConv "int" v = wrapSigned 64 v := by
  rw [goConv]
  exact if_pos (Or.inl rfl)

theorem goConvs_single (c : String) (n : Nat) : goConvs [c] n = goConv c (n : Int) := rfl

theorem goConvs_nil (n : Nat) : goConvs [] n = n := rfl

/-- `int(binary.BigEndian.UintN(x))` is the unsigned value (N ≤ 32; Go's `int` has 64 bits) -/
theorem goConvs_int (n : Nat) (h : n < 2 ^ 63) : goConvs ["int"] n = n := by
  rw [goConvs_single, goConv_int, wrapSigned64_of_lt n h]

/-- **the count of a Parse message is read as an unsigned 16-bit integer**: with the conversion chain of the
source (`pgParamsNumToInt = ["int"]`, regenerated), `numParams.ToInt()` is the big-endian value of the two bytes. This is the one
place where the Parse theorems depend on the signedness of `paramsNum.ToInt`. -/
theorem paramsCount_eq (b : Bytes) (h : beVal b < 2 ^ 63) : paramsCount b = beVal b := by
  unfold paramsCount paramsNumToInt
  have e : Generated.Wire.pgParamsNumToInt = ["int"] := rfl
  rw [e, goConvs_int _ h]
  rfl

theorem readParams_flatten (ps : List Bytes) (hps : ∀ p ∈ ps, p.length = 4) (post : Bytes) :
    readParams ps.length (ps.flatten ++ post) = .ok ps := by
  induction ps with
  | nil => rfl
  | cons p ps ih =>
    have hp : p.length = 4 := hps p List.mem_cons_self
    obtain ⟨a, b, c, d, rfl⟩ : ∃ a b c d, p = [a, b, c, d] := by
      match p, hp with
      | [a, b, c, d], _ => exact ⟨a, b, c, d, rfl⟩
    have ih' := ih (fun q hq => hps q (List.mem_cons_of_mem _ hq))
    show readParams (ps.length + 1) (a :: b :: c :: d :: (ps.flatten ++ post)) = _
    unfold readParams
    rw [ih']
    rfl

theorem encodeParse_length (name query : Bytes) (oids : List Nat) :
    (encodeParse name query oids).length = name.length + 1 + (query.length + 1) + 2 + 4 * oids.length := by
  unfold encodeParse
  simp only [List.length_append, beBytes_length, flatten_beBytes_length, List.length_cons, List.length_nil]
  omega

theorem encodeParse_eq (name query : Bytes) (oids : List Nat) : encodeParse name query oids =
    name ++ 0 :: (query ++ 0 :: (beBytes 2 oids.length ++ (oids.map (beBytes 4)).flatten)) := by
  simp [encodeParse]

/-- `NewParsePacket` on two C strings, two count bytes `C` and the rest `P` -/
theorem newParsePacket_parts (name query C P : Bytes) (hn : NoZero name) (hq : NoZero query) (hC : C.length = 2) :
    newParsePacket (name ++ 0 :: (query ++ 0 :: (C ++ P))) =
      (if 0 < P.length then readParams (paramsCount C) P else .ok []) >>= fun ps =>
        .ok ⟨name ++ [0], query ++ [0], C, ps⟩ := by
  have e : name ++ 0 :: (query ++ 0 :: (C ++ P)) = (name ++ [0]) ++ ((query ++ [0]) ++ (C ++ P)) := by simp
  obtain ⟨s1, s2, s3, s4⟩ := slices4 (name ++ [0]) (query ++ [0]) C P (p1 := name.length + 1)
    (p2 := query.length + (name.length + 1) + 1) (p3 := query.length + (name.length + 1) + 1 + 2)
    (by simp) (by simp; omega) (by omega)
  unfold newParsePacket
  rw [indexZero_append _ _ hn]
  simp only [drop_append_cons, indexZero_append _ _ hq]
  rw [e, s1, s2, Out.bind_ok, Out.bind_ok, chkSlice_eq_of_goSlice_ok s3, Out.bind_ok, s4]
  simp only [List.length_append, List.length_cons, List.length_nil, hC]
  by_cases hP : 0 < P.length
  · rw [if_pos hP, if_pos (by omega)]; rfl
  · rw [if_neg hP, if_neg (by omega)]; rfl

set_option linter.unusedVariables false in
/-- `NewParsePacket` reads what the specification encoder writes (`ho` is not used: the reader does not look into the
OIDs; the Parse lemmas share one hypothesis list, and `decodeOids_encode` needs it) -/
theorem newParsePacket_encodeParse (name query : Bytes) (oids : List Nat) (hn : NoZero name)
    (hq : NoZero query) (hl : oids.length < 2^16) (ho : ∀ o ∈ oids, o < 2^32) :
    newParsePacket (encodeParse name query oids) =
      .ok ⟨name ++ [0], query ++ [0], beBytes 2 oids.length, oids.map (beBytes 4)⟩ := by
  have hpar := readParams_flatten (oids.map (beBytes 4)) (fun p hp => by
    obtain ⟨o, _, rfl⟩ := List.mem_map.mp hp
    exact beBytes_length _ _) []
  rw [List.length_map, List.append_nil] at hpar
  rw [encodeParse_eq, newParsePacket_parts _ _ _ _ hn hq (beBytes_length _ _),
    paramsCount_eq _ (by rw [beVal_beBytes2 _ hl]; omega), beVal_beBytes2 _ hl, hpar, flatten_beBytes_length]
  cases oids <;> rfl

theorem ParsePacket.marshal_mk (name query : Bytes) (oids : List Nat) :
    ParsePacket.marshal ⟨name ++ [0], query ++ [0], beBytes 2 oids.length, oids.map (beBytes 4)⟩ =
      encodeParse name query oids := by
  simp [ParsePacket.marshal, encodeParse]

theorem ParsePacket.length_mk (name query : Bytes) (oids : List Nat) :
    ParsePacket.length ⟨name ++ [0], query ++ [0], beBytes 2 oids.length, oids.map (beBytes 4)⟩ =
      (encodeParse name query oids).length := by
  rw [encodeParse_length]
  simp [ParsePacket.length]

/-- relay identity: a parsed Parse message marshals back byte-identically -/
theorem marshal_newParsePacket (name query : Bytes) (oids : List Nat) (hn : NoZero name)
    (hq : NoZero query) (hl : oids.length < 2^16) (ho : ∀ o ∈ oids, o < 2^32) :
    ∃ p, newParsePacket (encodeParse name query oids) = .ok p ∧
      p.marshal = encodeParse name query oids ∧
      p.length = (encodeParse name query oids).length :=
  ⟨_, newParsePacket_encodeParse name query oids hn hq hl ho, ParsePacket.marshal_mk _ _ _, ParsePacket.length_mk _ _ _⟩

set_option linter.unusedVariables false in
/-- Behind `rewrite_wellformed_pg_parse`: after `ReplaceQuery` the packet holds the specification
encoding of the Parse message with the new query and the matching length field (`ho`, `hq'` are not used here: they
are what reading the result back needs, `decodeParse_encodeParse`) -/
theorem replaceParseQuery_wellformed (name query q lb : Bytes) (oids : List Nat) (hn : NoZero name)
    (hq : NoZero query) (hl : oids.length < 2^16) (ho : ∀ o ∈ oids, o < 2^32) (hq' : NoZero q)
    (hsz : (encodeParse name q oids).length + 4 < 2^32) :
    replaceParseQuery ⟨80, lb, encodeParse name query oids⟩ q =
      .ok ⟨80, beBytes 4 ((encodeParse name q oids).length + 4), encodeParse name q oids⟩ := by
  unfold replaceParseQuery
  simp only [newParsePacket_encodeParse name query oids hn hq hl ho, ParsePacket.replaceQuery,
    ParsePacket.marshal_mk, ParsePacket.length_mk]
  unfold packetLength
  rw [lenSize_eq, Nat.mod_eq_of_lt hsz]

/-- the rewritten packet marshals to a well-framed Parse message -/
theorem replaceParseQuery_marshal (name query q lb : Bytes) (oids : List Nat) (hn : NoZero name)
    (hq : NoZero query) (hl : oids.length < 2^16) (ho : ∀ o ∈ oids, o < 2^32) (hq' : NoZero q)
    (hsz : (encodeParse name q oids).length + 4 < 2^32) :
    ∃ p, replaceParseQuery ⟨80, lb, encodeParse name query oids⟩ q = .ok p ∧
      marshal p = encodeMsg 80 (encodeParse name q oids) :=
  ⟨_, replaceParseQuery_wellformed name query q lb oids hn hq hl ho hq' hsz,
    marshal_encodeMsg 80 _ (by decide)⟩

theorem mapIdx_oids (oids : List Nat) (sel : Nat → Bool) (b : Nat) :
    (oids.map (beBytes 4)).mapIdx (fun i x => if sel i then beBytes 4 b else x) =
    (setParseOids oids sel b).map (beBytes 4) := by
  apply List.ext_getElem?
  intro i
  simp only [setParseOids, List.getElem?_mapIdx, List.getElem?_map]
  cases oids[i]? with
  | none => rfl
  | some o => simp only [Option.map_some]; split <;> rfl

theorem setParseOids_length (oids : List Nat) (sel : Nat → Bool) (b : Nat) :
    (setParseOids oids sel b).length = oids.length := by
  simp [setParseOids]

theorem setParseOids_lt (oids : List Nat) (sel : Nat → Bool) (b : Nat) (ho : ∀ o ∈ oids, o < 2^32)
    (hb : b < 2^32) : ∀ o ∈ setParseOids oids sel b, o < 2^32 := by
  intro o hm
  obtain ⟨i, hi, rfl⟩ := List.getElem_of_mem hm
  simp only [setParseOids, List.getElem_mapIdx]
  split
  · exact hb
  · exact ho _ (List.getElem_mem _)

theorem setParseOids_getElem? (oids : List Nat) (sel : Nat → Bool) (b i o : Nat) (h : oids[i]? = some o) :
    (setParseOids oids sel b)[i]? = some (if sel i then b else o) := by
  simp [setParseOids, List.getElem?_mapIdx, h]

/-- Behind `rewrite_wellformed_pg_parse`, parameter types: `replaceOIDsInParsePackets` + `SetParsePacket` on a
well-formed Parse message yields the specification encoding of the Parse message with the selected parameter types
replaced (same name, same query, SAME NUMBER of parameter types – the declared count is the number of OIDs that
follow) and the matching length field; when no parameter is selected the packet is untouched -/
theorem replaceParseOids_wellformed (name query lb : Bytes) (oids : List Nat) (sel : Nat → Bool) (b : Nat)
    (hn : NoZero name) (hq : NoZero query) (hl : oids.length < 2^16) (ho : ∀ o ∈ oids, o < 2^32)
    (hsz : (encodeParse name query oids).length + 4 < 2^32) :
    replaceParseOids ⟨80, lb, encodeParse name query oids⟩ sel b =
      .ok (if (List.range oids.length).any sel
        then ⟨80, beBytes 4 ((encodeParse name query (setParseOids oids sel b)).length + 4),
              encodeParse name query (setParseOids oids sel b)⟩
        else ⟨80, lb, encodeParse name query oids⟩) := by
  have hm := ParsePacket.marshal_mk name query (setParseOids oids sel b)
  rw [setParseOids_length] at hm
  have hlen : (encodeParse name query (setParseOids oids sel b)).length = (encodeParse name query oids).length := by
    rw [encodeParse_length, encodeParse_length, setParseOids_length]
  unfold replaceParseOids
  rw [newParsePacket_encodeParse name query oids hn hq hl ho, Out.bind_ok]
  simp only [List.length_map, mapIdx_oids, hm]
  split
  · unfold packetLength
    rw [lenSize_eq, Nat.mod_eq_of_lt (by rw [hlen]; exact hsz)]
    rfl
  · rfl

theorem setParseOids_none (oids : List Nat) (sel : Nat → Bool) (b : Nat)
    (h : (List.range oids.length).any sel = false) : setParseOids oids sel b = oids := by
  apply List.ext_getElem?
  intro i
  simp only [setParseOids, List.getElem?_mapIdx]
  cases hi : oids[i]? with
  | none => rfl
  | some o =>
    have hlt : i < oids.length := by
      rcases Nat.lt_or_ge i oids.length with h1 | h1
      · exact h1
      · rw [List.getElem?_eq_none h1] at hi; cases hi
    have hs : sel i = false := by
      cases hsi : sel i with
      | false => rfl
      | true =>
        have : (List.range oids.length).any sel = true :=
          List.any_eq_true.mpr ⟨i, List.mem_range.mpr hlt, hsi⟩
        rw [h] at this; cases this
    simp [hs]

/-- **the Parse message as the proxy forwards it**: query text replaced by the observers and/or parameter types
replaced – always the specification encoding of (same name, new-or-same query, re-typed-or-same OIDs) with the length
field of the bytes that follow; untouched when nothing was replaced -/
theorem handleParse_wellformed (name query lb : Bytes) (oids : List Nat) (q : Option Bytes) (sel : Nat → Bool)
    (b : Nat) (hn : NoZero name) (hq : NoZero query) (hl : oids.length < 2^16) (ho : ∀ o ∈ oids, o < 2^32)
    (hq' : ∀ x, q = some x → NoZero x)
    (hsz : (encodeParse name (q.getD query) oids).length + 4 < 2^32) :
    handleParse ⟨80, lb, encodeParse name query oids⟩ q sel b =
      .ok (if q.isSome || (List.range oids.length).any sel
        then ⟨80, beBytes 4 ((encodeParse name (q.getD query) (setParseOids oids sel b)).length + 4),
              encodeParse name (q.getD query) (setParseOids oids sel b)⟩
        else ⟨80, lb, encodeParse name query oids⟩) := by
  unfold handleParse
  cases q with
  | none =>
    simp only [Option.getD_none] at hsz
    rw [Out.bind_ok, replaceParseOids_wellformed name query lb oids sel b hn hq hl ho hsz]
    simp
  | some t =>
    simp only [Option.getD_some] at hsz
    simp only [Option.getD_some, Option.isSome_some, Bool.true_or, if_true]
    rw [replaceParseQuery_wellformed name query t lb oids hn hq hl ho (hq' t rfl) hsz, Out.bind_ok,
      replaceParseOids_wellformed name t _ oids sel b hn (hq' t rfl) hl ho hsz]
    cases hs : (List.range oids.length).any sel with
    | true => rfl
    | false => simp [setParseOids_none oids sel b hs]

theorem decodeOids_encode (oids : List Nat) (ho : ∀ o ∈ oids, o < 2^32) :
    decodeOids oids.length ((oids.map (beBytes 4)).flatten) = some oids := by
  induction oids with
  | nil => rfl
  | cons o os ih =>
    have ih' := ih (fun x hx => ho x (List.mem_cons_of_mem _ hx))
    have hv := beVal_beBytes4 o (ho o List.mem_cons_self)
    obtain ⟨a, b, c, d, he⟩ : ∃ a b c d, beBytes 4 o = [a, b, c, d] := by
      have hlen := beBytes_length 4 o
      match beBytes 4 o, hlen with
      | [a, b, c, d], _ => exact ⟨a, b, c, d, rfl⟩
    rw [he] at hv
    show decodeOids (os.length + 1) ((beBytes 4 o) ++ (os.map (beBytes 4)).flatten) = _
    rw [he]
    show decodeOids (os.length + 1) (a :: b :: c :: d :: (os.map (beBytes 4)).flatten) = _
    unfold decodeOids
    rw [ih', hv]
    rfl

theorem decodeParse_encodeParse (name query : Bytes) (oids : List Nat) (hn : NoZero name)
    (hq : NoZero query) (hl : oids.length < 2^16) (ho : ∀ o ∈ oids, o < 2^32) :
    decodeParse (encodeParse name query oids) = some (name, query, oids) := by
  rw [encodeParse_eq]
  unfold decodeParse
  rw [indexZero_append _ _ hn]
  simp only [drop_append_cons, indexZero_append _ _ hq, List.take_left' rfl]
  rw [if_neg (by simp [List.length_append]), List.take_left' (beBytes_length _ _), List.drop_left' (beBytes_length _ _),
    beVal_beBytes2 _ hl, decodeOids_encode oids ho]
  rfl

theorem readString_append (s r : Bytes) (h : NoZero s) : readString (s ++ 0 :: r) = .ok (s, r) := by
  unfold readString
  rw [indexZero_append s r h]
  simp only [List.take_left' rfl, drop_append_cons]

/-- the counts of `readUint16Array` / `readParameterArray` and the value length of `readParameterArray` are read with
`int(binary.BigEndian.UintN(…))` – unsigned (regenerated `pgIntReads`) -/
theorem goConvs_int_beVal (b : Bytes) (h : b.length ≤ 7) : goConvs ["int"] (beVal b) = beVal b := by
  have h1 := beVal_lt b
  have h2 : 256 ^ b.length ≤ 256 ^ 7 := Nat.pow_le_pow_right (by decide) h
  have h3 : (256 : Nat) ^ 7 < 2 ^ 63 := by decide
  exact goConvs_int _ (by omega)

theorem goConvs_int_beBytes (k n : Nat) (hk : k ≤ 7) (h : n < 256 ^ k) : goConvs ["int"] (beVal (beBytes k n)) = n := by
  rw [goConvs_int_beVal _ (by rwa [beBytes_length]), beVal_beBytes_of_lt k n h]

theorem readU16s_encode (fs : List Nat) (rest : Bytes) (hf : ∀ f ∈ fs, f < 2^16) :
    readU16s fs.length ((fs.map (beBytes 2)).flatten ++ rest) = fs := by
  induction fs with
  | nil => rfl
  | cons f fs ih =>
    rw [List.length_cons, List.map_cons, List.flatten_cons, List.append_assoc]
    unfold readU16s
    rw [List.take_left' (beBytes_length _ _), List.drop_left' (beBytes_length _ _),
      beVal_beBytes2 _ (hf f List.mem_cons_self), ih (fun x hx => hf x (List.mem_cons_of_mem _ hx))]

theorem readUint16Array_encode (fs : List Nat) (rest : Bytes) (hl : fs.length < 2^16)
    (hf : ∀ f ∈ fs, f < 2^16) :
    readUint16Array (beBytes 2 fs.length ++ ((fs.map (beBytes 2)).flatten ++ rest)) = .ok (fs, rest) := by
  have hd : ((fs.map (beBytes 2)).flatten ++ rest).drop (2 * fs.length) = rest :=
    List.drop_left' (flatten_beBytes_length 2 fs)
  have hc : countConv Generated.Wire.pgU16ArrayCountConv (beBytes 2 fs.length) = (fs.length : Int) :=
    goConvs_int_beBytes 2 _ (by decide) (by omega)
  unfold readUint16Array
  rw [if_neg (by simp [List.length_append])]
  simp only [List.take_left' (beBytes_length 2 fs.length), List.drop_left' (beBytes_length 2 fs.length), hc]
  rw [if_neg (by rw [List.length_append, flatten_beBytes_length]; omega), if_neg (by omega)]
  rw [Int.toNat_natCast, readU16s_encode fs rest hf, hd]

theorem readParamsArr_encode (pv : List (Option Bytes)) (rest : Bytes)
    (hb : ∀ b, some b ∈ pv → b.length < 2^32 - 1) :
    readParamsArr pv.length ((pv.map writeParam).flatten ++ rest) = .ok (pv, rest) := by
  induction pv with
  | nil => rfl
  | cons v pv ih =>
    have ih' := ih (fun b hm => hb b (List.mem_cons_of_mem _ hm))
    rw [List.length_cons, List.map_cons, List.flatten_cons, List.append_assoc]
    cases v with
    | none =>
      show readParamsArr (pv.length + 1) (beBytes 4 0xFFFFFFFF ++ _) = _
      have hc : lenConv (beBytes 4 0xFFFFFFFF) = 0xFFFFFFFF := goConvs_int_beBytes 4 _ (by decide) (by decide)
      simp only [readParamsArr]
      rw [if_neg (by simp [List.length_append])]
      rw [List.take_left' (beBytes_length _ _), List.drop_left' (beBytes_length _ _), hc, if_pos rfl, ih']
      rfl
    | some b =>
      have hbl := hb b List.mem_cons_self
      show readParamsArr (pv.length + 1) ((beBytes 4 b.length ++ b) ++ _) = _
      have hc : lenConv (beBytes 4 b.length) = (b.length : Int) := goConvs_int_beBytes 4 _ (by decide) (by omega)
      rw [List.append_assoc]
      simp only [readParamsArr]
      rw [if_neg (by simp [List.length_append])]
      rw [List.take_left' (beBytes_length _ _), List.drop_left' (beBytes_length _ _), hc,
        if_neg (by omega), if_neg (by simp [List.length_append]; omega), if_neg (by omega), Int.toNat_natCast,
        List.take_left' rfl, List.drop_left' rfl, ih']
      rfl

theorem readParameterArray_encode (pv : List (Option Bytes)) (rest : Bytes) (hl : pv.length < 2^16)
    (hb : ∀ b, some b ∈ pv → b.length < 2^32 - 1) :
    readParameterArray (beBytes 2 pv.length ++ ((pv.map writeParam).flatten ++ rest)) =
      .ok (pv, rest) := by
  have hc : countConv Generated.Wire.pgParamArrayCountConv (beBytes 2 pv.length) = (pv.length : Int) :=
    goConvs_int_beBytes 2 _ (by decide) (by omega)
  unfold readParameterArray
  rw [if_neg (by simp [List.length_append])]
  simp only [List.take_left' (beBytes_length _ _), List.drop_left' (beBytes_length _ _), hc]
  rw [if_neg (by omega), Int.toNat_natCast, readParamsArr_encode pv rest hb]

theorem encodeBind_eq (portal stmt : Bytes) (pf : List Nat) (pv : List (Option Bytes)) (rf : List Nat) :
    encodeBind portal stmt pf pv rf =
      portal ++ 0 :: (stmt ++ 0 :: (beBytes 2 pf.length ++ ((pf.map (beBytes 2)).flatten ++
        (beBytes 2 pv.length ++ ((pv.map writeParam).flatten ++
          (beBytes 2 rf.length ++ ((rf.map (beBytes 2)).flatten ++ []))))))) := by
  simp [encodeBind, List.append_assoc]

/-- `NewBindPacket` reads what the specification encoder writes -/
theorem newBindPacket_encodeBind (portal stmt : Bytes) (pf : List Nat) (pv : List (Option Bytes))
    (rf : List Nat) (hp : NoZero portal) (hs : NoZero stmt)
    (hpf : pf.length < 2^16 ∧ ∀ f ∈ pf, f < 2^16) (hrf : rf.length < 2^16 ∧ ∀ f ∈ rf, f < 2^16)
    (hpv : pv.length < 2^16 ∧ ∀ b, some b ∈ pv → b.length < 2^32 - 1) :
    newBindPacket (encodeBind portal stmt pf pv rf) = .ok ⟨portal, stmt, pf, pv, rf⟩ := by
  rw [encodeBind_eq]
  unfold newBindPacket
  -- (`rw`, not `simp only`: a definitional step here makes the kernel compare the unevaluated readers)
  rw [readString_append _ _ hp, Out.bind_ok]
  dsimp only
  rw [readString_append _ _ hs, Out.bind_ok]
  dsimp only
  rw [readUint16Array_encode pf _ hpf.1 hpf.2, Out.bind_ok]
  dsimp only
  rw [readParameterArray_encode pv _ hpv.1 hpv.2, Out.bind_ok]
  dsimp only
  rw [readUint16Array_encode rf _ hrf.1 hrf.2, Out.bind_ok]
  rfl

theorem writeUint16Array_ok (vs : List Nat) (h : vs.length < 2^16) :
    writeUint16Array vs = .ok (beBytes 2 vs.length ++ (vs.map (beBytes 2)).flatten) := by
  unfold writeUint16Array
  rw [if_neg (by omega)]

theorem writeParameterArray_ok (ps : List (Option Bytes)) (h : ps.length < 2^16)
    (hb : ∀ b, some b ∈ ps → b.length < 2^32 - 1) :
    writeParameterArray ps = .ok (beBytes 2 ps.length ++ (ps.map writeParam).flatten) := by
  unfold writeParameterArray
  rw [if_neg (by omega)]
  split
  · next hc =>
    exfalso
    rw [List.any_eq_true] at hc
    obtain ⟨p, hp, hpc⟩ := hc
    cases p with
    | none => simp at hpc
    | some b =>
      have := hb b hp
      simp at hpc
      omega
  · rfl

theorem BindPacket.marshal_ok (portal stmt : Bytes) (pf : List Nat) (pv : List (Option Bytes))
    (rf : List Nat) (hpf : pf.length < 2^16) (hrf : rf.length < 2^16) (hpv : pv.length < 2^16)
    (hb : ∀ b, some b ∈ pv → b.length < 2^32 - 1) :
    BindPacket.marshal ⟨portal, stmt, pf, pv, rf⟩ = .ok (encodeBind portal stmt pf pv rf) := by
  unfold BindPacket.marshal
  simp only [writeUint16Array_ok pf hpf, writeUint16Array_ok rf hrf, writeParameterArray_ok pv hpv hb,
    Out.bind_ok, Out.pure_eq]
  simp [encodeBind, List.append_assoc]

/-- the format of parameter `i` as a boolean (`true` = binary); `false` when the lookup fails -/
def fmtBool (i : Nat) (pf : List Nat) : Bool :=
  match formatByIndex i pf with
  | .ok b => b
  | _ => false

def fmtCode (b : Bool) : Nat :=
  if b then Generated.Wire.pgBindFormatBinary else Generated.Wire.pgBindFormatText

/-- the formats of parameters `i, i+1, …, i+n-1` -/
def fmtBools (pf : List Nat) : Nat → Nat → List Bool
  | _, 0 => []
  | i, n+1 => fmtBool i pf :: fmtBools pf (i+1) n

/-- the format codes `SetParameters` writes for `n` parameters whose formats are given by `pf`:
nothing for no parameter, a single entry when all parameters have the same format, otherwise one
entry per parameter -/
def canonFormats (pf : List Nat) (n : Nat) : List Nat :=
  match fmtBools pf 0 n with
  | [] => []
  | f0 :: rest => if rest.all (fun b => b = f0) then [fmtCode f0] else (f0 :: rest).map fmtCode

/-- what `GetParameters` returns -/
def paramsOf (pf : List Nat) : Nat → List (Option Bytes) → List (Bool × Option Bytes)
  | _, [] => []
  | i, v :: vs => (fmtBool i pf, v) :: paramsOf pf (i+1) vs

theorem fmtBools_length (pf : List Nat) (s n : Nat) : (fmtBools pf s n).length = n := by
  induction n generalizing s with
  | zero => rfl
  | succ n ih => simp [fmtBools, ih]

theorem fmtBools_getElem? (pf : List Nat) (s n j : Nat) (h : j < n) :
    (fmtBools pf s n)[j]? = some (fmtBool (s + j) pf) := by
  induction n generalizing s j with
  | zero => omega
  | succ n ih =>
    cases j with
    | zero => simp [fmtBools]
    | succ j =>
      simp only [fmtBools, List.getElem?_cons_succ]
      rw [ih (s + 1) j (by omega)]
      congr 2
      omega

theorem paramsOf_fst (pf : List Nat) (i : Nat) (vs : List (Option Bytes)) :
    (paramsOf pf i vs).map (·.1) = fmtBools pf i vs.length := by
  induction vs generalizing i with
  | nil => rfl
  | cons v vs ih => simp [paramsOf, fmtBools, ih]

theorem paramsOf_snd (pf : List Nat) (i : Nat) (vs : List (Option Bytes)) :
    (paramsOf pf i vs).map (·.2) = vs := by
  induction vs generalizing i with
  | nil => rfl
  | cons v vs ih => simp [paramsOf, ih]

theorem getParameters_go (p : BindPacket) (i : Nat) (vs : List (Option Bytes))
    (hf : ∀ j, j < vs.length → ∃ b, formatByIndex (i + j) p.paramFormats = .ok b) :
    BindPacket.getParameters.go p i vs = .ok (paramsOf p.paramFormats i vs) := by
  induction vs generalizing i with
  | nil => rfl
  | cons v vs ih =>
    obtain ⟨b, hb⟩ := hf 0 (by simp)
    rw [Nat.add_zero] at hb
    have hfb : fmtBool i p.paramFormats = b := by simp [fmtBool, hb]
    unfold BindPacket.getParameters.go
    rw [hb]
    simp only [Out.bind_ok]
    rw [ih (i + 1) (fun j hj => by
      have := hf (j + 1) (by simp; omega)
      rwa [show i + (j + 1) = i + 1 + j by omega] at this)]
    simp only [Out.bind_ok, Out.pure_eq, paramsOf, hfb]

theorem rewriteBind_go (g : Nat → Bool → Option Bytes → Out (Option Bytes)) (f : Nat → Bytes → Bytes)
    (hg : ∀ i b v, g i b v = .ok (v.map (f i))) (pf : List Nat) (i : Nat) (vs : List (Option Bytes)) :
    rewriteBind.go g i (paramsOf pf i vs) = .ok (paramsOf pf i (mapRow f i vs)) := by
  induction vs generalizing i with
  | nil => rfl
  | cons v vs ih =>
    cases v with
    | none => simp [paramsOf, rewriteBind.go, hg, mapRow, ih]
    | some b => simp [paramsOf, rewriteBind.go, hg, mapRow, ih]

theorem setParameters_paramsOf (portal stmt : Bytes) (pf0 pf : List Nat) (pv0 vs : List (Option Bytes))
    (rf : List Nat) (hne : vs ≠ []) :
    BindPacket.setParameters ⟨portal, stmt, pf0, pv0, rf⟩ (paramsOf pf 0 vs) =
      ⟨portal, stmt, canonFormats pf vs.length, vs, rf⟩ := by
  cases vs with
  | nil => exact absurd rfl hne
  | cons v vs =>
    have h1 := paramsOf_fst pf 1 vs
    have h2 := paramsOf_snd pf 1 vs
    simp only [paramsOf, BindPacket.setParameters, canonFormats, List.length_cons, fmtBools, ← h1,
      List.all_map, List.map_cons, List.map_map, h2, Nat.zero_add]
    rfl

theorem formatByIndex_single (i : Nat) (b : Bool) : formatByIndex i [fmtCode b] = .ok b := by
  cases b <;> rfl

theorem formatByIndex_codes (i : Nat) (bs : List Bool) (hl : bs.length ≠ 1) (b : Bool)
    (h : bs[i]? = some b) : formatByIndex i (bs.map fmtCode) = .ok b := by
  cases bs with
  | nil => simp at h
  | cons x xs =>
    have hl' : ¬ ((x :: xs).map fmtCode).length = 1 := by rwa [List.length_map]
    have hg : ((x :: xs).map fmtCode)[i]? = some (fmtCode b) := by
      rw [List.getElem?_map, h]; rfl
    unfold formatByIndex
    simp only [List.map_cons] at hl' hg ⊢
    rw [if_neg hl', hg]
    cases b <;> rfl

theorem canonFormats_length_le (pf : List Nat) (n : Nat) : (canonFormats pf n).length ≤ n := by
  cases n with
  | zero => simp [canonFormats, fmtBools]
  | succ n =>
    simp only [canonFormats, fmtBools]
    split
    · simp
    · simp [fmtBools_length]

/-- the format codes written by `SetParameters` denote, for every parameter, the format
it had before -/
theorem formatByIndex_canonFormats (pf : List Nat) (n : Nat)
    (hf : ∀ i, i < n → ∃ b, formatByIndex i pf = .ok b) :
    ∀ i, i < n → formatByIndex i (canonFormats pf n) = formatByIndex i pf := by
  intro i hi
  obtain ⟨b, hb⟩ := hf i hi
  have hfb : fmtBool i pf = b := by simp [fmtBool, hb]
  rw [hb]
  cases n with
  | zero => omega
  | succ n =>
    have hget := fmtBools_getElem? pf 0 (n + 1) i hi
    rw [Nat.zero_add, hfb] at hget
    simp only [fmtBools] at hget
    simp only [canonFormats, fmtBools]
    split
    · next hall =>
      rw [formatByIndex_single]
      congr 1
      cases i with
      | zero => simpa using hget
      | succ j =>
        rw [List.getElem?_cons_succ] at hget
        have hm := List.mem_of_getElem? hget
        rw [List.all_eq_true] at hall
        have := hall b hm
        exact (by simpa using this : b = fmtBool 0 pf).symm
    · next hnall =>
      apply formatByIndex_codes i _ _ b hget
      intro hlen
      apply hnall
      have : fmtBools pf (0 + 1) n = [] := by
        apply List.eq_nil_of_length_eq_zero
        simpa using hlen
      rw [this]
      rfl

/-- Behind `rewrite_wellformed_pg_bind`: after a total per-parameter transformation (NULL stays NULL)
the packet holds the specification encoding of the Bind message with the transformed parameters and
the canonical format codes, and the matching length field -/
theorem rewriteBind_wellformed (f : Nat → Bytes → Bytes)
    (g : Nat → Bool → Option Bytes → Out (Option Bytes))
    (hg : ∀ i b v, g i b v = .ok (v.map (f i)))
    (portal stmt lb : Bytes) (pf : List Nat) (pv : List (Option Bytes)) (rf : List Nat)
    (hp : NoZero portal) (hs : NoZero stmt)
    (hpf : pf.length < 2^16 ∧ ∀ f ∈ pf, f < 2^16) (hrf : rf.length < 2^16 ∧ ∀ f ∈ rf, f < 2^16)
    (hpv : pv.length < 2^16 ∧ ∀ b, some b ∈ pv → b.length < 2^32 - 1)
    (hpv' : ∀ b, some b ∈ mapRow f 0 pv → b.length < 2^32 - 1)
    (hne : pv ≠ [])
    (hfmt : ∀ i, i < pv.length → ∃ b, formatByIndex i pf = .ok b)
    (hsz : (encodeBind portal stmt (canonFormats pf pv.length) (mapRow f 0 pv) rf).length + 4 < 2^32) :
    rewriteBind g ⟨66, lb, encodeBind portal stmt pf pv rf⟩ =
      .ok ⟨66, beBytes 4 ((encodeBind portal stmt (canonFormats pf pv.length) (mapRow f 0 pv) rf).length + 4),
        encodeBind portal stmt (canonFormats pf pv.length) (mapRow f 0 pv) rf⟩ := by
  have hget : BindPacket.getParameters ⟨portal, stmt, pf, pv, rf⟩ = .ok (paramsOf pf 0 pv) := by
    unfold BindPacket.getParameters
    exact getParameters_go ⟨portal, stmt, pf, pv, rf⟩ 0 pv (fun j hj => by simpa using hfmt j hj)
  have hne' : mapRow f 0 pv ≠ [] := by
    intro h
    have := mapRow_length f 0 pv
    rw [h] at this
    exact hne (List.eq_nil_of_length_eq_zero this.symm)
  have hset := setParameters_paramsOf portal stmt pf pf pv (mapRow f 0 pv) rf hne'
  rw [mapRow_length] at hset
  have hcl := canonFormats_length_le pf pv.length
  have hmar := BindPacket.marshal_ok portal stmt (canonFormats pf pv.length) (mapRow f 0 pv) rf
    (by omega) hrf.1 (by rw [mapRow_length]; exact hpv.1) hpv'
  unfold rewriteBind
  simp only [newBindPacket_encodeBind portal stmt pf pv rf hp hs hpf hrf hpv, Out.bind_ok, hget,
    rewriteBind_go g f hg, hset, hmar, Out.pure_eq]
  unfold packetLength
  rw [lenSize_eq, Nat.mod_eq_of_lt hsz]

theorem chkSlice_no_panic (b : Bytes) (lo hi : Nat) : chkSlice b lo hi ≠ .panic := by
  unfold chkSlice
  cases h : goSlice b lo hi <;> simp

theorem readParams_no_panic (k : Nat) (rest : Bytes) : readParams k rest ≠ .panic := by
  induction k generalizing rest with
  | zero => simp [readParams]
  | succ k ih =>
    match rest with
    | a :: b :: c :: d :: r =>
      unfold readParams
      exact Out.bind_ne_panic (ih r) fun _ _ => ok_ne_panic _
    | [] | [_] | [_, _] | [_, _, _] => simp [readParams]

theorem indexZero_lt {data : Bytes} {i : Nat} (h : indexZero data = some i) : i < data.length := by
  induction data generalizing i with
  | nil => cases h
  | cons b r ih =>
    unfold indexZero at h
    split at h
    · cases h; simp
    · cases hr : indexZero r with
      | none => rw [hr] at h; cases h
      | some j =>
        rw [hr] at h
        cases h
        have := ih hr
        simp; omega

theorem newParsePacket_no_panic (data : Bytes) : newParsePacket data ≠ .panic := by
  cases h0 : indexZero data with
  | none => simp [newParsePacket, h0]
  | some i0 =>
    have l0 := indexZero_lt h0
    cases h1 : indexZero (data.drop (i0 + 1)) with
    | none => simp [newParsePacket, h0, h1]
    | some i1 =>
      have l1 := indexZero_lt h1
      rw [List.length_drop] at l1
      simp only [newParsePacket, h0, h1]
      rw [goSlice_ok data 0 (i0 + 1) (by omega) (by omega),
        goSlice_ok data (i0 + 1) (i1 + (i0 + 1) + 1) (by omega) (by omega)]
      simp only [Out.bind_ok]
      refine Out.bind_ne_panic (chkSlice_no_panic _ _ _) fun _ _ => ?_
      split
      · exact Out.bind_ne_panic (readParams_no_panic _ _) fun _ _ => ok_ne_panic _
      · exact ok_ne_panic _

theorem replaceParseQuery_no_panic (p : Packet) (q : Bytes) : replaceParseQuery p q ≠ .panic := by
  unfold replaceParseQuery
  split
  · exact ok_ne_panic _
  · exact ok_ne_panic _
  · next hc => exact absurd hc (newParsePacket_no_panic p.body)

theorem replaceParseOids_no_panic (p : Packet) (sel : Nat → Bool) (b : Nat) : replaceParseOids p sel b ≠ .panic := by
  unfold replaceParseOids
  refine Out.bind_ne_panic (newParsePacket_no_panic _) fun _ _ => ?_
  split <;> exact ok_ne_panic _

theorem handleParse_no_panic (p : Packet) (q : Option Bytes) (sel : Nat → Bool) (b : Nat) :
    handleParse p q sel b ≠ .panic := by
  unfold handleParse
  refine Out.bind_ne_panic ?_ fun _ _ => replaceParseOids_no_panic _ _ _
  cases q with
  | none => exact ok_ne_panic _
  | some t => exact replaceParseQuery_no_panic p t

theorem readString_no_panic (data : Bytes) : readString data ≠ .panic := by
  unfold readString
  split <;> simp

theorem take_len_le (b : Bytes) (k : Nat) : (b.take k).length ≤ k := by
  rw [List.length_take]; omega

theorem readUint16Array_no_panic (data : Bytes) : readUint16Array data ≠ .panic := by
  have hc : countConv Generated.Wire.pgU16ArrayCountConv (data.take 2) = beVal (data.take 2) :=
    goConvs_int_beVal _ (Nat.le_trans (take_len_le _ _) (by decide))
  unfold readUint16Array
  split
  · simp
  · simp only [hc]
    split
    · simp
    · rw [if_neg (by omega)]
      simp

theorem readParamsArr_no_panic (k : Nat) (s : Bytes) : readParamsArr k s ≠ .panic := by
  induction k generalizing s with
  | zero => simp [readParamsArr]
  | succ k ih =>
    have hc : lenConv (s.take 4) = beVal (s.take 4) := goConvs_int_beVal _ (Nat.le_trans (take_len_le _ _) (by decide))
    simp only [readParamsArr, hc]
    split
    · simp
    · split
      · exact Out.bind_ne_panic (ih _) fun _ _ => ok_ne_panic _
      · split
        · simp
        · rw [if_neg (by omega)]
          exact Out.bind_ne_panic (ih _) fun _ _ => ok_ne_panic _

theorem readParameterArray_no_panic (data : Bytes) : readParameterArray data ≠ .panic := by
  have hc : countConv Generated.Wire.pgParamArrayCountConv (data.take 2) = beVal (data.take 2) :=
    goConvs_int_beVal _ (Nat.le_trans (take_len_le _ _) (by decide))
  unfold readParameterArray
  split
  · simp
  · simp only [hc]
    rw [if_neg (by omega)]
    exact readParamsArr_no_panic _ _

theorem newBindPacket_no_panic (data : Bytes) : newBindPacket data ≠ .panic := by
  unfold newBindPacket
  exact Out.bind_ne_panic (readString_no_panic _) fun _ _ =>
    Out.bind_ne_panic (readString_no_panic _) fun _ _ =>
    Out.bind_ne_panic (readUint16Array_no_panic _) fun _ _ =>
    Out.bind_ne_panic (readParameterArray_no_panic _) fun _ _ =>
    Out.bind_ne_panic (readUint16Array_no_panic _) fun _ _ => ok_ne_panic _

theorem writeUint16Array_no_panic (vs : List Nat) : writeUint16Array vs ≠ .panic := by
  unfold writeUint16Array
  split <;> simp

theorem writeParameterArray_no_panic (ps : List (Option Bytes)) : writeParameterArray ps ≠ .panic := by
  unfold writeParameterArray
  split
  · simp
  · split <;> simp

theorem BindPacket.marshal_no_panic (p : BindPacket) : p.marshal ≠ .panic := by
  unfold BindPacket.marshal
  exact Out.bind_ne_panic (writeUint16Array_no_panic _) fun _ _ =>
    Out.bind_ne_panic (writeParameterArray_no_panic _) fun _ _ =>
    Out.bind_ne_panic (writeUint16Array_no_panic _) fun _ _ => ok_ne_panic _

theorem getParameters_go_no_panic (p : BindPacket) (i : Nat) (vs : List (Option Bytes)) :
    BindPacket.getParameters.go p i vs ≠ .panic := by
  induction vs generalizing i with
  | nil => exact ok_ne_panic _
  | cons v vs ih =>
    unfold BindPacket.getParameters.go
    exact Out.bind_ne_panic (formatByIndex_no_panic _ _) fun _ _ => Out.bind_ne_panic (ih _) fun _ _ => ok_ne_panic _

theorem rewriteBind_go_no_panic (g : Nat → Bool → Option Bytes → Out (Option Bytes))
    (hg : ∀ i b v, g i b v ≠ .panic) (i : Nat) (ps : List (Bool × Option Bytes)) :
    rewriteBind.go g i ps ≠ .panic := by
  induction ps generalizing i with
  | nil => exact ok_ne_panic _
  | cons x ps ih =>
    unfold rewriteBind.go
    exact Out.bind_ne_panic (hg _ _ _) fun _ _ => Out.bind_ne_panic (ih _) fun _ _ => ok_ne_panic _

theorem rewriteBind_no_panic (g : Nat → Bool → Option Bytes → Out (Option Bytes))
    (hg : ∀ i b v, g i b v ≠ .panic) (p : Packet) : rewriteBind g p ≠ .panic := by
  unfold rewriteBind
  refine Out.bind_ne_panic (newBindPacket_no_panic _) fun bp _ => ?_
  cases h1 : bp.getParameters with
  | panic => exact absurd h1 (getParameters_go_no_panic bp 0 _)
  | err => simp
  | ok params =>
    simp only []
    cases h2 : rewriteBind.go g 0 params with
    | panic => exact absurd h2 (rewriteBind_go_no_panic g hg 0 params)
    | err => simp
    | ok params' =>
      simp only []
      cases h3 : (bp.setParameters params').marshal with
      | panic => exact absurd h3 (BindPacket.marshal_no_panic _)
      | err => simp
      | ok body => simp

example : canonFormats [] 2 = [0] := by decide
example : canonFormats [1] 3 = [1] := by decide
example : canonFormats [1, 1] 2 = [1] := by decide
example : canonFormats [0, 1] 2 = [0, 1] := by decide

/-- non-vacuity of `rewriteBind_wellformed`: two parameters (text value, binary NULL) -/
example : rewriteBind (fun i _ v => .ok (v.map ((fun _ d => d ++ [2]) i)))
      ⟨66, [], encodeBind [112] [115] [0, 1] [some [1], none] [1]⟩ =
    .ok ⟨66, beBytes 4 ((encodeBind [112] [115] (canonFormats [0, 1] 2)
        (mapRow (fun _ d => d ++ [2]) 0 [some [1], none]) [1]).length + 4),
      encodeBind [112] [115] (canonFormats [0, 1] 2) (mapRow (fun _ d => d ++ [2]) 0 [some [1], none]) [1]⟩ :=
  rewriteBind_wellformed (fun _ d => d ++ [2]) _ (fun _ _ _ => rfl) [112] [115] [] [0, 1]
    [some [1], none] [1]
    (by intro c hc; simp at hc; subst hc; decide) (by intro c hc; simp at hc; subst hc; decide)
    ⟨by decide, by intro x hx; simp at hx; omega⟩ ⟨by decide, by intro x hx; simp at hx; omega⟩
    ⟨by decide, by intro b hb; simp at hb; subst hb; decide⟩
    (by intro b hb; simp [mapRow] at hb; subst hb; decide)
    (by simp)
    (by
      intro i hi
      have : i = 0 ∨ i = 1 := by simp at hi; omega
      rcases this with h | h <;> subst h <;> exact ⟨_, rfl⟩)
    (by decide)

end AcraModel.Wire.Pg
