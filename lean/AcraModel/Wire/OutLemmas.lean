import AcraModel.Basic.Bytes
/-! The two closing steps of the "no panic" proofs of the PostgreSQL and the MySQL lemma files. -/
namespace AcraModel.Wire
open AcraModel

theorem ok_ne_panic {α} (a : α) : (Out.ok a : Out α) ≠ .panic := fun h => nomatch h
theorem err_ne_panic {α} : (Out.err : Out α) ≠ .panic := fun h => nomatch h

end AcraModel.Wire
