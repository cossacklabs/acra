import AcraModel.Wire.MysqlColDef
import AcraModel.Wire.MysqlLemmas
/-! Lemmas about the MySQL column definition model (`Wire/MysqlColDef.lean`): no panic, round trip, re-typing. -/
namespace AcraModel.Wire.My
open AcraModel AcraModel.Wire.LenEnc AcraModel.Wire.LenEnc.Proofs

theorem skip_le (data : Bytes) (n : Nat) (h : skipLengthEncodedString data = .ok n) : n ≤ data.length := by
  unfold skipLengthEncodedString at h
  obtain ⟨res, hr, h⟩ := Out.bind_eq_ok h
  have hp := lenenc_int_progress data res hr
  split at h
  · cases h; exact hp.2
  · split at h <;> cases h
    omega

theorem strAt_no_panic (d : Bytes) (pos : Nat) (h : pos ≤ d.length) : strAt d pos ≠ .panic := by
  unfold strAt
  rw [goSliceFrom_ok _ _ h]
  exact lenenc_str_no_panic _

theorem strAt_le (d : Bytes) (pos : Nat) (v : Option Bytes) (n : Nat) (h : pos ≤ d.length)
    (hr : strAt d pos = .ok (v, n)) : pos + n ≤ d.length := by
  unfold strAt at hr
  rw [goSliceFrom_ok _ _ h] at hr
  have := (lenenc_str_progress _ v n hr).2
  rw [List.length_drop] at this
  omega

theorem readStrs_no_panic (d : Bytes) (k pos : Nat) (h : pos ≤ d.length) : readStrs d k pos ≠ .panic := by
  induction k generalizing pos with
  | zero => exact ok_ne_panic _
  | succ k ih =>
    rw [readStrs]
    exact Out.bind_ne_panic (strAt_no_panic d pos h) fun ⟨v, n⟩ hr =>
      Out.bind_ne_panic (ih _ (strAt_le d pos v n h hr)) fun _ _ => ok_ne_panic _

theorem readStrs_le (d : Bytes) (k pos : Nat) (vs : List (Option Bytes)) (pos' : Nat) (h : pos ≤ d.length)
    (hr : readStrs d k pos = .ok (vs, pos')) : pos' ≤ d.length := by
  induction k generalizing pos vs with
  | zero => cases hr; exact h
  | succ k ih =>
    rw [readStrs] at hr
    obtain ⟨⟨v, n⟩, hs, hr⟩ := Out.bind_eq_ok hr
    obtain ⟨⟨vs', p'⟩, hk, hr⟩ := Out.bind_eq_ok hr
    cases hr
    exact ih (pos + n) vs' (strAt_le d pos v n h hs) hk

/-- every outcome of the extended-type-info read: an error, or a block that ends inside the packet -/
theorem readExt_cases (d : Bytes) (pos : Nat) :
    readExt d pos = .err ∨ ∃ e pos', readExt d pos = .ok (e, pos') ∧ pos' ≤ d.length := by
  unfold readExt
  split
  · exact .inl rfl
  · obtain ⟨b, hb⟩ := goIndex_ne_panic_of_lt d pos (by omega)
    rw [hb, Out.bind_ok]
    split
    · exact .inr ⟨_, _, rfl, by omega⟩
    · rw [goSliceFrom_ok _ _ (by omega), Out.bind_ok]
      rcases lenenc_int_cases (d.drop pos) with hr | ⟨r, hr, hp⟩ <;> rw [hr]
      · exact .inl rfl
      · rw [List.length_drop] at hp
        rw [Out.bind_ok]
        split
        · exact .inl rfl
        · simp only []
          rw [goSlice_ok _ _ _ (by omega) (by omega)]
          exact .inr ⟨_, _, rfl, by omega⟩

theorem readExt_no_panic (d : Bytes) (pos : Nat) : readExt d pos ≠ .panic := by
  rcases readExt_cases d pos with h | ⟨_, _, h, _⟩ <;> rw [h]
  · exact err_ne_panic
  · exact ok_ne_panic _

theorem readExt_le (d : Bytes) (pos : Nat) (e : Bytes) (pos' : Nat) (hr : readExt d pos = .ok (e, pos')) :
    pos' ≤ d.length := by
  rcases readExt_cases d pos with h | ⟨_, _, h, hle⟩ <;> rw [h] at hr <;> cases hr
  exact hle

theorem leAt_no_panic (d : Bytes) (pos k : Nat) (h : pos + k ≤ d.length) : ∃ v, leAt d pos k = .ok v := by
  unfold leAt
  rw [goSliceFrom_ok _ _ (by omega), Out.bind_ok, if_neg (by rw [List.length_drop]; omega)]
  exact ⟨_, rfl⟩

theorem fixedBlockLen_eq : fixedBlockLen = 13 := rfl

theorem readFixedBlock_ok (d : Bytes) (pos : Nat) (h : pos + 13 ≤ d.length) :
    ∃ cs cl ty fl dc, readFixedBlock d pos = .ok (cs, cl, ty, fl, dc, pos + 13) := by
  unfold readFixedBlock
  obtain ⟨cs, h1⟩ := leAt_no_panic d (pos + 1) 2 (by omega)
  obtain ⟨cl, h2⟩ := leAt_no_panic d (pos + 1 + 2) 4 (by omega)
  obtain ⟨ty, h3⟩ := goIndex_ne_panic_of_lt d (pos + 1 + 2 + 4) (by omega)
  obtain ⟨fl, h4⟩ := leAt_no_panic d (pos + 1 + 2 + 4 + 1) 2 (by omega)
  obtain ⟨dc, h5⟩ := goIndex_ne_panic_of_lt d (pos + 1 + 2 + 4 + 1 + 2) (by omega)
  simp only [h1, h2, h3, h4, h5, Out.bind_ok, Out.pure_eq]
  exact ⟨cs, cl, ty, fl, dc, rfl⟩

theorem readDefault_no_panic (d : Bytes) (pos : Nat) : readDefault d pos ≠ .panic := by
  unfold readDefault
  split
  · rw [goSliceFrom_ok _ _ (by omega), Out.bind_ok]
    rcases lenenc_int_cases (d.drop pos) with hr | ⟨r, hr, hp⟩ <;> rw [hr]
    · exact err_ne_panic
    · rw [List.length_drop] at hp
      simp only [Out.bind_ok]
      split
      · exact err_ne_panic
      · rw [goSlice_ok _ _ _ (by omega) (by omega)]
        exact ok_ne_panic _
  · exact ok_ne_panic _

theorem parseTail_no_panic (p : Packet) (maria : Bool) (strs : List (Option Bytes)) (ext : Bytes) (pos : Nat) :
    parseTail p maria strs ext pos ≠ .panic := by
  unfold parseTail
  split
  · exact err_ne_panic
  · next hg =>
    rw [fixedBlockLen_eq] at hg
    obtain ⟨cs, cl, ty, fl, dc, hf⟩ := readFixedBlock_ok p.data pos (by omega)
    rw [hf, Out.bind_ok]
    exact Out.bind_ne_panic (readDefault_no_panic _ _) fun _ _ => ok_ne_panic _

/-- **`ParseResultField` never panics**, whatever the packet and the capability flag (true since `fix:` 09). -/
theorem parseResultField_no_panic (p : Packet) (maria : Bool) : parseResultField p maria ≠ .panic := by
  unfold parseResultField
  refine Out.bind_ne_panic (lenenc_skip_no_panic _) fun n0 h0 => ?_
  refine Out.bind_ne_panic (readStrs_no_panic _ _ _ (skip_le _ _ h0)) fun _ _ => ?_
  refine Out.bind_ne_panic ?_ fun _ _ => parseTail_no_panic _ _ _ _ _
  split
  · exact readExt_no_panic _ _
  · exact ok_ne_panic _

theorem goSliceFrom_append_add (pre xs : Bytes) (k : Nat) (hk : k ≤ xs.length) :
    goSliceFrom (pre ++ xs) (pre.length + k) = .ok (xs.drop k) := by
  unfold goSliceFrom
  rw [if_pos (by simp only [List.length_append]; omega)]
  congr 1
  rw [← List.drop_drop]
  simp

theorem goIndex_append_add (pre xs : Bytes) (k : Nat) (x : UInt8) (h : xs[k]? = some x) :
    goIndex (pre ++ xs) (pre.length + k) = .ok x := by
  unfold goIndex
  rw [List.getElem?_append_right (by omega)]
  simp [h]

theorem strAt_append (pre : Bytes) (v : Option Bytes) (post : Bytes) (hv : ∀ b, v = some b → b.length < 2^64) :
    strAt (pre ++ (putLengthEncodedString v ++ post)) pre.length = .ok (v, (putLengthEncodedString v).length) := by
  unfold strAt
  rw [goSliceFrom_append]
  simp only [Out.bind_ok]
  exact lenenc_str_roundtrip v post hv

theorem readStrs_append (vs : List (Option Bytes)) (pre post : Bytes) (hv : ∀ b, some b ∈ vs → b.length < 2^64) :
    readStrs (pre ++ (encodeTextRow vs ++ post)) vs.length pre.length = .ok (vs, pre.length + (encodeTextRow vs).length) := by
  induction vs generalizing pre with
  | nil => simp [readStrs, encodeTextRow]
  | cons v vs ih =>
    have hv1 : ∀ b, v = some b → b.length < 2^64 := fun b hb => hv b (by rw [hb]; exact List.mem_cons_self)
    have hvs : ∀ b, some b ∈ vs → b.length < 2^64 := fun b hb => hv b (List.mem_cons_of_mem _ hb)
    rw [encodeTextRow_cons, List.length_cons, readStrs, List.append_assoc, strAt_append pre v _ hv1]
    simp only [Out.bind_ok]
    have e1 : pre ++ (putLengthEncodedString v ++ (encodeTextRow vs ++ post))
        = (pre ++ putLengthEncodedString v) ++ (encodeTextRow vs ++ post) := by simp
    have p1 : pre.length + (putLengthEncodedString v).length = (pre ++ putLengthEncodedString v).length := by simp
    rw [e1, p1, ih _ hvs]
    simp only [Out.bind_ok, Out.pure_eq, List.length_append]
    congr 2
    omega

theorem catalog_enc : putLengthEncodedString (some catalog) = [3, 100, 101, 102] := by decide

theorem skip_catalog (post : Bytes) :
    skipLengthEncodedString (putLengthEncodedString (some catalog) ++ post) = .ok (putLengthEncodedString (some catalog)).length := by
  rw [catalog_enc]
  unfold skipLengthEncodedString
  have : lengthEncodedInt ([3, 100, 101, 102] ++ post) = .ok ⟨3, false, 1⟩ := read_small 3 _ (by decide)
  rw [this]
  simp only [Out.bind_ok, List.length_append, List.length_cons, List.length_nil]
  rw [if_neg (by omega), if_neg (by omega)]
  rfl

theorem readExt_zero (pre post : Bytes) : readExt (pre ++ ([0] ++ post)) pre.length = .ok ([], pre.length + 1) := by
  unfold readExt
  rw [if_neg (by simp)]
  have : goIndex (pre ++ ([0] ++ post)) pre.length = .ok 0 := by
    have := goIndex_append_add pre ([0] ++ post) 0 0 (by simp)
    simpa using this
  rw [this]
  simp

theorem putInt_head (n : Nat) (h0 : 0 < n) (h : n < 2^64) :
    ∃ x r, putLengthEncodedInt n = x :: r ∧ x.toNat ≠ 0 := by
  rw [put_marker]
  by_cases h1 : n ≤ 250
  · refine ⟨UInt8.ofNat (n % 256), [], by simp [h1, leBytes], ?_⟩
    rw [ofNat_toNat_mod]; omega
  · by_cases h2 : n ≤ 65535
    · exact ⟨252, leBytes 2 n, by simp [h1, h2], by decide⟩
    · by_cases h3 : n ≤ 16777215
      · exact ⟨253, leBytes 3 n, by simp [h1, h2, h3], by decide⟩
      · have h4 : n ≤ 2^64 - 1 := by omega
        exact ⟨254, leBytes 8 n, by simp [h1, h2, h3, h4], by decide⟩

theorem readExt_nonempty (pre e post : Bytes) (he : e ≠ []) (hl : e.length < 2^64) :
    readExt (pre ++ (putLengthEncodedString (some e) ++ post)) pre.length
      = .ok (putLengthEncodedString (some e), pre.length + (putLengthEncodedString (some e)).length) := by
  have hpos : 0 < e.length := List.length_pos_iff.mpr he
  obtain ⟨x, r, hx, hx0⟩ := putInt_head e.length hpos hl
  unfold readExt
  rw [if_neg (by simp [putLengthEncodedString, hx])]
  have hidx : goIndex (pre ++ (putLengthEncodedString (some e) ++ post)) pre.length = .ok x := by
    have := goIndex_append_add pre (putLengthEncodedString (some e) ++ post) 0 x (by simp [putLengthEncodedString, hx])
    simpa using this
  rw [hidx]
  simp only [Out.bind_ok, if_neg hx0]
  rw [goSliceFrom_append]
  simp only [Out.bind_ok, putLengthEncodedString, List.append_assoc]
  rw [lenenc_int_roundtrip e.length (e ++ post) hl]
  simp only [Out.bind_ok]
  rw [if_neg (by simp only [List.length_append]; omega)]
  have := goSlice_append_mid pre (putLengthEncodedInt e.length ++ e) post
  simp only [List.append_assoc, List.length_append] at this
  rw [this]
  simp [List.length_append]

theorem leAt_append_add (pre xs : Bytes) (off k : Nat) (h : off + k ≤ xs.length) :
    leAt (pre ++ xs) (pre.length + off) k = .ok (leVal ((xs.drop off).take k)) := by
  unfold leAt
  rw [goSliceFrom_append_add pre xs off (by omega)]
  simp only [Out.bind_ok]
  rw [if_neg (by rw [List.length_drop]; omega)]
  rfl

/-- the fixed block: marker, charset, column length, type, flags, decimals, two filler bytes -/
def fixedBlock (cs cl ty fl dc : Nat) : Bytes :=
  [marker] ++ leBytes 2 cs ++ leBytes 4 cl ++ [UInt8.ofNat ty] ++ leBytes 2 fl ++ [UInt8.ofNat dc] ++ [0, 0]

theorem fixedBlock_length (cs cl ty fl dc : Nat) : (fixedBlock cs cl ty fl dc).length = 13 := by
  simp [fixedBlock]

theorem readFixedBlock_append (pre post : Bytes) (cs cl ty fl dc : Nat) (h1 : cs < 2^16) (h2 : cl < 2^32) (h4 : fl < 2^16) :
    readFixedBlock (pre ++ (fixedBlock cs cl ty fl dc ++ post)) pre.length
      = .ok (cs, cl, UInt8.ofNat ty, fl, UInt8.ofNat dc, pre.length + 13) := by
  obtain ⟨c0, c1, hc⟩ : ∃ c0 c1, leBytes 2 cs = [c0, c1] := ⟨_, _, rfl⟩
  obtain ⟨l0, l1, l2, l3, hl⟩ : ∃ l0 l1 l2 l3, leBytes 4 cl = [l0, l1, l2, l3] := ⟨_, _, _, _, rfl⟩
  obtain ⟨f0, f1, hf⟩ : ∃ f0 f1, leBytes 2 fl = [f0, f1] := ⟨_, _, rfl⟩
  have vc : leVal [c0, c1] = cs := by rw [← hc]; exact leVal_leBytes_of_lt 2 cs (by omega)
  have vl : leVal [l0, l1, l2, l3] = cl := by rw [← hl]; exact leVal_leBytes_of_lt 4 cl (by omega)
  have vf : leVal [f0, f1] = fl := by rw [← hf]; exact leVal_leBytes_of_lt 2 fl (by omega)
  obtain ⟨xs, hxs⟩ : ∃ xs, xs =
      marker :: c0 :: c1 :: l0 :: l1 :: l2 :: l3 :: UInt8.ofNat ty :: f0 :: f1 :: UInt8.ofNat dc :: 0 :: 0 :: post := ⟨_, rfl⟩
  have hx : fixedBlock cs cl ty fl dc ++ post = xs := by simp [fixedBlock, hc, hl, hf, hxs]
  have hlen : 13 ≤ xs.length := by rw [hxs]; simp only [List.length_cons]; omega
  have a1 := leAt_append_add pre xs 1 2 (by omega)
  have a2 := leAt_append_add pre xs 3 4 (by omega)
  have a3 := goIndex_append_add pre xs 7 (UInt8.ofNat ty) (by rw [hxs]; rfl)
  have a4 := leAt_append_add pre xs 8 2 (by omega)
  have a5 := goIndex_append_add pre xs 10 (UInt8.ofNat dc) (by rw [hxs]; rfl)
  rw [hx]
  unfold readFixedBlock
  simp only [Nat.add_assoc, Nat.reduceAdd, a1, a2, a3, a4, a5, Out.bind_ok, Out.pure_eq]
  subst hxs
  simp only [List.drop_succ_cons, List.drop_zero, List.take_succ_cons, List.take_zero, vc, vl, vf]

theorem readDefault_none (pre : Bytes) : readDefault pre pre.length = .ok (0, none) := by
  unfold readDefault
  rw [if_neg (by omega)]
  rfl

theorem readDefault_some (pre dv : Bytes) (hl : dv.length < 2^64) :
    readDefault (pre ++ (putLengthEncodedInt dv.length ++ dv)) pre.length = .ok (dv.length, some dv) := by
  have hne : 0 < (putLengthEncodedInt dv.length).length := by
    have := lenenc_int_progress _ _ (lenenc_int_roundtrip dv.length [] hl)
    simpa using this.1
  unfold readDefault
  rw [if_pos (by simp only [List.length_append]; omega), goSliceFrom_append]
  simp only [Out.bind_ok]
  rw [lenenc_int_roundtrip dv.length dv hl]
  simp only [Out.bind_ok]
  rw [if_neg (by simp only [List.length_append]; omega)]
  have := goSlice_append_mid (pre ++ putLengthEncodedInt dv.length) dv []
  simp only [List.append_nil, List.append_assoc, List.length_append] at this
  rw [this]
  rfl

/-- the values of a definition fit their fields (strings shorter than 2^64 bytes, integers within their widths) -/
structure ColSpec.Ok (s : ColSpec) : Prop where
  strs : ∀ b, some b ∈ [s.schema, s.table, s.orgTable, s.name, s.orgName] → b.length < 2^64
  ext : ∀ e, s.ext = some e → e.length < 2^64
  charset : s.charset < 2^16
  columnLength : s.columnLength < 2^32
  typ : s.typ < 256
  flag : s.flag < 2^16
  decimal : s.decimal < 256
  default : ∀ d, s.default = some d → d.length < 2^64

/-- wire form of the MariaDB extended type info -/
def extBytes : Option Bytes → Bytes
  | some e => putLengthEncodedString (some e)
  | none => []

/-- what `ParseResultField` keeps of the extended type info: nothing for an empty one, the raw bytes otherwise -/
def extKept : Option Bytes → Bytes
  | some e => if e = [] then [] else putLengthEncodedString (some e)
  | none => []

def defaultBytes : Option Bytes → Bytes
  | some dv => putLengthEncodedString (some dv)
  | none => []

/-- the `ColumnDescription` of a specification-level definition -/
def ColSpec.toColDef (s : ColSpec) (h : Bytes) : ColDef :=
  { changed := false, originType := 0, maria := s.ext.isSome, data := encodeColDef s, header := h,
    schema := s.schema, table := s.table, orgTable := s.orgTable, name := s.name, orgName := s.orgName,
    extInfo := extKept s.ext, charset := s.charset, columnLength := s.columnLength, typ := s.typ, flag := s.flag,
    decimal := s.decimal, defaultLen := (s.default.map List.length).getD 0, defaultValue := s.default }

theorem encodeColDef_eq (s : ColSpec) :
    encodeColDef s = putLengthEncodedString (some catalog) ++ (encodeTextRow [s.schema, s.table, s.orgTable, s.name, s.orgName]
      ++ (extBytes s.ext ++ (fixedBlock s.charset s.columnLength s.typ s.flag s.decimal ++ defaultBytes s.default))) := by
  unfold encodeColDef fixedBlock extBytes defaultBytes
  cases s.ext <;> cases s.default <;> simp [encodeTextRow]

/-- the length of a definition depends on its strings, extended type info and default value only -/
theorem encodeColDef_length (s : ColSpec) :
    (encodeColDef s).length = (putLengthEncodedString (some catalog)).length +
      ((encodeTextRow [s.schema, s.table, s.orgTable, s.name, s.orgName]).length +
        ((extBytes s.ext).length + (13 + (defaultBytes s.default).length))) := by
  rw [encodeColDef_eq]
  simp only [List.length_append, fixedBlock_length]

theorem readExt_spec (pre post : Bytes) (ext : Option Bytes) (h : ∀ e, ext = some e → e.length < 2^64) :
    (if ext.isSome then readExt (pre ++ (extBytes ext ++ post)) pre.length else (pure ([], pre.length) : Out (Bytes × Nat)))
      = .ok (extKept ext, pre.length + (extBytes ext).length) := by
  cases ext with
  | none => simp [extKept, extBytes]
  | some e =>
    simp only [Option.isSome_some, if_true, extBytes, extKept]
    by_cases he : e = []
    · subst he
      have : putLengthEncodedString (some ([] : Bytes)) = [0] := by decide
      rw [this, readExt_zero]
      simp
    · rw [if_neg he]
      exact readExt_nonempty pre e post he (h e rfl)

theorem readDefault_spec (pre : Bytes) (dflt : Option Bytes) (h : ∀ d, dflt = some d → d.length < 2^64) :
    readDefault (pre ++ defaultBytes dflt) pre.length = .ok ((dflt.map List.length).getD 0, dflt) := by
  cases dflt with
  | none => simp only [defaultBytes, List.append_nil]; exact readDefault_none pre
  | some dv =>
    simp only [defaultBytes, putLengthEncodedString]
    exact readDefault_some pre dv (h dv rfl)

theorem parseResultField_encodeColDef (s : ColSpec) (h : Bytes) (hs : s.Ok) :
    parseResultField ⟨h, encodeColDef s⟩ s.ext.isSome = .ok (s.toColDef h) := by
  have hd := encodeColDef_eq s
  generalize hA : putLengthEncodedString (some catalog) = A at hd
  generalize hS : encodeTextRow [s.schema, s.table, s.orgTable, s.name, s.orgName] = S at hd
  generalize hE : extBytes s.ext = E at hd
  generalize hF : fixedBlock s.charset s.columnLength s.typ s.flag s.decimal = F at hd
  generalize hD : defaultBytes s.default = D at hd
  have hFl : F.length = 13 := by rw [← hF]; exact fixedBlock_length _ _ _ _ _
  have hskip : skipLengthEncodedString (A ++ (S ++ (E ++ (F ++ D)))) = .ok A.length := by
    rw [← hA]; exact skip_catalog _
  have hstrs : readStrs (A ++ (S ++ (E ++ (F ++ D)))) 5 A.length
      = .ok ([s.schema, s.table, s.orgTable, s.name, s.orgName], A.length + S.length) := by
    rw [← hS]
    exact readStrs_append [s.schema, s.table, s.orgTable, s.name, s.orgName] A _ hs.strs
  have e2 : A ++ (S ++ (E ++ (F ++ D))) = (A ++ S) ++ (E ++ (F ++ D)) := by simp
  have p2 : A.length + S.length = (A ++ S).length := by simp
  have hext : (if s.ext.isSome then readExt ((A ++ S) ++ (E ++ (F ++ D))) (A ++ S).length
      else (pure ([], (A ++ S).length) : Out (Bytes × Nat))) = .ok (extKept s.ext, (A ++ S).length + E.length) := by
    rw [← hE]; exact readExt_spec (A ++ S) _ s.ext hs.ext
  have e3 : (A ++ S) ++ (E ++ (F ++ D)) = (A ++ S ++ E) ++ (F ++ D) := by simp
  have p3 : (A ++ S).length + E.length = (A ++ S ++ E).length := by simp only [List.length_append]
  have hguard : ¬ ((A ++ S ++ E) ++ (F ++ D)).length - (A ++ S ++ E).length < fixedBlockLen := by
    rw [fixedBlockLen_eq]; simp only [List.length_append, hFl]; omega
  have hfix : readFixedBlock ((A ++ S ++ E) ++ (F ++ D)) (A ++ S ++ E).length
      = .ok (s.charset, s.columnLength, UInt8.ofNat s.typ, s.flag, UInt8.ofNat s.decimal, (A ++ S ++ E).length + 13) := by
    rw [← hF]; exact readFixedBlock_append _ _ _ _ _ _ _ hs.charset hs.columnLength hs.flag
  have e4 : (A ++ S ++ E) ++ (F ++ D) = (A ++ S ++ E ++ F) ++ D := by simp
  have p4 : (A ++ S ++ E).length + 13 = (A ++ S ++ E ++ F).length := by simp only [List.length_append, hFl]
  have hdef : readDefault ((A ++ S ++ E ++ F) ++ D) (A ++ S ++ E ++ F).length
      = .ok ((s.default.map List.length).getD 0, s.default) := by
    rw [← hD]; exact readDefault_spec _ s.default hs.default
  have ht : (UInt8.ofNat s.typ).toNat = s.typ := by
    have := hs.typ; simp [UInt8.toNat_ofNat']; omega
  have hdc : (UInt8.ofNat s.decimal).toNat = s.decimal := by
    have := hs.decimal; simp [UInt8.toNat_ofNat']; omega
  unfold parseResultField
  simp only []
  rw [hd, hskip]
  simp only [Out.bind_ok]
  rw [hstrs]
  simp only [Out.bind_ok]
  rw [e2, p2, hext]
  simp only [Out.bind_ok]
  unfold parseTail
  simp only []
  rw [e3, p3, if_neg hguard, hfix]
  simp only [Out.bind_ok]
  rw [e4, p4, hdef]
  simp only [Out.bind_ok, Out.pure_eq, ColSpec.toColDef, ht, hdc]
  rw [hd, e2, e3, e4]
  rfl

/-- the payload `Dump` rebuilds from the parsed fields of a well-formed definition is that definition -/
theorem build_toColDef (s : ColSpec) (h : Bytes) : (s.toColDef h).build = encodeColDef s := by
  have hz : putLengthEncodedString (some ([] : Bytes)) = [0] := by decide
  have hext : (if s.ext.isSome = true then (if (extKept s.ext).length > 0 then extKept s.ext else [0]) else [])
      = (match s.ext with | some e => putLengthEncodedString (some e) | none => []) := by
    cases s.ext with
    | none => rfl
    | some e =>
      by_cases he : e = []
      · subst he; simp [extKept, hz]
      · have hpos : 0 < (putLengthEncodedString (some e)).length := by
          simp only [putLengthEncodedString, List.length_append]
          have := List.length_pos_iff.mpr he
          omega
        simp [extKept, he, hpos]
  unfold ColDef.build ColSpec.toColDef encodeColDef
  simp only []
  rw [hext]
  cases s.default <;> rfl

/-- the flag `updateFieldEncodedType` leaves: BlobFlag removed when it was set and the new type is a "specific" one -/
def retypeFlag (flag nt : Nat) : Nat :=
  if (flag / Generated.Wire.myBlobFlag) % 2 = 1 ∧ Generated.Wire.mySpecificTypes.contains nt
  then removeFlag flag Generated.Wire.myBlobFlag else flag

/-- the definition Acra is expected to send for a column re-typed to `nt` (configuration `cs/len/dec`):
type, charset, column length, decimals replaced; BlobFlag removed for the "specific" types; all else as received -/
def retypeSpec (s : ColSpec) (nt cs len dec : Nat) : ColSpec :=
  { s with typ := nt, charset := cs, columnLength := len, decimal := dec, flag := retypeFlag s.flag nt }

theorem encodeColDef_length_retypeSpec (s : ColSpec) (nt cs len dec : Nat) :
    (encodeColDef (retypeSpec s nt cs len dec)).length = (encodeColDef s).length := by
  rw [encodeColDef_length, encodeColDef_length]
  rfl

theorem dump_unchanged (s : ColSpec) (h : Bytes) : (s.toColDef h).dump = h ++ encodeColDef s := by
  simp [ColDef.dump, ColSpec.toColDef]

theorem dump_changed (s : ColSpec) (h : Bytes) : ({ s.toColDef h with changed := true }).dump = h ++ encodeColDef s := by
  have : ({ s.toColDef h with changed := true } : ColDef).build = (s.toColDef h).build := rfl
  simp only [ColDef.dump, this, build_toColDef]
  simp [ColSpec.toColDef]

theorem retype_eq (f : ColDef) (nt cs len dec : Nat)
    (hcfg : Generated.Wire.myTypeConfigurations.find? (·.1 = nt) = some (nt, cs, len, dec)) :
    retype f (some nt) = { f with originType := f.typ, typ := nt, changed := true, charset := cs, columnLength := len, decimal := dec, flag := retypeFlag f.flag nt } := by
  unfold retypeFlag
  unfold retype
  simp only [hcfg]
  split <;> rfl

theorem retype_dump (s : ColSpec) (h : Bytes) (nt cs len dec : Nat)
    (hcfg : Generated.Wire.myTypeConfigurations.find? (·.1 = nt) = some (nt, cs, len, dec)) :
    (retype (s.toColDef h) (some nt)).changed = true ∧ (retype (s.toColDef h) (some nt)).originType = s.typ ∧
    (retype (s.toColDef h) (some nt)).dump = h ++ encodeColDef (retypeSpec s nt cs len dec) := by
  rw [retype_eq _ nt cs len dec hcfg]
  refine ⟨rfl, rfl, ?_⟩
  rw [← build_toColDef (retypeSpec s nt cs len dec) h]
  simp only [ColDef.dump, ColDef.build, ColSpec.toColDef, retypeSpec]
  simp

theorem retype_none (f : ColDef) : retype f none = f := rfl

/-- a parameter definition re-typed by `ParamsTrackHandler`: only the type byte differs -/
theorem retypeParam_dump (s : ColSpec) (h : Bytes) (nt : Nat) :
    (retypeParam (s.toColDef h) (some nt)).dump = h ++ encodeColDef { s with typ := nt } := by
  have hb : (retypeParam (s.toColDef h) (some nt)).build = (({ s with typ := nt } : ColSpec).toColDef h).build := rfl
  unfold ColDef.dump
  rw [hb, build_toColDef]
  simp [retypeParam, ColSpec.toColDef]

end AcraModel.Wire.My
