import AcraModel.Wire.PgRow
import AcraModel.Wire.OutLemmas
/-!
Lemmas about the PostgreSQL wire models (`PgMsg.lean`, `PgRow.lean`): the handlers read what the
specification codec writes, marshal it back byte-identically, and a rewritten DataRow is the
specification encoding of the transformed row.
-/
namespace AcraModel.Wire.Pg
open AcraModel

theorem nullLen_eq : nullLen = 2^32 - 1 := by decide

theorem lenSize_eq : lenSize = 4 := rfl

theorem beVal_beBytes4 (n : Nat) (h : n < 2^32) : beVal (beBytes 4 n) = n :=
  beVal_beBytes_of_lt 4 n (by omega)

theorem beVal_beBytes2 (n : Nat) (h : n < 2^16) : beVal (beBytes 2 n) = n :=
  beVal_beBytes_of_lt 2 n (by omega)

theorem readN_append (a s : Bytes) : readN (a ++ s) a.length = .ok (a, s) := by
  unfold readN
  rw [if_neg (by simp [List.length_append])]
  simp

theorem readN_append' (a s : Bytes) (k : Nat) (h : a.length = k) : readN (a ++ s) k = .ok (a, s) := by
  subst h; exact readN_append a s

theorem readData_nil_append (body rest : Bytes) (dl : Int) (h : dl = (body.length : Int)) :
    readData [] dl (body ++ rest) = .ok (body, rest) := by
  subst h
  unfold readData
  rw [if_neg (by omega)]
  simp [readN_append]

theorem dataLength_beBytes (n : Nat) (h : n + 4 < 2^32) : dataLength (beBytes 4 (n + 4)) = (n : Int) := by
  unfold dataLength
  rw [beVal_beBytes4 _ h, beBytes_length]
  omega

theorem encodeMsg_append (t : UInt8) (body rest : Bytes) :
    encodeMsg t body ++ rest = [t] ++ (beBytes 4 (body.length + 4) ++ (body ++ rest)) := by
  simp [encodeMsg]

/-- the database-side reader reads exactly one well-framed message -/
theorem readDb_encodeMsg (t : UInt8) (body rest : Bytes) (h : body.length + 4 < 2^32) :
    readDb (encodeMsg t body ++ rest) = .ok (⟨t, beBytes 4 (body.length + 4), body⟩, rest) := by
  rw [encodeMsg_append]
  unfold readDb
  rw [readN_append' [t] _ 1 rfl]
  simp only [Out.bind_ok]
  rw [readN_append' (beBytes 4 (body.length + 4)) _ 4 (beBytes_length _ _)]
  simp only [Out.bind_ok]
  rw [readData_nil_append body rest _ (dataLength_beBytes _ h)]
  rfl

/-- marshalling the packet read from a well-framed message gives the message back -/
theorem marshal_encodeMsg (t : UInt8) (body : Bytes) (ht : t.toNat ≠ 0) :
    marshal ⟨t, beBytes 4 (body.length + 4), body⟩ = encodeMsg t body := by
  unfold marshal encodeMsg
  have : t.toNat ≠ Generated.Wire.pgWithoutMessageType := ht
  simp [this]

/-- the client-side reader (after start-up) reads exactly one well-framed message -/
theorem readGeneral_encodeMsg (t : UInt8) (body rest : Bytes) (h : body.length + 4 < 2^32) :
    readGeneral (encodeMsg t body ++ rest) = .ok (⟨t, beBytes 4 (body.length + 4), body⟩, rest) := by
  have e : encodeMsg t body ++ rest = (t :: beBytes 4 (body.length + 4)) ++ (body ++ rest) := by
    simp [encodeMsg]
  rw [e]
  unfold readGeneral
  rw [readN_append' (t :: beBytes 4 (body.length + 4)) _ 5 (by simp)]
  simp only [Out.bind_ok, List.headD_cons, List.drop_succ_cons, List.drop_zero]
  split
  · next hc =>
    have h2 : beBytes 4 (body.length + 4) = [0, 0, 0, 4] := by
      have := hc.2
      simp [Generated.Wire.pgTerminatePacket] at this
      exact this.2
    have h3 : beVal (beBytes 4 (body.length + 4)) = 4 := by rw [h2]; decide
    rw [beVal_beBytes4 _ h] at h3
    have h4 : body = [] := List.eq_nil_of_length_eq_zero (by omega)
    subst h4
    simp
  · rw [readData_nil_append body rest _ (dataLength_beBytes _ h)]
    rfl

theorem decodeCols_succ_none (n : Nat) (s : Bytes) :
    decodeCols (n + 1) (beBytes 4 (2^32 - 1) ++ s) =
      (decodeCols n s).map fun (r, rest) => (none :: r, rest) := by
  have hl : (beBytes 4 (2^32 - 1)).length = 4 := beBytes_length _ _
  simp only [decodeCols]
  rw [List.take_left' hl, List.drop_left' hl, beVal_beBytes4 _ (by omega)]
  rw [if_neg (by simp [List.length_append])]
  rw [if_pos rfl]

/-- (a value is shorter than `2^32 - 1`, here and below: that length field is `nullLen`, the NULL marker) -/
theorem decodeCols_succ_some (n : Nat) (b s : Bytes) (h : b.length < 2^32 - 1) :
    decodeCols (n + 1) (beBytes 4 b.length ++ (b ++ s)) =
      (decodeCols n s).map fun (r, rest) => (some b :: r, rest) := by
  have hl : (beBytes 4 b.length).length = 4 := beBytes_length _ _
  simp only [decodeCols]
  rw [List.take_left' hl, List.drop_left' hl, beVal_beBytes4 _ (by omega)]
  rw [if_neg (by simp [List.length_append])]
  rw [if_neg (by omega)]
  rw [if_neg (by simp [List.length_append])]
  rw [List.take_left' rfl, List.drop_left' rfl]

theorem decodeCols_encode (r : Row) (rest : Bytes) (hb : ∀ b, some b ∈ r → b.length < 2^32 - 1) :
    decodeCols r.length (r.flatMap encodeCol ++ rest) = some (r, rest) := by
  induction r with
  | nil => simp [decodeCols]
  | cons v r ih =>
    have ih' := ih (fun b hm => hb b (List.mem_cons_of_mem _ hm))
    cases v with
    | none =>
      rw [List.flatMap_cons, List.length_cons, List.append_assoc]
      show decodeCols (r.length + 1) (beBytes 4 (2^32 - 1) ++ _) = _
      rw [decodeCols_succ_none, ih']
      rfl
    | some b =>
      have hbl := hb b List.mem_cons_self
      rw [List.flatMap_cons, List.length_cons, List.append_assoc]
      show decodeCols (r.length + 1) ((beBytes 4 b.length ++ b) ++ _) = _
      rw [List.append_assoc, decodeCols_succ_some _ _ _ hbl, ih']
      rfl

theorem encodeRow_length_ge (r : Row) : 2 ≤ (encodeRow r).length := by
  unfold encodeRow
  rw [List.length_append, beBytes_length]
  omega

/-- the `ColumnData` the handler holds after reading one encoded column -/
def colOf : Option Bytes → Col
  | none => ⟨beBytes 4 (2^32 - 1), [], true, false⟩
  | some b => ⟨beBytes 4 b.length, b, false, false⟩

theorem readCol_encodeCol (i : Nat) (fmts : List Nat) (v : Option Bytes) (rest : Bytes)
    (hf : ∃ b, formatByIndex i fmts = .ok b) (hv : ∀ b, v = some b → b.length < 2^32 - 1) :
    readCol i fmts (encodeCol v ++ rest) = .ok (colOf v, rest) := by
  obtain ⟨fb, hf⟩ := hf
  cases v with
  | none =>
    show readCol i fmts (beBytes 4 (2^32 - 1) ++ rest) = _
    unfold readCol
    rw [readN_append' _ _ 4 (beBytes_length _ _)]
    simp only [Out.bind_ok, hf]
    rw [beVal_beBytes4 _ (by omega), if_pos nullLen_eq.symm]
    rfl
  | some b =>
    have hbl := hv b rfl
    show readCol i fmts ((beBytes 4 b.length ++ b) ++ rest) = _
    rw [List.append_assoc]
    unfold readCol
    rw [readN_append' _ _ 4 (beBytes_length _ _)]
    simp only [Out.bind_ok, hf]
    rw [beVal_beBytes4 _ (by omega), if_neg (by rw [nullLen_eq]; omega)]
    by_cases h0 : b.length = 0
    · have : b = [] := List.eq_nil_of_length_eq_zero h0
      subst this
      rfl
    · rw [if_neg h0, readN_append]
      rfl

theorem readCols_encode (fmts : List Nat) (r : Row) (i : Nat) (rest : Bytes)
    (hb : ∀ b, some b ∈ r → b.length < 2^32 - 1)
    (hf : ∀ j, j < r.length → ∃ b, formatByIndex (i + j) fmts = .ok b) :
    readCols fmts r.length i (r.flatMap encodeCol ++ rest) = .ok (r.map colOf) := by
  induction r generalizing i with
  | nil => rfl
  | cons v r ih =>
    rw [List.flatMap_cons, List.length_cons, List.append_assoc]
    unfold readCols
    rw [readCol_encodeCol i fmts v _ (hf 0 (by simp))
      (fun b hvb => hb b (by rw [hvb]; exact List.mem_cons_self))]
    simp only [Out.bind_ok]
    rw [ih (i + 1) (fun b hm => hb b (List.mem_cons_of_mem _ hm))
      (fun j hj => by
        have := hf (j + 1) (by simp; omega)
        rwa [show i + (j + 1) = i + 1 + j by omega] at this)]
    rfl

/-- `parseColumns` on an encoded non-empty row -/
theorem parseColumns_encodeRow (r : Row) (fmts : List Nat) (hne : r ≠ []) (hr : r.length < 2^16)
    (hb : ∀ b, some b ∈ r → b.length < 2^32 - 1)
    (hf : ∀ i, i < r.length → ∃ b, formatByIndex i fmts = .ok b) :
    parseColumns (encodeRow r) fmts = .ok (r.length, r.map colOf) := by
  have hl : (beBytes 2 r.length).length = 2 := beBytes_length _ _
  have ht : (encodeRow r).take 2 = beBytes 2 r.length := List.take_left' hl
  have hd : (encodeRow r).drop 2 = r.flatMap encodeCol := List.drop_left' hl
  have hpos : r.length ≠ 0 := fun h => hne (List.eq_nil_of_length_eq_zero h)
  unfold parseColumns
  simp only [ht, hd, beVal_beBytes2 _ hr]
  rw [if_neg (by have := encodeRow_length_ge r; omega), if_neg hpos]
  have := readCols_encode fmts r 0 [] hb (fun j hj => by simpa using hf j hj)
  rw [List.append_nil] at this
  rw [this]
  rfl

theorem parseColumns_encodeRow_nil (fmts : List Nat) :
    parseColumns (encodeRow []) fmts = .ok (0, []) := by
  have h : beVal ((encodeRow []).take 2) = 0 := by decide
  have h2 : ¬ (encodeRow []).length < 2 := by decide
  unfold parseColumns
  rw [if_neg h2]
  simp only [h]
  rfl

/-- the columns after the column loop, for a total transformation -/
def procRow (f : Nat → Bytes → Bytes) : Nat → Row → List Col
  | _, [] => []
  | i, none :: r => colOf none :: procRow f (i + 1) r
  | i, some b :: r => (colOf (some b)).setData (f i b) :: procRow f (i + 1) r

theorem processCols_map_colOf (f : Nat → Bytes → Bytes) (i : Nat) (r : Row) :
    processCols (fun i d => .ok (f i d)) i (r.map colOf) = .ok (procRow f i r) := by
  induction r generalizing i with
  | nil => rfl
  | cons v r ih =>
    cases v with
    | none => simp [processCols, colOf, procRow, ih]
    | some b => simp [processCols, colOf, procRow, ih]

theorem processCols_allNull (g : Nat → Bytes → Out Bytes) (i : Nat) (r : Row)
    (hn : ∀ v, v ∈ r → v = none) :
    processCols g i (r.map colOf) = .ok (r.map colOf) := by
  induction r generalizing i with
  | nil => rfl
  | cons v r ih =>
    have hv := hn v List.mem_cons_self
    subst hv
    simp [processCols, colOf, ih (i + 1) (fun v hm => hn v (List.mem_cons_of_mem _ hm))]

theorem map_colOf_not_changed (r : Row) : (r.map colOf).any (·.changed) = false := by
  induction r with
  | nil => rfl
  | cons v r ih =>
    cases v <;> simp [colOf, ih]

theorem procRow_any_changed (f : Nat → Bytes → Bytes) (i : Nat) (r : Row) (h : ∃ b, some b ∈ r) :
    (procRow f i r).any (·.changed) = true := by
  induction r generalizing i with
  | nil => obtain ⟨b, hb⟩ := h; cases hb
  | cons v r ih =>
    cases v with
    | none =>
      obtain ⟨b, hb⟩ := h
      have hb' : some b ∈ r := by
        cases hb with
        | tail _ hm => exact hm
      simp [procRow, ih (i + 1) ⟨b, hb'⟩]
    | some b => simp [procRow, Col.setData]

theorem mapRow_length (f : Nat → Bytes → Bytes) (i : Nat) (r : Row) :
    (mapRow f i r).length = r.length := by
  induction r generalizing i with
  | nil => rfl
  | cons v r ih => cases v <;> simp [mapRow, ih]

theorem procRow_flatMap (f : Nat → Bytes → Bytes) (i : Nat) (r : Row)
    (hb : ∀ b, some b ∈ mapRow f i r → b.length < 2^32 - 1) :
    (procRow f i r).flatMap (fun c => c.lenBuf ++ c.data) = (mapRow f i r).flatMap encodeCol := by
  induction r generalizing i with
  | nil => rfl
  | cons v r ih =>
    cases v with
    | none =>
      have := ih (i + 1) (fun b hm => hb b (by simp only [mapRow]; exact List.mem_cons_of_mem _ hm))
      simp only [procRow, mapRow, List.flatMap_cons, this]
      rfl
    | some b =>
      have := ih (i + 1) (fun b hm => hb b (by simp only [mapRow]; exact List.mem_cons_of_mem _ hm))
      have hl : (f i b).length < 2^32 - 1 := hb (f i b) (by simp only [mapRow]; exact List.mem_cons_self)
      simp only [procRow, mapRow, List.flatMap_cons, this, Col.setData, colOf, encodeCol]
      rw [Nat.mod_eq_of_lt (by omega)]

theorem procRow_length_sum (f : Nat → Bytes → Bytes) (i : Nat) (r : Row)
    (hb : ∀ b, some b ∈ mapRow f i r → b.length < 2^32 - 1) :
    r.length * 4 + ((procRow f i r).map Col.length).sum = ((mapRow f i r).flatMap encodeCol).length := by
  induction r generalizing i with
  | nil => rfl
  | cons v r ih =>
    cases v with
    | none =>
      have := ih (i + 1) (fun b hm => hb b (by simp only [mapRow]; exact List.mem_cons_of_mem _ hm))
      simp only [procRow, mapRow, List.flatMap_cons, List.map_cons, List.sum_cons, List.length_cons,
        List.length_append, encodeCol, beBytes_length]
      have hc : (colOf none).length = 0 := rfl
      rw [hc]
      omega
    | some b =>
      have := ih (i + 1) (fun b hm => hb b (by simp only [mapRow]; exact List.mem_cons_of_mem _ hm))
      have hl : (f i b).length < 2^32 - 1 := hb (f i b) (by simp only [mapRow]; exact List.mem_cons_self)
      have hc : ((colOf (some b)).setData (f i b)).length = (f i b).length := by
        simp only [Col.length, Col.setData, colOf]
        rw [Nat.mod_eq_of_lt (by omega), beVal_beBytes4 _ (by omega)]
        rfl
      simp only [procRow, mapRow, List.flatMap_cons, List.map_cons, List.sum_cons, List.length_cons,
        List.length_append, encodeCol, beBytes_length, hc]
      omega

/-- on an encoded row the handler is the column loop followed by `updateDataFromColumns` (also on the row without
columns, where both sides leave the packet alone) -/
theorem rewriteRow_encodeRow_eq (g : Nat → Bytes → Out Bytes) (fmts : List Nat) (t : UInt8) (lb : Bytes) (r : Row)
    (hr : r.length < 2^16) (hb : ∀ b, some b ∈ r → b.length < 2^32 - 1)
    (hf : ∀ i, i < r.length → ∃ b, formatByIndex i fmts = .ok b) (hck : checkFormats fmts = .ok ()) :
    rewriteRow g fmts ⟨t, lb, encodeRow r⟩ =
      processCols g 0 (r.map colOf) >>= fun cols => pure (updateDataFromColumns ⟨t, lb, encodeRow r⟩ r.length cols) := by
  unfold rewriteRow
  rw [hck, Out.bind_ok]
  cases r with
  | nil => rw [parseColumns_encodeRow_nil]; rfl
  | cons v r =>
    rw [parseColumns_encodeRow (v :: r) fmts (by simp) hr hb hf, Out.bind_ok]
    exact if_neg (by simp)

/-- Behind `rewrite_wellformed_pg`: after a total per-column transformation of a row with at
least one non-NULL column the packet holds the specification encoding of the transformed row and
the matching length field. -/
theorem rewriteRow_encodeRow (f : Nat → Bytes → Bytes) (fmts : List Nat) (t : UInt8) (lb : Bytes)
    (r : Row) (hr : r.length < 2^16)
    (hb : ∀ b, some b ∈ r → b.length < 2^32 - 1)
    (hb' : ∀ b, some b ∈ mapRow f 0 r → b.length < 2^32 - 1)
    (hsz : (encodeRow (mapRow f 0 r)).length + 4 < 2^32)
    (hf : ∀ i, i < r.length → ∃ b, formatByIndex i fmts = .ok b)
    (hck : checkFormats fmts = .ok ())
    (hnn : ∃ b, some b ∈ r) :
    rewriteRow (fun i d => .ok (f i d)) fmts ⟨t, lb, encodeRow r⟩ =
      .ok ⟨t, beBytes 4 ((encodeRow (mapRow f 0 r)).length + 4), encodeRow (mapRow f 0 r)⟩ := by
  rw [rewriteRow_encodeRow_eq _ fmts t lb r hr hb hf hck, processCols_map_colOf, Out.bind_ok]
  unfold updateDataFromColumns
  rw [if_pos (procRow_any_changed f 0 r hnn)]
  have hbody : beBytes 2 (r.length % 2^16) ++ (procRow f 0 r).flatMap (fun c => c.lenBuf ++ c.data)
      = encodeRow (mapRow f 0 r) := by
    unfold encodeRow
    rw [procRow_flatMap f 0 r hb', mapRow_length, Nat.mod_eq_of_lt hr]
  have hlen : r.length * 4 + 2 + ((procRow f 0 r).map Col.length).sum
      = (encodeRow (mapRow f 0 r)).length := by
    have := procRow_length_sum f 0 r hb'
    unfold encodeRow
    rw [List.length_append, beBytes_length]
    omega
  simp only [Out.pure_eq, hbody, hlen]
  unfold packetLength
  rw [lenSize_eq, Nat.mod_eq_of_lt hsz]

theorem processCols_fail (g : Nat → Bytes → Out Bytes) (i : Nat) (pre post : Row) (b : Bytes)
    (hpre : ∀ j d, pre[j]? = some (some d) → ∃ d', g (i + j) d = .ok d')
    (hg : g (i + pre.length) b = .err) :
    processCols g i ((pre ++ some b :: post).map colOf) = .err := by
  induction pre generalizing i with
  | nil =>
    have hg' : g i b = .err := by simpa using hg
    simp [processCols, colOf, hg']
  | cons v pre ih =>
    have ih' := ih (i + 1)
      (fun j d hj => by
        have := hpre (j + 1) d (by simpa using hj)
        rwa [show i + (j + 1) = i + 1 + j by omega] at this)
      (by rw [← hg]; congr 1; simp; omega)
    cases v with
    | none =>
      simp [processCols, colOf] at ih' ⊢
      rw [ih']; rfl
    | some d =>
      obtain ⟨d', hd⟩ := hpre 0 d (by simp)
      have hd' : g i d = .ok d' := by simpa using hd
      simp [processCols, colOf, hd'] at ih' ⊢
      rw [ih']; rfl

/-- non-vacuity of `rewriteRow_encodeRow`: a two-column row (one value, one NULL), no declared formats -/
example : rewriteRow (fun i d => .ok ((fun _ d => d ++ [2]) i d)) [] ⟨68, [], encodeRow [some [1], none]⟩ =
    .ok ⟨68, beBytes 4 ((encodeRow (mapRow (fun _ d => d ++ [2]) 0 [some [1], none])).length + 4),
      encodeRow (mapRow (fun _ d => d ++ [2]) 0 [some [1], none])⟩ :=
  rewriteRow_encodeRow _ [] 68 [] [some [1], none] (by simp)
    (by intro b hb; simp at hb; subst hb; decide)
    (by intro b hb; simp [mapRow] at hb; subst hb; decide)
    (by decide) (by intro i _; exact ⟨false, rfl⟩) (by rfl) ⟨[1], by simp⟩

theorem readN_no_panic (s : Bytes) (k : Nat) : readN s k ≠ .panic := by
  unfold readN; split <;> simp

theorem readData_no_panic (pre : Bytes) (dl : Int) (s : Bytes) : readData pre dl s ≠ .panic := by
  unfold readData
  split
  · exact err_ne_panic
  · exact Out.bind_ne_panic (readN_no_panic _ _) fun _ _ => ok_ne_panic _

theorem readGeneral_no_panic (s : Bytes) : readGeneral s ≠ .panic := by
  unfold readGeneral
  refine Out.bind_ne_panic (readN_no_panic _ _) fun _ _ => ?_
  dsimp only
  split
  · exact ok_ne_panic _
  · exact Out.bind_ne_panic (readData_no_panic _ _ _) fun _ _ => ok_ne_panic _

theorem readDb_no_panic (s : Bytes) : readDb s ≠ .panic := by
  unfold readDb
  exact Out.bind_ne_panic (readN_no_panic _ _) fun _ _ => Out.bind_ne_panic (readN_no_panic _ _) fun _ _ =>
    Out.bind_ne_panic (readData_no_panic _ _ _) fun _ _ => ok_ne_panic _

theorem readStartup_no_panic (s : Bytes) : readStartup s ≠ .panic := by
  unfold readStartup
  refine Out.bind_ne_panic (readN_no_panic _ _) fun _ _ => ?_
  dsimp only
  split
  · exact err_ne_panic
  · exact Out.bind_ne_panic (readData_no_panic _ _ _) fun _ _ => ok_ne_panic _

theorem readClient_no_panic (started : Bool) (s : Bytes) : readClient started s ≠ .panic := by
  unfold readClient
  split
  · exact readGeneral_no_panic s
  · exact readStartup_no_panic s

theorem formatByIndex_no_panic (i : Nat) (fmts : List Nat) : formatByIndex i fmts ≠ .panic := by
  unfold formatByIndex
  split
  · exact ok_ne_panic _
  · dsimp only
    generalize (if fmts.length = 1 then fmts.head? else fmts[i]?) = o
    cases o with
    | none => exact err_ne_panic
    | some f =>
      dsimp only
      split
      · exact ok_ne_panic _
      · split <;> simp

theorem readCol_no_panic (i : Nat) (fmts : List Nat) (s : Bytes) : readCol i fmts s ≠ .panic := by
  unfold readCol
  refine Out.bind_ne_panic (readN_no_panic _ _) fun _ _ => Out.bind_ne_panic (formatByIndex_no_panic _ _) fun _ _ => ?_
  dsimp only
  split
  · exact ok_ne_panic _
  · split
    · exact ok_ne_panic _
    · exact Out.bind_ne_panic (readN_no_panic _ _) fun _ _ => ok_ne_panic _

theorem readCols_no_panic (fmts : List Nat) (n i : Nat) (s : Bytes) : readCols fmts n i s ≠ .panic := by
  induction n generalizing i s with
  | zero => exact ok_ne_panic _
  | succ n ih =>
    unfold readCols
    exact Out.bind_ne_panic (readCol_no_panic _ _ _) fun _ _ => Out.bind_ne_panic (ih _ _) fun _ _ => ok_ne_panic _

theorem parseColumns_no_panic (body : Bytes) (fmts : List Nat) : parseColumns body fmts ≠ .panic := by
  unfold parseColumns
  split
  · exact err_ne_panic
  · dsimp only
    split
    · exact ok_ne_panic _
    · exact Out.bind_ne_panic (readCols_no_panic _ _ _ _) fun _ _ => ok_ne_panic _

theorem checkFormats_no_panic (fmts : List Nat) : checkFormats fmts ≠ .panic := by
  unfold checkFormats
  generalize hacc : (Out.ok () : Out Unit) = acc
  have h : acc ≠ .panic := hacc ▸ ok_ne_panic _
  clear hacc
  induction List.range fmts.length generalizing acc with
  | nil => exact h
  | cons i l ih =>
    exact ih _ (Out.bind_ne_panic h fun _ _ => Out.bind_ne_panic (formatByIndex_no_panic _ _) fun _ _ => ok_ne_panic _)

theorem processCols_no_panic (g : Nat → Bytes → Out Bytes) (hg : ∀ i d, g i d ≠ .panic) (i : Nat)
    (cols : List Col) : processCols g i cols ≠ .panic := by
  induction cols generalizing i with
  | nil => exact ok_ne_panic _
  | cons c cs ih =>
    unfold processCols
    split
    · exact Out.bind_ne_panic (ih _) fun _ _ => ok_ne_panic _
    · exact Out.bind_ne_panic (hg _ _) fun _ _ => Out.bind_ne_panic (ih _) fun _ _ => ok_ne_panic _

theorem rewriteRow_no_panic (g : Nat → Bytes → Out Bytes) (fmts : List Nat) (p : Packet)
    (hg : ∀ i d, g i d ≠ .panic) : rewriteRow g fmts p ≠ .panic := by
  unfold rewriteRow
  refine Out.bind_ne_panic (checkFormats_no_panic _) fun _ _ => Out.bind_ne_panic (parseColumns_no_panic _ _) fun _ _ => ?_
  dsimp only
  split
  · exact ok_ne_panic _
  · exact Out.bind_ne_panic (processCols_no_panic g hg _ _) fun _ _ => ok_ne_panic _

end AcraModel.Wire.Pg
