import AcraModel.Wire.MysqlRow
import AcraModel.Wire.LenEncProofs
/-!
Lemmas about the MySQL wire models (`MysqlPacket.lean`, `MysqlRow.lean`):
packet framing (a single packet is read back as framed; what `read`/`dump` do with a payload of exactly 2^24-1
bytes and with a continuation packet), text rows and binary rows (specification codec round trips, and the row
processors produce the specification encoding of the transformed row), and that none of the readers panics.
-/
namespace AcraModel.Wire.My
open AcraModel AcraModel.Wire.LenEnc AcraModel.Wire.LenEnc.Proofs

theorem maxPayloadLen_eq : maxPayloadLen = 16777215 := rfl
theorem headerSize_eq : headerSize = 4 := rfl

theorem frame_eq (seq : Nat) (payload : Bytes) :
    frame seq payload = (leBytes 3 payload.length ++ [UInt8.ofNat (seq % 256)]) ++ payload := rfl

theorem frame_length (seq : Nat) (payload : Bytes) : (frame seq payload).length = 4 + payload.length := by
  simp [frame]; omega

/-- the declared length of a header whose first three bytes are `leBytes 3 n`: the size is truncated to three bytes -/
theorem payloadLength_leBytes_mod (n : Nat) (t : Bytes) : payloadLength (leBytes 3 n ++ t) = n % 256 ^ 3 := by
  unfold payloadLength
  rw [List.take_left' (by simp), leVal_leBytes]

theorem payloadLength_leBytes (n : Nat) (t : Bytes) (h : n < 16777216) : payloadLength (leBytes 3 n ++ t) = n := by
  rw [payloadLength_leBytes_mod, Nat.mod_eq_of_lt h]

/-- one step of `readPacket` on a stream that starts with a complete fragment -/
theorem readPacket_step (h p rest : Bytes) (hh : h.length = 4) (hp : payloadLength h = p.length)
    (h1 : 1 ≤ p.length) :
    readPacket (h ++ p ++ rest) =
      if p.length < maxPayloadLen then .ok (h, p, rest)
      else match readPacket rest with
        | .ok (h', d', rest') => .ok (h', p ++ d', rest')
        | .err => .err
        | .panic => .panic := by
  rw [readPacket]
  have e1 : List.take headerSize (h ++ p ++ rest) = h := by
    rw [List.append_assoc]; exact List.take_left' (by rw [hh]; rfl)
  have e2 : List.drop headerSize (h ++ p ++ rest) = p ++ rest := by
    rw [List.append_assoc]; exact List.drop_left' (by rw [hh]; rfl)
  have e3 : ¬ (h ++ p ++ rest).length < headerSize := by
    simp only [List.length_append, headerSize_eq]; omega
  rw [if_neg e3]
  simp only [e1, e2, hp]
  rw [if_neg (by omega), if_neg (by simp)]
  simp only [List.take_left' rfl, List.drop_left' rfl]
  split
  · rfl
  · cases readPacket rest with
    | ok x => rfl
    | err => rfl
    | panic => rfl

theorem readPacket_frame (seq : Nat) (payload rest : Bytes) (h1 : 1 ≤ payload.length)
    (h2 : payload.length < maxPayloadLen) :
    readPacket (frame seq payload ++ rest) =
      .ok (leBytes 3 payload.length ++ [UInt8.ofNat (seq % 256)], payload, rest) := by
  rw [frame_eq, readPacket_step _ _ _ (by simp) (payloadLength_leBytes _ _ (by rw [maxPayloadLen_eq] at h2; omega)) h1,
    if_pos h2]

/-- **Relay identity for single packets**: a packet with a payload of 1 … 2^24-2 bytes is read back
with its header and payload, leaving the rest of the stream. -/
theorem read_frame (seq : Nat) (payload rest : Bytes) (h1 : 1 ≤ payload.length)
    (h2 : payload.length < maxPayloadLen) :
    read (frame seq payload ++ rest) =
      .ok (⟨leBytes 3 payload.length ++ [UInt8.ofNat (seq % 256)], payload⟩, rest) := by
  unfold read
  rw [readPacket_frame seq payload rest h1 h2]
  rfl

theorem encodePayload_small (seq : Nat) (p : Bytes) (h : p.length < maxPayloadLen) :
    encodePayload seq p = frame seq p := by
  rw [encodePayload, if_pos h]

theorem encodePayload_two (seq : Nat) (p1 p2 : Bytes) (hp1 : p1.length = maxPayloadLen)
    (h2 : p2.length < maxPayloadLen) :
    encodePayload seq (p1 ++ p2) = frame seq p1 ++ frame (seq + 1) p2 := by
  rw [encodePayload, if_neg (by simp only [List.length_append]; omega),
    List.take_left' hp1, List.drop_left' hp1, encodePayload_small _ _ h2]

theorem encodePayload_exact (seq : Nat) (p1 : Bytes) (hp1 : p1.length = maxPayloadLen) :
    encodePayload seq p1 = frame seq p1 ++ frame (seq + 1) [] := by
  have := encodePayload_two seq p1 [] hp1 (by rw [maxPayloadLen_eq]; simp)
  simpa using this

/-- a fragment of maximal size is joined with what `readPacket` reads behind it, and only the later header is kept -/
theorem readPacket_frame_max (seq : Nat) (p rest : Bytes) (hp : p.length = maxPayloadLen) :
    readPacket (frame seq p ++ rest) = match readPacket rest with
      | .ok (h', d', rest') => .ok (h', p ++ d', rest')
      | .err => .err
      | .panic => .panic := by
  rw [frame_eq, readPacket_step _ _ _ (by simp) (payloadLength_leBytes _ _ (by rw [hp, maxPayloadLen_eq]; omega))
      (by rw [hp, maxPayloadLen_eq]; omega), if_neg (by omega)]

theorem read_multi (seq : Nat) (p1 p2 : Bytes) (hp1 : p1.length = maxPayloadLen)
    (h1 : 1 ≤ p2.length) (h2 : p2.length < maxPayloadLen) :
    read (encodePayload seq (p1 ++ p2)) =
      .ok (⟨leBytes 3 p2.length ++ [UInt8.ofNat ((seq + 1) % 256)], p1 ++ p2⟩, []) := by
  have hr := readPacket_frame (seq + 1) p2 [] h1 h2
  rw [List.append_nil] at hr
  unfold read
  rw [encodePayload_two seq p1 p2 hp1 h2, readPacket_frame_max _ _ _ hp1, hr]
  rfl

/-- a payload sent in two fragments is read as one packet that keeps only the *last* header (`read_multi`); dumping it
with any 4-byte header yields 4 bytes fewer than were received -/
theorem dump_length_multi (seq : Nat) (hdr p1 p2 : Bytes) (hh : hdr.length = 4) (hp1 : p1.length = maxPayloadLen)
    (h2 : p2.length < maxPayloadLen) :
    (dump ⟨hdr, p1 ++ p2⟩).length + 4 = (encodePayload seq (p1 ++ p2)).length := by
  rw [encodePayload_two seq p1 p2 hp1 h2]
  simp only [dump, List.length_append, frame_length, hh]
  omega

/-- a packet that declares length 0 is rejected -/
theorem readPacket_frame_nil (seq : Nat) : readPacket (frame seq []) = .err := by
  have e1 : payloadLength (List.take headerSize (frame seq [])) = 0 := by
    rw [frame_eq, List.append_nil, List.take_of_length_le (by simp [headerSize_eq])]
    exact payloadLength_leBytes 0 _ (by omega)
  rw [readPacket, if_neg (by rw [frame_length, headerSize_eq]; simp)]
  simp only [e1]
  rfl

/-- the transformed row: NULLs stay, value `j` becomes `f j value` (positions start at `i`) -/
def mapRowMy (f : Nat → Bytes → Bytes) : Nat → Row → Row
  | _, [] => []
  | i, none :: r => none :: mapRowMy f (i+1) r
  | i, some b :: r => some (f i b) :: mapRowMy f (i+1) r

theorem encodeTextRow_cons (v : Option Bytes) (r : Row) :
    encodeTextRow (v :: r) = putLengthEncodedString v ++ encodeTextRow r := by
  simp [encodeTextRow]

theorem putLengthEncodedString_none : putLengthEncodedString none = [0xfb] := rfl

/-- **Text row round trip** of the specification codec (NULL ≠ empty string, every length class). -/
theorem decodeTextRow_encodeTextRow (r : Row) (h : ∀ b, some b ∈ r → b.length < 2^64) :
    decodeTextRow r.length (encodeTextRow r) = some r := by
  induction r with
  | nil => rfl
  | cons v r ih =>
    rw [encodeTextRow_cons, List.length_cons, decodeTextRow]
    simp only [lenenc_str_roundtrip v (encodeTextRow r) fun b hb => h b (hb ▸ List.mem_cons_self), List.drop_left' rfl,
      ih fun b hb => h b (List.mem_cons_of_mem _ hb)]
    rfl

/-- the loop of `processTextDataRow`, started anywhere inside the row buffer -/
theorem processTextRow_encodeTextRow (f : Nat → Bytes → Bytes) (r : Row)
    (h : ∀ b, some b ∈ r → b.length < 2^64) (i : Nat) (pre out : Bytes) :
    processTextRow (fun i v => .ok (putLengthEncodedString (some (f i v)))) r.length i
        (pre ++ encodeTextRow r) pre.length out
      = .ok (out ++ encodeTextRow (mapRowMy f i r)) := by
  induction r generalizing i pre out with
  | nil => simp [processTextRow, mapRowMy, encodeTextRow]
  | cons v r ih =>
    have hr : ∀ b, some b ∈ r → b.length < 2^64 := fun b hb => h b (List.mem_cons_of_mem _ hb)
    rw [encodeTextRow_cons, List.length_cons, processTextRow]
    simp only [goSliceFrom_append, Out.bind_ok,
      lenenc_str_roundtrip v (encodeTextRow r) fun b hb => h b (hb ▸ List.mem_cons_self)]
    have hlen : pre.length + (putLengthEncodedString v).length = (pre ++ putLengthEncodedString v).length := by
      simp
    have hrow : pre ++ (putLengthEncodedString v ++ encodeTextRow r)
        = (pre ++ putLengthEncodedString v) ++ encodeTextRow r := by simp
    cases v with
    | none =>
      simp only []
      rw [hrow, goSlice_append_mid]
      simp only [Out.bind_ok]
      rw [hlen, ih hr]
      simp [mapRowMy, encodeTextRow_cons, putLengthEncodedString_none]
    | some b =>
      simp only []
      rw [hrow, hlen, ih hr]
      simp [mapRowMy, encodeTextRow_cons]

/-- **Rewritten text rows are well formed**: when every non-NULL value `v` of column `i` is replaced
by the length-encoded form of `f i v`, `processTextDataRow` outputs exactly the protocol encoding of
the transformed row (NULL columns are copied). No bound on the transformed values is needed. -/
theorem textRow_encodeTextRow (f : Nat → Bytes → Bytes) (r : Row)
    (h : ∀ b, some b ∈ r → b.length < 2^64) :
    textRow (fun i v => .ok (putLengthEncodedString (some (f i v)))) r.length (encodeTextRow r)
      = .ok (encodeTextRow (mapRowMy f 0 r)) := by
  have := processTextRow_encodeTextRow f r h 0 [] []
  simpa [textRow] using this

theorem mapRowMy_id (i : Nat) (r : Row) : mapRowMy (fun _ v => v) i r = r := by
  induction r generalizing i with
  | nil => rfl
  | cons v r ih => cases v <;> simp [mapRowMy, ih]

/-- **Relay identity for text rows**: with subscribers that leave every value alone the row is unchanged. -/
theorem textRow_identity (r : Row) (h : ∀ b, some b ∈ r → b.length < 2^64) :
    textRow (fun _ v => .ok (putLengthEncodedString (some v))) r.length (encodeTextRow r)
      = .ok (encodeTextRow r) := by
  have := textRow_encodeTextRow (fun _ v => v) r h
  rw [mapRowMy_id] at this
  exact this

theorem mapRowMy_length (f : Nat → Bytes → Bytes) (i : Nat) (r : Row) : (mapRowMy f i r).length = r.length := by
  induction r generalizing i with
  | nil => rfl
  | cons v r ih => cases v <;> simp [mapRowMy, ih]

theorem mem_mapRowMy (f : Nat → Bytes → Bytes) (i : Nat) (r : Row) (b : Bytes)
    (hb : some b ∈ mapRowMy f i r) : ∃ j v, some v ∈ r ∧ b = f j v := by
  induction r generalizing i with
  | nil => cases hb
  | cons x r ih =>
    have tl : some b ∈ mapRowMy f (i+1) r → ∃ j v, some v ∈ x :: r ∧ b = f j v := fun h =>
      let ⟨j, v, hv, e⟩ := ih (i+1) h
      ⟨j, v, List.mem_cons_of_mem _ hv, e⟩
    cases x with
    | none => exact (List.mem_cons.mp hb).elim (fun h => nomatch h) tl
    | some a => exact (List.mem_cons.mp hb).elim (fun h => ⟨i, a, List.mem_cons_self, Option.some.inj h⟩) tl

/-- the specification decoder reads the transformed row back from its encoding -/
theorem decodeTextRow_mapRowMy (f : Nat → Bytes → Bytes) (r : Row) (hf : ∀ j b, some b ∈ r → (f j b).length < 2^64) :
    decodeTextRow r.length (encodeTextRow (mapRowMy f 0 r)) = some (mapRowMy f 0 r) := by
  rw [← mapRowMy_length f 0 r]
  exact decodeTextRow_encodeTextRow _ fun b hb => by
    obtain ⟨j, v, hv, rfl⟩ := mem_mapRowMy f 0 r b hb
    exact hf j v hv

/-- the fold that builds one byte of a bitmap is the number below `2^n` whose bit `k` is `Q k` (`bitSet_nullBitmap`,
`execBitmap_bit`) -/
theorem foldl_bits (Q : Nat → Prop) [DecidablePred Q] (n : Nat) :
    (List.range n).foldl (fun acc bit => if Q bit then acc + 2^bit else acc) 0 < 2^n ∧
    ∀ k, k < n → ((List.range n).foldl (fun acc bit => if Q bit then acc + 2^bit else acc) 0).testBit k
      = decide (Q k) := by
  induction n with
  | zero => simp
  | succ n ih =>
    rw [List.range_succ, List.foldl_append]
    generalize (List.range n).foldl _ 0 = F at ih ⊢
    obtain ⟨hlt, hb⟩ := ih
    simp only [List.foldl_cons, List.foldl_nil]
    by_cases hq : Q n
    · rw [if_pos hq, Nat.add_comm]
      refine ⟨by rw [Nat.pow_succ]; omega, ?_⟩
      intro k hk
      by_cases hkn : k = n
      · subst hkn; rw [Nat.testBit_two_pow_add_eq, Nat.testBit_lt_two_pow hlt]; simp [hq]
      · rw [Nat.testBit_two_pow_add_gt (by omega)]; exact hb k (by omega)
    · rw [if_neg hq]
      refine ⟨by rw [Nat.pow_succ]; omega, ?_⟩
      intro k hk
      by_cases hkn : k = n
      · subst hkn; rw [Nat.testBit_lt_two_pow hlt]; simp [hq]
      · exact hb k (by omega)

theorem nullBitmap_length (r : Row) : (nullBitmap r).length = (r.length + 7 + 2) / 8 := by
  simp [nullBitmap]

theorem bitSet_nullBitmap (r : Row) (i : Nat) (hi : i < r.length) :
    bitSet (nullBitmap r) (i + 2) = decide (r[i]? = some none) := by
  obtain ⟨hlt, hb⟩ := foldl_bits (fun bit => (i+2)/8*8 + bit ≥ 2 ∧ r[(i+2)/8*8 + bit - 2]? = some none) 8
  have hbk := hb ((i+2) % 8) (by omega)
  have e : (i+2)/8*8 + (i+2)%8 = i + 2 := by omega
  simp only [e, Nat.add_sub_cancel] at hbk
  unfold bitSet nullBitmap
  simp only [List.getElem?_map]
  rw [List.getElem?_range (by omega)]
  simp only [Option.map_some, UInt8.toNat_ofNat']
  generalize List.foldl _ 0 (List.range 8) = F at hlt hbk ⊢
  rw [Nat.mod_eq_of_lt (a := F) hlt, Nat.shiftRight_eq_div_pow, ← Nat.testBit_eq_decide_div_mod_eq, hbk]
  simp

theorem encodeBinVals_nil : encodeBinVals [] [] = [] := by simp [encodeBinVals]
theorem encodeBinVals_none (t : Nat) (ts : List Nat) (r : Row) :
    encodeBinVals (t :: ts) (none :: r) = encodeBinVals ts r := by simp [encodeBinVals]
theorem encodeBinVals_some (t : Nat) (ts : List Nat) (v : Bytes) (r : Row) :
    encodeBinVals (t :: ts) (some v :: r) = encodeBinVal t v ++ encodeBinVals ts r := by simp [encodeBinVals]

@[elab_as_elim]
theorem zipInduction {α β} {motive : (as : List α) → (bs : List β) → as.length = bs.length → Prop}
    (nil : motive [] [] rfl)
    (cons : ∀ a as b bs (h : as.length = bs.length), motive as bs h → motive (a :: as) (b :: bs) (congrArg (· + 1) h)) :
    ∀ as bs h, motive as bs h
  | [], [], _ => nil
  | a :: as, b :: bs, h => cons a as b bs (Nat.succ.inj h) (zipInduction nil cons as bs (Nat.succ.inj h))

theorem decodeBinVals_encodeBinVals (bm : Bytes) (ts : List Nat) (r : Row) (i : Nat)
    (hlen : ts.length = r.length)
    (hbm : ∀ j, j < r.length → bitSet bm (i + j + 2) = decide (r[j]? = some none))
    (hT : ∀ t, t ∈ ts → widthOf t ≠ .unknown)
    (hV : ∀ t v, (t, some v) ∈ ts.zip r →
      (∀ k, widthOf t = .fixed k → v.length = k) ∧ (widthOf t = .lenenc → v.length < 2^64)) :
    decodeBinVals bm ts i (encodeBinVals ts r) = some r := by
  induction ts, r, hlen using zipInduction generalizing i with
  | nil => simp [encodeBinVals_nil, decodeBinVals]
  | cons t ts x r hlen ih =>
    have hb0 := hbm 0 (by simp)
    simp only [Nat.add_zero, List.getElem?_cons_zero] at hb0
    have ih' := ih (i+1)
      (fun j hj => by rw [show i + 1 + j + 2 = i + (j + 1) + 2 by omega, hbm (j+1) (by simp; omega)]; simp)
      (fun t' h' => hT t' (List.mem_cons_of_mem _ h')) (fun t' v' h' => hV t' v' (List.mem_cons_of_mem _ h'))
    cases x with
    | none =>
      rw [encodeBinVals_none, decodeBinVals, hb0]
      simp [ih']
    | some v =>
      have hv := hV t v List.mem_cons_self
      rw [encodeBinVals_some, decodeBinVals, hb0]
      simp only [Option.some.injEq, reduceCtorEq, decide_false, Bool.false_eq_true, if_false]
      unfold encodeBinVal
      cases hw : widthOf t with
      | fixed k =>
        have hk := hv.1 k hw
        simp only []
        rw [if_neg (by simp; omega), List.drop_left' hk, List.take_left' hk, ih']
        rfl
      | lenenc =>
        simp only []
        rw [lenenc_str_roundtrip (some v) _ (by intro b hb; cases hb; exact hv.2 hw)]
        simp only [List.drop_left' rfl, ih']
        rfl
      | unknown => exact absurd hw (hT t List.mem_cons_self)

theorem decodeBinRow_encodeBinRow (types : List Nat) (r : Row)
    (hlen : types.length = r.length)
    (hT : ∀ t, t ∈ types → widthOf t ≠ .unknown)
    (hV : ∀ t v, (t, some v) ∈ types.zip r →
      (∀ k, widthOf t = .fixed k → v.length = k) ∧ (widthOf t = .lenenc → v.length < 2^64)) :
    decodeBinRow types (encodeBinRow types r) = some r := by
  have hbl : (nullBitmap r).length = (types.length + 7 + 2) / 8 := by rw [nullBitmap_length, hlen]
  unfold decodeBinRow encodeBinRow
  simp only [List.cons_append, List.nil_append]
  rw [if_neg (by simp; omega), List.take_left' hbl, List.drop_left' hbl]
  apply decodeBinVals_encodeBinVals _ _ _ _ hlen _ hT hV
  intro j hj
  rw [Nat.zero_add]
  exact bitSet_nullBitmap r j hj

theorem encodeBinVal_fixed (t k : Nat) (v : Bytes) (hw : widthOf t = .fixed k) : encodeBinVal t v = v := by
  unfold encodeBinVal; rw [hw]
theorem encodeBinVal_lenenc (t : Nat) (v : Bytes) (hw : widthOf t = .lenenc) :
    encodeBinVal t v = putLengthEncodedString (some v) := by
  unfold encodeBinVal; rw [hw]

theorem processBinCols_encodeBinVals (types : List Nat) (f : Nat → Bytes → Bytes) (bm : Bytes)
    (ts : List Nat) (r : Row) (i : Nat) (pre out : Bytes)
    (hdrop : types.drop i = ts)
    (hlen : ts.length = r.length)
    (hbm : ∀ j, j < r.length →
      (i + j + 2) / 8 < bm.length ∧ bitSet bm (i + j + 2) = decide (r[j]? = some none))
    (hT : ∀ t, t ∈ ts → widthOf t ≠ .unknown)
    (hV : ∀ t v, (t, some v) ∈ ts.zip r →
      (∀ k, widthOf t = .fixed k → v.length = k) ∧ (widthOf t = .lenenc → v.length < 2^64)) :
    processBinCols (fun i v => .ok (encodeBinVal (types[i]!) (f i v))) bm (pre ++ encodeBinVals ts r)
        ts i pre.length out
      = .ok (out ++ encodeBinVals ts (mapRowMy f i r)) := by
  induction ts, r, hlen using zipInduction generalizing i pre out with
  | nil => simp [processBinCols, mapRowMy, encodeBinVals_nil]
  | cons t ts x r hlen ih =>
    have hb0 := hbm 0 (by simp)
    simp only [Nat.add_zero, List.getElem?_cons_zero] at hb0
    have hti : types[i]! = t := by
      have : (types.drop i)[0]? = some t := by rw [hdrop]; rfl
      rw [List.getElem?_drop, Nat.add_zero] at this
      rw [List.getElem!_eq_getElem?_getD, this]; rfl
    have ih' := fun pre out => ih (i+1) pre out (by rw [← List.drop_drop, hdrop]; rfl)
      (fun j hj => by simpa [show i + 1 + j + 2 = i + (j + 1) + 2 by omega] using hbm (j+1) (by simp; omega))
      (fun t' h' => hT t' (List.mem_cons_of_mem _ h')) (fun t' v' h' => hV t' v' (List.mem_cons_of_mem _ h'))
    rw [processBinCols, if_neg (by omega), hb0.2]
    cases x with
    | none =>
      simp only [decide_true, if_true]
      rw [encodeBinVals_none, ih']
      simp [mapRowMy, encodeBinVals_none]
    | some v =>
      have hv := hV t v List.mem_cons_self
      simp only [Option.some.injEq, reduceCtorEq, decide_false, Bool.false_eq_true, if_false]
      rw [encodeBinVals_some, hti]
      unfold extractData
      cases hw : widthOf t with
      | fixed k =>
        have hk := hv.1 k hw
        subst hk
        simp only []
        rw [encodeBinVal_fixed t _ v hw, ← List.append_assoc,
          if_neg (by simp only [List.length_append]; omega), goSlice_append_mid]
        simp only [Out.bind_ok, Out.pure_eq]
        rw [show pre.length + v.length = (pre ++ v).length by simp, ih']
        simp [mapRowMy, encodeBinVals_some]
      | lenenc =>
        simp only []
        rw [encodeBinVal_lenenc t v hw, if_neg (by simp only [List.length_append]; omega),
          goSliceFrom_append]
        simp only [Out.bind_ok, Out.pure_eq,
          lenenc_str_roundtrip (some v) _ (by intro b hb; cases hb; exact hv.2 hw), Option.getD_some]
        rw [← List.append_assoc,
          show pre.length + (putLengthEncodedString (some v)).length
            = (pre ++ putLengthEncodedString (some v)).length by simp, ih']
        simp [mapRowMy, encodeBinVals_some]
      | unknown => exact absurd hw (hT t List.mem_cons_self)

theorem getElem?_mapRowMy_none (f : Nat → Bytes → Bytes) (i : Nat) (r : Row) (j : Nat) :
    ((mapRowMy f i r)[j]? = some none) = (r[j]? = some none) := by
  induction r generalizing i j with
  | nil => rfl
  | cons x r ih =>
    cases x <;> cases j <;> simp [mapRowMy, ih]

theorem nullBitmap_mapRowMy (f : Nat → Bytes → Bytes) (i : Nat) (r : Row) :
    nullBitmap (mapRowMy f i r) = nullBitmap r := by
  unfold nullBitmap
  simp only [mapRowMy_length, getElem?_mapRowMy_none]

/-- **Rewritten binary rows are well formed**: when every non-NULL value `v` of column `i` is replaced
by the binary encoding (under the column's storage type) of `f i v`, `processBinaryDataRow` outputs
exactly the protocol encoding of the transformed row: same header byte, same NULL bitmap, values in
order. -/
theorem binRow_encodeBinRow (types : List Nat) (f : Nat → Bytes → Bytes) (r : Row)
    (hlen : types.length = r.length)
    (hT : ∀ t, t ∈ types → widthOf t ≠ .unknown)
    (hV : ∀ t v, (t, some v) ∈ types.zip r →
      (∀ k, widthOf t = .fixed k → v.length = k) ∧ (widthOf t = .lenenc → v.length < 2^64)) :
    binRow (fun i v => .ok (encodeBinVal (types[i]!) (f i v))) types (encodeBinRow types r)
      = .ok (encodeBinRow types (mapRowMy f 0 r)) := by
  have hbl : (nullBitmap r).length = (types.length + 7 + 2) / 8 := by rw [nullBitmap_length, hlen]
  have hpos : 1 + ((types.length + 7 + 2) >>> 3) = ([0] ++ nullBitmap r).length := by
    rw [Nat.shiftRight_eq_div_pow, List.length_append, hbl]; rfl
  have hrow : encodeBinRow types r = ([0] ++ nullBitmap r) ++ encodeBinVals types r := rfl
  have hi : goIndex ([0] ++ nullBitmap r ++ encodeBinVals types r) 0 = .ok 0 := rfl
  have hs1 : goSlice ([0] ++ nullBitmap r ++ encodeBinVals types r) 1 (1 + ((types.length + 7 + 2) >>> 3))
      = .ok (nullBitmap r) := by
    rw [hpos, List.length_append]
    exact goSlice_append_mid [0] (nullBitmap r) (encodeBinVals types r)
  have hs0 : goSlice ([0] ++ nullBitmap r ++ encodeBinVals types r) 0 (1 + ((types.length + 7 + 2) >>> 3))
      = .ok ([0] ++ nullBitmap r) := by
    rw [hpos]
    exact goSlice_prefix ([0] ++ nullBitmap r) (encodeBinVals types r)
  unfold binRow
  rw [hrow]
  have hguard : ¬ (([0] ++ nullBitmap r ++ encodeBinVals types r).length = 0 ∨
      ([0] ++ nullBitmap r ++ encodeBinVals types r).length < 1 + ((types.length + 7 + 2) >>> 3)) := by
    rw [hpos]; simp only [List.length_append, List.length_cons, List.length_nil]; omega
  rw [if_neg hguard]
  simp only [hi, hs1, hs0, Out.bind_ok]
  rw [if_neg (by decide), if_neg (by decide), hpos,
    processBinCols_encodeBinVals types f (nullBitmap r) types r 0 _ _ rfl hlen _ hT hV]
  · rw [encodeBinRow, nullBitmap_mapRowMy]
  · intro j hj
    rw [Nat.zero_add]
    exact ⟨by rw [hbl]; omega, bitSet_nullBitmap r j hj⟩

/-- **Relay identity for binary rows**: with subscribers that leave every value alone the row is unchanged. -/
theorem binRow_identity (types : List Nat) (r : Row)
    (hlen : types.length = r.length)
    (hT : ∀ t, t ∈ types → widthOf t ≠ .unknown)
    (hV : ∀ t v, (t, some v) ∈ types.zip r →
      (∀ k, widthOf t = .fixed k → v.length = k) ∧ (widthOf t = .lenenc → v.length < 2^64)) :
    binRow (fun i v => .ok (encodeBinVal (types[i]!) v)) types (encodeBinRow types r)
      = .ok (encodeBinRow types r) := by
  have := binRow_encodeBinRow types (fun _ v => v) r hlen hT hV
  rw [mapRowMy_id] at this
  exact this

theorem mem_zip_mapRowMy (f : Nat → Bytes → Bytes) (ts : List Nat) (i : Nat) (r : Row) (t : Nat) (b : Bytes)
    (hb : (t, some b) ∈ ts.zip (mapRowMy f i r)) : ∃ j v, (t, some v) ∈ ts.zip r ∧ b = f j v := by
  induction ts generalizing i r with
  | nil => cases hb
  | cons t' ts ih =>
    cases r with
    | nil => cases hb
    | cons x r =>
      have tl : (t, some b) ∈ ts.zip (mapRowMy f (i+1) r) → ∃ j v, (t, some v) ∈ (t' :: ts).zip (x :: r) ∧ b = f j v :=
        fun h =>
          let ⟨j, v, hv, e⟩ := ih (i+1) r h
          ⟨j, v, List.mem_cons_of_mem _ hv, e⟩
      cases x with
      | none => exact (List.mem_cons.mp hb).elim (fun h => nomatch h) tl
      | some a =>
        exact (List.mem_cons.mp hb).elim (fun h => by cases h; exact ⟨i, a, List.mem_cons_self, rfl⟩) tl

/-- if moreover the transformation keeps the width of fixed-width columns (and the other results are shorter than
2^64), the specification decoder reads the transformed row back from its encoding -/
theorem decodeBinRow_mapRowMy (types : List Nat) (f : Nat → Bytes → Bytes) (r : Row)
    (hlen : types.length = r.length)
    (hT : ∀ t, t ∈ types → widthOf t ≠ .unknown)
    (hF : ∀ t v j, (t, some v) ∈ types.zip r →
      (∀ k, widthOf t = .fixed k → (f j v).length = k) ∧ (widthOf t = .lenenc → (f j v).length < 2^64)) :
    decodeBinRow types (encodeBinRow types (mapRowMy f 0 r)) = some (mapRowMy f 0 r) :=
  decodeBinRow_encodeBinRow types _ (by rw [mapRowMy_length, hlen]) hT fun t b hb => by
    obtain ⟨j, v, hv, rfl⟩ := mem_zip_mapRowMy f types 0 r t b hb
    exact hF t v j hv

/-! non-vacuity: the hypotheses are met by concrete rows (a NULL, a fixed-width and a length-encoded value) -/

example : textRow (fun _ v => .ok (putLengthEncodedString (some v))) 3 (encodeTextRow [some [1, 2], none, some []])
    = .ok (encodeTextRow [some [1, 2], none, some []]) :=
  textRow_identity [some [1, 2], none, some []] (by
    intro b hb
    have : b.length ≤ 2 := by
      simp only [List.mem_cons, Option.some.injEq, reduceCtorEq, List.not_mem_nil, or_false, false_or] at hb
      rcases hb with rfl | rfl <;> simp
    omega)

example : decodeBinRow [3, 253, 8] (encodeBinRow [3, 253, 8] [some [1, 2, 3, 4], some [7], none])
    = some [some [1, 2, 3, 4], some [7], none] :=
  decodeBinRow_encodeBinRow _ _ rfl (by decide) (by
    intro t v h
    simp only [List.zip_cons_cons, List.zip_nil_right, List.mem_cons, Prod.mk.injEq, Option.some.injEq,
      reduceCtorEq, and_false, List.not_mem_nil, or_false] at h
    rcases h with ⟨rfl, rfl⟩ | ⟨rfl, rfl⟩
    · exact ⟨(by intro k hk; cases hk; rfl), (by intro hk; cases hk)⟩
    · exact ⟨(by intro k hk; cases hk), (by intro _; decide)⟩)

theorem readPacket_no_panic (s : Bytes) : readPacket s ≠ .panic := by
  have key : ∀ n, ∀ s : Bytes, s.length = n → readPacket s ≠ .panic := by
    intro n
    induction n using Nat.strongRecOn with
    | ind n ih =>
      intro s hs
      rw [readPacket]
      by_cases h0 : s.length < headerSize
      · rw [if_pos h0]; simp
      · rw [if_neg h0]
        simp only []
        by_cases h1 : payloadLength (List.take headerSize s) < 1
        · rw [if_pos h1]; simp
        · rw [if_neg h1]
          by_cases h2 : (List.drop headerSize s).length < payloadLength (List.take headerSize s)
          · rw [if_pos h2]; simp
          · rw [if_neg h2]
            by_cases h3 : payloadLength (List.take headerSize s) < maxPayloadLen
            · rw [if_pos h3]; simp
            · rw [if_neg h3]
              have hlt : (List.drop (payloadLength (List.take headerSize s)) (List.drop headerSize s)).length < n := by
                simp only [List.length_drop, headerSize_eq] at h0 h2 ⊢
                omega
              have := ih _ hlt _ rfl
              cases hr : readPacket (List.drop (payloadLength (List.take headerSize s)) (List.drop headerSize s)) with
              | ok x => simp
              | err => simp
              | panic => exact absurd hr this
  exact key _ s rfl

theorem read_no_panic (s : Bytes) : read s ≠ .panic := by
  unfold read
  exact Out.bind_ne_panic (readPacket_no_panic s) fun _ _ => ok_ne_panic _

theorem replaceQuery_no_panic (p : Packet) (q : Bytes) : replaceQuery p q ≠ .panic := by
  unfold replaceQuery
  cases p.data <;> simp

/-- `extractData` never panics: both slices are guarded. -/
theorem extractData_no_panic (typ : Nat) (row : Bytes) (pos : Nat) : extractData typ row pos ≠ .panic := by
  unfold extractData
  cases widthOf typ with
  | fixed k =>
    simp only []
    split
    · exact err_ne_panic
    · rw [goSlice_ok _ _ _ (by omega) (by omega)]
      exact ok_ne_panic _
  | lenenc =>
    simp only []
    split
    · exact err_ne_panic
    · rw [goSliceFrom_ok _ _ (by omega), Out.bind_ok]
      exact Out.bind_ne_panic (lenenc_str_no_panic _) fun _ _ => ok_ne_panic _
  | unknown => exact err_ne_panic

/-- the loop of `processTextDataRow` never panics when the subscribers do not, from any position inside the row -/
theorem processTextRow_no_panic (g : Nat → Bytes → Out Bytes) (hg : ∀ i v, g i v ≠ .panic)
    (k i : Nat) (row : Bytes) (pos : Nat) (out : Bytes) (hpos : pos ≤ row.length) :
    processTextRow g k i row pos out ≠ .panic := by
  induction k generalizing i pos out with
  | zero => exact ok_ne_panic _
  | succ k ih =>
    rw [processTextRow, goSliceFrom_ok _ _ hpos, Out.bind_ok]
    refine Out.bind_ne_panic (lenenc_str_no_panic _) fun ⟨v, n⟩ hr => ?_
    have hn : pos + n ≤ row.length := by
      have := (lenenc_str_progress _ v n hr).2
      rw [List.length_drop] at this
      omega
    cases v with
    | none =>
      simp only []
      rw [goSlice_ok _ _ _ (by omega) hn, Out.bind_ok]
      exact ih _ _ _ hn
    | some v => exact Out.bind_ne_panic (hg i v) fun _ _ => ih _ _ _ hn

theorem textRow_no_panic (g : Nat → Bytes → Out Bytes) (hg : ∀ i v, g i v ≠ .panic) (n : Nat) (row : Bytes) :
    textRow g n row ≠ .panic :=
  processTextRow_no_panic g hg n 0 row 0 [] (Nat.zero_le _)

/-- the column loop of `processBinaryDataRow` never panics when the bitmap covers the remaining columns -/
theorem processBinCols_no_panic (g : Nat → Bytes → Out Bytes) (hg : ∀ i v, g i v ≠ .panic)
    (bitmap row : Bytes) (ts : List Nat) (i pos : Nat) (out : Bytes)
    (hbm : (i + ts.length + 1) / 8 < bitmap.length) :
    processBinCols g bitmap row ts i pos out ≠ .panic := by
  induction ts generalizing i pos out with
  | nil => exact ok_ne_panic _
  | cons t ts ih =>
    rw [List.length_cons] at hbm
    have hbm' : (i + 1 + ts.length + 1) / 8 < bitmap.length := by
      rw [show i + 1 + ts.length + 1 = i + (ts.length + 1) + 1 by omega]; exact hbm
    rw [processBinCols, if_neg (by omega)]
    split
    · exact ih _ _ _ hbm'
    · exact Out.bind_ne_panic (extractData_no_panic _ _ _) fun ⟨v, n⟩ _ =>
        Out.bind_ne_panic (hg i v) fun _ _ => ih _ _ _ hbm'

theorem binRow_no_panic (g : Nat → Bytes → Out Bytes) (hg : ∀ i v, g i v ≠ .panic)
    (types : List Nat) (row : Bytes) : binRow g types row ≠ .panic := by
  unfold binRow
  by_cases hguard : row.length = 0 ∨ row.length < 1 + ((types.length + 7 + 2) >>> 3)
  · rw [if_pos hguard]
    split
    · simp
    · cases row.head? with
      | none => simp
      | some b0 => simp only []; split <;> simp
  · rw [if_neg hguard]
    rw [Nat.shiftRight_eq_div_pow] at hguard ⊢
    obtain ⟨x, hx⟩ := goIndex_ne_panic_of_lt row 0 (by omega)
    rw [hx, Out.bind_ok]
    split
    · exact ok_ne_panic _
    · split
      · exact err_ne_panic
      · simp only []
        rw [goSlice_ok _ _ _ (by omega) (by omega), goSlice_ok _ _ _ (by omega) (by omega)]
        simp only [Out.bind_ok]
        apply processBinCols_no_panic g hg
        simp only [List.length_drop, List.length_take]
        omega

end AcraModel.Wire.My
