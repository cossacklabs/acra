import AcraModel.Wire.LenEncLemmas
/-!
Proofs about the MySQL length-encoded integer/string codec (`decryptor/mysql/base/utils.go`), whose
tables are regenerated from the source. The property theorems of C12 in `Props/C12.lean` restate them.
-/
namespace AcraModel.Wire.LenEnc.Proofs
open AcraModel AcraModel.Wire.LenEnc Generated.LenEnc

/-- The reader's switch has exactly the protocol's four markers, each guarded by the length it reads. -/
theorem fact_readCases :
    readCases = [(251, 0, 1, true, []), (252, 3, 3, false, pairsFrom 1 0 2),
      (253, 4, 4, false, pairsFrom 1 0 3), (254, 9, 9, false, pairsFrom 1 0 8)] := by rfl

theorem fact_readDefault : readDefault = (1, pairsFrom 0 0 1) ∧ emptyIsError = true := by decide

/-- The writer's thresholds are the protocol's: 250, 2^16-1, 2^24-1, 2^64-1 with markers fc, fd, fe. -/
theorem fact_putCases :
    putCases = [(250, -1, (List.range 1).map (fun j => 0 + 8 * j)), (65535, 252, (List.range 2).map (fun j => 0 + 8 * j)),
      (16777215, 253, (List.range 3).map (fun j => 0 + 8 * j)), (2^64 - 1, 254, (List.range 8).map (fun j => 0 + 8 * j))] := by decide

/-- `LengthEncodedString` looks at the error of `LengthEncodedInt` before using the length. -/
theorem fact_strChecksErr : strChecksErrFirst = true := by decide

theorem put_small (n : Nat) (h : n ≤ 250) : putLengthEncodedInt n = [UInt8.ofNat n] := by
  have : n % 256 = n := by omega
  simp [putLengthEncodedInt, fact_putCases, putWith, h, this]

theorem put_marker (n : Nat) :
    putLengthEncodedInt n =
      if n ≤ 250 then leBytes 1 n
      else if n ≤ 65535 then 252 :: leBytes 2 n
      else if n ≤ 16777215 then 253 :: leBytes 3 n
      else if n ≤ 2^64 - 1 then 254 :: leBytes 8 n
      else [] := by
  have e := fun k => map_shifts_eq_leBytes n k 0
  simp only [Nat.shiftRight_zero] at e
  unfold putLengthEncodedInt
  rw [fact_putCases]
  simp only [putWith, e, apply_ite (fun o : Option Bytes => o.getD []), Option.getD_some, Option.getD_none]
  rfl

theorem lenenc_int_spec (x : UInt8) (r : Bytes) :
    lengthEncodedInt (x :: r) =
      if x.toNat = 251 then .ok ⟨0, true, 1⟩
      else if x.toNat = 252 then (if r.length < 2 then .err else .ok ⟨leVal (r.take 2), false, 3⟩)
      else if x.toNat = 253 then (if r.length < 3 then .err else .ok ⟨leVal (r.take 3), false, 4⟩)
      else if x.toNat = 254 then (if r.length < 8 then .err else .ok ⟨leVal (r.take 8), false, 9⟩)
      else .ok ⟨x.toNat, false, 1⟩ := by
  have hk : ∀ k, k ≤ 8 → k ≤ r.length → orVal (x :: r) (pairsFrom 1 0 k) = .ok (leVal (r.take k)) := by
    intro k hk8 hlen
    rw [orVal_pairsFrom _ k 1 0 (by simp; omega) (by omega)]; simp
  have hdef : orVal (x :: r) (pairsFrom 0 0 1) = .ok x.toNat := by
    rw [orVal_pairsFrom _ 1 0 0 (by simp) (by omega)]; simp [leVal]
  unfold lengthEncodedInt readIntWith
  rw [fact_readCases, fact_readDefault.1, fact_readDefault.2]
  simp only [List.length_cons, goIndex_cons_zero, Out.bind_ok]
  rw [if_neg (by omega)]
  by_cases h1 : x.toNat = 251
  · simp [List.find?, h1, orVal]
  by_cases h2 : x.toNat = 252
  · simp only [List.find?, h2]
    by_cases hl : r.length < 2
    · simp [hl]; omega
    · simp [hl, hk 2 (by omega) (by omega)]; omega
  by_cases h3 : x.toNat = 253
  · simp only [List.find?, h3]
    by_cases hl : r.length < 3
    · simp [hl]; omega
    · simp [hl, hk 3 (by omega) (by omega)]; omega
  by_cases h4 : x.toNat = 254
  · simp only [List.find?, h4]
    by_cases hl : r.length < 8
    · simp [hl]; omega
    · simp [hl, hk 8 (by omega) (by omega)]; omega
  have e1 : ¬ 251 = x.toNat := fun h => h1 h.symm
  have e2 : ¬ 252 = x.toNat := fun h => h2 h.symm
  have e3 : ¬ 253 = x.toNat := fun h => h3 h.symm
  have e4 : ¬ 254 = x.toNat := fun h => h4 h.symm
  simp [List.find?, h1, h2, h3, h4, e1, e2, e3, e4, hdef]

theorem read_marker (m : UInt8) (k : Nat) (body r : Bytes) (hk : body.length = k)
    (hm : (m.toNat = 252 ∧ k = 2) ∨ (m.toNat = 253 ∧ k = 3) ∨ (m.toNat = 254 ∧ k = 8)) :
    lengthEncodedInt (m :: body ++ r) = .ok ⟨leVal body, false, k + 1⟩ := by
  rw [List.cons_append, lenenc_int_spec]
  rcases hm with ⟨h, rfl⟩ | ⟨h, rfl⟩ | ⟨h, rfl⟩ <;>
    simp only [h, Nat.reduceEqDiff, if_false, if_true, List.length_append, hk, List.take_left' hk] <;>
    rw [if_neg (by omega)]

theorem read_small (x : UInt8) (r : Bytes) (h : x.toNat ≤ 250) :
    lengthEncodedInt (x :: r) = .ok ⟨x.toNat, false, 1⟩ := by
  rw [lenenc_int_spec, if_neg (by omega), if_neg (by omega), if_neg (by omega), if_neg (by omega)]

theorem lenenc_int_roundtrip (n : Nat) (r : Bytes) (h : n < 2^64) :
    lengthEncodedInt (putLengthEncodedInt n ++ r) = .ok ⟨n, false, (putLengthEncodedInt n).length⟩ := by
  rw [put_marker]
  by_cases h1 : n ≤ 250
  · have hb : (UInt8.ofNat (n % 256)).toNat = n := by rw [ofNat_toNat_mod]; omega
    simp only [h1, if_true, leBytes, List.cons_append, List.nil_append, List.length_cons, List.length_nil]
    rw [read_small _ _ (by omega), hb]
  · by_cases h2 : n ≤ 65535
    · simp only [h1, h2, if_true, if_false]
      rw [read_marker 252 2 (leBytes 2 n) r (by simp) (by decide), leVal_leBytes_of_lt 2 n (by omega)]
      simp
    · by_cases h3 : n ≤ 16777215
      · simp only [h1, h2, h3, if_true, if_false]
        rw [read_marker 253 3 (leBytes 3 n) r (by simp) (by decide), leVal_leBytes_of_lt 3 n (by omega)]
        simp
      · have h4 : n ≤ 2^64 - 1 := by omega
        simp only [h1, h2, h3, h4, if_true, if_false]
        rw [read_marker 254 8 (leBytes 8 n) r (by simp) (by decide), leVal_leBytes_of_lt 8 n (by omega)]
        simp

theorem lenenc_str_roundtrip (v : Option Bytes) (r : Bytes) (h : ∀ b, v = some b → b.length < 2^64) :
    lengthEncodedString (putLengthEncodedString v ++ r) = .ok (v, (putLengthEncodedString v).length) := by
  cases v with
  | none =>
    have : lengthEncodedInt (0xfb :: r) = .ok ⟨0, true, 1⟩ := by rw [lenenc_int_spec]; rfl
    simp [putLengthEncodedString, lengthEncodedString, this]
  | some b =>
    have hb := h b rfl
    simp only [putLengthEncodedString, lengthEncodedString, List.append_assoc]
    rw [lenenc_int_roundtrip b.length (b ++ r) hb]
    simp only [Out.bind_ok, List.length_append]
    have hle : ¬ b.length > (putLengthEncodedInt b.length).length + (b.length + r.length) - (putLengthEncodedInt b.length).length := by omega
    simp only [Bool.false_eq_true, if_false, hle]
    have := goSlice_append_mid (putLengthEncodedInt b.length) b r
    rw [List.append_assoc] at this
    rw [this]
    simp

theorem lenenc_int_empty : lengthEncodedInt [] = .err := by
  unfold lengthEncodedInt readIntWith; rw [fact_readDefault.2]; simp

/-- every outcome of `LengthEncodedInt`: an error, or a value read from at least one and at most `|data|` bytes -/
theorem lenenc_int_cases (data : Bytes) :
    lengthEncodedInt data = .err ∨ ∃ res, lengthEncodedInt data = .ok res ∧ 0 < res.n ∧ res.n ≤ data.length := by
  cases data with
  | nil => exact .inl lenenc_int_empty
  | cons x r =>
    have key : ∀ k v, (if r.length < k then (Out.err : Out IntRes) else .ok ⟨v, false, k + 1⟩) = .err ∨
        ∃ res, (if r.length < k then (Out.err : Out IntRes) else .ok ⟨v, false, k + 1⟩) = .ok res ∧
          0 < res.n ∧ res.n ≤ (x :: r).length := by
      intro k v
      split
      · exact .inl rfl
      · exact .inr ⟨_, rfl, Nat.succ_pos _, by simp only [List.length_cons]; omega⟩
    have one : ∀ v b, ∃ res, Out.ok (⟨v, b, 1⟩ : IntRes) = .ok res ∧ 0 < res.n ∧ res.n ≤ (x :: r).length :=
      fun _ _ => ⟨_, rfl, Nat.one_pos, Nat.succ_pos _⟩
    rw [lenenc_int_spec]
    by_cases h1 : x.toNat = 251
    · rw [if_pos h1]; exact .inr (one _ _)
    by_cases h2 : x.toNat = 252
    · rw [if_neg h1, if_pos h2]; exact key 2 _
    by_cases h3 : x.toNat = 253
    · rw [if_neg h1, if_neg h2, if_pos h3]; exact key 3 _
    by_cases h4 : x.toNat = 254
    · rw [if_neg h1, if_neg h2, if_neg h3, if_pos h4]; exact key 8 _
    rw [if_neg h1, if_neg h2, if_neg h3, if_neg h4]
    exact .inr (one _ _)

theorem lenenc_int_no_panic (data : Bytes) : lengthEncodedInt data ≠ .panic := by
  rcases lenenc_int_cases data with h | ⟨_, h, _⟩ <;> rw [h]
  · exact err_ne_panic
  · exact ok_ne_panic _

theorem lenenc_int_progress (data : Bytes) (res : IntRes) (h : lengthEncodedInt data = .ok res) :
    0 < res.n ∧ res.n ≤ data.length := by
  rcases lenenc_int_cases data with h' | ⟨_, h', hp⟩ <;> rw [h'] at h <;> cases h
  exact hp

/-- every outcome of `LengthEncodedString`: an error, or a value read from at least one and at most `|data|` bytes -/
theorem lenenc_str_cases (data : Bytes) :
    lengthEncodedString data = .err ∨ ∃ v n, lengthEncodedString data = .ok (v, n) ∧ 0 < n ∧ n ≤ data.length := by
  unfold lengthEncodedString
  rcases lenenc_int_cases data with h | ⟨res, h, hp⟩ <;> rw [h]
  · exact .inl rfl
  · rw [Out.bind_ok]
    split
    · exact .inr ⟨_, _, rfl, hp⟩
    · split
      · exact .inl rfl
      · rw [goSlice_ok _ _ _ (by omega) (by omega)]
        exact .inr ⟨_, _, rfl, by omega⟩

theorem lenenc_str_no_panic (data : Bytes) : lengthEncodedString data ≠ .panic := by
  rcases lenenc_str_cases data with h | ⟨_, _, h, _⟩ <;> rw [h]
  · exact err_ne_panic
  · exact ok_ne_panic _

theorem lenenc_str_progress (data : Bytes) (v : Option Bytes) (n : Nat)
    (h : lengthEncodedString data = .ok (v, n)) : 0 < n ∧ n ≤ data.length := by
  rcases lenenc_str_cases data with h' | ⟨_, _, h', hp⟩ <;> rw [h'] at h <;> cases h
  exact hp

theorem lenenc_skip_no_panic (data : Bytes) : skipLengthEncodedString data ≠ .panic := by
  unfold skipLengthEncodedString
  refine Out.bind_ne_panic (lenenc_int_no_panic data) fun _ _ => ?_
  split
  · exact ok_ne_panic _
  · split
    · exact err_ne_panic
    · exact ok_ne_panic _

/-- non-vacuity: the hypotheses are met by a concrete 300-byte value (0xfc branch) with a suffix -/
example : lengthEncodedString (putLengthEncodedString (some (List.replicate 300 7)) ++ [1, 2, 3])
    = .ok (some (List.replicate 300 7), (putLengthEncodedString (some (List.replicate 300 7))).length) :=
  lenenc_str_roundtrip _ _ (by intro b hb; cases hb; rw [List.length_replicate]; decide)

end AcraModel.Wire.LenEnc.Proofs
