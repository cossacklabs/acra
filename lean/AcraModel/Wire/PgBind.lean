import AcraModel.Wire.PgParse
import AcraModel.Wire.PgRow
/-
PostgreSQL Bind message: model of `NewBindPacket`, `readString`, `readUint16Array`, `readParameterArray`,
`GetParameters`, `SetParameters`, `MarshalInto` (decryptor/postgresql/utils.go) and `ReplaceBind`
(packet_handler.go), plus the specification codec.
-/
namespace AcraModel.Wire.Pg
open AcraModel

structure BindPacket where
  portal : Bytes
  statement : Bytes
  paramFormats : List Nat
  paramValues : List (Option Bytes)    -- none = NULL (nil slice)
  resultFormats : List Nat
deriving Repr, DecidableEq

/-- `readString` -/
def readString (data : Bytes) : Out (Bytes × Bytes) :=
  match indexZero data with
  | none => .err
  | some e => .ok (data.take e, data.drop (e + 1))

def readU16s : Nat → Bytes → List Nat
  | 0, _ => []
  | k+1, s => beVal (s.take 2) :: readU16s k (s.drop 2)

/-- `int(binary.BigEndian.Uint16(remaining[:2]))`: the count in front of an array, under the conversions the source
applies (regenerated from `readUint16Array` / `readParameterArray`; PostgreSQL reads these Int16 as unsigned) -/
def countConv (chain : List String) (b : Bytes) : Int := goConvs chain (beVal b)

/-- `int(binary.BigEndian.Uint32(remaining[:4]))`: the length in front of a parameter value -/
def lenConv (b : Bytes) : Int := goConvs Generated.Wire.pgParamArrayLenConv (beVal b)

/-- `readUint16Array`: a negative count passes the length check and panics in `make([]uint16, itemCount)` -/
def readUint16Array (data : Bytes) : Out (List Nat × Bytes) :=
  if data.length < 2 then .err else
  let count := countConv Generated.Wire.pgU16ArrayCountConv (data.take 2)
  let rest := data.drop 2
  if (rest.length : Int) < 2 * count then .err
  else if count < 0 then .panic
  else .ok (readU16s count.toNat rest, rest.drop (2 * count.toNat))

def readParamsArr : Nat → Bytes → Out (List (Option Bytes) × Bytes)
  | 0, s => .ok ([], s)
  | k+1, s =>
    if s.length < 4 then .err else
    let plen := lenConv (s.take 4)
    let s1 := s.drop 4
    if plen = 0xFFFFFFFF then do
      let (r, rest) ← readParamsArr k s1
      pure (none :: r, rest)
    else if (s1.length : Int) < plen then .err
    else if plen < 0 then .panic            -- `remaining[:parameterLen]` with a negative length
    else do
      let (r, rest) ← readParamsArr k (s1.drop plen.toNat)
      pure (some (s1.take plen.toNat) :: r, rest)

/-- `s.length < k` without walking the whole list -/
def lenLt : Bytes → Nat → Bool
  | _, 0 => false
  | [], _+1 => true
  | _ :: r, k+1 => lenLt r k

theorem lenLt_eq (s : Bytes) (k : Nat) : lenLt s k = decide (s.length < k) := by
  induction s generalizing k with
  | nil => cases k <;> simp [lenLt]
  | cons a r ih => cases k <;> simp [lenLt, ih]

/-- compiled form of `readParamsArr` (length checks that do not walk the rest of the packet for every parameter – a
Bind message may carry 65535 parameters); the theorems are about `readParamsArr`
(`readParamsArr_eq_fast`) -/
def readParamsArrFast : Nat → Bytes → Out (List (Option Bytes) × Bytes)
  | 0, s => .ok ([], s)
  | k+1, s =>
    if lenLt s 4 then .err else
    let plen := lenConv (s.take 4)
    let s1 := s.drop 4
    if plen = 0xFFFFFFFF then do
      let (r, rest) ← readParamsArrFast k s1
      pure (none :: r, rest)
    else if 0 < plen ∧ lenLt s1 plen.toNat then .err
    else if plen < 0 then .panic
    else do
      let (r, rest) ← readParamsArrFast k (s1.drop plen.toNat)
      pure (some (s1.take plen.toNat) :: r, rest)

@[csimp] theorem readParamsArr_eq_fast : @readParamsArr = @readParamsArrFast := by
  funext k s
  induction k generalizing s with
  | zero => rfl
  | succ k ih =>
    unfold readParamsArr readParamsArrFast
    simp only [lenLt_eq, decide_eq_true_eq, ih]
    split
    · rfl
    · split
      · rfl
      · have hiff : ((s.drop 4).length : Int) < lenConv (s.take 4) ↔
            (0 < lenConv (s.take 4) ∧ (s.drop 4).length < (lenConv (s.take 4)).toNat) := by omega
        by_cases hc : ((s.drop 4).length : Int) < lenConv (s.take 4)
        · rw [if_pos hc, if_pos (hiff.mp hc)]
        · rw [if_neg hc, if_neg (fun h => hc (hiff.mpr h))]

/-- `readParameterArray`: a negative count panics in `make([][]byte, parameterCount)` -/
def readParameterArray (data : Bytes) : Out (List (Option Bytes) × Bytes) :=
  if data.length < 2 then .err else
  let count := countConv Generated.Wire.pgParamArrayCountConv (data.take 2)
  if count < 0 then .panic else readParamsArr count.toNat (data.drop 2)

/-- `NewBindPacket` -/
def newBindPacket (data : Bytes) : Out BindPacket := do
  let (portal, d1) ← readString data
  let (statement, d2) ← readString d1
  let (pf, d3) ← readUint16Array d2
  let (pv, d4) ← readParameterArray d3
  let (rf, _) ← readUint16Array d4
  pure ⟨portal, statement, pf, pv, rf⟩

def writeUint16Array (vs : List Nat) : Out Bytes :=
  if vs.length > 65535 then .err else .ok (beBytes 2 vs.length ++ (vs.map (beBytes 2)).flatten)

def writeParam : Option Bytes → Bytes
  | none => beBytes 4 0xFFFFFFFF
  | some b => beBytes 4 b.length ++ b

def writeParameterArray (ps : List (Option Bytes)) : Out Bytes :=
  if ps.length > 65535 then .err
  else if ps.any (fun p => match p with | some b => b.length > 0xFFFFFFFF | none => false) then .err
  else .ok (beBytes 2 ps.length ++ (ps.map writeParam).flatten)

/-- `MarshalInto` (into an empty buffer) -/
def BindPacket.marshal (p : BindPacket) : Out Bytes := do
  let a ← writeUint16Array p.paramFormats
  let b ← writeParameterArray p.paramValues
  let c ← writeUint16Array p.resultFormats
  pure (p.portal ++ [0] ++ p.statement ++ [0] ++ a ++ b ++ c)

/-- `GetParameters`: every parameter with its format (`true` = binary); fails on inconsistent formats -/
def BindPacket.getParameters (p : BindPacket) : Out (List (Bool × Option Bytes)) :=
  let rec go : Nat → List (Option Bytes) → Out (List (Bool × Option Bytes))
    | _, [] => .ok []
    | i, v :: vs => do
      let f ← formatByIndex i p.paramFormats
      let r ← go (i+1) vs
      pure ((f, v) :: r)
  go 0 p.paramValues

/-- `SetParameters` -/
def BindPacket.setParameters (p : BindPacket) (values : List (Bool × Option Bytes)) : BindPacket :=
  match values with
  | [] => { p with paramFormats := [] }
  | (f0, _) :: rest =>
    let code (b : Bool) : Nat := if b then Generated.Wire.pgBindFormatBinary else Generated.Wire.pgBindFormatText
    let fmts := if rest.all (fun v => v.1 = f0) then [code f0] else values.map fun v => code v.1
    { p with paramFormats := fmts, paramValues := values.map (·.2) }

/-- the Bind part of `handleBindPacket` with a per-parameter transformation (NULL parameters are passed to
`g` as `none`; `g` returns the new value): parse, extract, transform, `SetParameters`, `ReplaceBind` -/
def rewriteBind (g : Nat → Bool → Option Bytes → Out (Option Bytes)) (p : Packet) : Out Packet := do
  let bp ← newBindPacket p.body
  -- "can't extract parameters": the packet is forwarded unchanged
  match bp.getParameters with
  | .err => pure p
  | .panic => .panic
  | .ok params =>
  let rec go : Nat → List (Bool × Option Bytes) → Out (List (Bool × Option Bytes))
    | _, [] => .ok []
    | i, (f, v) :: r => do
      let v' ← g i f v
      let r' ← go (i+1) r
      pure ((f, v') :: r')
  -- an error of the observers ("Failed to handle Bind packet") leaves the packet unchanged
  match go 0 params with
  | .err => pure p
  | .panic => .panic
  | .ok params' =>
  let bp' := bp.setParameters params'
  -- so does a failure to marshal ("Failed to update Bind packet")
  match bp'.marshal with
  | .err => pure p
  | .panic => .panic
  | .ok body => pure { p with body := body, lenBuf := packetLength body.length }

/-! ### specification codec -/

def encodeBind (portal statement : Bytes) (pf : List Nat) (pv : List (Option Bytes)) (rf : List Nat) : Bytes :=
  portal ++ [0] ++ statement ++ [0] ++ beBytes 2 pf.length ++ (pf.map (beBytes 2)).flatten ++
    beBytes 2 pv.length ++ (pv.map writeParam).flatten ++ beBytes 2 rf.length ++ (rf.map (beBytes 2)).flatten

end AcraModel.Wire.Pg
