import AcraModel.Wire.Bytea
/-! Round-trip theorems for the PostgreSQL bytea text codecs (hex and escape/octal format). -/
namespace AcraModel.Wire.Bytea
open AcraModel

theorem toNat_ofNat_lt (n : Nat) (h : n < 256) : (UInt8.ofNat n).toNat = n := by
  simp [UInt8.toNat_ofNat']; omega

theorem fromHexChar_hexChar (n : Nat) (h : n < 16) : fromHexChar (hexChar n) = some n := by
  unfold fromHexChar hexChar
  by_cases h10 : n < 10
  · simp only [if_pos h10]
    rw [toNat_ofNat_lt _ (by omega)]
    rw [if_pos (by omega)]
    congr 1; omega
  · simp only [if_neg h10]
    rw [toNat_ofNat_lt _ (by omega)]
    rw [if_neg (by omega), if_pos (by omega)]
    congr 1; omega

theorem hexDecode_hexEncode (b : Bytes) : hexDecode (hexEncode b) = some b := by
  induction b with
  | nil => rfl
  | cons c r ih =>
    have hc := c.toNat_lt
    simp only [hexEncode, hexDecode]
    rw [fromHexChar_hexChar _ (by omega), fromHexChar_hexChar _ (by omega), ih]
    simp only [Option.bind_eq_bind, Option.bind_some, Option.pure_def]
    congr 2
    rw [show 16 * (c.toNat / 16) + c.toNat % 16 = c.toNat by omega]
    exact UInt8.ofNat_toNat

theorem decodeEscaped_pgEncodeToHex (b : Bytes) : decodeEscaped (pgEncodeToHex b) = .ok b := by
  simp only [decodeEscaped, pgEncodeToHex, hexDecode_hexEncode]

theorem hexDecode_length : ∀ (s b : Bytes), hexDecode s = some b → s.length = 2 * b.length
  | [], b, h => by simp [hexDecode] at h; subst h; rfl
  | [_], b, h => by simp [hexDecode] at h
  | x :: y :: r, b, h => by
    simp only [hexDecode, Option.bind_eq_bind, Option.pure_def, Option.bind_eq_some_iff] at h
    obtain ⟨_, -, _, -, rest, hr, h⟩ := h
    cases h
    simp only [List.length_cons, hexDecode_length r rest hr]; omega

theorem dor_bs_bs (rest : List Nat) :
    decodeOctalRunes (92 :: 92 :: rest) = (decodeOctalRunes rest).map (92 :: ·) := by
  rw [decodeOctalRunes]
  simp [isControl]

theorem octDigit_add (a : Nat) (ha : a < 8) : octDigit (48 + a) = some a := by
  unfold octDigit
  rw [if_pos (by omega)]; congr 1; omega

theorem dor_oct (a b c : Nat) (rest : List Nat) (ha : a < 8) (hb : b < 8) (hc : c < 8) :
    decodeOctalRunes (92 :: (48 + a) :: (48 + b) :: (48 + c) :: rest)
      = (decodeOctalRunes rest).map (UInt8.ofNat ((((a * 8) % 256 + b) * 8) % 256 + c) :: ·) := by
  rw [decodeOctalRunes]
  · simp only [octDigit_add, ha, hb, hc]
    simp [isControl]
  · omega

theorem dor_plain (ch : Nat) (rest : List Nat) (h1 : 32 ≤ ch) (h2 : ch ≤ 126) (h3 : ch ≠ 92) :
    decodeOctalRunes (ch :: rest) = (decodeOctalRunes rest).map (UInt8.ofNat ch :: ·) := by
  conv => lhs; unfold decodeOctalRunes
  have hc : isControl ch = false := by
    simp [isControl]; omega
  have he : encodeRune ch = [UInt8.ofNat ch] := by
    unfold encodeRune; rw [if_pos (by omega)]
  simp [hc, h3, he]

theorem toRunes_ascii : ∀ (s : Bytes), (∀ c ∈ s, c.toNat < 128) → toRunes s = s.map (·.toNat)
  | [], _ => by rw [toRunes]; rfl
  | b :: r, h => by
    have hb : b.toNat < 128 := h b (by simp)
    have hd : decodeRune (b :: r) = (b.toNat, 1) := by
      unfold decodeRune; simp [hb]
    rw [toRunes]
    simp only [hd]
    rw [show max 1 1 = 1 from rfl, List.drop_one, List.tail_cons,
      toRunes_ascii r (fun c hc => h c (List.mem_cons_of_mem _ hc))]
    rfl

theorem isPrintable_iff (c : UInt8) : isPrintable c = true ↔ 32 ≤ c.toNat ∧ c.toNat ≤ 126 := by
  simp [isPrintable]

theorem encodeToOctal_printable (b : Bytes) : ∀ c ∈ encodeToOctal b, isPrintable c = true := by
  induction b with
  | nil => intro c hc; simp [encodeToOctal] at hc
  | cons x r ih =>
    have hx := x.toNat_lt
    intro c hc
    unfold encodeToOctal at hc
    by_cases h92 : x.toNat = 92
    · rw [if_pos h92] at hc
      simp only [List.mem_cons] at hc
      rcases hc with rfl | rfl | hc
      · decide
      · decide
      · exact ih c hc
    · rw [if_neg h92] at hc
      by_cases hp : isPrintable x = true
      · rw [if_neg (by simp [hp])] at hc
        simp only [List.mem_cons] at hc
        rcases hc with rfl | hc
        · exact hp
        · exact ih c hc
      · rw [if_pos hp] at hc
        simp only [List.mem_cons] at hc
        rcases hc with rfl | rfl | rfl | rfl | hc
        · decide
        · rw [isPrintable_iff, toNat_ofNat_lt _ (by omega)]; omega
        · rw [isPrintable_iff, toNat_ofNat_lt _ (by omega)]; omega
        · rw [isPrintable_iff, toNat_ofNat_lt _ (by omega)]; omega
        · exact ih c hc

theorem eq_of_toNat (c : UInt8) (n : Nat) (h : c.toNat = n) : c = UInt8.ofNat n := by
  rw [← h]; exact UInt8.ofNat_toNat.symm

theorem decodeOctalRunes_encodeToOctal (b : Bytes) :
    decodeOctalRunes ((encodeToOctal b).map (·.toNat)) = some b := by
  induction b with
  | nil => simp [encodeToOctal, decodeOctalRunes]
  | cons c r ih =>
    have hc := c.toNat_lt
    unfold encodeToOctal
    by_cases h92 : c.toNat = 92
    · rw [if_pos h92]
      simp only [List.map_cons]
      rw [show (92:UInt8).toNat = 92 from rfl, dor_bs_bs, ih, eq_of_toNat c 92 h92]
      rfl
    · rw [if_neg h92]
      by_cases hp : isPrintable c = true
      · rw [if_neg (by simp [hp])]
        rw [isPrintable_iff] at hp
        simp only [List.map_cons]
        rw [dor_plain _ _ hp.1 hp.2 h92, ih, UInt8.ofNat_toNat]
        rfl
      · rw [if_pos hp]
        simp only [List.map_cons]
        rw [show (92:UInt8).toNat = 92 from rfl, toNat_ofNat_lt _ (by omega), toNat_ofNat_lt _ (by omega),
          toNat_ofNat_lt _ (by omega), dor_oct _ _ _ _ (by omega) (by omega) (by omega), ih]
        simp only [Option.map_some]
        congr 2
        rw [show (c.toNat / 64 * 8 % 256 + c.toNat / 8 % 8) * 8 % 256 + c.toNat % 8 = c.toNat by omega]
        exact UInt8.ofNat_toNat

theorem decodeOctal_encodeToOctal (b : Bytes) : decodeOctal (encodeToOctal b) = some b := by
  unfold decodeOctal
  rw [toRunes_ascii, decodeOctalRunes_encodeToOctal]
  intro c hc
  have := (isPrintable_iff c).1 (encodeToOctal_printable b c hc)
  omega

theorem encodeToOctal_not_hex_prefix (b : Bytes) (h : Bytes) : encodeToOctal b ≠ 92 :: 120 :: h := by
  cases b with
  | nil => simp [encodeToOctal]
  | cons c r =>
    have hc := c.toNat_lt
    unfold encodeToOctal
    by_cases h92 : c.toNat = 92
    · rw [if_pos h92]; intro he; injection he with _ he; injection he with he _
      exact absurd he (by decide)
    · rw [if_neg h92]
      by_cases hp : isPrintable c = true
      · rw [if_neg (by simp [hp])]
        intro he; injection he with he _
        exact h92 (by rw [he]; rfl)
      · rw [if_pos hp]
        intro he; injection he with _ he; injection he with he _
        have := congrArg UInt8.toNat he
        rw [toNat_ofNat_lt _ (by omega)] at this
        have h120 : (120 : UInt8).toNat = 120 := rfl
        omega

theorem decodeEscaped_encodeToOctal (b : Bytes) : decodeEscaped (encodeToOctal b) = .ok b := by
  unfold decodeEscaped
  split
  · next h heq => exact absurd heq (encodeToOctal_not_hex_prefix b h)
  · rw [decodeOctal_encodeToOctal]
end AcraModel.Wire.Bytea
