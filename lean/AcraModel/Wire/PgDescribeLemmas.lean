import AcraModel.Wire.PgDescribe
import AcraModel.Wire.PgExtLemmas
/-! Lemmas about the RowDescription / ParameterDescription model (`Wire/PgDescribe.lean`). -/
namespace AcraModel.Wire.Pg
open AcraModel

/-- the members of a field description fit the widths of the layout -/
def MembersOk : List (String × Nat) → List Nat → Prop
  | (_, w) :: l, v :: vs => v < 256 ^ w ∧ MembersOk l vs
  | [], [] => True
  | _, _ => False

/-- a field description as the protocol allows it: a name without zero bytes, members within their widths -/
def FieldOk (f : FieldDesc) : Prop := NoZero f.name ∧ MembersOk fdLayout f.members

theorem fdLayout_eq : fdLayout = [("TableOID", 4), ("TableAttributeNumber", 2), ("DataTypeOID", 4), ("DataTypeSize", 2),
    ("TypeModifier", 4), ("Format", 2)] := by decide +kernel
theorem layoutLen_fdLayout : layoutLen fdLayout = fdFixedLen := by decide +kernel
theorem oidIndex_eq : oidIndex = 2 := by decide +kernel

theorem MembersOk.length_eq {l : List (String × Nat)} {vs : List Nat} (h : MembersOk l vs) : vs.length = l.length := by
  induction l generalizing vs with
  | nil => cases vs with
    | nil => rfl
    | cons _ _ => exact absurd h (by simp [MembersOk])
  | cons x l ih => cases vs with
    | nil => exact absurd h (by simp [MembersOk])
    | cons v vs => simp only [List.length_cons]; rw [ih h.2]

theorem encMembers_length (l : List (String × Nat)) (vs : List Nat) (h : vs.length = l.length) :
    (encMembers l vs).length = layoutLen l := by
  induction l generalizing vs with
  | nil => cases vs <;> simp [encMembers, layoutLen]
  | cons x l ih =>
    cases vs with
    | nil => simp at h
    | cons v vs =>
      obtain ⟨nm, w⟩ := x
      simp only [List.length_cons, Nat.add_right_cancel_iff] at h
      have := ih vs h
      simp only [layoutLen] at this
      simp [encMembers, layoutLen, this]

theorem decMembers_encMembers (l : List (String × Nat)) (vs : List Nat) (rest : Bytes) (h : MembersOk l vs) :
    decMembers l (encMembers l vs ++ rest) = vs := by
  induction l generalizing vs with
  | nil => cases vs with
    | nil => rfl
    | cons _ _ => exact absurd h (by simp [MembersOk])
  | cons x l ih =>
    cases vs with
    | nil => exact absurd h (by simp [MembersOk])
    | cons v vs =>
      obtain ⟨nm, w⟩ := x
      simp only [encMembers, decMembers, List.append_assoc]
      rw [List.take_left' (beBytes_length w v), List.drop_left' (beBytes_length w v), ih vs h.2,
        beVal_beBytes_of_lt w v h.1]

theorem encField_length (f : FieldDesc) (h : f.members.length = fdLayout.length) :
    (encField f).length = f.name.length + 1 + fdFixedLen := by
  simp only [encField, List.length_append, List.length_cons, List.length_nil,
    encMembers_length fdLayout f.members h, layoutLen_fdLayout]

/-- the field loop of the pgproto3 decoder inverts the encoder (and leaves what follows alone) -/
theorem decodeFields_flatMap (fs : List FieldDesc) (rest : Bytes) (h : ∀ f ∈ fs, FieldOk f) :
    decodeFields fs.length (fs.flatMap encField ++ rest) = some fs := by
  induction fs with
  | nil => rfl
  | cons f fs ih =>
    have hf := h f List.mem_cons_self
    have hfs : ∀ g ∈ fs, FieldOk g := fun g hg => h g (List.mem_cons_of_mem _ hg)
    have hlen := hf.2.length_eq
    have hs : (f :: fs).flatMap encField ++ rest
        = f.name ++ 0 :: (encMembers fdLayout f.members ++ (fs.flatMap encField ++ rest)) := by
      simp [encField, List.flatMap_cons]
    rw [hs, List.length_cons, decodeFields, indexZero_append _ _ hf.1]
    simp only []
    have hd : (f.name ++ 0 :: (encMembers fdLayout f.members ++ (fs.flatMap encField ++ rest))).drop (f.name.length + 1)
        = encMembers fdLayout f.members ++ (fs.flatMap encField ++ rest) := by
      rw [show f.name ++ 0 :: (encMembers fdLayout f.members ++ (fs.flatMap encField ++ rest))
          = (f.name ++ [0]) ++ (encMembers fdLayout f.members ++ (fs.flatMap encField ++ rest)) by simp]
      exact List.drop_left' (by simp)
    have ht : (f.name ++ 0 :: (encMembers fdLayout f.members ++ (fs.flatMap encField ++ rest))).take f.name.length = f.name :=
      List.take_left' rfl
    rw [hd, ht]
    have hml := encMembers_length fdLayout f.members hlen
    have hge : ¬ (encMembers fdLayout f.members ++ (fs.flatMap encField ++ rest)).length < fdFixedLen := by
      rw [List.length_append, hml, layoutLen_fdLayout]; omega
    rw [if_neg hge, List.drop_left' hml, ih hfs, decMembers_encMembers _ _ _ hf.2]
    rfl

/-- a field list has an encoding exactly when its length fits the 16-bit count, which then precedes the fields -/
theorem encodeRowDesc_eq_some (fs : List FieldDesc) (b : Bytes) :
    encodeRowDesc fs = some b ↔ fs.length ≤ 65535 ∧ b = beBytes 2 fs.length ++ fs.flatMap encField := by
  unfold encodeRowDesc
  split
  · exact ⟨fun h => (nomatch h), fun h => by omega⟩
  · exact ⟨fun h => ⟨by omega, (Option.some.inj h).symm⟩, fun h => by rw [h.2]⟩

/-- **RowDescription round trip** (pgproto3 `Decode ∘ Encode` on protocol-conformant field lists) -/
theorem decodeRowDesc_encodeRowDesc (fs : List FieldDesc) (b : Bytes) (h : ∀ f ∈ fs, FieldOk f)
    (he : encodeRowDesc fs = some b) : decodeRowDesc b = some fs := by
  obtain ⟨hl, rfl⟩ := (encodeRowDesc_eq_some fs b).1 he
  unfold decodeRowDesc
  have h2 : ¬ (beBytes 2 fs.length ++ fs.flatMap encField).length < 2 := by simp
  rw [if_neg h2, List.take_left' (beBytes_length 2 _), List.drop_left' (beBytes_length 2 _),
    beVal_beBytes2 _ (by omega)]
  have := decodeFields_flatMap fs [] h
  simpa using this

theorem setOids_length (fs : List FieldDesc) (its : List (Option Nat)) : (setOids fs its).length = fs.length := by
  fun_induction setOids fs its with
  | case1 f fs oid its ih => rw [List.length_cons, ih, List.length_cons]
  | case2 f fs its ih => rw [List.length_cons, ih, List.length_cons]
  | case3 fs its h1 h2 => rfl

theorem setOids_none (fs : List FieldDesc) (its : List (Option Nat)) (h : its.any (·.isSome) = false) :
    setOids fs its = fs := by
  fun_induction setOids fs its with
  | case1 f fs oid its ih => simp at h
  | case2 f fs its ih => rw [ih (by simpa using h)]
  | case3 fs its h1 h2 => rfl

theorem membersOk_set_oid (ms : List Nat) (oid : Nat) (h : MembersOk fdLayout ms) (ho : oid < 2^32) :
    MembersOk fdLayout (ms.set oidIndex oid) := by
  rw [oidIndex_eq]
  rw [fdLayout_eq] at h ⊢
  match ms, h with
  | [a, b, c, d, e, f], h =>
    simp only [MembersOk] at h ⊢
    simp only [List.set_cons_succ, List.set_cons_zero]
    exact ⟨h.1, h.2.1, by omega, h.2.2.2.1, h.2.2.2.2.1, h.2.2.2.2.2.1, trivial⟩

theorem setOids_fieldOk (fs : List FieldDesc) (its : List (Option Nat)) (h : ∀ f ∈ fs, FieldOk f)
    (ho : ∀ o, some o ∈ its → o < 2^32) : ∀ f ∈ setOids fs its, FieldOk f := by
  fun_induction setOids fs its with
  | case1 f fs oid its ih =>
    have hf := h f List.mem_cons_self
    have tl := ih (fun g hg => h g (List.mem_cons_of_mem _ hg)) fun o hm => ho o (List.mem_cons_of_mem _ hm)
    exact List.forall_mem_cons.2 ⟨⟨hf.1, membersOk_set_oid _ _ hf.2 (ho oid List.mem_cons_self)⟩, tl⟩
  | case2 f fs its ih =>
    have tl := ih (fun g hg => h g (List.mem_cons_of_mem _ hg)) fun o hm => ho o (List.mem_cons_of_mem _ hm)
    exact List.forall_mem_cons.2 ⟨h f List.mem_cons_self, tl⟩
  | case3 fs its h1 h2 => exact h

/-- the encoded length of a field list does not depend on the member values -/
theorem flatMap_encField_length_setOids (fs : List FieldDesc) (its : List (Option Nat))
    (h : ∀ f ∈ fs, f.members.length = fdLayout.length) :
    ((setOids fs its).flatMap encField).length = (fs.flatMap encField).length := by
  fun_induction setOids fs its with
  | case1 f fs oid its ih =>
    have hf := h f List.mem_cons_self
    simp only [List.flatMap_cons, List.length_append, ih fun g hg => h g (List.mem_cons_of_mem _ hg)]
    rw [encField_length _ (by simpa using hf), encField_length _ hf]
  | case2 f fs its ih =>
    simp only [List.flatMap_cons, List.length_append, ih fun g hg => h g (List.mem_cons_of_mem _ hg)]
  | case3 fs its h1 h2 => rfl

/-- what the column `i` of the rewritten description is: the received one with, at most, another data type OID -/
theorem setOids_getElem (fs : List FieldDesc) (its : List (Option Nat)) (i : Nat) (f : FieldDesc)
    (hi : fs[i]? = some f) :
    (setOids fs its)[i]? = some (match (its[i]?).join with
      | some oid => { f with members := f.members.set oidIndex oid }
      | none => f) := by
  induction fs generalizing its i with
  | nil => simp at hi
  | cons g fs ih =>
    cases its with
    | nil => exact hi
    | cons it its =>
      cases i with
      | zero => cases hi; cases it <;> rfl
      | succ i => cases it <;> exact ih its i hi

/-- **RowDescription rewrite** on a protocol-conformant message: the new body is the encoding of the received
field list with the selected OIDs replaced; the type byte and the length buffer are untouched. -/
theorem handleRowDescription_encode (t : UInt8) (lb b : Bytes) (fs : List FieldDesc) (its : List (Option Nat))
    (h : ∀ f ∈ fs, FieldOk f) (he : encodeRowDesc fs = some b) (hl : its.length = fs.length) :
    ∃ b', encodeRowDesc (setOids fs its) = some b' ∧ b'.length = b.length ∧
      handleRowDescription ⟨t, lb, b⟩ (some its) = ⟨t, lb, b'⟩ := by
  have hdec := decodeRowDesc_encodeRowDesc fs b h he
  obtain ⟨hlen, hb⟩ := (encodeRowDesc_eq_some fs b).1 he
  have he' : encodeRowDesc (setOids fs its) = some (beBytes 2 fs.length ++ (setOids fs its).flatMap encField) :=
    (encodeRowDesc_eq_some _ _).2 ⟨by rw [setOids_length]; exact hlen, by rw [setOids_length]⟩
  refine ⟨_, he', ?_, ?_⟩
  · rw [hb]
    simp only [List.length_append, beBytes_length]
    rw [flatMap_encField_length_setOids fs its (fun f hf => (h f hf).2.length_eq)]
  · unfold handleRowDescription
    simp only [hdec, hl, ne_eq, not_true_eq_false, if_false]
    cases hany : its.any (·.isSome) with
    | true => simp [he']
    | false =>
      simp only [Bool.false_eq_true, if_false]
      rw [setOids_none fs its hany, ← hb]

theorem flatMap_beBytes4_length (oids : List Nat) : (oids.flatMap (beBytes 4)).length = 4 * oids.length := by
  induction oids with
  | nil => rfl
  | cons o os ih => simp [List.flatMap_cons, ih]; omega

theorem drop_flatMap_beBytes4 (pre oids : List Nat) :
    ((pre ++ oids).flatMap (beBytes 4)).drop (4 * pre.length) = oids.flatMap (beBytes 4) := by
  rw [List.flatMap_append]
  exact List.drop_left' (flatMap_beBytes4_length pre)

theorem decode_oids_aux (oids : List Nat) (ho : ∀ o ∈ oids, o < 2^32) (k : Nat) (hk : k < oids.length) :
    beVal (((oids.flatMap (beBytes 4)).drop (4 * k)).take 4) = oids[k] := by
  have hsplit : oids = oids.take k ++ oids[k] :: oids.drop (k+1) := by
    rw [← List.drop_eq_getElem_cons hk, List.take_append_drop]
  have hlen : (oids.take k).length = k := by simp; omega
  have := drop_flatMap_beBytes4 (oids.take k) (oids[k] :: oids.drop (k+1))
  rw [← hsplit, hlen] at this
  rw [this, List.flatMap_cons, List.take_left' (beBytes_length 4 _)]
  exact beVal_beBytes4 _ (ho _ (List.getElem_mem hk))

theorem encodeParamDesc_eq_some (oids : List Nat) (b : Bytes) :
    encodeParamDesc oids = some b ↔ oids.length ≤ 65535 ∧ b = beBytes 2 oids.length ++ oids.flatMap (beBytes 4) := by
  unfold encodeParamDesc
  split
  · exact ⟨fun h => (nomatch h), fun h => by omega⟩
  · exact ⟨fun h => ⟨by omega, (Option.some.inj h).symm⟩, fun h => by rw [h.2]⟩

theorem decodeParamDesc_encodeParamDesc (oids : List Nat) (b : Bytes) (ho : ∀ o ∈ oids, o < 2^32)
    (he : encodeParamDesc oids = some b) : decodeParamDesc b = some oids := by
  obtain ⟨-, rfl⟩ := (encodeParamDesc_eq_some oids b).1 he
  unfold decodeParamDesc
  have h2 : ¬ (beBytes 2 oids.length ++ oids.flatMap (beBytes 4)).length < 2 := by simp
  rw [if_neg h2]
  simp only [List.drop_left' (beBytes_length 2 _), flatMap_beBytes4_length]
  rw [Nat.mul_div_cancel_left _ (by decide : 0 < 4)]
  congr 1
  apply List.ext_getElem
  · simp
  · intro k h1 h2
    simp only [List.getElem_map, List.getElem_range]
    exact decode_oids_aux oids ho k (by simpa using h1)

theorem setParamOids_length (oids : List Nat) (its : List (Option Nat)) : (setParamOids oids its).length = oids.length := by
  simp [setParamOids]

theorem setParamOids_none (oids : List Nat) (its : List (Option Nat))
    (h : (List.range oids.length).any (fun i => ((its[i]?).join).isSome) = false) : setParamOids oids its = oids := by
  apply List.ext_getElem
  · simp [setParamOids]
  · intro k h1 h2
    simp only [setParamOids, List.getElem_mapIdx]
    have hk : k < oids.length := by simpa [setParamOids] using h1
    have := List.any_eq_false.mp h k (List.mem_range.mpr hk)
    cases hj : (its[k]?).join with
    | none => rfl
    | some o => rw [hj] at this; simp at this

/-- **ParameterDescription rewrite** on a protocol-conformant message -/
theorem handleParameterDescription_encode (t : UInt8) (lb b : Bytes) (oids : List Nat) (its : List (Option Nat))
    (ho : ∀ o ∈ oids, o < 2^32) (he : encodeParamDesc oids = some b) :
    ∃ b', encodeParamDesc (setParamOids oids its) = some b' ∧ b'.length = b.length ∧
      handleParameterDescription ⟨t, lb, b⟩ (some its) = ⟨t, lb, b'⟩ := by
  have hdec := decodeParamDesc_encodeParamDesc oids b ho he
  obtain ⟨hlen, hb⟩ := (encodeParamDesc_eq_some oids b).1 he
  have he' : encodeParamDesc (setParamOids oids its)
      = some (beBytes 2 oids.length ++ (setParamOids oids its).flatMap (beBytes 4)) :=
    (encodeParamDesc_eq_some _ _).2 ⟨by rw [setParamOids_length]; exact hlen, by rw [setParamOids_length]⟩
  refine ⟨_, he', ?_, ?_⟩
  · rw [hb]
    simp only [List.length_append, beBytes_length]
    rw [flatMap_beBytes4_length, flatMap_beBytes4_length, setParamOids_length]
  · unfold handleParameterDescription
    simp only [hdec]
    cases hany : (List.range oids.length).any (fun i => ((its[i]?).join).isSome) with
    | true => simp [he']
    | false =>
      simp only [Bool.false_eq_true, if_false]
      rw [setParamOids_none oids its hany, ← hb]

end AcraModel.Wire.Pg
